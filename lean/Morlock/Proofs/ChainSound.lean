import Morlock.Proofs.ChainReach
import Morlock.Proofs.DrawSync
/-!
# Chain (C01 → C05): every generated move is `MoveSound`; the C05 step conditions from `WFplay`

`MoveSound` is derived from the per-kind characterisations of the generator output (C01 stages B, C, D: `StepMove`,
`PawnMove`, `CastleMove`). With `ChainWF` (mover colour, no king capture, preservation of `WFplay`) this makes every
accepted generated move of a `WFplay` position a `FullStep` of C05.
-/
namespace Morlock.Proofs.Chain
open Morlock Morlock.Model Morlock.Proofs Morlock.Proofs.Gen Morlock.Proofs.Draw Morlock.Proofs.Attack

theorem stepMove_moveSound {b : Board} {turn : Color} {pc : Piece} {m : Move} (hpw : pc ≠ .pawn)
    (hm : StepMove b turn pc m) : MoveSound b m = true := by
  obtain ⟨hsq, _, _, _, hd⟩ := hm
  unfold MoveSound
  rw [hsq]
  rcases hd with ⟨hn, hty, _⟩ | ⟨k, hk, hty, _⟩
  · simp [isReset, Move.isCastle, Move.isPromotion, hty, hn, hpw]
  · simp [isReset, Move.isCastle, Move.isPromotion, hty, hk, hpw]

theorem forward_of_step {turn : Color} {s t : Nat} {df : Int}
    (h : Spec.step s df (Spec.fwd (absColor turn)) = some t) : forward turn s t = true := by
  obtain ⟨_, c2⟩ := step_coords h
  cases turn <;> simp only [Spec.fwd, absColor] at c2 <;> simp only [forward, decide_eq_true_eq] <;> omega

theorem forward_of_pawnTarget {turn : Color} {s t : Nat} (h : t ∈ Spec.pawnTargets (absColor turn) s) :
    forward turn s t = true := by
  rcases mem_pawnTargets_iff.mp h with h | h <;> exact forward_of_step h

theorem forward_trans {turn : Color} {s t u : Nat} (h1 : forward turn s t = true) (h2 : forward turn t u = true) :
    forward turn s u = true := by
  cases turn <;> simp only [forward, decide_eq_true_eq] at h1 h2 ⊢ <;> omega

theorem pawnMove_moveSound {b : Board} {ep : Nat} {turn : Color} {m : Move} (hm : PawnMove b ep turn m) :
    MoveSound b m = true := by
  obtain ⟨hsq, _, hk⟩ := hm
  unfold MoveSound
  rw [hsq]
  rcases hk with ⟨hst, _, _, hr⟩ | ⟨t1, hst1, hst2, _, _, _, hty, _, _⟩ | ⟨ht, k, _, _, hr⟩ |
    ⟨_, _, ht, _, hty, _, _⟩
  · have hf := forward_of_step hst
    rcases hr with ⟨_, hty, _⟩ | ⟨_, hty, _⟩ <;> simp [isReset, Move.isCastle, Move.isPromotion, hty, hf]
  · have hf := forward_trans (forward_of_step hst1) (forward_of_step hst2)
    simp [isReset, Move.isCastle, Move.isPromotion, hty, hf]
  · have hf := forward_of_pawnTarget ht
    rcases hr with ⟨_, hty, _⟩ | ⟨_, hty, _⟩ <;> simp [isReset, Move.isCastle, Move.isPromotion, hty, hf]
  · have hf := forward_of_pawnTarget ht
    simp [isReset, Move.isCastle, Move.isPromotion, hty, hf]

/-- The destination of a castling move is one of the squares the generator found empty. -/
theorem castleMove_to_empty {b : Board} {castling : Nat} {turn : Color} {m : Move}
    (hm : CastleMove b castling turn m) : b m.to = none := by
  obtain ⟨cs, hcs, _, hempty, _, _, _, hto, _, _⟩ := hm
  rw [hto]
  apply hempty
  cases turn <;> simp only [castleParams, List.mem_cons, List.not_mem_nil, or_false] at hcs <;>
    rcases hcs with rfl | rfl <;> decide

theorem castleMove_moveSound {b : Board} {castling ep : Nat} {turn t : Color} (hw : WFb b castling ep t)
    {m : Move} (hm : CastleMove b castling turn m) (hfr : m.from = kingHomeSq turn) : MoveSound b m = true := by
  have hk := hm.kingHome hw
  have hto := castleMove_to_empty hm
  have hc := castleMove_isCastle hm
  have hp : m.isPromotion = false := by
    unfold Move.isCastle at hc
    unfold Move.isPromotion
    cases hty : m.ty <;> simp [hty] at hc ⊢
  unfold MoveSound
  rw [hfr, hk]
  simp [isReset, hc, hp, hto]

theorem pseudoMove_moveSound {b : Board} {castling ep : Nat} {turn : Color} (hw : WFb b castling ep turn)
    {m : Move} (hm : PseudoMove b castling ep turn m) : MoveSound b m = true := by
  rcases hm with ⟨pc, hpc, hs⟩ | hp | hs | ⟨hf, hc⟩
  · have hpw : pc ≠ .pawn := by
      rcases (mem_promoPieces pc).mp hpc with rfl | rfl | rfl | rfl <;> simp
    exact stepMove_moveSound hpw hs
  · exact pawnMove_moveSound hp
  · exact stepMove_moveSound (by simp) hs
  · exact castleMove_moveSound hw hc hf

theorem pseudo_moveSound {p : Position} {turn : Color} (hw : WF p turn) :
    ∀ m ∈ p.pseudoLegalMoves turn, MoveSound p.square m = true :=
  fun m hm => pseudoMove_moveSound hw.wfb ((mem_pseudoLegalMoves hw.rep hw.wfb m).mp hm)

theorem step_wfplay {p q : Position} {turn : Color} {m : Move} (hw : WFplay p turn)
    (hm : m ∈ p.pseudoLegalMoves turn) (hq : p.move m = some q) :
    FullStep p turn m q ∧ WFplay q turn.opp := by
  have hps := (mem_pseudoLegalMoves hw.1.rep hw.1.wfb m).mp hm
  obtain ⟨hok, hcl⟩ := hps.metaOK_classOK hw.1.rep hw.1.wfb
  exact ⟨⟨⟨hw.1.rep, hok, ⟨_, pseudo_mover hw.1 m hm⟩, pseudo_moveSound hw.1 m hm, hq⟩, hcl,
    pseudo_noKingCapture hw m hm⟩, wf_preserved hw hm hq⟩

theorem fullStep_of_wfplay {p q : Position} {turn : Color} {m : Move} (hw : WFplay p turn)
    (hm : m ∈ p.pseudoLegalMoves turn) (hq : p.move m = some q) : FullStep p turn m q :=
  (step_wfplay hw hm hq).1

theorem stepCheck_of_wfplay {p : Position} {turn : Color} (hw : WFplay p turn) :
    ∀ m ∈ p.pseudoLegalMoves turn, stepCheck p turn m = true := by
  intro m hm
  have hps := (mem_pseudoLegalMoves hw.1.rep hw.1.wfb m).mp hm
  obtain ⟨hok, hcl⟩ := hps.metaOK_classOK hw.1.rep hw.1.wfb
  unfold stepCheck StepOK
  rw [hok, hcl, pseudo_moveSound hw.1 m hm, pseudo_mover hw.1 m hm]
  simp [pseudo_noKingCapture hw m hm]

theorem posOK_of_wfplay {p : Position} {t : Color} (hw : WFplay p t) (hc : p.castling < 16)
    (hk : Material.kingCount p.square = 2) : PosOK p :=
  ⟨hw.1.rep, kingHome_of_wf hw.1, hc, hk⟩

end Morlock.Proofs.Chain
