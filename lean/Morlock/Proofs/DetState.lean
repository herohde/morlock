import Morlock.Proofs.DetSim
/-!
# C18: what the incoming search state contributes (no cancellation)

Besides the table, a search state carries two counters and a flag (`nodes`, `polls`, `fuelOut`). Without
cancellation they are only ever added to: the same search from a state whose counters are larger by `(k, j)` and
whose flag is or-ed with `f` returns the same score and PV and a final state shifted likewise. Since
`alphaBetaSearch` resets `nodes`, it reports the same from any two states with the same table: searches run
before cannot influence it through the state they leave.

Both this and what a single run keeps (`cancelAt` is never changed, no table stays no table) are `alphabeta_rel`
for the game simulated by itself.
-/
namespace Morlock.Proofs.Det
open Morlock Morlock.Model Morlock.Model.Score
variable {P : Type}

theorem simN_refl (g : Game P) : SimN g g (fun _ p q => p = q) := (sim_withHash g g.hash).simN

/-- A predicate on search states that every state update of the search keeps. -/
structure StInv (J : SState → Prop) : Prop where
  poll : ∀ {st}, J st → J (pollS st)
  node : ∀ {st}, J st → J { st with nodes := st.nodes + 1 }
  fuel : ∀ {st}, J st → J { st with fuelOut := true }
  write : ∀ {st} {h bound : Nat} {ply depth : Int} {score : Score} {m : Move}, J st →
    J { st with tt := (st.tt.write h bound ply depth score m).1 }

theorem StInv.stRel {J : SState → Prop} (hJ : StInv J) (g : Game P) :
    StRel g g (fun _ p q => p = q) (fun s1 s2 => s1 = s2 ∧ J s1) where
  poll := fun ⟨e, h⟩ => e ▸ ⟨rfl, rfl, hJ.poll h⟩
  node := fun ⟨e, h⟩ => e ▸ ⟨rfl, hJ.node h⟩
  fuel := fun ⟨e, h⟩ => e ▸ ⟨rfl, hJ.fuel h⟩
  read := fun hR ⟨e, _⟩ => by rw [e, hR]
  write := fun hR ⟨e, h⟩ => by
    subst e hR
    exact ⟨rfl, hJ.write h⟩

theorem alphabeta_stinv (g : Game P) (ex : P → Explore) (le : LeafEval P) (rootPly : Int) {J : SState → Prop}
    (hJ : StInv J) (d : Nat) (p : P) (a b : Score) (st : SState) (h : J st) :
    J (alphabeta g ex le rootPly d p a b st).2.2 :=
  have := alphabeta_rel (simN_refl g) (hJ.stRel g) (ExRel.eq ex) (LeRel.eq le) rootPly d _ p p rfl (Nat.le_refl _)
    a b st st ⟨rfl, h⟩
  this.snd.snd.2

/-- **A search never changes the cancellation instant.** -/
theorem alphabeta_cancelAt (g : Game P) (ex : P → Explore) (le : LeafEval P) (rootPly : Int) (d : Nat) (p : P)
    (a b : Score) (st : SState) : (alphabeta g ex le rootPly d p a b st).2.2.cancelAt = st.cancelAt :=
  alphabeta_stinv g ex le rootPly (J := fun s => s.cancelAt = st.cancelAt) ⟨id, id, id, id⟩ d p a b st rfl

/-- Without a table the table field is handed through untouched. -/
theorem alphabeta_tt_empty (g : Game P) (ex : P → Explore) (le : LeafEval P) (rootPly : Int) (d : Nat) (p : P)
    (a b : Score) (st : SState) (htt : st.tt.slots.size = 0) :
    (alphabeta g ex le rootPly d p a b st).2.2.tt = st.tt :=
  alphabeta_stinv g ex le rootPly (J := fun s => s.tt = st.tt)
    ⟨id, id, id, fun e => (congrArg (fun t : TTState => (t.write _ _ _ _ _ _).1) e).trans (write_empty htt ..)⟩ d p a b st rfl

/-- The state with `k` more nodes, `j` more polls and the fuel flag or-ed with `f`. -/
def shift (k j : Nat) (f : Bool) (st : SState) : SState :=
  { st with nodes := st.nodes + k, polls := st.polls + j, fuelOut := st.fuelOut || f }

def shiftA (k j : Nat) (f : Bool) (r : Score × List Move × SState) : Score × List Move × SState :=
  (r.1, r.2.1, shift k j f r.2.2)

section shift
variable (k j : Nat) (f : Bool)

@[simp] theorem shift_tt (st : SState) : (shift k j f st).tt = st.tt := rfl
@[simp] theorem shift_cancelAt (st : SState) : (shift k j f st).cancelAt = st.cancelAt := rfl

theorem pollS_shift (st : SState) : pollS (shift k j f st) = shift k j f (pollS st) := by
  simp only [pollS, shift, Nat.add_right_comm]

theorem poll_fst_none {st : SState} (h : st.cancelAt = none) : (poll st).1 = false := by
  simp only [poll, h]

theorem poll_snd_cancelAt (st : SState) : (poll st).2.cancelAt = st.cancelAt := rfl

theorem shift_node (st : SState) :
    { shift k j f st with nodes := (shift k j f st).nodes + 1 } = shift k j f { st with nodes := st.nodes + 1 } := by
  simp only [shift, Nat.add_right_comm]

theorem shift_table (st : SState) (t : TTState) : { shift k j f st with tt := t } = shift k j f { st with tt := t } := rfl

theorem shift_fuel (st : SState) :
    { shift k j f st with fuelOut := true } = shift k j f { st with fuelOut := true } := rfl

/-- Without cancellation, a run from the shifted state stays the shift of the run from the state itself. -/
theorem stRel_shift (g : Game P) :
    StRel g g (fun _ p q => p = q) (fun s1 s2 => s1 = shift k j f s2 ∧ s2.cancelAt = none) where
  poll := @fun s1 s2 ⟨e, hc⟩ => by
    subst e
    exact ⟨(poll_fst_none (st := shift k j f s2) hc).trans (poll_fst_none hc).symm, pollS_shift k j f s2, hc⟩
  node := @fun s1 s2 ⟨e, hc⟩ => by subst e; exact ⟨shift_node k j f s2, hc⟩
  fuel := @fun s1 s2 ⟨e, hc⟩ => by subst e; exact ⟨shift_fuel k j f s2, hc⟩
  read := fun hR ⟨e, _⟩ => by rw [e, hR, shift_tt]
  write := fun hR ⟨e, hc⟩ => by
    subst e hR
    exact ⟨shift_table k j f _ _, hc⟩

/-- **The counters are only added to.** Without cancellation, starting from a state with `k` more nodes, `j` more
polls and the fuel flag or-ed with `f` gives the same score and PV, and the final state shifted likewise. -/
theorem alphabeta_shift (g : Game P) (ex : P → Explore) (le : LeafEval P) (rootPly : Int) (d : Nat) (p : P)
    (a b : Score) (st : SState) (hst : st.cancelAt = none) :
    alphabeta g ex le rootPly d p a b (shift k j f st) = shiftA k j f (alphabeta g ex le rootPly d p a b st) :=
  have := alphabeta_rel (simN_refl g) (stRel_shift k j f g) (ExRel.eq ex) (LeRel.eq le) rootPly d _ p p rfl
    (Nat.le_refl _) a b _ st ⟨rfl, hst⟩
  Prod.ext this.fst (Prod.ext this.snd.fst this.snd.snd.1)

end shift

theorem searchFinish_snd (r : Score × List Move × SState) : (searchFinish r).2 = pollS r.2.2 := by
  unfold searchFinish
  split <;> rfl

theorem searchFinish_shift (j : Nat) (f : Bool) (r : Score × List Move × SState) (hc : r.2.2.cancelAt = none) :
    (searchFinish (shiftA 0 j f r)).1 = (searchFinish r).1 := by
  have h1 : pollC (shift 0 j f r.2.2) = false := poll_fst_none hc
  have h2 : pollC r.2.2 = false := poll_fst_none hc
  unfold searchFinish shiftA
  rw [h1, h2]
  rfl

/-- **The incoming counters do not matter.** Without cancellation, `AlphaBeta.Search` reports the same result
(node count, score, PV) from `st` as from the fresh state carrying the same table. -/
theorem alphaBetaSearch_fresh (g : Game P) (ex : P → Explore) (le : LeafEval P) (p : P) (d : Nat) (a b : Score)
    (st : SState) (hst : st.cancelAt = none) :
    (alphaBetaSearch g ex le p d a b st).1 = (alphaBetaSearch g ex le p d a b { tt := st.tt }).1 := by
  have hbase : ({ st with nodes := 0 } : SState) = shift 0 st.polls st.fuelOut { tt := st.tt } := by
    cases st with
    | mk tt nodes polls cancelAt fuelOut =>
      simp only at hst
      subst hst
      simp [shift]
  rw [alphaBetaSearch_eq, alphaBetaSearch_eq, hbase, alphabeta_shift 0 st.polls st.fuelOut g ex le _ d p _ _ _ rfl]
  exact searchFinish_shift _ _ _ (alphabeta_cancelAt g ex le _ d p _ _ _)

theorem alphaBetaSearch_tt_empty (g : Game P) (ex : P → Explore) (le : LeafEval P) (p : P) (d : Nat) (a b : Score)
    (st : SState) (htt : st.tt.slots.size = 0) : (alphaBetaSearch g ex le p d a b st).2.tt = st.tt := by
  rw [alphaBetaSearch_eq, searchFinish_snd]
  exact alphabeta_tt_empty g ex le _ d p _ _ { st with nodes := 0 } htt

theorem alphaBetaSearch_cancelAt (g : Game P) (ex : P → Explore) (le : LeafEval P) (p : P) (d : Nat) (a b : Score)
    (st : SState) : (alphaBetaSearch g ex le p d a b st).2.cancelAt = st.cancelAt := by
  rw [alphaBetaSearch_eq, searchFinish_snd]
  exact alphabeta_cancelAt g ex le _ d p _ _ { st with nodes := 0 }

end Morlock.Proofs.Det
