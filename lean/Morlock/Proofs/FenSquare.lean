import Morlock.Proofs.FenLex
import Morlock.Proofs.RepMove
/-!
# Square names

`Square.String` writes two characters, a file letter and a rank digit; `ParseSquare` reads two. Everything the codec
needs about target squares and move texts follows from the two eight-entry tables below, without going through
the 64 squares.
-/
namespace Morlock.Proofs.Fen
open Morlock Morlock.Model Morlock.Model.Fen Morlock.Proofs

/-- `File.String` (h = 0 … a = 7). -/
def fileChar (f : Nat) : Char :=
  match f with
  | 7 => 'a' | 6 => 'b' | 5 => 'c' | 4 => 'd' | 3 => 'e' | 2 => 'f' | 1 => 'g' | _ => 'h'

/-- `Rank.String`. -/
def rankChar (r : Nat) : Char := Char.ofNat ('1'.toNat + r)

def sqChars (sq : Nat) : List Char := [fileChar (sq % 8), rankChar (sq / 8)]

theorem sqChars_mk {f r : Nat} (hf : f < 8) : sqChars (8 * r + f) = [fileChar f, rankChar r] := by
  rw [sqChars, Nat.mul_add_mod, Nat.mod_eq_of_lt hf, Nat.mul_add_div (by decide), Nat.div_eq_of_lt hf, Nat.add_zero]

theorem sqChars_zero : sqChars 0 = ['h', '1'] := by decide +kernel

theorem fileChar_spec : ∀ f, f < 8 →
    parseFile (fileChar f) = some f ∧ fileChar f = Char.ofNat ('h'.toNat - f) ∧
      (match f with
        | 7 => "a" | 6 => "b" | 5 => "c" | 4 => "d" | 3 => "e" | 2 => "f" | 1 => "g" | _ => "h").toList = [fileChar f] ∧
      ('a' ≤ fileChar f ∧ fileChar f ≤ 'h') := by
  decide +kernel

theorem rankChar_spec : ∀ r, r < 8 →
    parseRank (rankChar r) = some r ∧ (toString (r + 1)).toList = [rankChar r] ∧
      ('1' ≤ rankChar r ∧ rankChar r ≤ '8') := by
  decide +kernel

theorem fileChar_of_range {c : Char} (h : 'a' ≤ c ∧ c ≤ 'h') : ∃ f, f < 8 ∧ fileChar f = c := by
  rw [char_le_iff, char_le_iff] at h
  have h1 : 'a'.toNat = 97 := rfl
  have h2 : 'h'.toNat = 104 := rfl
  refine ⟨104 - c.toNat, by omega, ?_⟩
  rw [(fileChar_spec _ (by omega)).2.1, h2]
  exact (congrArg Char.ofNat (by omega)).trans (Char.ofNat_toNat c)

theorem rankChar_of_range {c : Char} (h : '1' ≤ c ∧ c ≤ '8') : ∃ r, r < 8 ∧ rankChar r = c := by
  rw [char_le_iff, char_le_iff] at h
  have h1 : '1'.toNat = 49 := rfl
  have h2 : '8'.toNat = 56 := rfl
  refine ⟨c.toNat - 49, by omega, ?_⟩
  unfold rankChar
  rw [h1]
  exact (congrArg Char.ofNat (by omega)).trans (Char.ofNat_toNat c)

theorem newSquare_lt (f r : Nat) : newSquare f r < 64 := by
  rw [newSquare_eq]; omega

theorem parseSquare_sqChars {sq : Nat} (h : sq < 64) :
    parseSquare (fileChar (sq % 8)) (rankChar (sq / 8)) = some sq := by
  unfold parseSquare
  rw [(fileChar_spec _ (Nat.mod_lt _ (by decide))).1, (rankChar_spec _ (by omega)).1]
  simp only [Option.bind_eq_bind, Option.bind_some, Option.pure_def, Option.some.injEq]
  rw [newSquare_eq, Nat.mod_mod, Nat.mod_eq_of_lt (by omega : sq / 8 < 8), Nat.div_add_mod]

theorem squareString_toList {sq : Nat} (h : sq < 64) : (squareString sq).toList = sqChars sq := by
  have hf := (fileChar_spec (sq % 8) (Nat.mod_lt _ (by decide))).2.2.1
  unfold squareString
  rw [String.toList_append, sqFile_eq, sqRank_eq, Nat.mod_eq_of_lt (by omega : sq / 8 < 8),
    (rankChar_spec _ (by omega)).2.1]
  -- `hf` speaks of the same `match`, compiled in this module
  exact congrArg (· ++ [rankChar (sq / 8)]) hf

theorem sqChars_NS (sq : Nat) (h : sq < 64) : NS (sqChars sq) := by
  have hf := (fileChar_spec _ (Nat.mod_lt sq (by decide))).2.2.2
  have hr := (rankChar_spec (sq / 8) (by omega)).2.2
  rw [char_le_iff, char_le_iff] at hf hr
  have e1 : 'a'.toNat = 97 := rfl
  have e2 : 'h'.toNat = 104 := rfl
  have e3 : '1'.toNat = 49 := rfl
  have e4 : '8'.toNat = 56 := rfl
  exact NS.cons (isSpace_of_range (by omega) (by omega)) (NS.cons (isSpace_of_range (by omega) (by omega)) NS.nil)

end Morlock.Proofs.Fen
