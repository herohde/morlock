import Morlock.Proofs.SargonAttackers
/-!
# SARGON: `eval.FindPins` is sound and complete

A pin line, read on the empty-board ray from the target: empty squares, the pinned piece, empty squares, the attacker. Lifting
the pinned piece makes exactly the squares behind it up to the attacker visible; so every pin returned by `FindPins` is a real
pin, and every real pin is returned.
-/
namespace Morlock.Proofs.Sargon
open Morlock Morlock.Model Morlock.Model.Sargon Morlock.Proofs.Attack Morlock.Proofs.Gen

/-- The line of a pin, read from the target in direction `d` on the board with the pinned piece lifted:
    empty squares, the pinned piece, empty squares, the attacker. On the board as it is the ray ends at the pinned piece. -/
def PinLine (o : Nat → Bool) (target : Nat) (d : Int × Int) (pinned attacker : Nat) : Prop :=
  ∃ pre mid, Spec.ray (without o pinned) target d.1 d.2 8 = pre ++ pinned :: (mid ++ [attacker]) ∧
    Spec.ray o target d.1 d.2 8 = pre ++ [pinned] ∧
    (∀ x ∈ pre, o x = false) ∧ (∀ x ∈ mid, o x = false) ∧ o pinned = true ∧ o attacker = true

/-- `PinLine` on the empty-board ray: target – empty squares – pinned – empty squares – attacker – whatever -/
theorem pinLine_iff {o : Nat → Bool} {t : Nat} {d : Int × Int} (hd : d ∈ Spec.rookDirs ++ Spec.bishopDirs) {f a : Nat} :
    PinLine o t d f a ↔ ∃ pre mid rest, Spec.ray noOcc t d.1 d.2 8 = pre ++ f :: (mid ++ a :: rest) ∧
      (∀ x ∈ pre, o x = false) ∧ (∀ x ∈ mid, o x = false) ∧ o f = true ∧ o a = true := by
  have hnd := ray_nodup noOcc hd 8 t
  unfold PinLine
  rw [ray_eq_takeThrough, ray_eq_takeThrough o]
  constructor
  · rintro ⟨pre, mid, h1, h2, hpre, hmid, hof, hoa⟩
    obtain ⟨pre', S, hE, hpre'⟩ := takeThrough_mem_occ o _ f (by rw [h2]; simp) hof
    rw [hE] at h1 h2 hnd
    rw [takeThrough_split o S hpre' hof] at h2
    obtain rfl := List.append_inj_left' h2 rfl
    rw [takeThrough_lift hnd hpre] at h1
    have h3 : takeThrough o S = mid ++ [a] := (List.cons.inj (List.append_cancel_left h1)).2
    obtain ⟨mid', rest, hS, hmid'⟩ := takeThrough_mem_occ o S a (by rw [h3]; simp) hoa
    rw [hS, takeThrough_split o rest hmid' hoa] at h3
    obtain rfl := List.append_inj_left' h3 rfl
    exact ⟨pre', mid', rest, by rw [hE, hS], hpre, hmid, hof, hoa⟩
  · rintro ⟨pre, mid, rest, hE, hpre, hmid, hof, hoa⟩
    rw [hE] at hnd ⊢
    refine ⟨pre, mid, ?_, takeThrough_split o _ hpre hof, hpre, hmid, hof, hoa⟩
    rw [takeThrough_lift hnd hpre, takeThrough_split o rest hmid hoa]

/-- **The geometry of "became visible".** If `a` is a line target of `t` once the occupied square `f` is lifted, but
    not before, and `a` is occupied, then `f` and `a` are the first and the second piece on one line from `t`. -/
theorem pinLine_of_new {o : Nat → Bool} {k : Spec.Kind} (hk : IsLine k) {t f a : Nat}
    (hoa : o a = true) (hnew : a ∈ Spec.officerTargets (without o f) k t) (hold : a ∉ Spec.officerTargets o k t) :
    ∃ d ∈ dirsOf k, PinLine o t d f a := by
  obtain ⟨d, hd, ha⟩ := (mem_lineTargets hk).mp hnew
  have hold' : a ∉ Spec.ray o t d.1 d.2 8 := fun c => hold ((mem_lineTargets hk).mpr ⟨d, hd, c⟩)
  rw [ray_eq_takeThrough] at ha hold'
  obtain ⟨pre, S, hE, hpre, hof, haS⟩ := takeThrough_new (ray_nodup noOcc (dirsOf_sub hk hd) 8 t) ha hold'
  obtain ⟨mid, rest, hS, hmid⟩ := takeThrough_mem_occ o S a haS hoa
  exact ⟨d, hd, (pinLine_iff (dirsOf_sub hk hd)).mpr ⟨pre, mid, rest, by rw [hE, hS], hpre, hmid, hof, hoa⟩⟩

theorem piece_of_colour {p : Position} {b : Board} (h : Rep p b) (c : Color) {s : Nat} (hs : (p.pieces c .none).testBit s = true) :
    s < 64 ∧ ∃ k, b s = some (c, k) := by
  have hlt : s < 64 := lt_of_testBit (h.piecesLt c .none) hs
  rw [h.all c s hlt] at hs
  unfold colAt at hs
  cases hb : b s with
  | none => rw [hb] at hs; cases hs
  | some ck =>
    obtain ⟨c', k⟩ := ck
    rw [hb] at hs
    have : c' = c := by simpa using hs
    subst this
    exact ⟨hlt, k, rfl⟩

theorem findPinsLine_line (p : Position) (side : Color) (target : Nat) (k : Spec.Kind) :
    findPinsLine p side target (lineAB k) (sliderOf k) =
      (toSquares (lineAB k p.rotated target &&& p.pieces side .none)).filterMap fun pinned =>
        if lineBB p side.opp target p.rotated pinned k != 0 then
          some { attacker := lastPopSquare (lineBB p side.opp target p.rotated pinned k), pinned := pinned, target := target }
        else none := rfl

theorem pinBB_testBit {p : Position} {b : Board} (hrep : Rep p b) (side : Color) {target : Nat} (ht : target < 64)
    {k : Spec.Kind} (hk : IsLine k) {pinned : Nat} {v : Color × Piece} (hbp : b pinned = some v) (s : Nat) :
    (lineBB p side.opp target p.rotated pinned k).testBit s = true ↔
      (s ∈ Spec.officerTargets (without (occB b) pinned) k target ∧ s ∉ Spec.officerTargets (occB b) k target) ∧
      (b s = some (side.opp, .queen) ∨ b s = some (side.opp, sliderOf k)) := by
  have hocceq : (fun x => p.rotated.rot.testBit x) = occB b := hrep.occ_eq
  rw [lineBB_testBit p side.opp hrep.rotInv (hrep.lt_of_some hbp) ht hk,
    xor_bits_without (hrep.lt_of_some hbp) (rot_of_some hrep hbp), hocceq,
    piece_bit_iff hrep side.opp (by decide), piece_bit_iff hrep side.opp (sliderOf_ne_none hk)]

theorem mem_pinned {p : Position} {b : Board} (hrep : Rep p b) (side : Color) {target : Nat} (ht : target < 64)
    {k : Spec.Kind} (hk : IsLine k) (pinned : Nat) :
    pinned ∈ toSquares (lineAB k p.rotated target &&& p.pieces side .none) ↔
      pinned ∈ Spec.officerTargets (occB b) k target ∧ ∃ kp, b pinned = some (side, kp) := by
  have hocceq : (fun x => p.rotated.rot.testBit x) = occB b := hrep.occ_eq
  rw [mem_toSquares (and_lt_right _ (hrep.piecesLt side .none)), Nat.testBit_and, Bool.and_eq_true,
    lineAB_of_inv hk hrep.rotInv ht, hocceq, testBit_toBB]
  refine and_congr_right fun _ => ⟨fun h => (piece_of_colour hrep side h).2, fun ⟨kp, h⟩ => ?_⟩
  rw [hrep.all side pinned (hrep.lt_of_some h)]; simp [colAt, h]

theorem findPinsLine_sound {p : Position} {b : Board} (hrep : Rep p b) (side : Color) {target : Nat} (ht : target < 64)
    {k : Spec.Kind} (hk : IsLine k) {pin : Pin} (hpin : pin ∈ findPinsLine p side target (lineAB k) (sliderOf k)) :
    pin.target = target ∧ (∃ kp, b pin.pinned = some (side, kp)) ∧
      (b pin.attacker = some (side.opp, .queen) ∨ b pin.attacker = some (side.opp, sliderOf k)) ∧
      ∃ d ∈ dirsOf k, PinLine (occB b) target d pin.pinned pin.attacker := by
  rw [findPinsLine_line, List.mem_filterMap] at hpin
  obtain ⟨pinned, hmem, hsome⟩ := hpin
  obtain ⟨_, kp, hbp⟩ := (mem_pinned hrep side ht hk pinned).mp hmem
  split at hsome
  · rename_i hcand
    obtain ⟨_, abit, _⟩ := lastPopSquare_spec (by simpa using hcand) (lineBB_lt hrep side.opp target p.rotated pinned k)
    cases hsome
    obtain ⟨⟨hnew, hold⟩, hbA⟩ := (pinBB_testBit hrep side ht hk hbp _).mp abit
    exact ⟨rfl, ⟨kp, hbp⟩, hbA, pinLine_of_new hk (hbA.elim occB_of_some occB_of_some) hnew hold⟩
  · cases hsome

theorem mem_findPins {p : Position} {b : Board} (hrep : Rep p b) (side : Color) {piece : Piece} (hk : piece ≠ .none) (pin : Pin) :
    pin ∈ findPins p side piece ↔
      ∃ t, b t = some (side, piece) ∧ ∃ k, IsLine k ∧ pin ∈ findPinsLine p side t (lineAB k) (sliderOf k) := by
  unfold findPins findPinsAt
  simp only [List.mem_flatMap, List.mem_append, mem_toSquares (hrep.piecesLt side piece), piece_bit_iff hrep side hk]
  constructor
  · rintro ⟨t, hbt, h | h⟩
    · exact ⟨t, hbt, .rook, Or.inl rfl, h⟩
    · exact ⟨t, hbt, .bishop, Or.inr rfl, h⟩
  · rintro ⟨t, hbt, k, rfl | rfl, h⟩
    · exact ⟨t, hbt, Or.inl h⟩
    · exact ⟨t, hbt, Or.inr h⟩

theorem findPins_sound {p : Position} {b : Board} (hrep : Rep p b) (side : Color) {piece : Piece} (hk : piece ≠ .none)
    {pin : Pin} (hpin : pin ∈ findPins p side piece) :
    b pin.target = some (side, piece) ∧ (∃ kp, b pin.pinned = some (side, kp)) ∧
      ∃ line, IsLine line ∧
        (b pin.attacker = some (side.opp, .queen) ∨ b pin.attacker = some (side.opp, sliderOf line)) ∧
        ∃ d ∈ dirsOf line, PinLine (occB b) pin.target d pin.pinned pin.attacker := by
  obtain ⟨t, hbt, k, hk', h⟩ := (mem_findPins hrep side hk pin).mp hpin
  obtain ⟨e, h1, h2, hl⟩ := findPinsLine_sound hrep side (hrep.lt_of_some hbt) hk' h
  rw [e]
  exact ⟨hbt, h1, k, hk', h2, hl⟩

theorem findPinsLine_complete {p : Position} {b : Board} (hrep : Rep p b) (side : Color) {target : Nat} (ht : target < 64)
    {k : Spec.Kind} (hk : IsLine k) {pinned att : Nat} {kp : Piece} (hbp : b pinned = some (side, kp))
    (hba : b att = some (side.opp, .queen) ∨ b att = some (side.opp, sliderOf k))
    {d : Int × Int} (hd : d ∈ dirsOf k) (hpl : PinLine (occB b) target d pinned att) :
    { attacker := att, pinned := pinned, target := target } ∈ findPinsLine p side target (lineAB k) (sliderOf k) := by
  obtain ⟨pre, mid, rest, hE, hpre, hmid, hop, hoa⟩ := (pinLine_iff (dirsOf_sub hk hd)).mp hpl
  -- the candidates: what the target sees anew with the pinned piece lifted is `mid ++ [att]`, and `mid` is empty
  have bitiff : ∀ s, (lineBB p side.opp target p.rotated pinned k).testBit s = true ↔
      s ∈ mid ++ [att] ∧ (b s = some (side.opp, .queen) ∨ b s = some (side.opp, sliderOf k)) := by
    intro s
    rw [pinBB_testBit hrep side ht hk hbp, newVis_iff hk hd hE hpre hop, takeThrough_split _ rest hmid hoa]
  have hne : lineBB p side.opp target p.rotated pinned k ≠ 0 := by
    intro c
    have := (bitiff att).mpr ⟨by simp, hba⟩
    rw [c] at this; simp at this
  have huniq : lastPopSquare (lineBB p side.opp target p.rotated pinned k) = att := by
    obtain ⟨hs, hsb⟩ := (bitiff _).mp (lastPopSquare_spec hne (lineBB_lt hrep side.opp target p.rotated pinned k)).2.1
    rcases List.mem_append.mp hs with h | h
    · have hos := hmid _ h
      unfold occB at hos
      rcases hsb with e | e <;> rw [e] at hos <;> cases hos
    · simpa using h
  rw [findPinsLine_line, List.mem_filterMap]
  refine ⟨pinned, (mem_pinned hrep side ht hk pinned).mpr ⟨(mem_lineTargets hk).mpr ⟨d, hd, ?_⟩, kp, hbp⟩, ?_⟩
  · rw [ray_eq_takeThrough, hE, takeThrough_split _ _ hpre hop]; simp
  · have hb : (lineBB p side.opp target p.rotated pinned k != 0) = true := by simpa using hne
    simp only [hb, if_true, huniq]

theorem findPins_complete {p : Position} {b : Board} (hrep : Rep p b) (side : Color) {piece : Piece} (hk : piece ≠ .none)
    {target pinned att : Nat} (hbt : b target = some (side, piece)) {kp : Piece} (hbp : b pinned = some (side, kp))
    {line : Spec.Kind} (hline : IsLine line)
    (hba : b att = some (side.opp, .queen) ∨ b att = some (side.opp, sliderOf line))
    {d : Int × Int} (hd : d ∈ dirsOf line) (hpl : PinLine (occB b) target d pinned att) :
    { attacker := att, pinned := pinned, target := target } ∈ findPins p side piece := by
  exact (mem_findPins hrep side hk _).mpr
    ⟨target, hbt, line, hline, findPinsLine_complete hrep side (hrep.lt_of_some hbt) hline hbp hba hd hpl⟩

end Morlock.Proofs.Sargon
