import Morlock.Proofs.FltMono
/-! # `rndPos` returns a number of the format that is nearest to `a / b` among all numbers of the format -/
namespace Morlock.Model.Flt

/-- `|x − y|` on naturals -/
def adiff (x y : Nat) : Nat := (x - y) + (y - x)

theorem adiff_mul (x y c : Nat) : adiff (x * c) (y * c) = adiff x y * c := by
  unfold adiff; rw [Nat.add_mul, Nat.sub_mul, Nat.sub_mul]

theorem nearest_int (U m0 k X : Nat) (h1 : 2 * (m0 * U) ≤ 2 * X + U) (h2 : 2 * X ≤ 2 * (m0 * U) + U) :
    adiff X (m0 * U) ≤ adiff X (k * U) := by
  have near : 2 * adiff X (m0 * U) ≤ U := by unfold adiff; omega
  have far : k ≠ m0 → U ≤ 2 * adiff X (k * U) := by
    intro hk
    unfold adiff
    rcases Nat.lt_or_gt_of_ne hk with h | h
    · have := Nat.mul_le_mul_right U h
      rw [Nat.succ_mul] at this
      omega
    · have := Nat.mul_le_mul_right U h
      rw [Nat.succ_mul] at this
      omega
  by_cases hk : k = m0
  · rw [hk]; exact Nat.le_refl _
  · have := far hk; omega

/-- `m0` units within half a unit of `X` are nearest among the multiples of the unit and what lies below `L` units, `L·U ≤ X` -/
theorem nearest_grid {U m0 X W L : Nat} (h1 : 2 * (m0 * U) ≤ 2 * X + U) (h2 : 2 * X ≤ 2 * (m0 * U) + U)
    (hW : (∃ k, W = k * U) ∨ (W < L * U ∧ L * U ≤ X)) : adiff X (m0 * U) ≤ adiff X W := by
  rcases hW with ⟨k, rfl⟩ | ⟨hW, hL⟩
  · exact nearest_int U m0 k X h1 h2
  · have hn := nearest_int U m0 L X h1 h2
    unfold adiff at hn ⊢
    omega

theorem pre_nearest (f : Fmt) (hp : 1 ≤ f.p) {a b : Nat} (ha : 0 < a) (hb : 0 < b) (m' : Nat) (e' : Int)
    (hm' : m' < 2 ^ f.p) (he' : f.emin ≤ e') :
    adiff (a * pd (expo f a b)) (sig0 f a b * b * pn (expo f a b)) * pd e' ≤
      adiff (a * pd e') (m' * b * pn e') * pd (expo f a b) := by
  have hE := expo_spec f hp ha hb
  have hspec : HalfUlp a b (sig0 f a b) (expo f a b) :=
    rhe_spec (a * pd (expo f a b)) (b * pn (expo f a b)) (Nat.mul_pos hb (pn_pos _))
  generalize sig0 f a b = m0 at *
  generalize expo f a b = e0 at *
  -- on the scale `b·pd e0·pd e'` the unit in the last place is `b·(pn e0·pd e')`
  rw [← adiff_mul, ← adiff_mul, Nat.mul_right_comm a (pd e') (pd e0),
    show m0 * b * pn e0 * pd e' = m0 * (b * (pn e0 * pd e')) by ac_rfl,
    show m' * b * pn e' * pd e0 = b * (m' * pn e' * pd e0) by ac_rfl]
  have eM : 2 * m0 * (b * pn e0) * pd e' = 2 * (m0 * (b * (pn e0 * pd e'))) := by ac_rfl
  have eX : 2 * (a * pd e0) * pd e' = 2 * (a * pd e0 * pd e') := Nat.mul_assoc ..
  have eU : b * pn e0 * pd e' = b * (pn e0 * pd e') := Nat.mul_assoc ..
  have h1 := Nat.mul_le_mul_right (pd e') hspec.1
  have h2 := Nat.mul_le_mul_right (pd e') hspec.2
  rw [Nat.add_mul, eM, eX, eU] at h1 h2
  refine nearest_grid (L := 2 ^ (f.p - 1)) h1 h2 ?_
  rcases grid_cases hp hm' e0 e' with ⟨k, hk⟩ | ⟨hlt, hW⟩
  · exact Or.inl ⟨k, by rw [hk, Nat.mul_left_comm]⟩
  · -- the candidate lies in a lower binade: below `2^(p-1)` units, which is at most `a/b`
    refine Or.inr ⟨by rw [Nat.mul_left_comm (2 ^ (f.p - 1))]; exact Nat.mul_lt_mul_of_pos_left hW hb, ?_⟩
    calc 2 ^ (f.p - 1) * (b * (pn e0 * pd e')) = 2 ^ (f.p - 1) * b * pn e0 * pd e' := by ac_rfl
      _ ≤ a * pd e0 * pd e' := Nat.mul_le_mul_right _ (hE.lower.resolve_left (by omega))

theorem rndPos_nearest (f : Fmt) (hp : 1 ≤ f.p) {a b m : Nat} {e : Int} (ha : 0 < a) (hb : 0 < b)
    (h : rndPos f a b = some (m, e)) (m' : Nat) (e' : Int) (hm' : m' < 2 ^ f.p) (he' : f.emin ≤ e') :
    adiff (a * pd e) (m * b * pn e) * pd e' ≤ adiff (a * pd e') (m' * b * pn e') * pd e := by
  have hpre := pre_nearest f hp ha hb m' e' hm' he'
  have hcv := carry_val f hp (sig0 f a b) (expo f a b)
  rw [rndPos_eq'] at h
  rw [(fin_eq_some h).1] at hcv
  simp only [] at hcv
  generalize sig0 f a b = m0 at *
  generalize expo f a b = e0 at *
  -- the same distance at the two scales
  have hsame : adiff (a * pd e) (m * b * pn e) * pd e0 = adiff (a * pd e0) (m0 * b * pn e0) * pd e := by
    rw [← adiff_mul, ← adiff_mul, Nat.mul_right_comm a,
      show m * b * pn e * pd e0 = b * (m * pn e * pd e0) by ac_rfl, hcv]
    congr 1; ac_rfl
  exact (cmp_scale (pd_pos e0) (pd_pos e) (by rw [Nat.mul_right_comm, hsame, Nat.mul_right_comm])
    (Nat.mul_right_comm ..)).2.mpr hpre

end Morlock.Model.Flt
