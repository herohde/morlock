import Morlock.Proofs.AttackGeo
import Morlock.Proofs.AttackGeoB
import Morlock.Proofs.AttackRot
/-!
# Sliding attack boards equal the reference rays (glue)

Combines the lock-step simulation (`scan_eq_ray`), the per-square geometric facts (`geo_*`) and the
rotated-bitboard invariant (`RotInv`) into statements about `rookAttackboard`, `bishopAttackboard`
and `queenAttackboard` for every board satisfying the invariant.
-/
namespace Morlock.Proofs.Attack
open Morlock Morlock.Model Morlock.Spec

abbrev occF (occ : Nat) : Nat → Bool := fun s => occ.testBit s

/-- Two loops over the same line state, the second continuing with the first one's result, compute the
    two reference rays. -/
theorem scan2_eq (S T : ScanSpec) (sq : Nat) (tbl : Nat → Nat) (off mask occ rotX : Nat)
    (hS : geoOK S sq tbl off mask = true) (hT : geoOK T sq tbl off mask = true)
    (hinv : ∀ s, s < 64 → rotX.testBit (tbl s) = occ.testBit s) :
    scan T.hi T.cell T.bit ((rotX >>> off) &&& mask) 8 T.start
        (scan S.hi S.cell S.bit ((rotX >>> off) &&& mask) 8 S.start 0) =
      toBB (ray (occF occ) sq S.df S.dr 8) ||| toBB (ray (occF occ) sq T.df T.dr 8) := by
  rw [scan_eq_ray S sq tbl off mask occ rotX hS hinv, scan_eq_ray T sq tbl off mask occ rotX hT hinv,
    Nat.zero_or]

theorem rookRank_eq (occ : Nat) {sq : Nat} (hs : sq < 64) :
    rookRank sq ((occ >>> (sqRank sq <<< 3)) &&& 255) =
      toBB (ray (occF occ) sq 1 0 8) ||| toBB (ray (occF occ) sq (-1) 0 8) :=
  scan2_eq (specRankR sq) (specRankL sq) sq id _ _ occ occ (allBelow_spec geo_rankR sq hs)
    (allBelow_spec geo_rankL sq hs) fun _ _ => rfl

theorem rookFile_eq (occ rot90 : Nat) {sq : Nat} (hs : sq < 64)
    (hinv : ∀ s, s < 64 → rot90.testBit (Gen.rot90[s]!) = occ.testBit s) :
    rookFile sq ((rot90 >>> (sqFile sq <<< 3)) &&& 255) =
      toBB (ray (occF occ) sq 0 1 8) ||| toBB (ray (occF occ) sq 0 (-1) 8) :=
  scan2_eq (specFileD sq) (specFileU sq) sq c90 _ _ occ rot90 (allBelow_spec geo_fileD sq hs)
    (allBelow_spec geo_fileU sq hs) fun s h => rot90_eq h ▸ hinv s h

theorem bishopL_eq (occ rot45L : Nat) {sq : Nat} (hs : sq < 64)
    (hinv : ∀ s, s < 64 → rot45L.testBit (Gen.rot45L[s]!) = occ.testBit s) :
    bishopL sq ((rot45L >>> Gen.off45L[sq]!) &&& Gen.mask45L[sq]!) =
      toBB (ray (occF occ) sq 1 1 8) ||| toBB (ray (occF occ) sq (-1) (-1) 8) := by
  rw [off45L_eq hs, mask45L_eq hs]
  exact scan2_eq (specUL sq) (specDR sq) sq c45L _ _ occ rot45L (allBelow_spec geo_UL sq hs)
    (allBelow_spec geo_DR sq hs) fun s h => rot45L_eq h ▸ hinv s h

theorem bishopR_eq (occ rot45R : Nat) {sq : Nat} (hs : sq < 64)
    (hinv : ∀ s, s < 64 → rot45R.testBit (Gen.rot45R[s]!) = occ.testBit s) :
    bishopR sq ((rot45R >>> Gen.off45R[sq]!) &&& Gen.mask45R[sq]!) =
      toBB (ray (occF occ) sq (-1) 1 8) ||| toBB (ray (occF occ) sq 1 (-1) 8) := by
  rw [off45R_eq hs, mask45R_eq hs]
  exact scan2_eq (specUR sq) (specDL sq) sq c45R _ _ occ rot45R (allBelow_spec geo_UR sq hs)
    (allBelow_spec geo_DL sq hs) fun s h => rot45R_eq h ▸ hinv s h

theorem rookTargets_toBB (o : Nat → Bool) (sq : Nat) :
    toBB (officerTargets o .rook sq) =
      (toBB (ray o sq 1 0 8) ||| toBB (ray o sq (-1) 0 8)) ||| (toBB (ray o sq 0 1 8) ||| toBB (ray o sq 0 (-1) 8)) := by
  simp only [officerTargets, rookDirs, List.flatMap_cons, List.flatMap_nil, List.append_nil, toBB_append]
  ac_rfl

theorem bishopTargets_toBB (o : Nat → Bool) (sq : Nat) :
    toBB (officerTargets o .bishop sq) =
      (toBB (ray o sq 1 1 8) ||| toBB (ray o sq (-1) (-1) 8)) ||| (toBB (ray o sq (-1) 1 8) ||| toBB (ray o sq 1 (-1) 8)) := by
  simp only [officerTargets, bishopDirs, List.flatMap_cons, List.flatMap_nil, List.append_nil, toBB_append]
  ac_rfl

theorem queenTargets_toBB (o : Nat → Bool) (sq : Nat) :
    toBB (officerTargets o .queen sq) = toBB (officerTargets o .rook sq) ||| toBB (officerTargets o .bishop sq) := by
  simp only [officerTargets, List.flatMap_append, toBB_append]

theorem rook_of_inv {occ : Nat} {r : Rotated} (h : RotInv occ r) {sq : Nat} (hs : sq < 64) :
    rookAttackboard r sq = toBB (officerTargets (fun s => occ.testBit s) .rook sq) := by
  rw [rookTargets_toBB]
  unfold rookAttackboard
  simp only []
  rw [h.rot, rookRank_eq occ hs, rookFile_eq occ r.rot90 hs h.bit90]

theorem bishop_of_inv {occ : Nat} {r : Rotated} (h : RotInv occ r) {sq : Nat} (hs : sq < 64) :
    bishopAttackboard r sq = toBB (officerTargets (fun s => occ.testBit s) .bishop sq) := by
  rw [bishopTargets_toBB]
  unfold bishopAttackboard
  simp only []
  rw [bishopL_eq occ r.rot45L hs h.bit45L, bishopR_eq occ r.rot45R hs h.bit45R]

theorem queen_of_inv {occ : Nat} {r : Rotated} (h : RotInv occ r) {sq : Nat} (hs : sq < 64) :
    queenAttackboard r sq = toBB (officerTargets (fun s => occ.testBit s) .queen sq) := by
  rw [queenTargets_toBB, ← rook_of_inv h hs, ← bishop_of_inv h hs]
  rfl

end Morlock.Proofs.Attack
