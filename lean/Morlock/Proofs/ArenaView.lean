import Morlock.Proofs.Arena
/-!
# The view of a board: everything it can read, with arena indices erased

`view w b` collects the board record of `b` (repetition map as a function), the contents of its current
node (without `next`, which no query reads) and the list of its strict ancestors (with `prev` erased -
the list structure replaces it). Under `WFWorld` every observation is a function of the view, and the
operations act on views as pure functions: C08 is then list reasoning plus frame lemmas for `view`.
-/
namespace Morlock.Proofs.Arena
open Morlock Morlock.Model Morlock.Model.World

/-- Everything a board reports, except its result. `hasMoved`, `reps` and `identical` are the whole
query functions (`HasMoved(k)` for every `k`, the repetition counter of every hash, and the private
`identicalPositionCount` of the current node for every argument). -/
structure ObsNR where
  pos : Position
  turn : Color
  hash : Nat
  noprogress : Int
  ply : Int
  moves : Int
  castledW : Bool
  castledB : Bool
  lastMove : Option Move
  secondToLastMove : Option Move
  hasMoved : Nat → Bitboard
  repCount : Int
  reps : Nat → Int
  identical : Color → Color → Int → Int

def obsNoResult (w : World) (b : Nat) : ObsNR :=
  { pos := (w.cur b).pos, turn := (w.board b).turn, hash := (w.cur b).hash, noprogress := (w.cur b).noprogress,
    ply := (w.board b).ply, moves := (w.board b).moves,
    castledW := (w.board b).castledW, castledB := (w.board b).castledB,
    lastMove := w.lastMove b, secondToLastMove := w.secondToLastMove b,
    hasMoved := fun k => w.hasMoved b k,
    repCount := repGet (w.board b).repetitions (w.cur b).hash,
    reps := fun h => repGet (w.board b).repetitions h,
    identical := fun turn t0 limit => w.identicalPositionCount (w.cur b) turn t0 limit }

def drawnR (r : Result) : Bool := r.outcome = .draw
/-- Result class "terminal" (checkmate / stalemate was adjudicated): `pushMove` refuses to move. -/
def blockedR (r : Result) : Bool := r.reason = .checkmate || r.reason = .stalemate

def drawn (w : World) (b : Nat) : Bool := drawnR (w.board b).result
def blocked (w : World) (b : Nat) : Bool := blockedR (w.board b).result
def resultNotDrawn (w : World) (b : Nat) : Prop := drawn w b = false

/-- Everything a board reports; of the result only its class (drawn or not, terminal or not). -/
structure Obs where
  nr : ObsNR
  drawn : Bool
  blocked : Bool

def obs (w : World) (b : Nat) : Obs := { nr := obsNoResult w b, drawn := drawn w b, blocked := blocked w b }

def eraseNode (n : Node) : Node := { n with prev := none }

@[simp] theorem eraseNode_next (n : Node) : (eraseNode n).next = n.next := rfl
@[simp] theorem eraseNode_pos (n : Node) : (eraseNode n).pos = n.pos := rfl
@[simp] theorem eraseNode_hash (n : Node) : (eraseNode n).hash = n.hash := rfl
@[simp] theorem eraseNode_noprogress (n : Node) : (eraseNode n).noprogress = n.noprogress := rfl

structure View where
  pos : Position
  hash : Nat
  noprogress : Int
  /-- strict ancestors of the current node, nearest first, `prev` erased -/
  past : List Node
  turn : Color
  ply : Int
  moves : Int
  castledW : Bool
  castledB : Bool
  reps : Nat → Int
  result : Result

def view (w : World) (b : Nat) : View :=
  { pos := (w.cur b).pos, hash := (w.cur b).hash, noprogress := (w.cur b).noprogress,
    past := (anc w (w.cur b).prev).map eraseNode,
    turn := (w.board b).turn, ply := (w.board b).ply, moves := (w.board b).moves,
    castledW := (w.board b).castledW, castledB := (w.board b).castledB,
    reps := fun h => repGet (w.board b).repetitions h,
    result := (w.board b).result }

/-! The fields of `view`, as lemmas: a `rfl` or a unification that has to see through `view` from outside
checks slowly. -/

theorem view_pos (w : World) (b : Nat) : (view w b).pos = (w.cur b).pos := by unfold view; rfl
theorem view_hash (w : World) (b : Nat) : (view w b).hash = (w.cur b).hash := by unfold view; rfl
theorem view_noprogress (w : World) (b : Nat) : (view w b).noprogress = (w.cur b).noprogress := by unfold view; rfl
theorem view_turn (w : World) (b : Nat) : (view w b).turn = (w.board b).turn := by unfold view; rfl
theorem view_result (w : World) (b : Nat) : (view w b).result = (w.board b).result := by unfold view; rfl
theorem view_reps (w : World) (b k : Nat) : (view w b).reps k = repGet (w.board b).repetitions k := by
  unfold view; rfl

/-- `HasMoved` on a list of ancestors. -/
def hmList : List Node → Nat → Bitboard → Bitboard
  | [], _, ret => ret
  | _ :: _, 0, ret => ret
  | n :: r, l + 1, ret => hmList r l (ret ||| bitMask n.next.to)

/-- `identicalPositionCount` on a list of ancestors. -/
def ipcList (hash : Nat) (pos : Position) (turn : Color) (limit : Int) : List Node → Int → Color → Int → Int
  | [], _, _, ret => ret
  | tn :: r, i, t, ret =>
    if i ≤ limit then
      ipcList hash pos turn limit r (i + 1) t.opp
        (if tn.hash == hash && turn == t && tn.pos == pos then ret + 1 else ret)
    else ret

theorem hmList_erase (l : List Node) : ∀ (k : Nat) (ret : Bitboard), hmList (l.map eraseNode) k ret = hmList l k ret := by
  induction l with
  | nil => intro k ret; rfl
  | cons n r ih =>
    intro k ret
    cases k with
    | zero => rfl
    | succ k => simp only [List.map_cons, hmList, eraseNode_next, ih]

theorem ipcList_erase (hash : Nat) (pos : Position) (turn : Color) (limit : Int) (l : List Node) :
    ∀ (i : Int) (t : Color) (ret : Int),
      ipcList hash pos turn limit (l.map eraseNode) i t ret = ipcList hash pos turn limit l i t ret := by
  induction l with
  | nil => intro i t ret; rfl
  | cons n r ih =>
    intro i t ret
    simp only [List.map_cons, ipcList]
    rw [ih]
    rfl

theorem hasMoved_go_eq (w : World) :
    ∀ (fuel : Nat) (cur : Option Nat) (limit : Nat) (ret : Bitboard),
      hasMoved.go w fuel cur limit ret = hmList ((path w fuel cur).map w.node) limit ret := by
  intro fuel
  induction fuel with
  | zero => intro cur limit ret; simp [hasMoved.go, hmList]
  | succ f ih =>
    intro cur limit ret
    cases cur with
    | none => simp [hasMoved.go, hmList]
    | some ci =>
      cases limit with
      | zero => simp [hasMoved.go, hmList]
      | succ l => simp [hasMoved.go, hmList, ih]

theorem ipc_go_eq (w : World) (n : Node) (turn : Color) (limit : Int) :
    ∀ (fuel : Nat) (i : Int) (tmp : Option Nat) (t : Color) (ret : Int),
      identicalPositionCount.go w n turn limit fuel i tmp t ret =
        ipcList n.hash n.pos turn limit ((path w fuel tmp).map w.node) i t ret := by
  intro fuel
  induction fuel with
  | zero => intro i tmp t ret; simp [identicalPositionCount.go, ipcList]
  | succ f ih =>
    intro i tmp t ret
    cases tmp with
    | none => simp [identicalPositionCount.go, ipcList]
    | some ti =>
      simp only [identicalPositionCount.go, path_succ_some, List.map_cons, ipcList, ih]

theorem bound_cur_prev_le_size {w : World} (hw : WFWorld w) (b : Nat) : bound (w.cur b).prev ≤ w.nodes.size :=
  bound_prev_le_size hw _

theorem ipc_eq {w : World} (hw : WFWorld w) (n : Node) (turn t0 : Color) (limit : Int)
    (hn : bound n.prev ≤ w.nodes.size) :
    w.identicalPositionCount n turn t0 limit = ipcList n.hash n.pos turn limit (anc w n.prev) 1 t0 1 := by
  unfold identicalPositionCount
  rw [ipc_go_eq, path_eq_ancIdx hw hn]
  rfl

theorem hasMoved_eq {w : World} (hw : WFWorld w) (b k : Nat) :
    w.hasMoved b k = hmList (anc w (w.cur b).prev) k 0 &&& (w.cur b).pos.all := by
  unfold hasMoved
  rw [hasMoved_go_eq, path_eq_ancIdx hw (bound_cur_prev_le_size hw b)]
  rfl

def obsOfView (v : View) : ObsNR :=
  { pos := v.pos, turn := v.turn, hash := v.hash, noprogress := v.noprogress, ply := v.ply, moves := v.moves,
    castledW := v.castledW, castledB := v.castledB,
    lastMove := v.past.head?.map (·.next),
    secondToLastMove := v.past[1]?.map (·.next),
    hasMoved := fun k => hmList v.past k 0 &&& v.pos.all,
    repCount := v.reps v.hash,
    reps := v.reps,
    identical := fun turn t0 limit => ipcList v.hash v.pos turn limit v.past 1 t0 1 }

theorem lastMove_eq {w : World} (hw : WFWorld w) (b : Nat) :
    w.lastMove b = ((anc w (w.cur b).prev).map eraseNode).head?.map (·.next) := by
  unfold lastMove
  cases h : (w.cur b).prev with
  | none => simp
  | some pi => simp [anc_some hw]

theorem secondToLastMove_eq {w : World} (hw : WFWorld w) (b : Nat) :
    w.secondToLastMove b = ((anc w (w.cur b).prev).map eraseNode)[1]?.map (·.next) := by
  unfold secondToLastMove
  cases h : (w.cur b).prev with
  | none => simp
  | some pi =>
    simp only [anc_some hw]
    cases h2 : (w.node pi).prev with
    | none => simp
    | some ppi => simp [anc_some hw]

theorem obsNoResult_eq {w : World} (hw : WFWorld w) (b : Nat) : obsNoResult w b = obsOfView (view w b) := by
  unfold obsNoResult obsOfView view
  simp only [lastMove_eq hw, secondToLastMove_eq hw, hasMoved_eq hw, ipc_eq hw _ _ _ _ (bound_cur_prev_le_size hw b),
    hmList_erase, ipcList_erase]

theorem obs_eq {w : World} (hw : WFWorld w) (b : Nat) :
    obs w b = { nr := obsOfView (view w b), drawn := drawnR (view w b).result, blocked := blockedR (view w b).result } := by
  unfold obs
  rw [obsNoResult_eq hw]
  rfl

end Morlock.Proofs.Arena
