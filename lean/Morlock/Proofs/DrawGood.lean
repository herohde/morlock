import Morlock.Proofs.DrawIrrev
/-!
# C05: the bundle of invariants of a well-played game, and its preservation

`GoodHistory z w b`: exact repetition map, faithful hashes, chained clocks, non-negative start clock, and
every step of the line good. Established by `newBoard` (with a start clock `≥ 0`), preserved by good moves,
take-backs and forks; it implies `Irreversible`.
-/
namespace Morlock.Proofs.Draw
open Morlock Morlock.Model Morlock.Model.World Morlock.Proofs Morlock.Proofs.Arena

structure GoodHistory (z : ZTable) (w : World) (b : Nat) : Prop where
  reps : RepMapOK w b
  hash : HashFaithful z w b
  clock : ClockOK w b
  root : RootClockOK w b
  line : GoodLine w b

theorem GoodHistory.irreversible {z : ZTable} {w : World} {b : Nat} (h : GoodHistory z w b) : Irreversible w b :=
  irreversible_of_good h.line h.clock h.root

theorem GoodStep.goodMove {w : World} {b : Nat} {m : Move} {q : Position}
    (h : GoodStep (w.cur b).pos (w.board b).turn m q) : GoodMove w b m :=
  ⟨⟨_, h.rep⟩, h.ok, h.mover⟩

theorem goodHistory_newBoard (w : World) (z : ZTable) (pos : Position) (turn : Color) {np : Int} (fm : Int)
    (hnp : 0 ≤ np) : GoodHistory z (w.newBoard z pos turn np fm).1 (w.newBoard z pos turn np fm).2 := by
  refine ⟨repMapOK_newBoard w z pos turn np fm, hashFaithful_newBoard w z pos turn np fm,
    clockOK_newBoard w z pos turn np fm, ?_, ?_⟩
  · unfold RootClockOK
    rw [(newBoard_cur w z pos turn np fm).1]
    exact hnp
  · unfold GoodLine
    rw [(newBoard_cur w z pos turn np fm).1]
    exact trivial

theorem goodHistory_push {w w' : World} {z : ZTable} {b : Nat} {m : Move} (hz : z.enpassant 0 = 0)
    (hw : WFWorld w) (hb : b < w.boards.size) (h : w.pushMove z b m = some w') (hg : GoodHistory z w b)
    (hs : GoodStep (w.cur b).pos (w.board b).turn m (w'.cur b).pos) : GoodHistory z w' b := by
  obtain ⟨_, ht, _, _, _, _, hpast⟩ := vlineK_push (push_view_some hw hb h)
  refine ⟨repMapOK_push hw hb h hg.reps, hashFaithful_push_good hz hw hb h hg.hash hs.goodMove,
    clockOK_push hw hb h hg.clock, ?_, ?_⟩
  · rw [rootClockOK_view, hpast, rootClock_cons]
    exact (rootClockOK_view w b).mp hg.root
  · rw [goodLine_view, hpast, ht]
    exact ⟨by rw [Color.opp_opp]; exact hs, by rw [Color.opp_opp]; exact (goodLine_view w b).mp hg.line⟩

theorem goodHistory_pop {w w' : World} {z : ZTable} {b : Nat} {m : Move}
    (hw : WFWorld w) (hb : b < w.boards.size) (h : w.popMove b = some (w', m)) (hg : GoodHistory z w b) :
    GoodHistory z w' b := by
  obtain ⟨p, r, hp, _, hv'⟩ := viewPop_some (pop_view_some hw hb h)
  have hroot := (rootClockOK_view w b).mp hg.root
  have hline := (goodLine_view w b).mp hg.line
  rw [hp] at hroot hline
  refine ⟨repMapOK_pop hw hb h hg.reps, hashFaithful_pop hw hb h hg.hash, clockOK_pop hw hb h hg.clock, ?_, ?_⟩
  · rw [rootClockOK_view, hv']
    exact (rootClock_cons _ p r) ▸ hroot
  · rw [goodLine_view, hv']
    exact hline.2

/-- `GoodHistory` only reads the view of the board. -/
theorem goodHistory_of_view {z : ZTable} {w w' : World} {a a' : Nat} (hv : view w' a' = view w a)
    (hg : GoodHistory z w a) : GoodHistory z w' a' := by
  refine ⟨?_, ?_, ?_, ?_, ?_⟩
  · rw [repMapOK_view, hv, ← repMapOK_view]; exact hg.reps
  · rw [hashFaithful_view, hv, ← hashFaithful_view]; exact hg.hash
  · rw [clockOK_view, hv, ← clockOK_view]; exact hg.clock
  · rw [rootClockOK_view, hv, ← rootClockOK_view]; exact hg.root
  · rw [goodLine_view, hv, ← goodLine_view]; exact hg.line

theorem goodHistory_fork {w : World} {z : ZTable} (hw : WFWorld w) (b : Nat) (hg : GoodHistory z w b) :
    GoodHistory z (w.fork b).1 (w.fork b).2 :=
  goodHistory_of_view (view_fork_new hw b) hg

theorem goodStep_of_push {w w' : World} {z : ZTable} {b : Nat} {m : Move} (hw : WFWorld w) (hb : b < w.boards.size)
    (h : w.pushMove z b m = some w') (hrep : Rep (w.cur b).pos (w.cur b).pos.square)
    (hok : MetaOK (w.cur b).pos m = true) (hmv : ∃ pc, (w.cur b).pos.square m.from = some ((w.board b).turn, pc))
    (hs : MoveSound (w.cur b).pos.square m = true) :
    GoodStep (w.cur b).pos (w.board b).turn m (w'.cur b).pos :=
  ⟨hrep, hok, hmv, hs, (push_line hw hb h).2.2.2.1⟩

end Morlock.Proofs.Draw
