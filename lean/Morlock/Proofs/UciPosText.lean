import Morlock.Model.UciPos
/-!
# Text lemmas for C10: `splitSpaces`, `joinSp`, `fields`, `continuation`
-/
namespace Morlock.Proofs.UciPosText
open Morlock.Model Morlock.Model.UciSeq Morlock.Model.UciPos

theorem go_append_space (a b : List Char) (cur : List Char) :
    Fen.splitSpaces.go (a ++ ' ' :: b) cur = Fen.splitSpaces.go a cur ++ Fen.splitSpaces.go b [] := by
  induction a generalizing cur with
  | nil => simp [Fen.splitSpaces.go]
  | cons c a ih =>
    by_cases hc : c = ' ' <;> simp [Fen.splitSpaces.go, hc, ih]

theorem go_word (w : List Char) (hw : ' ' ∉ w) (cur : List Char) :
    Fen.splitSpaces.go w cur = [cur.reverse ++ w] := by
  induction w generalizing cur with
  | nil => simp [Fen.splitSpaces.go]
  | cons c w ih =>
    have hc : c ≠ ' ' := fun h => hw (by simp [h])
    have hw' : ' ' ∉ w := fun h => hw (by simp [h])
    simp [Fen.splitSpaces.go, hc, ih hw']

theorem go_ne_nil (s cur : List Char) : Fen.splitSpaces.go s cur ≠ [] := by
  induction s generalizing cur with
  | nil => simp [Fen.splitSpaces.go]
  | cons c s ih =>
    by_cases hc : c = ' ' <;> simp [Fen.splitSpaces.go, hc, ih]

theorem splitSpaces_ne_nil (s : List Char) : Fen.splitSpaces s ≠ [] := go_ne_nil s []

theorem splitSpaces_append_space (a b : List Char) :
    Fen.splitSpaces (a ++ ' ' :: b) = Fen.splitSpaces a ++ Fen.splitSpaces b := go_append_space a b []

theorem splitSpaces_word (w : List Char) (hw : ' ' ∉ w) : Fen.splitSpaces w = [w] := by
  simpa [Fen.splitSpaces] using go_word w hw []

theorem splitSpaces_space_cons (t : List Char) : Fen.splitSpaces (' ' :: t) = [] :: Fen.splitSpaces t := by
  simp [Fen.splitSpaces, Fen.splitSpaces.go]

theorem splitSpaces_joinSp (ws : List (List Char)) (hne : ws ≠ []) (hw : ∀ w ∈ ws, ' ' ∉ w) :
    Fen.splitSpaces (joinSp ws) = ws := by
  induction ws with
  | nil => exact absurd rfl hne
  | cons w ws ih =>
    cases ws with
    | nil => simpa [joinSp] using splitSpaces_word w (hw w (by simp))
    | cons v vs =>
      have h1 := ih (by simp) (fun x hx => hw x (by simp [hx]))
      rw [joinSp, splitSpaces_append_space, splitSpaces_word w (hw w (by simp)), h1]
      · rfl
      · simp

theorem joinSp_concat (fs : List (List Char)) (f : List Char) (h : fs ≠ []) :
    joinSp (fs ++ [f]) = joinSp fs ++ ' ' :: f := by
  induction fs with
  | nil => exact absurd rfl h
  | cons a fs ih =>
    cases fs with
    | nil => rfl
    | cons b fs => simp only [List.cons_append, joinSp] at ih ⊢; rw [ih (by simp)]; simp

theorem Word.no_space {w : List Char} (h : Word w) : ' ' ∉ w := fun hm =>
  absurd (h.2 ' ' hm) (by decide)

theorem trimSpace_append_word (x f : List Char) (hf : Word f) :
    Fen.trimSpace (x ++ f) = x.dropWhile Fen.isSpace ++ f := by
  obtain ⟨hne, hsp⟩ := hf
  cases f with
  | nil => exact absurd rfl hne
  | cons a t =>
    have h1 : (x ++ a :: t).dropWhile Fen.isSpace = x.dropWhile Fen.isSpace ++ a :: t := by
      induction x with
      | nil => simp [hsp a (by simp)]
      | cons c x ih => by_cases hc : Fen.isSpace c = true <;> simp [hc, ih]
    unfold Fen.trimSpace
    rw [h1, List.reverse_append]
    cases hrev : (a :: t).reverse with
    | nil => simp at hrev
    | cons l r =>
      have hl : Fen.isSpace l = false := hsp l (List.mem_reverse.1 (by rw [hrev]; simp))
      rw [List.cons_append, List.dropWhile_cons]
      simp only [hl, Bool.false_eq_true, if_false]
      rw [← List.cons_append, ← hrev, ← List.reverse_append, List.reverse_reverse]

theorem trimSpace_joinSp (ws : List (List Char)) (hne : ws ≠ []) (hw : ∀ w ∈ ws, Word w) :
    Fen.trimSpace (joinSp ws) = joinSp ws := by
  rcases List.eq_nil_or_concat ws with h | ⟨ini, w, h⟩
  · exact absurd h hne
  · rw [List.concat_eq_append] at h
    subst h
    have hww : Word w := hw w (by simp)
    cases ini with
    | nil => simpa [joinSp] using trimSpace_append_word [] w hww
    | cons v vs =>
      have hv := hw v (by simp)
      obtain ⟨a, t, rfl⟩ := List.exists_cons_of_ne_nil hv.1
      obtain ⟨r, hr⟩ : ∃ r, joinSp ((a :: t) :: vs) ++ [' '] = a :: r := by cases vs <;> exact ⟨_, rfl⟩
      have hsplit : joinSp ((a :: t) :: vs) ++ ' ' :: w = (joinSp ((a :: t) :: vs) ++ [' ']) ++ w := by simp
      rw [joinSp_concat _ _ (by simp), hsplit, trimSpace_append_word _ w hww, hr, List.dropWhile_cons]
      simp [hv.2 a (by simp)]

theorem splitSpaces_trimSpace_concat_word (x f : List Char) (hf : Word f) :
    ∃ pre, Fen.splitSpaces (Fen.trimSpace (x ++ ' ' :: f)) = pre ++ [f] := by
  have hy : ∀ x : List Char, (x ++ [' ']).dropWhile Fen.isSpace = [] ∨
      ∃ y, (x ++ [' ']).dropWhile Fen.isSpace = y ++ [' '] := by
    intro x
    induction x with
    | nil => exact Or.inl (by decide)
    | cons c x ih =>
      by_cases hc : Fen.isSpace c = true
      · simpa [hc] using ih
      · exact Or.inr ⟨c :: x, by simp [hc]⟩
  have hsplit : x ++ ' ' :: f = (x ++ [' ']) ++ f := by simp
  rw [hsplit, trimSpace_append_word _ f hf]
  rcases hy x with h | ⟨y, h⟩
  · exact ⟨[], by rw [h, List.nil_append, splitSpaces_word f (Word.no_space hf)]; rfl⟩
  · exact ⟨Fen.splitSpaces y, by
      rw [h, List.append_assoc, List.singleton_append, splitSpaces_append_space, splitSpaces_word f (Word.no_space hf)]⟩

theorem goWs_append_space (a b : List Char) (cur : List Char) :
    splitWs.go (a ++ ' ' :: b) cur = splitWs.go a cur ++ splitWs.go b [] := by
  have hsp : Fen.isSpace ' ' = true := by decide
  induction a generalizing cur with
  | nil => simp [splitWs.go, hsp]
  | cons c a ih =>
    by_cases hc : Fen.isSpace c = true <;> simp [splitWs.go, hc, ih]

theorem splitWs_append_space (a b : List Char) : splitWs (a ++ ' ' :: b) = splitWs a ++ splitWs b :=
  goWs_append_space a b []

theorem splitWs_space_cons (t : List Char) : splitWs (' ' :: t) = [] :: splitWs t := by
  have hsp : Fen.isSpace ' ' = true := by decide
  simp [splitWs, splitWs.go, hsp]

theorem fields_nil : fields [] = [] := by
  simp [fields, splitWs, splitWs.go]

theorem fields_space_cons (t : List Char) : fields (' ' :: t) = fields t := by
  simp [fields, splitWs_space_cons]

theorem fields_append_space (a b : List Char) : fields (a ++ ' ' :: b) = fields a ++ fields b := by
  simp [fields, splitWs_append_space]

theorem go_mem_cur (s cur : List Char) (x : Char) (hx : x ∈ cur) : ∃ w ∈ Fen.splitSpaces.go s cur, x ∈ w := by
  induction s generalizing cur with
  | nil => exact ⟨cur.reverse, by simp [Fen.splitSpaces.go], by simpa using hx⟩
  | cons c s ih =>
    by_cases hc : c = ' '
    · exact ⟨cur.reverse, by simp [Fen.splitSpaces.go, hc], by simpa using hx⟩
    · obtain ⟨w, hw, hxw⟩ := ih (c :: cur) (by simp [hx])
      exact ⟨w, by simpa [Fen.splitSpaces.go, hc] using hw, hxw⟩

/-- Where the pieces between the blanks are words, `strings.Fields` and `strings.Split(_, " ")` cut at the same
    places: a character that is not a blank lies in a piece, so it is no white space at all. -/
theorem goWs_eq_go (s cur : List Char) (h : ∀ w ∈ Fen.splitSpaces.go s cur, Word w) :
    splitWs.go s cur = Fen.splitSpaces.go s cur := by
  have hsp : Fen.isSpace ' ' = true := by decide
  induction s generalizing cur with
  | nil => rfl
  | cons c s ih =>
    by_cases hc : c = ' '
    · subst hc
      simp only [Fen.splitSpaces.go, if_true, List.mem_cons] at h
      simp [splitWs.go, Fen.splitSpaces.go, hsp, ih [] (fun w hw => h w (Or.inr hw))]
    · simp only [Fen.splitSpaces.go, hc, if_false] at h
      obtain ⟨w, hw, hcw⟩ := go_mem_cur s (c :: cur) c (by simp)
      simp [splitWs.go, Fen.splitSpaces.go, hc, (h w hw).2 c hcw, ih (c :: cur) h]

theorem fields_eq_splitSpaces (s : List Char) (h : ∀ w ∈ Fen.splitSpaces s, Word w) : fields s = Fen.splitSpaces s := by
  unfold fields
  rw [show splitWs s = Fen.splitSpaces s from goWs_eq_go s [] h, List.filter_eq_self]
  intro w hw
  simpa using (h w hw).1

theorem continuation_nil (line : List Char) : continuation [] line = none := by
  simp [continuation, Fen.trimSpace]

theorem continuation_eq_some (last line : List Char) (rest : List (List Char)) :
    continuation last line = some rest ↔
      Fen.trimSpace last ≠ [] ∧
      ∃ t, Fen.trimSpace line = Fen.trimSpace last ++ t ∧ (t = [] ∨ ∃ t', t = ' ' :: t') ∧ rest = fields t := by
  unfold continuation
  simp only []
  by_cases h1 : Fen.trimSpace last = []
  · simp [h1]
  by_cases h2 : (Fen.trimSpace last).isPrefixOf (Fen.trimSpace line) = true
  · obtain ⟨t, ht⟩ := List.isPrefixOf_iff_prefix.1 h2
    rw [← ht]
    cases t with
    | nil => simp [h1]; exact eq_comm
    | cons c t' => by_cases hc : c = ' ' <;> simp [h1, hc] <;> exact eq_comm
  · have h2' : ∀ t, Fen.trimSpace line ≠ Fen.trimSpace last ++ t := fun t ht =>
      h2 (List.isPrefixOf_iff_prefix.2 ⟨t, ht.symm⟩)
    simp [h1, h2, h2']

theorem argsOf_continuation (last line : List Char) (rest : List (List Char))
    (h : continuation last line = some rest)
    (hne : ∀ w ∈ Fen.splitSpaces (Fen.trimSpace line), Word w) :
    argsOf line = argsOf last ++ rest := by
  obtain ⟨_, t, ht, hsh, hr⟩ := (continuation_eq_some _ _ _).1 h
  have hs : Fen.splitSpaces (Fen.trimSpace line) = Fen.splitSpaces (Fen.trimSpace last) ++ rest := by
    rcases hsh with h0 | ⟨t', h0⟩
    · subst h0; simp [hr, fields_nil, ht]
    · subst h0
      rw [ht, splitSpaces_append_space] at hne
      rw [ht, splitSpaces_append_space, hr, fields_space_cons,
        fields_eq_splitSpaces t' (fun w hw => hne w (by simp [hw]))]
  unfold argsOf
  rw [hs]
  cases hs' : Fen.splitSpaces (Fen.trimSpace last) with
  | nil => exact absurd hs' (splitSpaces_ne_nil _)
  | cons x xs => simp

theorem continuation_trans (a b c : List Char) (r1 r2 : List (List Char))
    (h1 : continuation a b = some r1) (h2 : continuation b c = some r2) :
    continuation a c = some (r1 ++ r2) := by
  obtain ⟨ha, t1, ht1, hs1, hr1⟩ := (continuation_eq_some _ _ _).1 h1
  obtain ⟨_, t2, ht2, hs2, hr2⟩ := (continuation_eq_some _ _ _).1 h2
  refine (continuation_eq_some _ _ _).2 ⟨ha, t1 ++ t2, by rw [ht2, ht1, List.append_assoc], ?_, ?_⟩
  · rcases hs1 with h | ⟨t', h⟩
    · subst h; simpa using hs2
    · subst h; exact Or.inr ⟨t' ++ t2, rfl⟩
  · rcases hs2 with h | ⟨t', h⟩
    · subst h; simp [hr1, hr2, fields_nil]
    · subst h; rw [fields_append_space, hr1, hr2, fields_space_cons]

end Morlock.Proofs.UciPosText
