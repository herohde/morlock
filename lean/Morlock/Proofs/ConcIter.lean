import Morlock.Model.IterConc
/-!
# The iterative-deepening model (`Model/IterConc.lean`): its transitions as relations, and the invariants, proved by
induction on them
-/
namespace Morlock.Model.IterConc

/-- `[pv 1, …, pv n]` -/
def Cfg.pvs (cfg : Cfg) (n : Nat) : List PV := (List.range' 1 n).map cfg.pv

/-- `h.pv` already holds the PV of the depth being worked on -/
def SPc.stored : SPc → Bool
  | .unlock _ | .drain _ | .send _ | .closeInit _ => true
  | _ => false

/-- the PV of the depth being worked on was already sent -/
def SPc.sentYet : SPc → Bool
  | .closeInit _ => true
  | _ => false

def SPc.afterCancel : SPc → Bool
  | .exitCloseOut | .exitCloseInit | .exited => true
  | _ => false

/-- a value `h.pv` can hold: the zero value or a completed iteration -/
def Cfg.IsPv (cfg : Cfg) (r : PV) : Prop := r = (if r.depth = 0 then {} else cfg.pv r.depth)

/-- the PVs sent so far are those of depths 1, 2, … in order -/
def Cfg.SentOk (cfg : Cfg) (l : List PV) : Prop := l = cfg.pvs l.length

def HaltOk (cfg : Cfg) (s : State) : HPc → Prop
  | .idle => True
  | .await n => n ≤ s.sent.length
  | .closeQuit n => n ≤ s.sent.length ∧ s.init = true
  | .lock n => n ≤ s.sent.length ∧ s.init = true ∧ s.quit = true
  | .read n => n ≤ s.sent.length ∧ s.init = true ∧ s.quit = true
  | .unlock n r => n ≤ r.depth ∧ r.depth ≤ s.pv.depth ∧ cfg.IsPv r ∧ s.init = true ∧ s.quit = true
  | .done n r => n ≤ r.depth ∧ r.depth ≤ s.pv.depth ∧ cfg.IsPv r ∧ s.init = true ∧ s.quit = true

end Morlock.Model.IterConc

namespace Morlock.Proofs.ConcIter
open Morlock.Model.IterConc

theorem run_nil (cfg : Cfg) (s : State) : run cfg s [] = s := rfl
theorem run_cons (cfg : Cfg) (s : State) (a : Act) (as : List Act) :
    run cfg s (a :: as) = run cfg (step cfg s a) as := rfl

theorem run_induction {cfg : Cfg} {I : State → Prop} (hstep : ∀ s a, I s → I (step cfg s a)) (sched : List Act)
    (s : State) (h : I s) : I (run cfg s sched) :=
  List.foldlRecOn sched (step cfg) h fun s hs a _ => hstep s a hs

structure IterInv (cfg : Cfg) (s : State) : Prop where
  sent : cfg.SentOk s.sent
  pvOk : cfg.IsPv s.pv
  sentLe : s.sent.length ≤ s.pv.depth
  atDepth : ∀ d, s.spc.depth? = some d →
    1 ≤ d ∧ s.pv.depth + (if s.spc.stored then 0 else 1) = d ∧
    s.sent.length + (if s.spc.sentYet then 0 else 1) = d ∧
    ∀ d', 1 ≤ d' → d' < d → cfg.hardStop d' = false
  pastPv : ∀ d', 1 ≤ d' → d' < s.pv.depth → cfg.hardStop d' = false
  initOk : s.init = true → 1 ≤ s.pv.depth ∨ s.spc = .exited
  exitOk : s.spc.exiting = true → s.quit = false →
    1 ≤ s.pv.depth ∧ s.sent.length = s.pv.depth ∧ (cfg.hardStop s.pv.depth = true ∨ cfg.useSoft = true)
  cancelOk : s.cancelled = true → s.quit = true ∨ s.spc.afterCancel = true
  halts : ∀ h ∈ s.halts, HaltOk cfg s h

theorem haltOk_mono {cfg : Cfg} {s s' : State} (h1 : s.sent.length ≤ s'.sent.length)
    (h2 : s.pv.depth ≤ s'.pv.depth) (h3 : s.init = true → s'.init = true) (h4 : s.quit = true → s'.quit = true)
    {h : HPc} (hh : HaltOk cfg s h) : HaltOk cfg s' h := by
  cases h with
  | idle => trivial
  | await n => exact Nat.le_trans hh h1
  | closeQuit n => exact ⟨Nat.le_trans hh.1 h1, h3 hh.2⟩
  | lock n | read n => exact ⟨Nat.le_trans hh.1 h1, h3 hh.2.1, h4 hh.2.2⟩
  | unlock n r | done n r => exact ⟨hh.1, Nat.le_trans hh.2.1 h2, hh.2.2.1, h3 hh.2.2.2.1, h4 hh.2.2.2.2⟩

theorem pvs_succ (cfg : Cfg) (n : Nat) : cfg.pvs (n + 1) = cfg.pvs n ++ [cfg.pv (n + 1)] := by
  simp [Cfg.pvs, List.range'_1_concat, Nat.add_comm]

theorem pvs_length (cfg : Cfg) (n : Nat) : (cfg.pvs n).length = n := by simp [Cfg.pvs]

theorem iterInv_init (cfg : Cfg) (n : Nat) : IterInv cfg (init n) :=
  ⟨rfl, rfl, Nat.le_refl _,
    fun _ hd => Option.some.inj hd ▸ ⟨Nat.le_refl _, rfl, rfl, fun _ h1 h2 => absurd h1 (Nat.not_le_of_gt h2)⟩,
    fun _ _ h2 => absurd h2 (Nat.not_lt_zero _), Bool.noConfusion, Bool.noConfusion, Bool.noConfusion,
    fun _ hx => (List.eq_of_mem_replicate hx).symm ▸ trivial⟩

/-- the transitions of the searcher from `pc`, whatever the schedule's bit says -/
inductive SStep (cfg : Cfg) (s : State) : SPc → State → Prop
  | topQuit {d} (hq : s.quit = true) : SStep cfg s (.top d) { s with spc := .exitCancel }
  | topGo {d} : SStep cfg s (.top d) { s with spc := .search d }
  | searchHalted {d} (hc : s.cancelled = true) : SStep cfg s (.search d) { s with spc := .exitCancel }
  | searchDone {d} : SStep cfg s (.search d) { s with spc := .lock d }
  | lock {d} (hm : s.mu.isNone = true) : SStep cfg s (.lock d) { s with mu := some .searcher, spc := .store d }
  | store {d} : SStep cfg s (.store d) { s with pv := cfg.pv d, spc := .unlock d }
  | unlock {d} : SStep cfg s (.unlock d) { s with mu := none, spc := .drain d }
  | drain {d} : SStep cfg s (.drain d) { s with buf := none, spc := .send d }
  | send {d} (hb : s.buf.isNone = true) :
    SStep cfg s (.send d) { s with buf := some (cfg.pv d), sent := s.sent ++ [cfg.pv d], spc := .closeInit d }
  | closeInitStop {d} (hs : cfg.hardStop d = true ∨ cfg.useSoft = true) :
    SStep cfg s (.closeInit d) { s with init := true, spc := .exitCancel }
  | closeInitNext {d} (hs : cfg.hardStop d = false) :
    SStep cfg s (.closeInit d) { s with init := true, spc := .top (d + 1) }
  | exitCancel : SStep cfg s .exitCancel { s with cancelled := true, spc := .exitCloseOut }
  | exitCloseOut : SStep cfg s .exitCloseOut { s with outClosed := true, spc := .exitCloseInit }
  | exitCloseInit : SStep cfg s .exitCloseInit { s with init := true, spc := .exited }

/-- a searcher step is a no-op (returned, or blocked at `mu.Lock` / `out <- pv`) or one of the transitions -/
theorem stepSearcher_cases (cfg : Cfg) (s : State) (b : Bool) :
    stepSearcher cfg s b = s ∧
      (s.spc = .exited ∨ (∃ d, s.spc = .lock d ∧ ¬ s.mu.isNone = true) ∨ ∃ d, s.spc = .send d ∧ ¬ s.buf.isNone = true) ∨
    SStep cfg s s.spc (stepSearcher cfg s b) := by
  unfold stepSearcher
  cases hpc : s.spc with
  | top d => dsimp only; split; exact .inr (.topQuit ‹_›); exact .inr .topGo
  | search d => dsimp only; split; exact .inr (.searchHalted (Bool.and_eq_true_iff.1 ‹_›).1); exact .inr .searchDone
  | lock d => dsimp only; split; exact .inr (.lock ‹_›); exact .inl ⟨rfl, .inr (.inl ⟨d, rfl, ‹_›⟩)⟩
  | store d => exact .inr .store
  | unlock d => exact .inr .unlock
  | drain d => exact .inr .drain
  | send d => dsimp only; split; exact .inr (.send ‹_›); exact .inl ⟨rfl, .inr (.inr ⟨d, rfl, ‹_›⟩)⟩
  | closeInit d =>
    dsimp only; split
    · exact .inr (.closeInitStop (.inl ‹_›))
    · split
      · exact .inr (.closeInitStop (.inr (Bool.and_eq_true_iff.1 ‹_›).1))
      · exact .inr (.closeInitNext (Bool.eq_false_iff.2 ‹_›))
  | exitCancel => exact .inr .exitCancel
  | exitCloseOut => exact .inr .exitCloseOut
  | exitCloseInit => exact .inr .exitCloseInit
  | exited => exact .inl ⟨rfl, .inl rfl⟩

/-- the transitions of the `k`-th `Halt` call from its program counter -/
inductive HStep (s : State) (k : Nat) : HPc → State → Prop
  | start : HStep s k .idle { s with halts := s.halts.set k (.await s.sent.length) }
  | await {n} (hi : s.init = true) : HStep s k (.await n) { s with halts := s.halts.set k (.closeQuit n) }
  | closeQuit {n} : HStep s k (.closeQuit n) { s with quit := true, halts := s.halts.set k (.lock n) }
  | lock {n} (hm : s.mu.isNone = true) :
    HStep s k (.lock n) { s with mu := some (.halt k), halts := s.halts.set k (.read n) }
  | read {n} : HStep s k (.read n) { s with halts := s.halts.set k (.unlock n s.pv) }
  | unlock {n r} : HStep s k (.unlock n r) { s with mu := none, halts := s.halts.set k (.done n r) }

/-- The transitions of the whole system: the searcher, the watcher, the `k`-th `Halt` call, the consumer. Of the watcher's
guard `quit && !cancelled` only `quit` is kept: the invariants need no more. -/
inductive Step (cfg : Cfg) (s : State) : State → Prop
  | searcher {s'} (st : SStep cfg s s.spc s') : Step cfg s s'
  | watcher (hq : s.quit = true) : Step cfg s { s with cancelled := true }
  | halt {k x s'} (hk : s.halts[k]? = some x) (st : HStep s k x s') : Step cfg s s'
  | consumer {pv} (hb : s.buf = some pv) : Step cfg s { s with buf := none, received := s.received ++ [pv] }

theorem step_cases (cfg : Cfg) (s : State) (a : Act) : step cfg s a = s ∨ Step cfg s (step cfg s a) := by
  cases a with
  | searcher b => exact (stepSearcher_cases cfg s b).imp (·.1) .searcher
  | watcher =>
    show stepWatcher s = s ∨ Step cfg s (stepWatcher s)
    unfold stepWatcher; split
    · exact .inr (.watcher (Bool.and_eq_true_iff.1 ‹_›).1)
    · exact .inl rfl
  | halt k =>
    show stepHalt s k = s ∨ Step cfg s (stepHalt s k)
    unfold stepHalt
    cases hk : s.halts[k]? with
    | none => exact .inl rfl
    | some x =>
      cases x with
      | idle => exact .inr (.halt hk .start)
      | await n => dsimp only; split; exact .inr (.halt hk (.await ‹_›)); exact .inl rfl
      | closeQuit n => exact .inr (.halt hk .closeQuit)
      | lock n => dsimp only; split; exact .inr (.halt hk (.lock ‹_›)); exact .inl rfl
      | read n => exact .inr (.halt hk .read)
      | unlock n r => exact .inr (.halt hk .unlock)
      | done n r => exact .inl rfl
  | consumer =>
    show stepConsumer s = s ∨ Step cfg s (stepConsumer s)
    unfold stepConsumer; split
    · exact .inr (.consumer ‹_›)
    · exact .inl rfl

variable {cfg : Cfg} {s s' : State}

theorem inv_step {I : State → Prop} (hstep : ∀ {s s'}, Step cfg s s' → I s → I s') (s : State) (a : Act) (h : I s) :
    I (step cfg s a) := by
  rcases step_cases cfg s a with e | st
  · rw [e]; exact h
  · exact hstep st h

theorem isPv_pv (cfg : Cfg) {d : Nat} (hd : 1 ≤ d) : cfg.IsPv (cfg.pv d) :=
  (if_neg (show ¬ (cfg.pv d).depth = 0 from Nat.ne_of_gt hd)).symm

theorem IterInv.halts_mono (h : IterInv cfg s) (h1 : s.sent.length ≤ s'.sent.length) (h2 : s.pv.depth ≤ s'.pv.depth)
    (h3 : s.init = true → s'.init = true) (h4 : s.quit = true → s'.quit = true)
    (he : ∀ x ∈ s'.halts, x ∈ s.halts ∨ HaltOk cfg s' x) : ∀ x ∈ s'.halts, HaltOk cfg s' x :=
  fun x hx => (he x hx).elim (fun hm => haltOk_mono h1 h2 h3 h4 (h.halts x hm)) id

theorem IterInv.frame (h : IterInv cfg s) {pc pc' : SPc} (hpc : s.spc = pc) {mu buf c o r}
    (hd : pc'.depth? = none ∨ pc'.depth? = pc.depth? ∧ pc'.stored = pc.stored ∧ pc'.sentYet = pc.sentYet)
    (hx : pc'.exiting = pc.exiting ∨ s.quit = true)
    (hc : c = s.cancelled ∧ pc'.afterCancel = pc.afterCancel ∨ s.quit = true ∨ pc'.afterCancel = true)
    (hne : pc = .exited → pc' = .exited) :
    IterInv cfg { s with spc := pc', mu := mu, buf := buf, cancelled := c, outClosed := o, received := r } := by
  subst hpc
  refine ⟨h.sent, h.pvOk, h.sentLe, fun d hd' => ?_, h.pastPv, fun hi => (h.initOk hi).imp_right hne, fun he hq => ?_,
    fun hc' => ?_, h.halts_mono (Nat.le_refl _) (Nat.le_refl _) id id fun _ => .inl⟩
  · rcases hd with hd | ⟨e1, e2, e3⟩
    · cases hd.symm.trans hd'
    · dsimp only; rw [e2, e3]; exact h.atDepth d (e1 ▸ hd')
  · rcases hx with hx | hx
    · exact h.exitOk (hx ▸ he) hq
    · cases hx.symm.trans hq
  · rcases hc with ⟨e1, e2⟩ | hc | hc
    · exact (h.cancelOk (e1 ▸ hc')).imp_right (e2 ▸ id)
    · exact .inl hc
    · exact .inr hc

theorem SStep.iterInv {pc} (st : SStep cfg s pc s') (hpc : s.spc = pc) (h : IterInv cfg s) : IterInv cfg s' := by
  have hcan {pc' : SPc} (e : pc'.afterCancel = pc.afterCancel) (hc : s.cancelled = true) :
      s.quit = true ∨ pc'.afterCancel = true := (h.cancelOk hc).imp_right (hpc ▸ e ▸ id)
  induction st with
  | topGo | searchDone | lock | unlock | drain =>
    exact h.frame hpc (.inr ⟨rfl, rfl, rfl⟩) (.inl rfl) (.inl ⟨rfl, rfl⟩) SPc.noConfusion
  | exitCancel | exitCloseOut => exact h.frame hpc (.inl rfl) (.inl rfl) (.inr (.inr rfl)) SPc.noConfusion
  | topQuit hq => exact h.frame hpc (.inl rfl) (.inr hq) (.inr (.inl hq)) SPc.noConfusion
  | searchHalted hc =>
    have hq := (h.cancelOk hc).resolve_right (hpc ▸ Bool.noConfusion)
    exact h.frame hpc (.inl rfl) (.inr hq) (.inr (.inl hq)) SPc.noConfusion
  | @store d =>
    -- the new `h.pv` is a completed iteration
    obtain ⟨a1, (a2 : s.pv.depth + 1 = d), a3, a4⟩ := hpc ▸ h.atDepth d (hpc ▸ rfl)
    exact ⟨h.sent, isPv_pv cfg a1, Nat.le.intro a3, fun _ hd => Option.some.inj hd ▸ ⟨a1, rfl, a3, a4⟩, a4,
      fun _ => .inl a1, Bool.noConfusion, hcan rfl, h.halts_mono (Nat.le_refl _) (Nat.le.intro a2) id id fun _ => .inl⟩
  | @send d =>
    -- `sent` grows by the PV of the next depth
    obtain ⟨a1, (a2 : s.pv.depth = d), (a3 : s.sent.length + 1 = d), a4⟩ := hpc ▸ h.atDepth d (hpc ▸ rfl)
    have hl : (s.sent ++ [cfg.pv d]).length = d := List.length_append.trans a3
    refine ⟨?_, h.pvOk, Nat.le_of_eq (hl.trans a2.symm), fun _ hd => Option.some.inj hd ▸ ⟨a1, a2, hl, a4⟩, h.pastPv,
      fun _ => .inl (a2 ▸ a1), Bool.noConfusion, hcan rfl,
      h.halts_mono (Nat.le.intro (a3.trans hl.symm)) (Nat.le_refl _) id id fun _ => .inl⟩
    have := h.sent
    unfold Cfg.SentOk at this ⊢
    rw [hl, ← a3, pvs_succ, ← this, a3]
  | @closeInitStop d hs =>
    obtain ⟨a1, (a2 : s.pv.depth = d), (a3 : s.sent.length = d), a4⟩ := hpc ▸ h.atDepth d (hpc ▸ rfl)
    exact ⟨h.sent, h.pvOk, h.sentLe, nofun, h.pastPv, fun _ => .inl (a2 ▸ a1),
      fun _ _ => ⟨a2 ▸ a1, a3.trans a2.symm, a2 ▸ hs⟩, hcan rfl,
      h.halts_mono (Nat.le_refl _) (Nat.le_refl _) (fun _ => rfl) id fun _ => .inl⟩
  | @closeInitNext d hs =>
    -- on to depth d + 1: depth d was not a hard stop
    obtain ⟨a1, (a2 : s.pv.depth = d), (a3 : s.sent.length = d), a4⟩ := hpc ▸ h.atDepth d (hpc ▸ rfl)
    exact ⟨h.sent, h.pvOk, h.sentLe, fun _ hd => Option.some.inj hd ▸
        ⟨Nat.le_add_left _ _, congrArg (· + 1) a2, congrArg (· + 1) a3, fun d' h1 h2 =>
          (Nat.lt_succ_iff_lt_or_eq.1 h2).elim (a4 d' h1) fun e => e ▸ hs⟩,
      h.pastPv, fun _ => .inl (a2 ▸ a1), Bool.noConfusion, hcan rfl,
      h.halts_mono (Nat.le_refl _) (Nat.le_refl _) (fun _ => rfl) id fun _ => .inl⟩
  | exitCloseInit =>
    exact ⟨h.sent, h.pvOk, h.sentLe, nofun, h.pastPv, fun _ => .inr rfl, fun _ => h.exitOk (hpc ▸ rfl),
      fun _ => .inr rfl, h.halts_mono (Nat.le_refl _) (Nat.le_refl _) (fun _ => rfl) id fun _ => .inl⟩

theorem IterInv.haltFrame (h : IterInv cfg s) {q : Bool} {m k x} (hq : s.quit = true → q = true)
    (hx : HaltOk cfg { s with quit := q } x) : IterInv cfg { s with quit := q, mu := m, halts := s.halts.set k x } :=
  ⟨h.sent, h.pvOk, h.sentLe, h.atDepth, h.pastPv, h.initOk,
    fun he hq' => h.exitOk he (Bool.eq_false_iff.2 fun e => Bool.noConfusion (hq'.symm.trans (hq e))),
    fun hc => (h.cancelOk hc).imp_left hq,
    h.halts_mono (Nat.le_refl _) (Nat.le_refl _) id hq fun _ hy =>
      (List.mem_or_eq_of_mem_set hy).elim .inl fun e => .inr (e ▸ hx)⟩

theorem HStep.iterInv {k x} (st : HStep s k x s') (hk : s.halts[k]? = some x) (h : IterInv cfg s) : IterInv cfg s' := by
  have hok := h.halts x (List.mem_of_getElem? hk)
  induction st with
  | start => exact h.haltFrame id (Nat.le_refl _)
  | await hi => exact h.haltFrame id ⟨hok, hi⟩
  | closeQuit => exact h.haltFrame (fun _ => rfl) ⟨hok.1, hok.2, rfl⟩
  | lock | unlock => exact h.haltFrame id hok
  | read => exact h.haltFrame id ⟨Nat.le_trans hok.1 h.sentLe, Nat.le_refl _, h.pvOk, hok.2.1, hok.2.2⟩

theorem Step.iterInv (st : Step cfg s s') (h : IterInv cfg s) : IterInv cfg s' := by
  induction st with
  | searcher st => exact st.iterInv rfl h
  | watcher hq => exact h.frame rfl (.inr ⟨rfl, rfl, rfl⟩) (.inl rfl) (.inr (.inl hq)) id
  | halt hk st => exact st.iterInv hk h
  | consumer => exact h.frame rfl (.inr ⟨rfl, rfl, rfl⟩) (.inl rfl) (.inl ⟨rfl, rfl⟩) id

theorem iterInv_run (cfg : Cfg) (n : Nat) (sched : List Act) : IterInv cfg (run cfg (init n) sched) :=
  run_induction (inv_step Step.iterInv) sched _ (iterInv_init cfg n)

theorem mem_take_pvs {cfg : Cfg} {m n : Nat} {pv : PV} (h : pv ∈ (cfg.pvs m).take n) : 1 ≤ pv.depth ∧ pv.depth ≤ n := by
  obtain ⟨j, hj, rfl⟩ := List.mem_take_iff_getElem.1 h
  simp only [Cfg.pvs, List.getElem_map, List.getElem_range', Cfg.pv, Nat.one_mul]
  exact ⟨Nat.le_add_right 1 j, Nat.add_comm 1 j ▸ (Nat.lt_min.1 hj).1⟩

/-! ## the searcher is never stuck (except while a Halt call holds the mutex) -/

/-- at `out <- pv` the channel is empty: the searcher has just drained it and is the only sender -/
def SendInv (s : State) : Prop := ∀ d, s.spc = .send d → s.buf = none

theorem SStep.sendInv {pc} (st : SStep cfg s pc s') : SendInv s' := by
  induction st
  case drain => exact fun _ _ => rfl
  all_goals exact fun _ => SPc.noConfusion

theorem Step.sendInv (st : Step cfg s s') (h : SendInv s) : SendInv s' := by
  induction st with
  | searcher st => exact st.sendInv
  | watcher => exact h
  | halt _ st => cases st <;> exact h
  | consumer => exact fun _ _ => rfl

theorem sendInv_run (cfg : Cfg) (n : Nat) (sched : List Act) : SendInv (run cfg (init n) sched) :=
  run_induction (I := SendInv) (inv_step Step.sendInv) sched _ fun _ => SPc.noConfusion

theorem SStep.spc_ne {pc} (st : SStep cfg s pc s') : s'.spc ≠ pc := by
  cases st <;> exact SPc.noConfusion

theorem searcher_moves (cfg : Cfg) (s : State) (b : Bool) (hs : SendInv s) (hne : s.spc ≠ .exited)
    (hmu : ∀ d, s.spc = .lock d → s.mu = none) : (stepSearcher cfg s b).spc ≠ s.spc := by
  rcases stepSearcher_cases cfg s b with ⟨_, hx | ⟨d, hd, hm⟩ | ⟨d, hd, hb⟩⟩ | st
  · exact absurd hx hne
  · exact absurd (hmu d hd ▸ rfl) hm
  · exact absurd (hs d hd ▸ rfl) hb
  · exact st.spc_ne

theorem depth_or_exiting : (pc : SPc) → pc.exiting = true ∨ ∃ d, pc.depth? = some d
  | .exitCancel | .exitCloseOut | .exitCloseInit | .exited => .inl rfl
  | .top d | .search d | .lock d | .store d | .unlock d | .drain d | .send d | .closeInit d => .inr ⟨d, rfl⟩

theorem stops_at_limit_of (cfg : Cfg) (s : State) (h : IterInv cfg s) (hs : SendInv s)
    (hq : s.quit = false) :
    (s.spc.exiting = true →
      1 ≤ s.pv.depth ∧ s.pv = cfg.pv s.pv.depth ∧ s.sent = (List.range' 1 s.pv.depth).map cfg.pv ∧
      (cfg.hardStop s.pv.depth = true ∨ cfg.useSoft = true) ∧
      ∀ d', 1 ≤ d' → d' < s.pv.depth → cfg.hardStop d' = false) ∧
    (s.spc.exiting = false →
      ∃ d, s.spc.depth? = some d ∧ 1 ≤ d ∧ (∀ d', 1 ≤ d' → d' < d → cfg.hardStop d' = false) ∧
        ∀ b, (∀ d, s.spc = .lock d → s.mu = none) → (step cfg s (.searcher b)).spc ≠ s.spc) := by
  refine ⟨fun he => ?_, fun he => ?_⟩
  · obtain ⟨e1, e2, e3⟩ := h.exitOk he hq
    exact ⟨e1, h.pvOk.trans (if_neg (Nat.ne_of_gt e1)), h.sent.trans (congrArg cfg.pvs e2), e3, h.pastPv⟩
  · rcases depth_or_exiting s.spc with hx | ⟨d, hd⟩
    · cases hx.symm.trans he
    · obtain ⟨a1, _, _, a4⟩ := h.atDepth d hd
      exact ⟨d, hd, a1, a4, fun b => searcher_moves cfg s b hs fun e => by rw [e] at hd; cases hd⟩

end Morlock.Proofs.ConcIter
