import Morlock.Proofs.GenAbs
import Morlock.Proofs.GenSpec
/-!
# Stage B of C01: officer moves and king steps

The generator is split into its three parts (`genOfficers`, `genPawns`, `genKing`); this file
characterises the officer part and the king-step part against the mailbox board of `Rep`.
-/
namespace Morlock.Proofs.Gen
open Morlock Morlock.Model Morlock.Proofs.Attack

variable {p : Position} {b : Board} {turn : Color} {m : Move} {castling ep fr sq : Nat}

def genSteps (p : Position) (turn : Color) (piece : Piece) (fr : Nat) : List Move :=
  let ab := ((attackboard p.rotated fr piece).getD 0) &&& not64 (p.pieces turn .none)
  p.emitMove turn .normal piece fr (ab &&& not64 (p.pieces turn.opp .none)) ++
  p.emitMove turn .capture piece fr (ab &&& p.pieces turn.opp .none)

/-- The officers part of `pseudoLegalMoves`. -/
def genOfficers (p : Position) (turn : Color) : List Move :=
  Position.promoPieces.flatMap fun piece =>
    (toSquares (p.pieces turn piece)).flatMap fun fr => genSteps p turn piece fr

def genPawn (p : Position) (turn : Color) (fr : Nat) : List Move :=
  let mask := not64 (p.pieces turn .none)
  let captures := p.pieces turn.opp .none
  let jumps := pawnJumpRank turn
  let promos := pawnPromotionRank turn
  let origin := bitMask fr
  let captureboard := pawnCaptureboard turn origin &&& mask
  let pushboard := pawnMoveboard p.rotated.rot turn origin
  let jumpboard := pawnMoveboard p.rotated.rot turn pushboard &&& jumps
  p.emitMove turn .capture .pawn fr (andNot (captureboard &&& captures) promos) ++
  p.emitMove turn .push .pawn fr (andNot pushboard promos) ++
  p.emitMove turn .jump .pawn fr jumpboard ++
  p.emitPromo turn .capturePromotion .pawn fr (captureboard &&& captures &&& promos) ++
  p.emitPromo turn .promotion .pawn fr (pushboard &&& promos) ++
  (if p.enpassant != 0 then p.emitMove turn .enPassant .pawn fr (captureboard &&& bitMask p.enpassant) else [])

/-- The pawns part of `pseudoLegalMoves`. -/
def genPawns (p : Position) (turn : Color) : List Move :=
  (toSquares (p.pieces turn .pawn)).flatMap fun fr => genPawn p turn fr

def genCastle (p : Position) (turn : Color) (fr : Nat) (right : Nat) (cmask : List Nat) (rookSq : Nat)
    (t : MoveType) (to : Nat) : List Move :=
  if (p.castling &&& right != 0) && (Position.maskOf cmask &&& p.rotated.rot) == 0 &&
      (p.pieces turn .rook &&& bitMask rookSq != 0)
  then p.emitMove turn t .king fr (bitMask to) else []

def genCastles (p : Position) (turn : Color) (fr : Nat) : List Move :=
  match turn with
  | .white =>
    genCastle p .white fr wK Gen.whiteKingSideCastlingMask H1 .kingSideCastle G1 ++
    genCastle p .white fr wQ Gen.whiteQueenSideCastlingMask A1 .queenSideCastle C1
  | .black =>
    genCastle p .black fr bK Gen.blackKingSideCastlingMask H8 .kingSideCastle G8 ++
    genCastle p .black fr bQ Gen.blackQueenSideCastlingMask A8 .queenSideCastle C8

/-- The king part of `pseudoLegalMoves`: steps of the (lowest) king, then the castles. -/
def genKing (p : Position) (turn : Color) : List Move :=
  if p.pieces turn .king = 0 then [] else
    genSteps p turn .king (lastPopSquare (p.pieces turn .king)) ++
    genCastles p turn (lastPopSquare (p.pieces turn .king))

theorem pseudoLegalMoves_eq (p : Position) (turn : Color) :
    p.pseudoLegalMoves turn = genOfficers p turn ++ genPawns p turn ++ genKing p turn := by
  unfold Position.pseudoLegalMoves genOfficers genPawns genKing genSteps genPawn genCastles genCastle
  cases turn <;> rfl

/-- A step move (officer move or king step) of a `turn` piece of kind `pc`, with its metadata, as
    the rules and the mailbox board prescribe it. -/
def StepMove (b : Board) (turn : Color) (pc : Piece) (m : Move) : Prop :=
  b m.from = some (turn, pc) ∧ m.piece = pc ∧ m.promotion = .none ∧
  m.to ∈ Spec.officerTargets (occB b) (kindOf pc) m.from ∧
  ((b m.to = none ∧ m.ty = .normal ∧ m.capture = .none) ∨
   (∃ k, b m.to = some (turn.opp, k) ∧ m.ty = .capture ∧ m.capture = k))

theorem mem_genSteps (h : Rep p b) {piece : Piece}
    (hpw : piece ≠ .pawn) (hsq : b fr = some (turn, piece)) (m : Move) :
    m ∈ genSteps p turn piece fr ↔ m.from = fr ∧ StepMove b turn piece m := by
  have hfr : fr < 64 := h.lt_of_some hsq
  have hp : piece ≠ .none := h.ne_none_of_some hsq
  unfold genSteps StepMove
  simp only [attackboard_of_rep h hfr hp hpw, Option.getD_some]
  have hT := toBB_lt _ (officerTargets_lt (occB b) (kindOf piece) fr)
  rw [List.mem_append, mem_emitMove (and_lt_left _ (and_lt_left _ hT)),
    mem_emitMove (and_lt_left _ (and_lt_left _ hT))]
  simp only [Nat.testBit_and, Bool.and_eq_true, testBit_toBB, not64_testBit, decide_eq_true_eq,
    Bool.not_eq_true', reduceCtorEq, if_false, if_true, captureAt_of_rep h, h.testBit_all]
  constructor
  · rintro (⟨⟨⟨ht, _, hown⟩, _, hopp⟩, hty, hpc, hf, hpr, hcap⟩ | ⟨⟨⟨ht, _, hown⟩, hopp⟩, hty, hpc, hf, hpr, hcap⟩)
    · exact ⟨hf, hf ▸ hsq, hpc, hpr, hf ▸ ht, Or.inl ⟨colAt_none_iff.mp ⟨hown, hopp⟩, hty, hcap⟩⟩
    · obtain ⟨k, hk⟩ := colAt_enemy_iff.mp hopp
      exact ⟨hf, hf ▸ hsq, hpc, hpr, hf ▸ ht, Or.inr ⟨k, hk, hty, by rw [hcap, capAt_enemy hk]⟩⟩
  · rintro ⟨hf, _, hpc, hpr, ht, hd⟩
    have ht64 : m.to < 64 := officerTargets_lt _ _ _ _ ht
    rcases hd with ⟨hnone, hty, hcap⟩ | ⟨k, hk, hty, hcap⟩
    · obtain ⟨hown, hopp⟩ := (colAt_none_iff (turn := turn)).mpr hnone
      exact Or.inl ⟨⟨⟨hf ▸ ht, ht64, hown⟩, ht64, hopp⟩, hty, hpc, hf, hpr, hcap⟩
    · have hopp := colAt_enemy_iff.mpr ⟨k, hk⟩
      exact Or.inr ⟨⟨⟨hf ▸ ht, ht64, colAt_enemy_not_own hopp⟩, hopp⟩, hty, hpc, hf, hpr,
        by rw [hcap, capAt_enemy hk]⟩

theorem mem_genOfficers (h : Rep p b) (turn : Color) (m : Move) :
    m ∈ genOfficers p turn ↔ ∃ pc ∈ Position.promoPieces, StepMove b turn pc m := by
  unfold genOfficers
  simp only [List.mem_flatMap]
  have hpp : ∀ pc ∈ Position.promoPieces, pc ≠ .none ∧ pc ≠ .pawn := by
    intro pc hpc
    rcases (mem_promoPieces pc).mp hpc with rfl | rfl | rfl | rfl <;> simp
  constructor
  · rintro ⟨pc, hpc, fr, hfr, hm⟩
    obtain ⟨hne, hpw⟩ := hpp pc hpc
    exact ⟨pc, hpc, ((mem_genSteps h hpw ((h.mem_toSquares_pieces turn hne fr).mp hfr) m).mp hm).2⟩
  · rintro ⟨pc, hpc, hm⟩
    obtain ⟨hne, hpw⟩ := hpp pc hpc
    exact ⟨pc, hpc, m.from, (h.mem_toSquares_pieces turn hne _).mpr hm.1, (mem_genSteps h hpw hm.1 m).mpr ⟨rfl, hm⟩⟩

theorem kingSquare_spec (h : Rep p b) (turn : Color)
    (hk : p.pieces turn .king ≠ 0) :
    b (lastPopSquare (p.pieces turn .king)) = some (turn, .king) ∧
      ∀ j, j < lastPopSquare (p.pieces turn .king) → b j ≠ some (turn, .king) := by
  obtain ⟨_, hbit, hlow⟩ := lastPopSquare_spec hk (h.piecesLt turn .king)
  refine ⟨(h.testBit_pieces turn (by simp) _).mp hbit, fun j hj e => ?_⟩
  have := hlow j hj
  rw [(h.testBit_pieces turn (by simp) j).mpr e] at this
  cases this

theorem king_zero_iff (h : Rep p b) (turn : Color) :
    p.pieces turn .king = 0 ↔ ∀ sq, b sq ≠ some (turn, .king) := by
  constructor
  · intro h0 sq hsq
    have := (h.testBit_pieces turn (by simp) sq).mpr hsq
    rw [h0, Nat.zero_testBit] at this
    cases this
  · intro hall
    apply eq_zero_of_no_bits
    intro i
    rw [← Bool.not_eq_true]
    exact fun e => hall i ((h.testBit_pieces turn (by simp) i).mp e)

theorem mem_genKingSteps (h : Rep p b) (turn : Color)
    (hk : p.pieces turn .king ≠ 0) (m : Move) :
    m ∈ genSteps p turn .king (lastPopSquare (p.pieces turn .king)) ↔
      m.from = lastPopSquare (p.pieces turn .king) ∧ StepMove b turn .king m :=
  mem_genSteps h (by simp) (kingSquare_spec h turn hk).1 m

theorem StepMove.metaOKb {pc : Piece} (hm : StepMove b turn pc m) :
    MetaOKb b m = true := by
  obtain ⟨hsq, hpc, hpr, ht, hd⟩ := hm
  have ht64 : m.to < 64 := officerTargets_lt _ _ _ _ ht
  unfold MetaOKb
  rw [hsq]
  rcases hd with ⟨hnone, hty, hcap⟩ | ⟨k, hk, hty, hcap⟩
  · simp [hpc, ht64, hty, hnone]
  · simp [hpc, ht64, hty, hk, hcap]


theorem kindOf_ne_pawn {pc : Piece} (h0 : pc ≠ .none) (h1 : pc ≠ .pawn) : kindOf pc ≠ .pawn := by
  cases pc <;> simp [kindOf] at h0 h1 ⊢

theorem opp_of_ne {c turn : Color} (h : c ≠ turn) : c = turn.opp := by
  cases c <;> cases turn <;> simp [Color.opp] at h ⊢

theorem StepMove.not_own {pc : Piece} (hm : StepMove b turn pc m) :
    colAt b m.to turn = false := by
  unfold colAt
  rcases hm.2.2.2.2 with ⟨hn, _, _⟩ | ⟨k, hk, _, _⟩
  · rw [hn]
  · rw [hk]; cases turn <;> simp [Color.opp]

theorem StepMove.abs_mem_officerNormal (h : Rep p b)
    {pc : Piece} (hm : StepMove b turn pc m) :
    absMove m ∈ officerNormal (abs p turn) (absColor turn) (kindOf pc) m.from := by
  rw [mem_officerNormal]
  refine ⟨rfl, by simp [absMove, hm.2.2.1, absKind], ?_, ?_⟩
  · rw [h.abs_occ]; exact hm.2.2.2.1
  · intro k2 hk2
    have := (h.abs_at_colour turn m.to turn).mp ⟨k2, hk2⟩
    rw [hm.not_own] at this; cases this

theorem StepMove.abs_mem_pseudoMoves (h : Rep p b)
    {pc : Piece} (hpw : pc ≠ .pawn) (hm : StepMove b turn pc m) :
    absMove m ∈ Spec.pseudoMoves (abs p turn) := by
  have hne : pc ≠ .none := h.ne_none_of_some hm.1
  rw [mem_pseudoMoves]
  refine ⟨h.lt_of_some hm.1, ?_⟩
  have hat : (abs p turn).at (absMove m).from = some ((abs p turn).turn, kindOf pc) :=
    (h.abs_at_iff turn m.from turn (kindOf pc)).mpr (by rw [kindPiece_kindOf hne]; exact hm.1)
  rw [movesFrom_officer hat (kindOf_ne_pawn hne hpw), List.mem_append]
  exact Or.inl (hm.abs_mem_officerNormal h)

theorem exists_stepMove_of_officerNormal (h : Rep p b)
    {pc : Piece} (hsq : b fr = some (turn, pc)) {sm : Spec.SMove}
    (hsm : sm ∈ officerNormal (abs p turn) (absColor turn) (kindOf pc) fr) :
    ∃ m, StepMove b turn pc m ∧ absMove m = sm := by
  rw [mem_officerNormal] at hsm
  obtain ⟨h1, h2, h3, h4⟩ := hsm
  rw [h.abs_occ] at h3
  have hown : colAt b sm.to turn = false := by
    cases hc : colAt b sm.to turn with
    | false => rfl
    | true =>
      obtain ⟨K, hK⟩ := (h.abs_at_colour turn sm.to turn).mpr hc
      exact absurd hK (h4 K)
  have habs : ∀ (ty : MoveType) (cap : Piece), absMove
      ({ ty := ty, «from» := fr, to := sm.to, piece := pc, promotion := .none, capture := cap } : Move) = sm := by
    intro ty cap
    cases sm; simp only at h1 h2; subst h1 h2; rfl
  cases hb : b sm.to with
  | none =>
    exact ⟨{ ty := .normal, «from» := fr, to := sm.to, piece := pc, promotion := .none, capture := .none },
      ⟨hsq, rfl, rfl, h3, Or.inl ⟨hb, rfl, rfl⟩⟩, habs _ _⟩
  | some x =>
    obtain ⟨c', k⟩ := x
    have hc' : c' = turn.opp := by
      apply opp_of_ne
      intro e; subst e
      simp [colAt, hb] at hown
    subst hc'
    exact ⟨{ ty := .capture, «from» := fr, to := sm.to, piece := pc, promotion := .none, capture := k },
      ⟨hsq, rfl, rfl, h3, Or.inr ⟨k, hb, rfl, rfl⟩⟩, habs _ _⟩

end Morlock.Proofs.Gen
