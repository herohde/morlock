import Morlock.Proofs.SargonPins
/-!
# SARGON: `FindAttackers` lists exactly the non-pinned attackers, each with its x-ray stack

* soundness of the front of a stack: a piece of `side` standing where the stack says, attacking the target by the
  rules of the reference (`Attacks`), not pinned away from the target;
* soundness of the chain behind it (`Chain`): each next piece is a queen or the slider of the line, of the same side,
  not pinned away, and is exactly the piece that becomes the first on the line from the target when its predecessor
  is lifted (`PinLine`);
* completeness for the direct attackers: every non-pinned piece of `side` that attacks the target heads a stack.
-/
namespace Morlock.Proofs.Sargon
open Morlock Morlock.Model Morlock.Model.Sargon Morlock.Proofs.Attack Morlock.Proofs.Gen

/-- the x-ray chain behind the piece on `f`, on the board with occupancy `o` -/
def Chain (b : Board) (side : Color) (pins : Pins) (t : Nat) : (Nat → Bool) → Nat → List Placement → Prop
  | _, _, [] => True
  | o, f, q :: rest =>
    q.color = side ∧ b q.square = some (side, q.piece) ∧ isPinnedFor pins q.square t = false ∧
    (∃ line, IsLine line ∧ (q.piece = .queen ∨ q.piece = sliderOf line) ∧ ∃ d ∈ dirsOf line, PinLine o t d f q.square) ∧
    Chain b side pins t (without o f) q.square rest

theorem pieceAt_eq {p : Position} {b : Board} (hrep : Rep p b) {s : Nat} {c : Color} {k : Piece} (h : b s = some (c, k)) :
    pieceAt p s = k := by
  unfold pieceAt; rw [hrep.square_eq, h]

theorem addAttackerStack_sound {p : Position} {b : Board} (hrep : Rep p b) (pins : Pins) (side : Color) {t : Nat} {k : Spec.Kind}
    {d : Int × Int} :
    ∀ fuel occ r piece f pre S a, RayInv b t occ r f k d pre S → addAttackerStack p pins side t fuel r piece f = .ok (some a) →
      Chain b side pins t (fun x => occ.testBit x) f a.behind := by
  intro fuel
  induction fuel with
  | zero => intro occ r piece f pre S a _ h; cases h
  | succ n ih =>
    intro occ r piece f pre S a hinv h
    rcases addAttackerStack_cases h with ⟨_, h⟩ | ⟨_, h | ⟨a', hrec, _, hne, h⟩⟩ <;> cases h
    · trivial
    · obtain ⟨mid, S', q, rfl, hmid, hbq, hq, hinv'⟩ := hinv.step hrep side hne
      generalize lastPopSquare (stackBB p side t r f) = F at *
      obtain ⟨hfront, hpinF⟩ := addAttackerStack_some _ _ _ _ _ _ _ _ _ hrec
      rw [pieceAt_eq hrep hbq] at hfront
      have hchain := ih _ _ _ _ _ _ _ hinv' hrec
      rw [xor_bits_without hinv.from_lt hinv.from_in] at hchain
      have hF : F ∈ mid ++ F :: S' := by simp
      -- the pin line of this link, read on the empty-board ray
      have hpl : PinLine (fun x => occ.testBit x) t d f F := (pinLine_iff (dirsOf_sub hinv.line hinv.dir)).mpr
        ⟨pre, mid, S', hinv.ray, hinv.pre_empty, fun x hx => by rw [hinv.rest x (List.mem_append_left _ hx)]; exact hmid x hx,
          hinv.from_in, by rw [hinv.rest F hF]; exact occB_of_some hbq⟩
      simp only [Chain]
      rw [hfront]
      exact ⟨rfl, hbq, hpinF, ⟨k, hinv.line, hq, d, hinv.dir, hpl⟩, hchain⟩

/-- where the stacks of one group come from: each is the result of the top-level call for its front square, a square of
    the group's board; and every non-pinned square of the board heads one -/
theorem stacksOn_origin {p : Position} {pins : Pins} {side : Color} {t : Nat} {g : Piece × Bitboard} (hlt : g.2 < 2 ^ 64)
    {l : List Attacker} (hl : stacksOn p pins side g.1 t g.2 = .ok l) :
    (∀ a ∈ l, g.2.testBit a.front.square = true ∧
      addAttackerStack p pins side t stackFuel p.rotated g.1 a.front.square = .ok (some a)) ∧
    (∀ f, g.2.testBit f = true → isPinnedFor pins f t = false → ∃ a ∈ l, a.front.square = f) := by
  unfold stacksOn at hl
  cases hbs : mapE (fun f => addAttackerStack p pins side t stackFuel p.rotated g.1 f) (toSquares g.2) with
  | error e => rw [hbs] at hl; cases hl
  | ok bs =>
  rw [hbs] at hl
  cases hl
  obtain ⟨_, hmem, hmem'⟩ := mapE_spec _ _ _ hbs
  constructor
  · intro a ha
    obtain ⟨oa, hoa, rfl⟩ := List.mem_filterMap.mp ha
    obtain ⟨f, hf, hres⟩ := hmem _ hoa
    rw [(addAttackerStack_some _ _ _ _ _ _ _ _ _ hres).1]
    exact ⟨(mem_toSquares hlt f).mp hf, hres⟩
  · intro f hbit hpin
    obtain ⟨res, hres, hf⟩ := hmem' f ((mem_toSquares hlt f).mpr hbit)
    obtain ⟨a, rfl⟩ := addAttackerStack_not_pinned hf hpin
    exact ⟨a, List.mem_filterMap.mpr ⟨some a, hres, rfl⟩, by rw [(addAttackerStack_some _ _ _ _ _ _ _ _ _ hf).1]⟩

theorem findAttackers_origin {p : Position} {b : Board} (hrep : Rep p b) (pins : Pins) {t : Nat} (ht : t < 64) (side : Color)
    {l : List Attacker} (hl : findAttackers p pins t side = .ok l) :
    (∀ a ∈ l, ∃ g ∈ groups p t side, g.2.testBit a.front.square = true ∧
      addAttackerStack p pins side t stackFuel p.rotated g.1 a.front.square = .ok (some a)) ∧
    (∀ g ∈ groups p t side, ∀ f, g.2.testBit f = true → isPinnedFor pins f t = false → ∃ a ∈ l, a.front.square = f) := by
  rw [findAttackers_eq] at hl
  cases hls : mapE (fun g => stacksOn p pins side g.1 t g.2) (groups p t side) with
  | error e => rw [hls] at hl; cases hl
  | ok ls =>
  rw [hls] at hl
  cases hl
  obtain ⟨_, hmem, hmem'⟩ := mapE_spec _ _ _ hls
  constructor
  · intro a ha
    obtain ⟨lg, hlg, ha⟩ := List.mem_flatten.mp ha
    obtain ⟨g, hg, hgl⟩ := hmem lg hlg
    exact ⟨g, hg, (stacksOn_origin (groups_spec hrep ht side hg).2.1 hgl).1 a ha⟩
  · intro g hg f hbit hpin
    obtain ⟨lg, hlg, hgl⟩ := hmem' _ hg
    obtain ⟨a, ha, hfa⟩ := (stacksOn_origin (groups_spec hrep ht side hg).2.1 hgl).2 f hbit hpin
    exact ⟨a, List.mem_flatten.mpr ⟨lg, hlg, ha⟩, hfa⟩

/-- **`FindAttackers`: sound, and complete for the direct attackers.** -/
theorem findAttackers_sound {p : Position} {b : Board} (hrep : Rep p b) (pins : Pins) {t : Nat} (ht : t < 64) (side : Color)
    {l : List Attacker} (hl : findAttackers p pins t side = .ok l) :
    (∀ a ∈ l, a.front.color = side ∧ b a.front.square = some (side, a.front.piece) ∧
      Attacks b side a.front.piece a.front.square t ∧ isPinnedFor pins a.front.square t = false ∧
      Chain b side pins t (occB b) a.front.square a.behind) ∧
    (∀ s k, b s = some (side, k) → Attacks b side k s t → isPinnedFor pins s t = false → ∃ a ∈ l, a.front.square = s) := by
  obtain ⟨h1, h2⟩ := findAttackers_origin hrep pins ht side hl
  constructor
  · intro a ha
    obtain ⟨g, hg, hbit, hres⟩ := h1 a ha
    obtain ⟨hb, hatt⟩ := ((groups_spec hrep ht side hg).2.2 _).mp hbit
    obtain ⟨hfront, hpin⟩ := addAttackerStack_some _ _ _ _ _ _ _ _ _ hres
    have hocc : (fun x => p.rotated.rot.testBit x) = occB b := hrep.occ_eq
    have hchain : Chain b side pins t (occB b) a.front.square a.behind := by
      rcases top_cases hrep ht hb hatt with h | h | ⟨k, d, pre, S, hinv⟩
      · rw [addAttackerStack_alone (Or.inl h) hres]; trivial
      · rw [addAttackerStack_alone (Or.inr h.1) hres]; trivial
      · rw [← hocc]; exact addAttackerStack_sound hrep pins side _ _ _ _ _ _ _ _ hinv hres
    have hpc : a.front.piece = g.1 := by rw [hfront]
    rw [hpc]
    exact ⟨by rw [hfront], hb, hatt, hpin, hchain⟩
  · intro s k hb hatt hpin
    obtain ⟨bb, hg⟩ := group_of_piece p t side (hrep.ne_none_of_some hb)
    exact h2 _ hg s (((groups_spec hrep ht side hg).2.2 s).mpr ⟨hb, hatt⟩) hpin

end Morlock.Proofs.Sargon
