import Morlock.Proofs.BernsteinSort
import Morlock.Proofs.GenOfficers
/-!
# Bounds on the four Bernstein terms, positivity and totality of `Evaluate`
-/
namespace Morlock.Proofs.Bernstein
open Morlock Morlock.Model Morlock.Model.Bernstein Morlock.Proofs.Gen

theorem evaluate_ge_one {p : Position} {factor : Int} {side : Color} {v : Int}
    (h : evaluate p factor side = some v) : 1 ≤ v := by
  unfold evaluate at h
  cases hk : kingDefense p side with
  | none => rw [hk] at h; cases h
  | some d =>
    rw [hk] at h
    simp only [Option.some.injEq] at h
    omega

theorem kingDefense_isSome_iff (p : Position) (side : Color) :
    (kingDefense p side).isSome = true ↔ p.kingSquare side < 64 := by
  unfold kingDefense
  simp only
  split
  · simp; omega
  · simp; omega

theorem evaluate_isSome_iff (p : Position) (factor : Int) (side : Color) :
    (evaluate p factor side).isSome = true ↔ p.kingSquare side < 64 := by
  rw [← kingDefense_isSome_iff]
  unfold evaluate
  cases kingDefense p side <;> simp

/-- the only Go panic of `Evaluate` (`king[64]`) happens exactly on a side without a king -/
theorem kingSquare_lt_iff {p : Position} {side : Color} (hlt : p.pieces side .king < 2 ^ 64) :
    p.kingSquare side < 64 ↔ p.pieces side .king ≠ 0 := by
  unfold Position.kingSquare
  constructor
  · intro h e
    rw [e] at h
    simp [lastPopSquare] at h
  · intro h
    exact (lastPopSquare_spec h hlt).1

theorem evaluate_of_terms {p : Position} {side : Color} {mob con d mat : Int} (h1 : mobility p side = mob)
    (h2 : Bernstein.control p side = con) (h3 : kingDefense p side = some d) (h4 : material p side = mat) (factor : Int) :
    evaluate p factor side = some (max 1 (mob + con + d + factor * mat)) := by
  unfold evaluate
  rw [h1, h2, h3, h4]

/-- The float32 part of `Eval.Evaluate`: the signed ratio of the two scores. -/
def scoreRatio (self opp : Int) : Option Flt.Q :=
  if self = opp then some ⟨0, 1⟩
  else if self > opp then
    (Flt.rnd Flt.f32 (Flt.Q.ofInt self)).bind fun a =>
    (Flt.mul Flt.f32 a (Flt.Q.ofInt 100)).bind fun m =>
    (Flt.rnd Flt.f32 (Flt.Q.ofInt opp)).bind fun b =>
    Flt.div Flt.f32 m b
  else
    (Flt.rnd Flt.f32 (Flt.Q.ofInt opp)).bind fun a =>
    (Flt.mul Flt.f32 a.neg (Flt.Q.ofInt 100)).bind fun m =>
    (Flt.rnd Flt.f32 (Flt.Q.ofInt self)).bind fun b =>
    Flt.div Flt.f32 m b

theorem evalEvaluate_of_scores {p : Position} {factor : Int} {turn : Color} {s o : Int}
    (hs : evaluate p factor turn = some s) (ho : evaluate p factor turn.opp = some o) :
    evalEvaluate p factor turn = scoreRatio s o := by
  unfold evalEvaluate
  rw [hs, ho]
  rfl

theorem emitMove_length_le (p : Position) (turn : Color) (t : MoveType) (piece : Piece) (fr ab : Nat) :
    (p.emitMove turn t piece fr ab).length ≤ 64 := by
  unfold Position.emitMove
  rw [List.length_map]
  exact toSquares_length ab

theorem length_toSquares_flatMap_le {β : Type} (f : Nat → List β) (k bb : Nat) (h : ∀ x, (f x).length ≤ k) :
    ((toSquares bb).flatMap f).length ≤ 64 * k := by
  have h1 := length_flatMap_le f k (toSquares bb) (fun x _ => h x)
  have h2 := Nat.mul_le_mul_right k (toSquares_length bb)
  omega

theorem emitPromo_length_le (p : Position) (turn : Color) (t : MoveType) (piece : Piece) (fr ab : Nat) :
    (p.emitPromo turn t piece fr ab).length ≤ 256 := by
  unfold Position.emitPromo
  exact length_toSquares_flatMap_le _ 4 ab (fun x => by simp [Position.promoPieces, Gen.listQueenRookKnightBishop])

theorem genSteps_length_le (p : Position) (turn : Color) (piece : Piece) (fr : Nat) :
    (genSteps p turn piece fr).length ≤ 128 := by
  unfold genSteps
  simp only [List.length_append]
  have h1 := emitMove_length_le p turn .normal piece fr
    ((((attackboard p.rotated fr piece).getD 0) &&& not64 (p.pieces turn .none)) &&& not64 (p.pieces turn.opp .none))
  have h2 := emitMove_length_le p turn .capture piece fr
    ((((attackboard p.rotated fr piece).getD 0) &&& not64 (p.pieces turn .none)) &&& p.pieces turn.opp .none)
  omega

theorem genOfficers_length_le (p : Position) (turn : Color) : (genOfficers p turn).length ≤ 32768 := by
  unfold genOfficers
  have h := length_flatMap_le
    (fun piece => (toSquares (p.pieces turn piece)).flatMap fun fr => genSteps p turn piece fr) 8192
    Position.promoPieces (fun piece _ => length_toSquares_flatMap_le _ 128 _ (genSteps_length_le p turn piece))
  have h4 : Position.promoPieces.length = 4 := by decide
  rw [h4] at h
  exact h

theorem genPawn_length_le (p : Position) (turn : Color) (fr : Nat) : (genPawn p turn fr).length ≤ 768 := by
  unfold genPawn
  simp only [List.length_append]
  generalize hcb : pawnCaptureboard turn (bitMask fr) &&& not64 (p.pieces turn .none) = cb
  generalize hpb : pawnMoveboard p.rotated.rot turn (bitMask fr) = pb
  have h1 := emitMove_length_le p turn .capture .pawn fr (andNot (cb &&& p.pieces turn.opp .none) (pawnPromotionRank turn))
  have h2 := emitMove_length_le p turn .push .pawn fr (andNot pb (pawnPromotionRank turn))
  have h3 := emitMove_length_le p turn .jump .pawn fr (pawnMoveboard p.rotated.rot turn pb &&& pawnJumpRank turn)
  have h4 := emitPromo_length_le p turn .capturePromotion .pawn fr (cb &&& p.pieces turn.opp .none &&& pawnPromotionRank turn)
  have h5 := emitPromo_length_le p turn .promotion .pawn fr (pb &&& pawnPromotionRank turn)
  have h6 : (if p.enpassant != 0 then p.emitMove turn .enPassant .pawn fr (cb &&& bitMask p.enpassant) else []).length ≤ 64 := by
    split
    · exact emitMove_length_le ..
    · simp
  omega

theorem genPawns_length_le (p : Position) (turn : Color) : (genPawns p turn).length ≤ 49152 := by
  unfold genPawns
  exact length_toSquares_flatMap_le _ 768 _ (genPawn_length_le p turn)

theorem genCastle_length_le (p : Position) (turn : Color) (fr right : Nat) (cmask : List Nat) (rookSq : Nat)
    (t : MoveType) (to : Nat) : (genCastle p turn fr right cmask rookSq t to).length ≤ 64 := by
  unfold genCastle
  split
  · exact emitMove_length_le ..
  · simp

theorem genKing_length_le (p : Position) (turn : Color) : (genKing p turn).length ≤ 256 := by
  unfold genKing
  split
  · simp
  · rw [List.length_append]
    have h1 := genSteps_length_le p turn .king (lastPopSquare (p.pieces turn .king))
    have h2 : (genCastles p turn (lastPopSquare (p.pieces turn .king))).length ≤ 128 := by
      unfold genCastles
      cases turn <;> simp only [List.length_append]
      · have a := genCastle_length_le p .white (lastPopSquare (p.pieces .white .king)) wK Gen.whiteKingSideCastlingMask H1 .kingSideCastle G1
        have b := genCastle_length_le p .white (lastPopSquare (p.pieces .white .king)) wQ Gen.whiteQueenSideCastlingMask A1 .queenSideCastle C1
        omega
      · have a := genCastle_length_le p .black (lastPopSquare (p.pieces .black .king)) bK Gen.blackKingSideCastlingMask H8 .kingSideCastle G8
        have b := genCastle_length_le p .black (lastPopSquare (p.pieces .black .king)) bQ Gen.blackQueenSideCastlingMask A8 .queenSideCastle C8
        omega
    omega

/-- a crude bound that needs no hypothesis on the position (every `ToSquares` list has at most 64 entries) -/
theorem pseudoLegalMoves_length_le (p : Position) (turn : Color) : (p.pseudoLegalMoves turn).length ≤ 82176 := by
  rw [pseudoLegalMoves_eq, List.length_append, List.length_append]
  have h1 := genOfficers_length_le p turn
  have h2 := genPawns_length_le p turn
  have h3 := genKing_length_le p turn
  omega

theorem mobility_bounds (p : Position) (side : Color) : 0 ≤ mobility p side ∧ mobility p side ≤ 82176 := by
  unfold mobility Position.legalMoves
  have h1 := List.length_filter_le (fun m => (p.move m).isSome) (p.pseudoLegalMoves side)
  have h2 := pseudoLegalMoves_length_le p side
  omega

theorem control_bounds (p : Position) (side : Color) : 0 ≤ Bernstein.control p side ∧ Bernstein.control p side ≤ 64 := by
  unfold Bernstein.control controlSquares
  have h1 := List.length_filter_le (fun sq => p.isDefended side sq && !p.isAttacked side sq) (List.range 64)
  rw [List.length_range] at h1
  omega

theorem kingDefense_bounds {p : Position} {side : Color} {d : Int} (h : kingDefense p side = some d) :
    0 ≤ d ∧ d ≤ 64 := by
  unfold kingDefense at h
  simp only at h
  split at h
  · cases h
  · simp only [Option.some.injEq] at h
    subst h
    unfold kingDefenseSquares
    have h1 := List.length_filter_le (fun sq =>
      if p.isEmpty sq then isDefendedBy p side sq qrnbpPieces && !p.isAttacked side sq
      else p.isDefended side sq && !p.isAttacked side sq) (toSquares (kingAttackboard (p.kingSquare side)))
    have h2 := toSquares_length (kingAttackboard (p.kingSquare side))
    omega

theorem material_bounds (p : Position) (side : Color) : 0 ≤ material p side ∧ material p side ≤ 1344 := by
  unfold material materialValue
  simp only
  have h1 := popCount_le (p.pieces side .queen)
  have h2 := popCount_le (p.pieces side .rook)
  have h3 := popCount_le (p.pieces side .knight)
  have h4 := popCount_le (p.pieces side .bishop)
  have h5 := popCount_le (p.pieces side .pawn)
  omega

theorem evaluate_le {p : Position} {factor F : Int} {side : Color} {v : Int}
    (hf0 : -F ≤ factor) (hf1 : factor ≤ F) (h : evaluate p factor side = some v) :
    1 ≤ v ∧ v ≤ 82304 + 1344 * F ∧ -(1344 * F) ≤ factor * material p side ∧ factor * material p side ≤ 1344 * F := by
  refine ⟨evaluate_ge_one h, ?_⟩
  unfold evaluate at h
  cases hk : kingDefense p side with
  | none => rw [hk] at h; cases h
  | some d =>
    rw [hk] at h
    simp only [Option.some.injEq] at h
    have hm := mobility_bounds p side
    have hc := control_bounds p side
    have hd := kingDefense_bounds hk
    have hmat := material_bounds p side
    have h1 : factor * material p side ≤ F * material p side := Int.mul_le_mul_of_nonneg_right hf1 hmat.1
    have h2 : F * material p side ≤ F * 1344 := Int.mul_le_mul_of_nonneg_left hmat.2 (by omega)
    have h3 : (-F) * material p side ≤ factor * material p side := Int.mul_le_mul_of_nonneg_right hf0 hmat.1
    rw [Int.neg_mul] at h3
    omega

end Morlock.Proofs.Bernstein
