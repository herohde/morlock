import Morlock.Proofs.FltSqrt
import Morlock.Proofs.FltOrder
/-! # `sqrt`: exactness on squares of numbers of the format, and monotonicity -/
namespace Morlock.Model.Flt

theorem sexpo_le (f : Fmt) (hp : 1 ≤ f.p) {a b : Nat} (ha : 0 < a) (hb : 0 < b) {e : Int} (he : f.emin ≤ e)
    (hup : a * pd (2 * e) < 2 ^ (2 * f.p) * b * pn (2 * e)) : sexpo f a b ≤ e := by
  obtain ⟨hge, _, hnorm⟩ := sexpo_spec f hp ha hb
  rcases hnorm with h0 | h0
  · omega
  · have := exp_lt_of_le_of_lt ((le_sfl_pow_iff hb _ (f.p - 1)).mp h0) hup
    omega

/-- the square of a number `m·2^e` of the format has that number as its square root -/
theorem sqrtPos_exact (f : Fmt) (hp : 1 ≤ f.p) {a b m : Nat} {e : Int} (ha : 0 < a) (hb : 0 < b)
    (hv : a * pd (2 * e) = m ^ 2 * b * pn (2 * e)) (hm : m < 2 ^ f.p) (he : f.emin ≤ e)
    (hmax : e + ((f.p : Int) - 1) ≤ f.emax) :
    ∃ m' e', sqrtPos f a b = some (m', e') ∧ m' * pn e' * pd e = m * pn e * pd e' := by
  have hup : a * pd (2 * e) < 2 ^ (2 * f.p) * b * pn (2 * e) := by
    rw [hv, Nat.mul_comm 2 f.p, Nat.pow_mul]
    exact (Nat.mul_lt_mul_right (pn_pos _)).mpr
      ((Nat.mul_lt_mul_right hb).mpr (Nat.pow_lt_pow_left hm (by decide)))
  have hle := sexpo_le f hp ha hb he hup
  obtain ⟨hge, hlt, _⟩ := sexpo_spec f hp ha hb
  rw [sqrtPos_eq]
  generalize sexpo f a b = e' at *
  obtain ⟨K, hK⟩ : ∃ K : Nat, e = e' + K := ⟨(e - e').toNat, by omega⟩
  -- at the exponent `e'` the argument is the square of the integer `2^K·m`
  have hv' : a * pd (2 * e') = (2 ^ K * m) ^ 2 * (b * pn (2 * e')) := by
    rw [(eq_shift (show 2 * e = 2 * e' + ((2 * K : Nat) : Int) by omega) a (m ^ 2 * b)).mpr hv,
      Nat.mul_pow, ← Nat.pow_mul, Nat.mul_comm K 2]
    ac_rfl
  rw [sfl_eq_of_sq hb hv'] at hlt
  rw [ssig_eq_of_sq hb hv', carry_of_ne (Nat.ne_of_lt hlt), if_neg (by simp only []; omega)]
  refine ⟨_, _, rfl, ?_⟩
  rw [Nat.mul_assoc m, pn_pd_shift hK]
  ac_rfl

theorem sqrt_sq_nat (f : Fmt) (wf : f.WF) (h0 : f.emin ≤ 0) (hmax : (f.p : Int) - 1 ≤ f.emax) (k : Nat) (hk : k < 2 ^ f.p) :
    sqrt f (Q.ofNat (k * k)) = some (Q.ofNat k) := by
  rcases Nat.eq_zero_or_pos k with hk0 | hk0
  · subst hk0; simp [sqrt, Q.ofNat]
  have hpos : 0 < (Q.ofNat (k * k)).num := by
    simp only [Q.ofNat]; exact_mod_cast Nat.mul_pos hk0 hk0
  rw [sqrt_of_pos f hpos]
  have hv : (k * k) * pd (2 * 0) = k ^ 2 * 1 * pn (2 * 0) := by simp [pd, pn, Nat.pow_two]
  obtain ⟨m', e', hs, hval⟩ := sqrtPos_exact f wf.p_pos (a := k * k) (b := 1) (m := k) (e := 0)
    (Nat.mul_pos hk0 hk0) (by decide) hv hk h0 (by omega)
  have e1 : (Q.ofNat (k * k)).num.toNat = k * k := by unfold Q.ofNat; exact Int.toNat_natCast _
  have e2 : (Q.ofNat (k * k)).den = 1 := rfl
  rw [e1, e2, hs]
  simp only [Option.map_some]
  congr 1
  apply Q.Canon.eq_of_eqv (ofME_false_canon m' e') (by unfold Q.Canon Q.ofNat; simp)
  refine Q.Eqv.trans (pd_pos e') (ofME_false_eqv m' e') ?_
  have hval' : m' * pn e' = k * pd e' := by simpa [pd, pn] using hval
  simp only [Q.Eqv, Q.ofNat, hval']
  exact_mod_cast (Nat.mul_one _)

theorem sqrt_int_exact (k : Nat) (hk : k < 2 ^ 26) : sqrt f64 (Q.ofNat (k * k)) = some (Q.ofNat k) :=
  sqrt_sq_nat f64 f64_wf (by decide) (by decide) k (Nat.lt_trans hk (by decide))

theorem sexpo_mono (f : Fmt) (hp : 1 ≤ f.p) {a b a' b' : Nat} (ha : 0 < a) (hb : 0 < b) (ha' : 0 < a') (hb' : 0 < b')
    (hr : a * b' ≤ a' * b) : sexpo f a b ≤ sexpo f a' b' := by
  obtain ⟨hge', hlt', _⟩ := sexpo_spec f hp ha' hb'
  exact sexpo_le f hp ha hb hge' (lt_of_ratio_le hb hr ((sfl_lt_pow_iff hb' _ _).mp hlt'))

theorem ssig_mono {a b a' b' : Nat} (hb : 0 < b) (hb' : 0 < b') (hr : a * b' ≤ a' * b) (e : Int) :
    ssig a b e ≤ ssig a' b' e := by
  obtain ⟨_, hh, ht⟩ := ssig_spec (a := a) hb e
  obtain ⟨_, hh', ht'⟩ := ssig_spec (a := a') hb' e
  have hrs := ratio_le_scale hr (pd (2 * e)) (pn (2 * e))
  exact nearestEven_mono (· ^ 2) (fun _ _ h => Nat.pow_lt_pow_left h (by decide)) (Nat.mul_pos hb (pn_pos _))
    (Nat.mul_pos hb' (pn_pos _)) (by rw [Nat.mul_assoc 4, Nat.mul_assoc 4]; exact Nat.mul_le_mul_left 4 hrs) hh.1
    (fun h t => ht h (Or.inl t)) hh'.2 (fun h t => ht' h (Or.inr t))

theorem sqrt_pre_mono (f : Fmt) (hp : 1 ≤ f.p) {a b a' b' : Nat} (ha : 0 < a) (hb : 0 < b) (ha' : 0 < a') (hb' : 0 < b')
    (hr : a * b' ≤ a' * b) :
    ssig a b (sexpo f a b) * pn (sexpo f a b) * pd (sexpo f a' b') ≤
      ssig a' b' (sexpo f a' b') * pn (sexpo f a' b') * pd (sexpo f a b) := by
  rcases Int.lt_or_eq_of_le (sexpo_mono f hp ha hb ha' hb' hr) with hl | he
  · refine ple_of_exp_lt hp (ssig_le f hp ha hb) ((ssig_normal f hp ha' hb').resolve_right ?_) hl
    have := (sexpo_spec f hp ha hb).1
    omega
  · rw [← he]
    exact Nat.mul_le_mul_right _ (Nat.mul_le_mul_right _ (ssig_mono hb hb' hr _))

theorem sqrtPos_mono (f : Fmt) (hp : 1 ≤ f.p) {a b a' b' m m' : Nat} {e e' : Int}
    (ha : 0 < a) (hb : 0 < b) (ha' : 0 < a') (hb' : 0 < b') (hr : a * b' ≤ a' * b)
    (h : sqrtPos f a b = some (m, e)) (h' : sqrtPos f a' b' = some (m', e')) :
    m * pn e * pd e' ≤ m' * pn e' * pd e := by
  have := carry_ple f hp (sqrt_pre_mono f hp ha hb ha' hb' hr)
  rw [sqrtPos_eq] at h h'
  rwa [(fin_eq_some h).1, (fin_eq_some h').1] at this

theorem sqrt_nonneg (f : Fmt) {x y : Q} (h : sqrt f x = some y) : 0 ≤ x.num ∧ 0 ≤ y.num := by
  rcases Int.lt_trichotomy x.num 0 with hn | hz | hp
  · rw [sqrt_neg f hn] at h; simp at h
  · rw [sqrt_of_num_eq_zero f hz] at h
    obtain rfl : y = ⟨0, 1⟩ := by simpa using h.symm
    simp [hz]
  · rw [sqrt_of_pos f hp] at h
    cases hs : sqrtPos f x.num.toNat x.den with
    | none => rw [hs] at h; simp at h
    | some me =>
      rw [hs] at h
      simp only [Option.map_some, Option.some.injEq] at h
      subst h
      obtain ⟨_, _, hsg, _⟩ := ofME_spec false me.1 me.2
      simp at hsg
      exact ⟨by omega, hsg⟩

theorem sqrt_mono (f : Fmt) (wf : f.WF) {x y x' y' : Q} (hx : 0 < x.den) (hy : 0 < y.den)
    (hle : Q.Le x y) (h : sqrt f x = some x') (h' : sqrt f y = some y') : Q.Le x' y' := by
  obtain ⟨hx0, hx'0⟩ := sqrt_nonneg f h
  obtain ⟨hy0, hy'0⟩ := sqrt_nonneg f h'
  have hxd : (0 : Int) < x.den := by omega
  have hyd : (0 : Int) < y.den := by omega
  rcases Int.lt_or_eq_of_le hx0 with hpos | hz
  · have hypos := hle.pos hy hpos
    rw [sqrt_of_pos f hpos] at h
    rw [sqrt_of_pos f hypos] at h'
    obtain ⟨me, hs, rfl⟩ := Option.map_eq_some_iff.mp h
    obtain ⟨me', hs', rfl⟩ := Option.map_eq_some_iff.mp h'
    exact ofME_le_of_ple (sqrtPos_mono f wf.p_pos (by omega) hx (by omega) hy
      (hle.nat (by omega) (by omega)) hs hs')
  · rw [sqrt_of_num_eq_zero f hz.symm] at h
    obtain rfl : x' = ⟨0, 1⟩ := by simpa using h.symm
    unfold Q.Le; simp; exact hy'0

end Morlock.Model.Flt
