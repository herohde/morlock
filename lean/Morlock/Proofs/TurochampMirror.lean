import Morlock.Proofs.TurochampMaterial
import Morlock.Proofs.TuroMirrorBits
/-!
# TUROCHAMP is colour-blind, component by component

If `q` represents the colour-swapped mirror image of the board of `p` (`Rep q (mirrorBoard b)`), the bitboards of `q` are
the mirror images (`MB`) of those of the other colour of `p`, and what the evaluation computes from them for the other
colour on `q` - material, castling-right and check terms, defenders, king safety, pawn credit - is what it computes for
the colour on `p`. `PositionPlay` itself sums float32 terms in the order of the squares, which the mirror changes: the
parts are equal, the rounded sum only up to the order of summation.
-/
namespace Morlock.Proofs.Turochamp
open Morlock Morlock.Model Morlock.Model.Flt Morlock.Model.Turochamp Morlock.Proofs.Gen Morlock.Proofs.Mirror
open Morlock.Proofs.Material Morlock.Proofs.TuroMirror

theorem rep_of_placements {pl : List (Nat × Color × Piece)} {cs ep : Nat} {p : Position}
    (hall : (pl.all fun x => decide (x.1 < 64) && (x.2.2 != Piece.none)) = true)
    (he : Position.newPosition pl cs ep = some p) : Rep p p.square := by
  have hv : ValidPlacements pl := by
    intro x hx
    have := List.all_eq_true.mp hall x hx
    simpa using this
  exact (newPosition_rep hv he).1.self

/-- `q` represents the mirror image of the board of `p` if its 64 squares say so -/
theorem repM_of_square {p q : Position} {b : Board} (hp : Rep p b) (hq : Rep q q.square)
    (h : ∀ s, s < 64 → q.square s = mirrorBoard b s) : Rep q (mirrorBoard b) := by
  have : q.square = mirrorBoard b := by
    funext sq
    by_cases hsq : sq < 64
    · exact h sq hsq
    · have h64 : 64 ≤ sq := by omega
      unfold mirrorBoard
      rw [Spec.mirrorSq_of_ge h64, hq.out sq h64, hp.out sq h64]
  rw [← this]; exact hq

theorem colAt_mirrorBoard (b : Board) (sq : Nat) (c : Color) :
    colAt (mirrorBoard b) sq c.opp = colAt b (Spec.mirrorSq sq) c := by
  unfold colAt
  rw [mirrorBoard_apply]
  cases b (Spec.mirrorSq sq) with
  | none => rfl
  | some v => obtain ⟨c', k'⟩ := v; cases c <;> cases c' <;> rfl

theorem occB_mirrorBoard (b : Board) (t : Nat) : occB (mirrorBoard b) (Spec.mirrorSq t) = occB b t := by
  unfold occB
  rw [mirrorBoard_apply, Spec.mirrorSq_mirrorSq, Option.isSome_map]

theorem bne_zero_eq (n : Nat) : (n != 0) = decide (n ≠ 0) := by
  by_cases h : n = 0 <;> simp [h]

theorem and_or_ne_zero (c x y : Nat) : (c &&& (x ||| y) != 0) = (c &&& x != 0 || c &&& y != 0) := by
  rw [Nat.and_or_distrib_left, bne_zero_eq, bne_zero_eq, bne_zero_eq]
  have h := @Nat.or_eq_zero_iff (c &&& x) (c &&& y)
  by_cases h1 : c &&& x = 0 <;> by_cases h2 : c &&& y = 0
  · have : c &&& x ||| c &&& y = 0 := h.mpr ⟨h1, h2⟩
    simp [h1, h2]
  · have : c &&& x ||| c &&& y ≠ 0 := fun e => h2 (h.mp e).2
    simp [h1, h2]
  · have : c &&& x ||| c &&& y ≠ 0 := fun e => h1 (h.mp e).1
    simp [h1, h2]
  · have : c &&& x ||| c &&& y ≠ 0 := fun e => h1 (h.mp e).1
    simp [h1, h2]

theorem castleRight_mirror {p q : Position} (turn : Color)
    (hwk : (q.castling &&& wK != 0) = (p.castling &&& bK != 0))
    (hwq : (q.castling &&& wQ != 0) = (p.castling &&& bQ != 0))
    (hbk : (q.castling &&& bK != 0) = (p.castling &&& wK != 0))
    (hbq : (q.castling &&& bQ != 0) = (p.castling &&& wQ != 0)) :
    (q.castling &&& castlingRights turn.opp != 0) = (p.castling &&& castlingRights turn != 0) := by
  cases turn
  · show (q.castling &&& (bK ||| bQ) != 0) = (p.castling &&& (wK ||| wQ) != 0)
    rw [and_or_ne_zero, and_or_ne_zero, hbk, hbq]
  · show (q.castling &&& (wK ||| wQ) != 0) = (p.castling &&& (bK ||| bQ) != 0)
    rw [and_or_ne_zero, and_or_ne_zero, hwk, hwq]

theorem isChecked_mirror {p q : Position} {t : Color} (hp : WF p t) {b : Board} (hb : Rep p b)
    (hq : Rep q (mirrorBoard b)) (habs : abs q t.opp = Spec.mirror (abs p t)) (c : Color) :
    q.isChecked c.opp = p.isChecked c := by
  rw [Props.C06Queries.isChecked_eq hq t.opp c.opp, Props.C06Queries.isChecked_eq hb t c, habs, absColor_opp]
  exact Spec.inCheck_mirror ((sym_abs hp).kings _)

theorem add_popCount_if (d bb : Nat) : (if bb != 0 then d + popCount bb else d) = d + popCount bb := by
  by_cases h : bb = 0
  · subst h; rfl
  · simp [h]

theorem sqRank_mirror {sq : Nat} (hsq : sq < 64) : sqRank (Spec.mirrorSq sq) = 7 - sqRank sq := by
  rw [sqRank_eq, sqRank_eq, Spec.mirrorSq_of_lt hsq]
  omega

theorem pawnRanks_mirror (c : Color) {sq : Nat} (hsq : sq < 64) : pawnRanks c.opp (Spec.mirrorSq sq) = pawnRanks c sq := by
  have h1 : sqRank sq < 8 := by rw [sqRank_eq]; omega
  cases c <;> simp only [pawnRanks, Color.opp, sqRank_mirror hsq] <;> omega

theorem one_king_of_wfb {p : Position} {b : Board} (hr : Rep p b) {cs ep : Nat} {t : Color} (hw : WFb b cs ep t)
    (d : Color) : One (p.pieces d .king) := by
  intro u v hu hv
  have hu64 := lt_of_testBit (hr.piecesLt d .king) hu
  have hv64 := lt_of_testBit (hr.piecesLt d .king) hv
  rw [hr.one d .king u (by decide) hu64, decide_eq_true_eq] at hu
  rw [hr.one d .king v (by decide) hv64, decide_eq_true_eq] at hv
  exact hw.king_unique d u v hu hv

section
variable {p q : Position} {b : Board} (hp : Rep p b) (hq : Rep q (mirrorBoard b))
include hp hq

theorem pieces_mirror (c : Color) (k : Piece)
    {t : Nat} (ht : t < 64) : (q.pieces c.opp k).testBit t = (p.pieces c k).testBit (Spec.mirrorSq t) := by
  have ht' := Spec.mirrorSq_lt ht
  by_cases hk : k = .none
  · subst hk
    rw [hq.all _ _ ht, hp.all _ _ ht', colAt_mirrorBoard]
  · rw [hq.one _ _ _ hk ht, hp.one _ _ _ hk ht']
    exact decide_eq_decide.mpr (by rw [mirrorBoard_eq_some_iff, Color.opp_opp])

theorem pieces_MB (c : Color) (k : Piece) :
    MB (p.pieces c k) (q.pieces c.opp k) :=
  ⟨hp.piecesLt c k, hq.piecesLt c.opp k, fun _ ht => pieces_mirror hp hq c k ht⟩

theorem occ_MB :
    MB p.rotated.rot q.rotated.rot :=
  ⟨hp.rotLt, hq.rotLt, fun u hu => by
    rw [hq.rot u hu, hp.rot _ (Spec.mirrorSq_lt hu)]
    have := occB_mirrorBoard b (Spec.mirrorSq u)
    rwa [Spec.mirrorSq_mirrorSq] at this⟩

theorem mat2_mirror (c : Color) :
    mat2 q c.opp = mat2 p c := by
  unfold mat2 material2
  simp only [(pieces_MB hp hq c _).popCount]

theorem material_mirror (c : Color) :
    material q c.opp = material p c := by
  rw [material_eq, material_eq, mat2_mirror hp hq]

theorem materialEvaluate_mirror (turn : Color) :
    materialEvaluate q turn.opp = materialEvaluate p turn := by
  unfold materialEvaluate
  have h2 := material_mirror hp hq turn.opp
  rw [material_mirror hp hq turn, h2]

theorem officerHits_mirror (c : Color)
    {k : Piece} (hk : k ∈ kqrnb) {sq : Nat} (hsq : sq < 64) :
    ∃ x y, officerHits p c sq k = some x ∧ officerHits q c.opp (Spec.mirrorSq sq) k = some y ∧ MB x y := by
  have h := (attackboard_MB hp.rotInv hq.rotInv (occ_MB hp hq) hsq k).and (pieces_MB hp hq c k)
  rw [kqrnb_eq] at hk
  simp only [List.mem_cons, List.not_mem_nil, or_false] at hk
  rcases hk with rfl | rfl | rfl | rfl | rfl <;> exact ⟨_, _, rfl, rfl, h⟩

theorem defendersLoop_mirror (c : Color)
    {sq : Nat} (hsq : sq < 64) : ∀ (l : List Piece) (d : Nat), (∀ k ∈ l, k ∈ kqrnb) →
    defendersLoop q c.opp (Spec.mirrorSq sq) l d = defendersLoop p c sq l d
  | [], _, _ => rfl
  | k :: rest, d, hl => by
    obtain ⟨x, y, hx, hy, hxy⟩ := officerHits_mirror hp hq c (hl k (List.mem_cons_self ..)) hsq
    unfold defendersLoop
    rw [hx, hy, Option.bind_some, Option.bind_some, add_popCount_if, add_popCount_if, hxy.popCount]
    exact defendersLoop_mirror c hsq rest _ (fun k hk => hl k (List.mem_cons_of_mem _ hk))

theorem defenders_mirror (c : Color)
    {sq : Nat} (hsq : sq < 64) : defenders q c.opp (Spec.mirrorSq sq) = defenders p c sq := by
  have hpc := (((pieces_MB hp hq c .pawn).pawnCapture c).and (MB.bitMask hsq)).popCount
  unfold defenders
  rw [defendersLoop_mirror hp hq c hsq kqrnb 0 (fun _ h => h)]
  simp only [add_popCount_if]
  simp only [hpc]

theorem officerDefended_mirror (c : Color)
    {sq : Nat} (hsq : sq < 64) : ∀ (l : List Piece), (∀ k ∈ l, k ∈ kqrnb) →
    officerDefended q c.opp (Spec.mirrorSq sq) l = officerDefended p c sq l
  | [], _ => rfl
  | k :: rest, hl => by
    obtain ⟨x, y, hx, hy, hxy⟩ := officerHits_mirror hp hq c (hl k (List.mem_cons_self ..)) hsq
    have hz := hxy.eq_zero_iff
    unfold officerDefended
    rw [hx, hy, Option.bind_some, Option.bind_some]
    by_cases h0 : x = 0
    · have hy0 := hz.mpr h0
      subst h0; subst hy0
      simp only [bne_self_eq_false, Bool.false_eq_true, if_false]
      exact officerDefended_mirror c hsq rest (fun k hk => hl k (List.mem_cons_of_mem _ hk))
    · have hy0 : y ≠ 0 := fun e => h0 (hz.mp e)
      simp [h0, hy0]

theorem king_zero_mirror (c : Color) :
    q.pieces c.opp .king = 0 ↔ p.pieces c .king = 0 :=
  (pieces_MB hp hq c .king).eq_zero_iff

theorem middle_MB (c : Color) :
    MB (middle p c) (middle q c.opp) :=
  ((pieces_MB hp hq c .rook).or (pieces_MB hp hq c .knight)).or (pieces_MB hp hq c .bishop)

theorem middle_mirror (c : Color)
    {u : Nat} (hu : u < 64) : (middle q c.opp).testBit u = (middle p c).testBit (Spec.mirrorSq u) :=
  (middle_MB hp hq c).bit u hu

end

/-- the king of the other colour stands on the mirrored square (at most one king: `WF`) -/
theorem kingSquare_mirror {p q : Position} {t : Color} (hw : WF p t) {b : Board} (hp : Rep p b)
    (hq : Rep q (mirrorBoard b)) (c : Color) (hk : p.pieces c .king ≠ 0) :
    lastPopSquare (q.pieces c.opp .king) = Spec.mirrorSq (lastPopSquare (p.pieces c .king)) ∧
      lastPopSquare (p.pieces c .king) < 64 :=
  (pieces_MB hp hq c .king).lastPop (one_king_of_wfb hw.rep hw.wfb c) hk

theorem safety_mirror {p q : Position} {t : Color} (hw : WF p t) {b : Board} (hp : Rep p b)
    (hq : Rep q (mirrorBoard b)) (c : Color) (hk : p.pieces c .king ≠ 0) : safety q c.opp = safety p c := by
  obtain ⟨e, hsq⟩ := kingSquare_mirror hw hp hq c hk
  unfold safety
  rw [e]
  exact ((attackboard_MB hp.rotInv hq.rotInv (occ_MB hp hq) hsq .queen).andNot (pieces_MB hp hq c .none)).popCount

end Morlock.Proofs.Turochamp
