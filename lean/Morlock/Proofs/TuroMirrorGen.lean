import Morlock.Proofs.TuroMirrorPos
/-!
# The move generator commutes with the colour mirror, bit for bit

`pseudo_mirror`: under `MP p q` (and at most one king bit of the colour), `q.pseudoLegalMoves c.opp` is a permutation
of the mirror images of `p.pseudoLegalMoves c` - for EITHER colour, whatever the en-passant target and whoever is in check
(the generator never asks whose turn it is). `pseudo_ok`: what every generated move satisfies (`GenOK`).
-/
namespace Morlock.Proofs.TuroMirror
open Morlock Morlock.Model Morlock.Proofs.Gen Morlock.Proofs.Attack Morlock.Proofs.Mirror

local notation "ms" => Spec.mirrorSq

theorem maskOf_MB :
    MB (Position.maskOf Gen.whiteKingSideCastlingMask) (Position.maskOf Gen.blackKingSideCastlingMask) ∧
    MB (Position.maskOf Gen.whiteQueenSideCastlingMask) (Position.maskOf Gen.blackQueenSideCastlingMask) ∧
    MB (Position.maskOf Gen.blackKingSideCastlingMask) (Position.maskOf Gen.whiteKingSideCastlingMask) ∧
    MB (Position.maskOf Gen.blackQueenSideCastlingMask) (Position.maskOf Gen.whiteQueenSideCastlingMask) := by
  have a : MB (Position.maskOf Gen.whiteKingSideCastlingMask) (Position.maskOf Gen.blackKingSideCastlingMask) :=
    ⟨by decide +kernel, by decide +kernel, by decide +kernel⟩
  have b : MB (Position.maskOf Gen.whiteQueenSideCastlingMask) (Position.maskOf Gen.blackQueenSideCastlingMask) :=
    ⟨by decide +kernel, by decide +kernel, by decide +kernel⟩
  exact ⟨a, b, a.symm, b.symm⟩

section
variable {p q : Position} (h : MP p q) (c : Color)
include h

theorem emitMove_mirror (t : MoveType) (piece : Piece) {fr : Nat}
    {ab ab' : Nat} (hab : MB ab ab') :
    (q.emitMove c.opp t piece (ms fr) ab').Perm ((p.emitMove c t piece fr ab).map mm) := by
  unfold Position.emitMove
  rw [List.map_map]
  have h1 := (hab.toSquares).map (fun to =>
    ({ ty := t, piece := piece, «from» := ms fr, to := to, capture := (if t = .capture then q.captureAt to c.opp else .none) } : Move))
  rw [List.map_map] at h1
  refine h1.trans (List.Perm.of_eq ?_)
  apply List.map_congr_left
  intro to hto
  have l := toSquares_lt hab.lx hto
  simp only [Function.comp, mm]
  rw [captureAt_mirror h c l]

theorem emitPromo_mirror (t : MoveType) (piece : Piece) {fr : Nat}
    {ab ab' : Nat} (hab : MB ab ab') :
    (q.emitPromo c.opp t piece (ms fr) ab').Perm ((p.emitPromo c t piece fr ab).map mm) := by
  unfold Position.emitPromo
  apply flatMap_mirror hab.toSquares
  intro to hto
  have l := toSquares_lt hab.lx hto
  refine List.Perm.of_eq ?_
  simp only [List.map_map]
  rw [captureAt_mirror h c l]
  apply List.map_congr_left
  intro pc _
  rfl

theorem genSteps_mirror (piece : Piece) {fr : Nat} (hf : fr < 64) :
    (genSteps q c.opp piece (ms fr)).Perm ((genSteps p c piece fr).map mm) := by
  unfold genSteps
  have hab := (attackboard_MB h.rp h.rq h.occ hf piece).and (h.pc c .none).not64
  have hopp := h.pc c.opp .none
  simp only [List.map_append]
  exact (emitMove_mirror h c .normal piece (hab.and hopp.not64)).append
    (emitMove_mirror h c .capture piece (hab.and hopp))

theorem genOfficers_mirror :
    (genOfficers q c.opp).Perm ((genOfficers p c).map mm) := by
  unfold genOfficers
  rw [List.map_flatMap]
  apply perm_flatMap_left
  intro piece _
  exact flatMap_mirror (h.pc c piece).toSquares
    (fun fr hfr => genSteps_mirror h c piece (toSquares_lt (h.pc c piece).lx hfr))

theorem genPawn_mirror {fr : Nat} (hf : fr < 64) :
    (genPawn q c.opp (ms fr)).Perm ((genPawn p c fr).map mm) := by
  unfold genPawn
  have mask := (h.pc c .none).not64
  have caps := h.pc c.opp .none
  have org := MB.bitMask hf
  have cb := (org.pawnCapture c).and mask
  have pb := h.occ.pawnMove org c
  have jb := (h.occ.pawnMove pb c).and (jumpRank_MB c)
  have pr := promoRank_MB c
  simp only [List.map_append]
  have e6 : (if q.enpassant != 0 then q.emitMove c.opp .enPassant .pawn (ms fr)
        (pawnCaptureboard c.opp (bitMask (ms fr)) &&& not64 (q.pieces c.opp .none) &&& bitMask q.enpassant) else []).Perm
      ((if p.enpassant != 0 then p.emitMove c .enPassant .pawn fr
        (pawnCaptureboard c (bitMask fr) &&& not64 (p.pieces c .none) &&& bitMask p.enpassant) else []).map mm) := by
    by_cases hep : p.enpassant = 0
    · have hq := h.ep0 hep
      simp [hep, hq]
    · obtain ⟨e, ne, _⟩ := h.ep1 hep
      have n1 : (p.enpassant != 0) = true := by rw [bne_iff_ne]; exact hep
      have n2 : (q.enpassant != 0) = true := by rw [bne_iff_ne]; exact ne
      rw [if_pos n1, if_pos n2, e]
      exact emitMove_mirror h c .enPassant .pawn (cb.and (MB.bitMask h.epl))
  exact (((((emitMove_mirror h c .capture .pawn ((cb.and caps).andNot pr)).append
    (emitMove_mirror h c .push .pawn (pb.andNot pr))).append
    (emitMove_mirror h c .jump .pawn jb)).append
    (emitPromo_mirror h c .capturePromotion .pawn ((cb.and caps).and pr))).append
    (emitPromo_mirror h c .promotion .pawn (pb.and pr))).append e6

theorem genPawns_mirror :
    (genPawns q c.opp).Perm ((genPawns p c).map mm) := by
  unfold genPawns
  exact flatMap_mirror (h.pc c .pawn).toSquares
    (fun fr hfr => genPawn_mirror h c (toSquares_lt (h.pc c .pawn).lx hfr))

theorem genCastle_mirror {fr : Nat}
    {right right' : Nat} {cmask cmask' : List Nat} {rookSq to : Nat}
    (hr : (q.castling &&& right' != 0) = (p.castling &&& right != 0))
    (hm : MB (Position.maskOf cmask) (Position.maskOf cmask')) (hrook : rookSq < 64) (hto : to < 64) (t : MoveType) :
    (genCastle q c.opp (ms fr) right' cmask' (ms rookSq) t (ms to)).Perm
      ((genCastle p c fr right cmask rookSq t to).map mm) := by
  unfold genCastle
  rw [hr, (hm.and h.occ).beq_zero, ((h.pc c .rook).and (MB.bitMask hrook)).bne_zero]
  split
  · exact emitMove_mirror h c t .king (MB.bitMask hto)
  · simp

theorem genCastles_mirror {fr : Nat} :
    (genCastles q c.opp (ms fr)).Perm ((genCastles p c fr).map mm) := by
  obtain ⟨m1, m2, m3, m4⟩ := maskOf_MB
  obtain ⟨_, _, c3, c4, c5, c6, _, _, _, _, c11, c12, c13, c14⟩ := ms_consts
  cases c
  · show (genCastle q .black (ms fr) bK Gen.blackKingSideCastlingMask H8 .kingSideCastle G8 ++
      genCastle q .black (ms fr) bQ Gen.blackQueenSideCastlingMask A8 .queenSideCastle C8).Perm
      ((genCastle p .white fr wK Gen.whiteKingSideCastlingMask H1 .kingSideCastle G1 ++
      genCastle p .white fr wQ Gen.whiteQueenSideCastlingMask A1 .queenSideCastle C1).map mm)
    rw [List.map_append, ← c3, ← c5, ← c11, ← c13]
    exact (genCastle_mirror h .white h.bk m1 (by decide) (by decide) _).append
      (genCastle_mirror h .white h.bq m2 (by decide) (by decide) _)
  · show (genCastle q .white (ms fr) wK Gen.whiteKingSideCastlingMask H1 .kingSideCastle G1 ++
      genCastle q .white (ms fr) wQ Gen.whiteQueenSideCastlingMask A1 .queenSideCastle C1).Perm
      ((genCastle p .black fr bK Gen.blackKingSideCastlingMask H8 .kingSideCastle G8 ++
      genCastle p .black fr bQ Gen.blackQueenSideCastlingMask A8 .queenSideCastle C8).map mm)
    rw [List.map_append, ← c4, ← c6, ← c12, ← c14]
    exact (genCastle_mirror h .black h.wk m3 (by decide) (by decide) _).append
      (genCastle_mirror h .black h.wq m4 (by decide) (by decide) _)

theorem genKing_mirror (ho : One (p.pieces c .king)) :
    (genKing q c.opp).Perm ((genKing p c).map mm) := by
  unfold genKing
  by_cases hk : p.pieces c .king = 0
  · have hq := (h.pc c .king).eq_zero_iff.mpr hk
    rw [if_pos hk, if_pos hq]
    simp
  · have hq : q.pieces c.opp .king ≠ 0 := fun e => hk ((h.pc c .king).eq_zero_iff.mp e)
    obtain ⟨e, lt⟩ := (h.pc c .king).lastPop ho hk
    rw [if_neg hk, if_neg hq, e, List.map_append]
    exact (genSteps_mirror h c .king lt).append (genCastles_mirror h c)

theorem pseudo_mirror (ho : One (p.pieces c .king)) :
    (q.pseudoLegalMoves c.opp).Perm ((p.pseudoLegalMoves c).map mm) := by
  rw [pseudoLegalMoves_eq, pseudoLegalMoves_eq, List.map_append, List.map_append]
  exact ((genOfficers_mirror h c).append (genPawns_mirror h c)).append (genKing_mirror h c ho)

end

structure GenOK (p : Position) (c : Color) (m : Move) : Prop where
  ok : MoveOK m
  promo : m.isPromotion = true → m.promotion ∈ Position.promoPieces
  cap : m.isCapture = true → m.capture = p.captureAt m.to c ∧ (p.pieces c.opp .none).testBit m.to = true
  fromBit : (p.pieces c m.piece).testBit m.from = true
  pne : m.piece ≠ .none

/-- the board-size facts `pseudo_ok` needs -/
structure Sized (p : Position) : Prop where
  pl : ∀ c k, p.pieces c k < 2 ^ 64
  epl : p.enpassant < 64
  epr : p.enpassant ≠ 0 → sqRank p.enpassant = 2 ∨ sqRank p.enpassant = 5

theorem MP.sized {p q : Position} (h : MP p q) : Sized p :=
  ⟨fun c k => (h.pc c k).lx, h.epl, fun hne => (h.ep1 hne).2.2⟩

theorem ok_emit {p : Position} {c : Color} {t : MoveType} {piece : Piece} {fr ab : Nat} {m : Move} (hab : ab < 2 ^ 64)
    (hm : m ∈ p.emitMove c t piece fr ab) :
    ab.testBit m.to = true ∧ m.to < 64 ∧ m.ty = t ∧ m.piece = piece ∧ m.from = fr ∧ m.promotion = .none ∧
      m.capture = (if t = .capture then p.captureAt m.to c else .none) := by
  obtain ⟨a, b, c', d, e, f⟩ := (mem_emitMove hab m).mp hm
  exact ⟨a, lt_of_testBit hab a, b, c', d, e, f⟩

theorem genOK_simple {p : Position} {c : Color} {m : Move} {t : MoveType} (hty : m.ty = t) (hnj : t ≠ .jump)
    (hne : t ≠ .enPassant) (hnp : t ≠ .promotion) (hncp : t ≠ .capturePromotion) (hf : m.from < 64) (ht : m.to < 64)
    (hbit : (p.pieces c m.piece).testBit m.from = true) (hpne : m.piece ≠ .none)
    (hcap : t = .capture → m.capture = p.captureAt m.to c ∧ (p.pieces c.opp .none).testBit m.to = true) :
    GenOK p c m := by
  refine ⟨⟨hf, ht, fun e => absurd (hty.symm.trans e) hnj, fun e => absurd (hty.symm.trans e) hne⟩, ?_, ?_, hbit, hpne⟩
  · intro hp
    unfold Move.isPromotion at hp
    rw [hty] at hp
    simp [hnp, hncp] at hp
  · intro hc
    unfold Move.isCapture at hc
    rw [hty] at hc
    simp only [Bool.or_eq_true, decide_eq_true_eq, hncp, false_or] at hc
    exact hcap hc

theorem genSteps_ok {p : Position} (hs : Sized p) {c : Color} {piece : Piece} {fr : Nat} (hf : fr < 64)
    (hbit : (p.pieces c piece).testBit fr = true) (hpne : piece ≠ .none) {m : Move} (hm : m ∈ genSteps p c piece fr) :
    GenOK p c m := by
  unfold genSteps at hm
  rw [List.mem_append] at hm
  rcases hm with hm | hm
  · obtain ⟨_, b, c', d, e, _, _⟩ := ok_emit (and_lt_right _ (not64_lt _)) hm
    exact genOK_simple c' (by decide) (by decide) (by decide) (by decide) (e ▸ hf) b (by rw [d, e]; exact hbit)
      (d ▸ hpne) (fun x => by cases x)
  · obtain ⟨a, b, c', d, e, _, g⟩ := ok_emit (and_lt_right _ (hs.pl _ _)) hm
    rw [Nat.testBit_and] at a
    simp only [Bool.and_eq_true] at a
    exact genOK_simple c' (by decide) (by decide) (by decide) (by decide) (e ▸ hf) b (by rw [d, e]; exact hbit)
      (d ▸ hpne) (fun _ => ⟨by rw [g]; rfl, a.2⟩)

theorem genOfficers_ok {p : Position} (hs : Sized p) {c : Color} {m : Move} (hm : m ∈ genOfficers p c) : GenOK p c m := by
  unfold genOfficers at hm
  obtain ⟨piece, hp, hm⟩ := List.mem_flatMap.mp hm
  obtain ⟨fr, hfr, hm⟩ := List.mem_flatMap.mp hm
  have hbit := (mem_toSquares (hs.pl c piece) fr).mp hfr
  exact genSteps_ok hs (toSquares_lt (hs.pl c piece) hfr) hbit (ne_none_of_mem_promoPieces hp) hm

theorem genPawn_ok {p : Position} (hs : Sized p) {c : Color} {fr : Nat} (hf : fr < 64)
    (hbit : (p.pieces c .pawn).testBit fr = true) {m : Move} (hm : m ∈ genPawn p c fr) : GenOK p c m := by
  unfold genPawn at hm
  simp only [List.mem_append] at hm
  have hcb : pawnCaptureboard c (bitMask fr) &&& not64 (p.pieces c .none) < 2 ^ 64 := and_lt_right _ (not64_lt _)
  have hpush : pawnMoveboard p.rotated.rot c (bitMask fr) < 2 ^ 64 := by
    cases c <;> exact and_lt_right _ (not64_lt _)
  have hjump : pawnMoveboard p.rotated.rot c (pawnMoveboard p.rotated.rot c (bitMask fr)) &&& pawnJumpRank c < 2 ^ 64 := by
    apply and_lt_left
    cases c <;> exact and_lt_right _ (not64_lt _)
  rcases hm with ((((hm | hm) | hm) | hm) | hm) | hm
  · -- capture
    obtain ⟨a, b, c', d, e, _, g⟩ := ok_emit (andNot_lt _ (and_lt_left _ hcb)) hm
    rw [andNot_testBit, Nat.testBit_and] at a
    simp only [Bool.and_eq_true] at a
    exact genOK_simple c' (by decide) (by decide) (by decide) (by decide) (e ▸ hf) b (by rw [d, e]; exact hbit)
      (by rw [d]; decide) (fun _ => ⟨by rw [g]; rfl, a.1.2⟩)
  · -- push
    obtain ⟨_, b, c', d, e, _, _⟩ := ok_emit (andNot_lt _ hpush) hm
    exact genOK_simple c' (by decide) (by decide) (by decide) (by decide) (e ▸ hf) b (by rw [d, e]; exact hbit)
      (by rw [d]; decide) (fun x => by cases x)
  · -- jump
    obtain ⟨a, b, c', d, e, _, _⟩ := ok_emit hjump hm
    rw [Nat.testBit_and] at a
    simp only [Bool.and_eq_true] at a
    have hr : sqRank m.to = 3 ∨ sqRank m.to = 4 := by
      have a2 := a.2
      rw [sqRank_eq]
      cases c
      · left
        have : (bitRank 3).testBit m.to = true := a2
        rw [bitRank_testBit (by decide)] at this
        simp only [decide_eq_true_eq] at this
        omega
      · right
        have : (bitRank 4).testBit m.to = true := a2
        rw [bitRank_testBit (by decide)] at this
        simp only [decide_eq_true_eq] at this
        omega
    refine ⟨⟨e ▸ hf, b, fun _ => hr, fun x => absurd (c'.symm.trans x) (by decide)⟩, ?_, ?_, by rw [d, e]; exact hbit, by rw [d]; decide⟩
    · intro hp; unfold Move.isPromotion at hp; rw [c'] at hp; simp at hp
    · intro hc; unfold Move.isCapture at hc; rw [c'] at hc; simp at hc
  · -- capture promotion
    obtain ⟨a, c', d, e, f, g⟩ := (mem_emitPromo (and_lt_left _ (and_lt_left _ hcb)) m).mp hm
    have b := lt_of_testBit (and_lt_left _ (and_lt_left _ hcb)) a
    rw [Nat.testBit_and, Nat.testBit_and] at a
    simp only [Bool.and_eq_true] at a
    refine ⟨⟨e ▸ hf, b, fun x => absurd (c'.symm.trans x) (by decide), fun x => absurd (c'.symm.trans x) (by decide)⟩, fun _ => f,
      fun _ => ⟨by rw [g]; rfl, a.1.2⟩, by rw [d, e]; exact hbit, by rw [d]; decide⟩
  · -- promotion
    obtain ⟨a, c', d, e, f, _⟩ := (mem_emitPromo (and_lt_left _ hpush) m).mp hm
    have b := lt_of_testBit (and_lt_left _ hpush) a
    refine ⟨⟨e ▸ hf, b, fun x => absurd (c'.symm.trans x) (by decide), fun x => absurd (c'.symm.trans x) (by decide)⟩, fun _ => f,
      ?_, by rw [d, e]; exact hbit, by rw [d]; decide⟩
    intro hc; unfold Move.isCapture at hc; rw [c'] at hc; simp at hc
  · -- en passant
    split at hm
    · rename_i hep
      rw [bne_iff_ne] at hep
      obtain ⟨a, b, c', d, e, _, _⟩ := ok_emit (and_lt_left _ hcb) hm
      rw [Nat.testBit_and, bitMask_testBit hs.epl] at a
      simp only [Bool.and_eq_true, decide_eq_true_eq] at a
      refine ⟨⟨e ▸ hf, b, fun x => absurd (c'.symm.trans x) (by decide), fun _ => by rw [a.2]; exact hs.epr hep⟩, ?_, ?_,
        by rw [d, e]; exact hbit, by rw [d]; decide⟩
      · intro hp; unfold Move.isPromotion at hp; rw [c'] at hp; simp at hp
      · intro hc; unfold Move.isCapture at hc; rw [c'] at hc; simp at hc
    · cases hm

theorem genPawns_ok {p : Position} (hs : Sized p) {c : Color} {m : Move} (hm : m ∈ genPawns p c) : GenOK p c m := by
  unfold genPawns at hm
  obtain ⟨fr, hfr, hm⟩ := List.mem_flatMap.mp hm
  exact genPawn_ok hs (toSquares_lt (hs.pl c .pawn) hfr) ((mem_toSquares (hs.pl c .pawn) fr).mp hfr) hm

theorem genCastle_ok {p : Position} {c : Color} {fr : Nat} (hf : fr < 64)
    (hbit : (p.pieces c .king).testBit fr = true) {right : Nat} {cmask : List Nat} {rookSq to : Nat} {t : MoveType}
    (ht : t = .kingSideCastle ∨ t = .queenSideCastle) {m : Move}
    (hm : m ∈ genCastle p c fr right cmask rookSq t to) : GenOK p c m := by
  unfold genCastle at hm
  split at hm
  · obtain ⟨_, b, c', d, e, _, _⟩ := ok_emit (bitMask_lt_M64 _) hm
    rcases ht with rfl | rfl
    · exact genOK_simple c' (by decide) (by decide) (by decide) (by decide) (e ▸ hf) b (by rw [d, e]; exact hbit)
        (by rw [d]; decide) (fun x => by cases x)
    · exact genOK_simple c' (by decide) (by decide) (by decide) (by decide) (e ▸ hf) b (by rw [d, e]; exact hbit)
        (by rw [d]; decide) (fun x => by cases x)
  · cases hm

theorem genKing_ok {p : Position} (hs : Sized p) {c : Color} {m : Move} (hm : m ∈ genKing p c) : GenOK p c m := by
  unfold genKing at hm
  split at hm
  · cases hm
  · rename_i hk
    obtain ⟨l, hbit, _⟩ := lastPopSquare_spec hk (hs.pl c .king)
    rw [List.mem_append] at hm
    rcases hm with hm | hm
    · exact genSteps_ok hs l hbit (by decide) hm
    · unfold genCastles at hm
      cases c <;> simp only [List.mem_append] at hm <;> rcases hm with hm | hm
      · exact genCastle_ok l hbit (Or.inl rfl) hm
      · exact genCastle_ok l hbit (Or.inr rfl) hm
      · exact genCastle_ok l hbit (Or.inl rfl) hm
      · exact genCastle_ok l hbit (Or.inr rfl) hm

theorem pseudo_ok {p : Position} (hs : Sized p) {c : Color} {m : Move} (hm : m ∈ p.pseudoLegalMoves c) : GenOK p c m := by
  rw [pseudoLegalMoves_eq, List.mem_append, List.mem_append] at hm
  rcases hm with (hm | hm) | hm
  · exact genOfficers_ok hs hm
  · exact genPawns_ok hs hm
  · exact genKing_ok hs hm

end Morlock.Proofs.TuroMirror
