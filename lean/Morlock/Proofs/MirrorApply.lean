import Morlock.Proofs.MirrorPseudo
/-!
# C20: making a move commutes with the colour-swapping mirror
-/
namespace Morlock.Spec
open Morlock.Proofs.Attack Morlock.Proofs.Gen

theorem mirrorArr_setCell {b : Array (Option (Color × Kind))} (hb : b.size = 64) (sq : Nat)
    (v : Option (Color × Kind)) :
    mirrorArr (setCell b sq v) = setCell (mirrorArr b) (mirrorSq sq) (mirrorCell v) := by
  apply arr_ext64 (by simp) (by simp)
  intro i hi
  rw [getD_mirrorArr _ hi, getD_setCell, getD_setCell, getD_mirrorArr _ hi, mirrorArr_size, hb]
  have hm := mirrorSq_lt hi
  by_cases e : sq = mirrorSq i
  · have e' : mirrorSq sq = i := by rw [e, mirrorSq_mirrorSq]
    rw [if_pos ⟨e, hm⟩, if_pos ⟨e', hi⟩]
  · have e' : ¬ mirrorSq sq = i := fun c => e (by rw [← c, mirrorSq_mirrorSq])
    rw [if_neg (fun c => e c.1), if_neg (fun c => e' c.1)]

theorem isCastle_mir {p q : Pos} (h : Mir p q) {m : SMove} (hf : m.from < 64) (ht : m.to < 64) :
    isCastle q (mirrorMove m) = isCastle p m := by
  simp only [isCastle, mirrorMove_from, mirrorMove_to, h.cell _ hf, fileOf_mirrorSq hf, fileOf_mirrorSq ht,
    rankOf_mirrorSq hf, rankOf_mirrorSq ht, sub7_inj (rankOf_lt hf) (rankOf_lt ht)]
  cases p.at m.from with
  | none => rfl
  | some v => obtain ⟨c, k⟩ := v; cases k <;> rfl

theorem isEnPassant_mir {p q : Pos} (h : Mir p q) {m : SMove} (hf : m.from < 64) (ht : m.to < 64) :
    isEnPassant q (mirrorMove m) = isEnPassant p m := by
  simp only [isEnPassant, mirrorMove_from, mirrorMove_to, h.cell _ hf, fileOf_mirrorSq hf, fileOf_mirrorSq ht,
    h.occ _ ht]
  cases p.at m.from with
  | none => rfl
  | some v => obtain ⟨c, k⟩ := v; cases k <;> rfl

theorem isDoubleStep_mir {p q : Pos} (h : Mir p q) {m : SMove} (hf : m.from < 64) (ht : m.to < 64) :
    isDoubleStep q (mirrorMove m) = isDoubleStep p m := by
  simp only [isDoubleStep, mirrorMove_from, mirrorMove_to, h.cell _ hf, rankOf_mirrorSq hf, rankOf_mirrorSq ht,
    sub7_add2 (rankOf_lt hf) (rankOf_lt ht), sub7_add2 (rankOf_lt ht) (rankOf_lt hf)]
  cases p.at m.from with
  | none => rfl
  | some v =>
    obtain ⟨c, k⟩ := v
    cases k with
    | pawn => exact Bool.or_comm _ _
    | _ => rfl

theorem isDoubleStep_ranks {p : Pos} {m : SMove} (h : isDoubleStep p m = true) :
    rankOf m.from + 2 = rankOf m.to ∨ rankOf m.to + 2 = rankOf m.from := by
  unfold isDoubleStep at h
  split at h
  · simpa using h
  · cases h

theorem touches_mirror (m : SMove) (sq : Nat) : touches (mirrorMove m) (mirrorSq sq) = touches m sq := by
  have e : ∀ x, decide (mirrorSq x = mirrorSq sq) = decide (x = sq) := fun x =>
    decide_eq_decide.mpr ⟨mirrorSq_inj, congrArg mirrorSq⟩
  show (decide (mirrorSq m.from = mirrorSq sq) || decide (mirrorSq m.to = mirrorSq sq)) = _
  rw [e, e]
  rfl

/-- `mirrorArr` goes through every `if` and `setCell` of the intermediate board. -/
theorem baseBoard_mirror {p : Pos} (hsz : p.board.size = 64) {m : SMove} (hf : m.from < 64) (ht : m.to < 64)
    (c : Color) :
    baseBoard (mirror p) (mirrorMove m) c.opp = mirrorArr (baseBoard p m c) := by
  have hM := Mir.of_mirror p
  have hr : rankOf m.from < 8 := rankOf_lt hf
  have sq : ∀ f, f < 8 → mkSq f (7 - rankOf m.from) = mirrorSq (mkSq f (rankOf m.from)) :=
    fun _ hf' => (mirrorSq_mkSq hf' hr).symm
  simp only [baseBoard, isEnPassant_mir hM hf ht, isCastle_mir hM hf ht]
  simp only [mirrorMove_from, mirrorMove_to, fileOf_mirrorSq ht, rankOf_mirrorSq hf, mirror_board,
    sq _ (fileOf_lt m.to), sq fH (by decide), sq fF (by decide), sq fA (by decide), sq fD (by decide),
    apply_ite mirrorArr, mirrorArr_setCell, size_setCell, hsz, apply_ite Array.size, ite_self,
    mirrorCell_none, mirrorCell_some]

theorem apply_mirror {p : Pos} (hsz : p.board.size = 64) {m : SMove} (hf : m.from < 64) (ht : m.to < 64) :
    apply (mirror p) (mirrorMove m) = mirror (apply p m) := by
  have hM := Mir.of_mirror p
  cases hat : p.at m.from with
  | none =>
    rw [apply_none hat, apply_none (m := mirrorMove m) (hM.at_none hf hat)]
  | some v =>
    obtain ⟨c, k⟩ := v
    have hat' : (mirror p).at (mirrorMove m).from = some (c.opp, k) := hM.at_some hf hat
    -- a right of `d.opp` after the mirrored move is the right of `d` after the move
    have right : ∀ d ks, (apply (mirror p) (mirrorMove m)).right d.opp ks = (apply p m).right d ks := by
      intro d ks
      rw [apply_right hat', apply_right hat, mirror_right, ← mirrorSq_home fE,
        ← mirrorSq_home (if ks then fH else fA) _ (by cases ks <;> decide), touches_mirror, touches_mirror]
    refine Pos.ext' ?board ?turn (right .black true) (right .black false) (right .white true)
      (right .white false) ?ep
    case ep =>
      rw [apply_ep hat', mirror_ep, apply_ep hat, isDoubleStep_mir hM hf ht]
      by_cases hd : isDoubleStep p m = true
      · -- the square passed over lies midway between the ranks, also after reversing them
        have mid : (rankOf m.from + rankOf m.to) / 2 < 8 ∧
            (7 - rankOf m.from + (7 - rankOf m.to)) / 2 = 7 - (rankOf m.from + rankOf m.to) / 2 := by
          have := isDoubleStep_ranks hd
          have := rankOf_lt hf
          have := rankOf_lt ht
          omega
        rw [if_pos hd, if_pos hd, Option.map_some, mirrorSq_mkSq (fileOf_lt _) mid.1, ← mid.2,
          ← rankOf_mirrorSq hf, ← rankOf_mirrorSq ht, ← fileOf_mirrorSq hf]
        rfl
      · rw [if_neg hd, if_neg hd, Option.map_none]
    case board =>
      rw [apply_board_eq hat', baseBoard_mirror hsz hf ht, mirror_board, apply_board_eq hat,
        mirrorArr_setCell (by rw [baseBoard_size]; exact hsz)]
      rfl
    case turn => rw [apply_turn hat', mirror_turn, apply_turn hat]

end Morlock.Spec
