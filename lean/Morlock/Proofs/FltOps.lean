import Morlock.Proofs.FltOrder
import Morlock.Proofs.FltDyadic
/-! # The arithmetic operations: well-formed results, magnitude bounds, totality -/
namespace Morlock.Model.Flt

namespace Q

/-- `|x| ≤ B` for a natural bound `B` -/
def AbsLe (x : Q) (B : Nat) : Prop := x.num.natAbs ≤ B * x.den

theorem AbsLe.mono {x : Q} {B C : Nat} (h : AbsLe x B) (hBC : B ≤ C) : AbsLe x C :=
  Nat.le_trans h (Nat.mul_le_mul_right _ hBC)

theorem AbsLe.congr {x y : Q} {B : Nat} (hx : 0 < x.den) (hy : 0 < y.den) (h : Eqv y x) (hb : AbsLe x B) : AbsLe y B :=
  (cmp_scale hx hy (Q.abs_of_eqv hx hy h).2.2 (Nat.mul_right_comm ..)).2.mpr hb

theorem AbsLe.norm {x : Q} {B : Nat} (hx : 0 < x.den) (hb : AbsLe x B) : AbsLe (Q.norm x) B :=
  AbsLe.congr hx (norm_den_pos hx) (norm_eqv x) hb

theorem AbsLe.neg {x : Q} {B : Nat} (hb : AbsLe x B) : AbsLe x.neg B := by
  unfold AbsLe Q.neg at *; simpa using hb

theorem absLe_ofInt (i : Int) : AbsLe (Q.ofInt i) i.natAbs := by
  unfold AbsLe Q.ofInt; simp

theorem add_canon {x y : Q} (hx : 0 < x.den) (hy : 0 < y.den) : (x.add y).Canon :=
  norm_canon (Nat.mul_pos hx hy)
theorem add_eqv (x y : Q) : Eqv (x.add y) ⟨x.num * y.den + y.num * x.den, x.den * y.den⟩ := norm_eqv _
theorem neg_den (x : Q) : x.neg.den = x.den := rfl
theorem sub_canon {x y : Q} (hx : 0 < x.den) (hy : 0 < y.den) : (x.sub y).Canon := add_canon hx hy
theorem sub_eqv (x y : Q) : Eqv (x.sub y) ⟨x.num * y.den + -y.num * x.den, x.den * y.den⟩ := norm_eqv _
theorem mul_canon {x y : Q} (hx : 0 < x.den) (hy : 0 < y.den) : (x.mul y).Canon :=
  norm_canon (Nat.mul_pos hx hy)
theorem mul_eqv (x y : Q) : Eqv (x.mul y) ⟨x.num * y.num, x.den * y.den⟩ := norm_eqv _

/-- the unnormalised quotient -/
def divRaw (x y : Q) : Q :=
  if y.num > 0 then ⟨x.num * y.den, x.den * y.num.toNat⟩ else ⟨-(x.num * y.den), x.den * (-y.num).toNat⟩

theorem div_eq (x y : Q) : x.div y = Q.norm (divRaw x y) := by
  unfold Q.div divRaw; split <;> rfl

theorem divRaw_den_pos {x y : Q} (hx : 0 < x.den) (hy0 : y.num ≠ 0) : 0 < (divRaw x y).den := by
  unfold divRaw
  split <;> exact Nat.mul_pos hx (by omega)

theorem divRaw_abs (x y : Q) :
    (divRaw x y).num.natAbs = x.num.natAbs * y.den ∧ (divRaw x y).den = x.den * y.num.natAbs := by
  unfold divRaw
  split
  · refine ⟨by simp [Int.natAbs_mul], ?_⟩
    simp only []; congr 1; omega
  · refine ⟨by simp [Int.natAbs_mul], ?_⟩
    simp only []; congr 1; omega

theorem div_canon {x y : Q} (hx : 0 < x.den) (hy0 : y.num ≠ 0) : (x.div y).Canon := by
  rw [div_eq]; exact norm_canon (divRaw_den_pos hx hy0)

theorem AbsLe.add {x y : Q} {A B : Nat} (hx : 0 < x.den) (hy : 0 < y.den) (ha : AbsLe x A) (hb : AbsLe y B) :
    AbsLe (x.add y) (A + B) := by
  apply AbsLe.norm (Nat.mul_pos hx hy)
  unfold AbsLe at *
  simp only []
  calc (x.num * y.den + y.num * x.den).natAbs ≤ (x.num * y.den).natAbs + (y.num * x.den).natAbs := Int.natAbs_add_le _ _
    _ = x.num.natAbs * y.den + y.num.natAbs * x.den := by simp [Int.natAbs_mul]
    _ ≤ A * x.den * y.den + B * y.den * x.den :=
      Nat.add_le_add (Nat.mul_le_mul_right _ ha) (Nat.mul_le_mul_right _ hb)
    _ = (A + B) * (x.den * y.den) := by grind

theorem AbsLe.sub {x y : Q} {A B : Nat} (hx : 0 < x.den) (hy : 0 < y.den) (ha : AbsLe x A) (hb : AbsLe y B) :
    AbsLe (x.sub y) (A + B) :=
  AbsLe.add (y := y.neg) hx hy ha hb.neg

theorem AbsLe.mul {x y : Q} {A B : Nat} (hx : 0 < x.den) (hy : 0 < y.den) (ha : AbsLe x A) (hb : AbsLe y B) :
    AbsLe (x.mul y) (A * B) := by
  apply AbsLe.norm (Nat.mul_pos hx hy)
  unfold AbsLe at *
  simp only [Int.natAbs_mul]
  calc x.num.natAbs * y.num.natAbs ≤ A * x.den * (B * y.den) := Nat.mul_le_mul ha hb
    _ = A * B * (x.den * y.den) := by ac_rfl

end Q

theorem rnd_isSome_of_absLe (f : Fmt) (wf : f.WF) (hmax : 0 ≤ f.emax) {x : Q} {B : Nat} (hd : 0 < x.den)
    (h : x.AbsLe B) (hB : B ≤ 2 ^ f.emax.toNat) : (rnd f x).isSome :=
  rnd_isSome_of_le_nat f wf hmax x hd (Nat.le_trans h (Nat.mul_le_mul_right _ hB))

theorem Q.absLe_iff_le (x : Q) (B : Nat) : x.AbsLe B ↔ Q.Le (Q.ofInt B).neg x ∧ Q.Le x (Q.ofInt B) := by
  simp only [Q.AbsLe, Q.Le, Q.neg, Q.ofInt, Int.neg_mul, Int.natCast_one, Int.mul_one]
  omega

theorem rnd_absLe_of_rep (f : Fmt) (wf : f.WF) {x x' : Q} {B : Nat} (hrep : Rep f (Q.ofInt B))
    (hd : 0 < x.den) (hb : x.AbsLe B) (h : rnd f x = some x') : x'.AbsLe B := by
  obtain ⟨hlo, hhi⟩ := (Q.absLe_iff_le x B).mp hb
  obtain ⟨y, hy, h1, h2⟩ := rnd_abs_le f wf hd (Nat.one_pos) hrep hlo hhi
  obtain rfl : x' = y := by simpa [h] using hy
  exact (Q.absLe_iff_le x' B).mpr ⟨h1, h2⟩

theorem rnd_absLe (f : Fmt) (wf : f.WF) (h0 : f.emin ≤ 0) (hmax : (f.p : Int) ≤ f.emax) {x x' : Q} {B : Nat}
    (hd : 0 < x.den) (hb : x.AbsLe B) (hB : B ≤ 2 ^ f.p) (h : rnd f x = some x') : x'.AbsLe B :=
  rnd_absLe_of_rep f wf (rep_dyadic f wf (B : Int) 0 (by simpa using hB) (by simpa using h0) hmax) hd hb h

theorem add_isSome (f : Fmt) (wf : f.WF) (hmax : 0 ≤ f.emax) {x y : Q} {A B : Nat} (hx : 0 < x.den) (hy : 0 < y.den)
    (ha : x.AbsLe A) (hb : y.AbsLe B) (hAB : A + B ≤ 2 ^ f.emax.toNat) : (add f x y).isSome :=
  rnd_isSome_of_absLe f wf hmax (Q.add_canon hx hy).1 (Q.AbsLe.add hx hy ha hb) hAB

theorem sub_isSome (f : Fmt) (wf : f.WF) (hmax : 0 ≤ f.emax) {x y : Q} {A B : Nat} (hx : 0 < x.den) (hy : 0 < y.den)
    (ha : x.AbsLe A) (hb : y.AbsLe B) (hAB : A + B ≤ 2 ^ f.emax.toNat) : (sub f x y).isSome :=
  rnd_isSome_of_absLe f wf hmax (Q.sub_canon hx hy).1 (Q.AbsLe.sub hx hy ha hb) hAB

theorem mul_isSome (f : Fmt) (wf : f.WF) (hmax : 0 ≤ f.emax) {x y : Q} {A B : Nat} (hx : 0 < x.den) (hy : 0 < y.den)
    (ha : x.AbsLe A) (hb : y.AbsLe B) (hAB : A * B ≤ 2 ^ f.emax.toNat) : (mul f x y).isSome :=
  rnd_isSome_of_absLe f wf hmax (Q.mul_canon hx hy).1 (Q.AbsLe.mul hx hy ha hb) hAB

theorem div_isSome (f : Fmt) (wf : f.WF) {x y : Q} (hx : 0 < x.den) (hy0 : y.num ≠ 0)
    (h : x.num.natAbs * y.den * pd f.emax ≤ x.den * y.num.natAbs * pn f.emax) : (div f x y).isSome := by
  unfold div
  have : (y.num == 0) = false := by simpa using hy0
  rw [this]
  simp only [Bool.false_eq_true, if_false]
  have hdp := Q.divRaw_den_pos hx hy0
  rw [Q.div_eq, rnd_congr f wf (Q.norm_den_pos hdp) hdp (Q.norm_eqv _)]
  apply rnd_isSome_of_le f wf _ hdp
  obtain ⟨e1, e2⟩ := Q.divRaw_abs x y
  rw [e1, e2]; exact h

end Morlock.Model.Flt
