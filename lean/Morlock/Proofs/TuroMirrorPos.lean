import Morlock.Proofs.TuroMirrorBits
import Morlock.Proofs.GenLegal
/-!
# The colour mirror on `Position`s, bit for bit: `xor`, `square`, the attack queries, `Position.Move`

`MP p q`: every bitboard of `q` is the mirror image of the bitboard of the other colour of `p`, the rotated boards satisfy
their invariant, castling rights are exchanged, the en-passant target is mirrored. Nothing says that `p` is the image of
a mailbox board. Under `MP` (plus, where needed, `Tri`: occupancy = white xor black, and at most one king bit):
`square`, `captureAt`, `isAttacked`, `isChecked` commute with the mirror and `Position.Move` maps related positions to
related positions.
-/
namespace Morlock.Proofs.TuroMirror
open Morlock Morlock.Model Morlock.Proofs.Gen Morlock.Proofs.Attack Morlock.Proofs.Mirror

local notation "ms" => Spec.mirrorSq

/-- the mirror image of a move -/
def mm (m : Move) : Move := { m with «from» := ms m.from, to := ms m.to }

@[simp] theorem mm_ty (m : Move) : (mm m).ty = m.ty := rfl
@[simp] theorem mm_from (m : Move) : (mm m).from = ms m.from := rfl
@[simp] theorem mm_to (m : Move) : (mm m).to = ms m.to := rfl
@[simp] theorem mm_piece (m : Move) : (mm m).piece = m.piece := rfl
@[simp] theorem mm_capture (m : Move) : (mm m).capture = m.capture := rfl
@[simp] theorem mm_promotion (m : Move) : (mm m).promotion = m.promotion := rfl
@[simp] theorem mm_isCapture (m : Move) : (mm m).isCapture = m.isCapture := rfl
@[simp] theorem mm_isPromotion (m : Move) : (mm m).isPromotion = m.isPromotion := rfl
@[simp] theorem mm_isCastle (m : Move) : (mm m).isCastle = m.isCastle := rfl

theorem mm_inj {a b : Move} (h : mm a = mm b) : a = b := by
  cases a; cases b
  simp only [mm, Move.mk.injEq] at h ⊢
  obtain ⟨h1, h2, h3, h4, h5, h6⟩ := h
  exact ⟨h1, Spec.mirrorSq_inj h2, Spec.mirrorSq_inj h3, h4, h5, h6⟩

/-- a cell with the colour swapped -/
def sw : Option (Color × Piece) → Option (Color × Piece)
  | some (c, k) => some (c.opp, k)
  | none => none

structure MP (p q : Position) : Prop where
  pc : ∀ c k, MB (p.pieces c k) (q.pieces c.opp k)
  rp : RotInv p.rotated.rot p.rotated
  rq : RotInv q.rotated.rot q.rotated
  occ : MB p.rotated.rot q.rotated.rot
  wk : (q.castling &&& wK != 0) = (p.castling &&& bK != 0)
  wq : (q.castling &&& wQ != 0) = (p.castling &&& bQ != 0)
  bk : (q.castling &&& bK != 0) = (p.castling &&& wK != 0)
  bq : (q.castling &&& bQ != 0) = (p.castling &&& wQ != 0)
  epl : p.enpassant < 64
  ep0 : p.enpassant = 0 → q.enpassant = 0
  ep1 : p.enpassant ≠ 0 → q.enpassant = ms p.enpassant ∧ q.enpassant ≠ 0 ∧
    (sqRank p.enpassant = 2 ∨ sqRank p.enpassant = 5)

theorem MP.pc' {p q : Position} (h : MP p q) (c : Color) (k : Piece) : MB (p.pieces c.opp k) (q.pieces c k) := by
  have := h.pc c.opp k
  rwa [Color.opp_opp] at this

theorem pieces_xor_none (p : Position) (sq : Nat) (c c' : Color) (k' : Piece) :
    (p.xor sq c .none).pieces c' k' =
      if c' = c ∧ k' = .none then p.pieces c' k' ^^^ bitMask sq ^^^ bitMask sq else p.pieces c' k' := by
  cases c <;> cases c' <;> cases k' <;>
    simp [Position.xor, Position.pieces, Position.side, Position.setSide, Side.get, Side.set]

theorem pieces_xor_king (p : Position) (sq : Nat) (c : Color) (k : Piece) (c' : Color) :
    (p.xor sq c k).pieces c' .king =
      if c' = c ∧ k = .king then p.pieces c' .king ^^^ bitMask sq else p.pieces c' .king := by
  cases c <;> cases c' <;> cases k <;>
    simp [Position.xor, Position.pieces, Position.side, Position.setSide, Side.get, Side.set]

theorem MP.xor {p q : Position} (h : MP p q) {sq : Nat} (hsq : sq < 64) (c : Color) (k : Piece) :
    MP (p.xor sq c k) (q.xor (ms sq) c.opp k) where
  pc := by
    intro c' k'
    have hb := MB.bitMask hsq
    have h0 := h.pc c' k'
    by_cases hk : k = .none
    · subst hk
      rw [pieces_xor_none, pieces_xor_none]
      by_cases hP : c' = c ∧ k' = .none
      · rw [if_pos hP, if_pos ⟨copp_inj.mpr hP.1, hP.2⟩]
        exact (h0.xor hb).xor hb
      · rw [if_neg hP, if_neg (fun hh => hP ⟨copp_inj.mp hh.1, hh.2⟩)]
        exact h0
    · rw [pieces_xor _ _ _ _ hk, pieces_xor _ _ _ _ hk]
      by_cases hP : c' = c ∧ (k' = .none ∨ k' = k)
      · rw [if_pos hP, if_pos ⟨copp_inj.mpr hP.1, hP.2⟩]
        exact h0.xor hb
      · rw [if_neg hP, if_neg (fun hh => hP ⟨copp_inj.mp hh.1, hh.2⟩)]
        exact h0
  rp := by rw [rotated_xor]; exact xor_inv hsq h.rp
  rq := by rw [rotated_xor]; exact xor_inv (Spec.mirrorSq_lt hsq) h.rq
  occ := by rw [rotated_xor, rotated_xor]; exact h.occ.xor (MB.bitMask hsq)
  wk := by rw [castling_xor, castling_xor]; exact h.wk
  wq := by rw [castling_xor, castling_xor]; exact h.wq
  bk := by rw [castling_xor, castling_xor]; exact h.bk
  bq := by rw [castling_xor, castling_xor]; exact h.bq
  epl := by rw [enpassant_xor]; exact h.epl
  ep0 := by rw [enpassant_xor, enpassant_xor]; exact h.ep0
  ep1 := by rw [enpassant_xor, enpassant_xor]; exact h.ep1

/-- occupancy = white xor black, square by square -/
def Tri (p : Position) : Prop :=
  ∀ u, u < 64 → p.rotated.rot.testBit u = ((p.pieces .white .none).testBit u ^^ (p.pieces .black .none).testBit u)

theorem Tri.xor {p : Position} (h : Tri p) (sq : Nat) (c : Color) {k : Piece} (hk : k ≠ .none) : Tri (p.xor sq c k) := by
  intro u hu
  rw [rotated_xor, pieces_xor _ _ _ _ hk, pieces_xor _ _ _ _ hk]
  show (p.rotated.rot ^^^ bitMask sq).testBit u = _
  rw [Nat.testBit_xor, h u hu]
  cases c
  · simp only [true_and, true_or, if_true, reduceCtorEq, false_and, if_false, Nat.testBit_xor]
    exact Bool.xor_right_comm _ _ _
  · simp only [true_and, true_or, if_true, reduceCtorEq, false_and, if_false, Nat.testBit_xor]
    exact Bool.xor_assoc _ _ _

theorem Tri.of_rep {p : Position} {b : Board} (h : Rep p b) : Tri p := by
  intro u hu
  rw [h.rot u hu, h.all _ _ hu, h.all _ _ hu]
  unfold colAt
  cases hb : b u with
  | none => rfl
  | some x => obtain ⟨c, k⟩ := x; cases c <;> rfl

def squareF (r w b : Bool) (fw fb : Option Piece) : Option (Color × Piece) :=
  if !r then none else
    match (if !w then none else fw.map fun k => (Color.white, k)) with
    | some x => some x
    | none => if !b then none else fb.map fun k => (Color.black, k)

theorem square_eq_F (p : Position) (sq : Nat) :
    p.square sq = squareF (isSet p.rotated.rot sq) (isSet (p.pieces .white .none) sq) (isSet (p.pieces .black .none) sq)
      (Position.piecesInOrder.find? fun k => isSet (p.pieces .white k) sq)
      (Position.piecesInOrder.find? fun k => isSet (p.pieces .black k) sq) := rfl

theorem squareF_mirror (w b : Bool) (fw fb : Option Piece) :
    squareF (w ^^ b) b w fb fw = sw (squareF (w ^^ b) w b fw fb) := by
  cases w <;> cases b <;> cases fw <;> cases fb <;> rfl

theorem square_mirror {p q : Position} (h : MP p q) (ht : Tri p) {sq : Nat} (hsq : sq < 64) :
    q.square (ms sq) = sw (p.square sq) := by
  rw [square_eq_F, square_eq_F]
  have e1 : isSet q.rotated.rot (ms sq) = isSet p.rotated.rot sq := h.occ.isSet hsq
  have e2 : isSet (q.pieces .white .none) (ms sq) = isSet (p.pieces .black .none) sq := (h.pc .black .none).isSet hsq
  have e3 : isSet (q.pieces .black .none) (ms sq) = isSet (p.pieces .white .none) sq := (h.pc .white .none).isSet hsq
  have e4 : (fun k => isSet (q.pieces .white k) (ms sq)) = (fun k => isSet (p.pieces .black k) sq) :=
    funext fun k => (h.pc .black k).isSet hsq
  have e5 : (fun k => isSet (q.pieces .black k) (ms sq)) = (fun k => isSet (p.pieces .white k) sq) :=
    funext fun k => (h.pc .white k).isSet hsq
  rw [e1, e2, e3, e4, e5]
  have e6 : isSet p.rotated.rot sq = (isSet (p.pieces .white .none) sq ^^ isSet (p.pieces .black .none) sq) := by
    rw [isSet_lt _ hsq, isSet_lt _ hsq, isSet_lt _ hsq]; exact ht sq hsq
  rw [e6]
  exact squareF_mirror _ _ _ _

theorem captureAt_mirror {p q : Position} (h : MP p q) (c : Color) {sq : Nat} (hsq : sq < 64) :
    q.captureAt (ms sq) c.opp = p.captureAt sq c := by
  unfold Position.captureAt
  have e : (fun k => isSet (q.pieces c.opp.opp k) (ms sq)) = (fun k => isSet (p.pieces c.opp k) sq) :=
    funext fun k => (h.pc c.opp k).isSet hsq
  rw [e]

/-- the test `isAttackedBy` makes for one piece kind -/
def attP (p : Position) (c : Color) (sq : Nat) (piece : Piece) : Bool :=
  if piece = .pawn then pawnCaptureboard c.opp (p.pieces c.opp .pawn) &&& bitMask sq != 0
  else (p.pieces c.opp piece != 0 && ((attackboard p.rotated sq piece).getD 0) &&& p.pieces c.opp piece != 0)

theorem isAttackedBy_eq (p : Position) (c : Color) (sq : Nat) (list : List Piece) :
    p.isAttackedBy c sq list = list.any (attP p c sq) := rfl

theorem attP_mirror {p q : Position} (h : MP p q) (c : Color) {sq : Nat} (hsq : sq < 64) (piece : Piece) :
    attP q c.opp (ms sq) piece = attP p c sq piece := by
  unfold attP
  by_cases hp : piece = .pawn
  · rw [if_pos hp, if_pos hp]
    exact (((h.pc c.opp .pawn).pawnCapture c.opp).and (MB.bitMask hsq)).bne_zero
  · rw [if_neg hp, if_neg hp]
    have h1 := h.pc c.opp piece
    rw [h1.bne_zero, ((attackboard_MB h.rp h.rq h.occ hsq piece).and h1).bne_zero]

theorem isAttacked_mirror {p q : Position} (h : MP p q) (c : Color) {sq : Nat} (hsq : sq < 64) :
    q.isAttacked c.opp (ms sq) = p.isAttacked c sq := by
  unfold Position.isAttacked
  rw [isAttackedBy_eq, isAttackedBy_eq]
  have : attP q c.opp (ms sq) = attP p c sq := funext fun piece => attP_mirror h c hsq piece
  rw [this]

theorem isChecked_mirror {p q : Position} (h : MP p q) (c : Color) (ho : One (p.pieces c .king)) :
    q.isChecked c.opp = p.isChecked c := by
  unfold Position.isChecked
  by_cases hk : p.pieces c .king = 0
  · have hq := (h.pc c .king).eq_zero_iff.mpr hk
    rw [hk, hq, show lastPopSquare 0 = 64 by decide, if_neg (by decide), if_neg (by decide)]
  · obtain ⟨e, lt⟩ := (h.pc c .king).lastPop ho hk
    rw [e]
    have l2 := Spec.mirrorSq_lt lt
    have n1 : (lastPopSquare (p.pieces c .king) != 64) = true := by rw [bne_iff_ne]; omega
    have n2 : (ms (lastPopSquare (p.pieces c .king)) != 64) = true := by rw [bne_iff_ne]; omega
    rw [if_pos n1, if_pos n2]
    exact isAttacked_mirror h c lt

/-- what the mirror needs to know about a move: squares on the board; a double step lands on the fourth or fifth rank,
an en-passant capture on the third or sixth -/
structure MoveOK (m : Move) : Prop where
  f : m.from < 64
  t : m.to < 64
  jump : m.ty = .jump → sqRank m.to = 3 ∨ sqRank m.to = 4
  ep : m.ty = .enPassant → sqRank m.to = 2 ∨ sqRank m.to = 5

def epc (to : Nat) : Nat := if sqRank to = 2 then newSquare (sqFile to) 3 else newSquare (sqFile to) 4
def ept (to : Nat) : Nat := if sqRank to = 3 then newSquare (sqFile to) 2 else newSquare (sqFile to) 5

theorem enPassantCapture_eq' (m : Move) : m.enPassantCapture = if m.ty != .enPassant then 0 else epc m.to := rfl
theorem enPassantTarget_eq' (m : Move) : m.enPassantTarget = if m.ty != .jump then 0 else ept m.to := rfl

theorem epc_mirror : ∀ to, to < 64 → (sqRank to = 2 ∨ sqRank to = 5) → epc (ms to) = ms (epc to) ∧ epc to < 64 := by
  decide +kernel

theorem ept_mirror : ∀ to, to < 64 → (sqRank to = 3 ∨ sqRank to = 4) →
    ept (ms to) = ms (ept to) ∧ ept to < 64 ∧ ept to ≠ 0 ∧ ept (ms to) ≠ 0 ∧ (sqRank (ept to) = 2 ∨ sqRank (ept to) = 5) := by
  decide +kernel

theorem ms_consts : ms E1 = E8 ∧ ms E8 = E1 ∧ ms H1 = H8 ∧ ms H8 = H1 ∧ ms A1 = A8 ∧ ms A8 = A1 ∧ ms F1 = F8 ∧ ms F8 = F1 ∧
    ms D1 = D8 ∧ ms D8 = D1 ∧ ms G1 = G8 ∧ ms G8 = G1 ∧ ms C1 = C8 ∧ ms C8 = C1 := by decide

theorem ms_eq_const {a c c' : Nat} (hc : ms c' = c) : (ms a = c) = (a = c') := by
  apply propext
  rw [ms_eq_iff, ← hc, Spec.mirrorSq_mirrorSq]

theorem xor_xor_rook (p : Position) (sq : Nat) (c : Color) : (p.xor sq c .rook).xor sq c .rook = p := by
  obtain ⟨w, b, r, cs, e⟩ := p
  obtain ⟨r0, r1, r2, r3⟩ := r
  cases c <;>
    simp [Position.xor, Position.setSide, Position.side, Side.get, Side.set, Rotated.xor, Nat.xor_assoc, Nat.xor_self]

/-- steps (4) of `Position.Move` -/
def step4 (ret : Position) (turn : Color) (m : Move) : Position :=
  match m.ty with
  | .enPassant => ret.xor m.enPassantCapture turn.opp .pawn
  | .kingSideCastle | .queenSideCastle =>
    (ret.xor m.castlingRookMove.1 turn .rook).xor m.castlingRookMove.2 turn .rook
  | _ => ret

/-- steps (1)-(4) of `Position.Move` -/
def rawCore (p : Position) (turn : Color) (pc : Piece) (m : Move) : Position :=
  step4 (((if m.isCapture then (p.xor m.from turn pc).xor m.to turn.opp m.capture else p.xor m.from turn pc)).xor m.to turn
    (movedPiece m pc)) turn m

theorem moveRaw_pieces (p : Position) (turn : Color) (pc : Piece) (m : Move) (c : Color) (k : Piece) :
    (moveRaw p turn pc m).pieces c k = (rawCore p turn pc m).pieces c k := by
  cases c <;> rfl

theorem moveRaw_rotated (p : Position) (turn : Color) (pc : Piece) (m : Move) :
    (moveRaw p turn pc m).rotated = (rawCore p turn pc m).rotated := rfl

theorem rookMove_mirror (m : Move) :
    ((mm m).castlingRookMove = (ms m.castlingRookMove.1, ms m.castlingRookMove.2) ∧
      m.castlingRookMove.1 < 64 ∧ m.castlingRookMove.2 < 64) ∨
    (m.castlingRookMove = (0, 0) ∧ (mm m).castlingRookMove = (0, 0)) := by
  obtain ⟨c1, c2, c3, c4, c5, c6, c7, c8, c9, c10, _⟩ := ms_consts
  have a1 : (ms m.from = E1) = (m.from = E8) := ms_eq_const c2
  have a8 : (ms m.from = E8) = (m.from = E1) := ms_eq_const c1
  unfold Move.castlingRookMove
  simp only [mm_ty, mm_from, a1, a8]
  have ne18 : E1 ≠ E8 := by decide
  by_cases h1 : m.from = E1
  · have h8 : ¬ m.from = E8 := by rw [h1]; exact ne18
    by_cases hk : m.ty = .kingSideCastle
    · simp [hk, h1, ne18, c3, c7]; decide
    · by_cases hq : m.ty = .queenSideCastle
      · simp [hq, h1, ne18, c5, c9]; decide
      · simp [hk, hq]
  · by_cases h8 : m.from = E8
    · by_cases hk : m.ty = .kingSideCastle
      · simp [hk, h8, ne18.symm, c4, c8]; decide
      · by_cases hq : m.ty = .queenSideCastle
        · simp [hq, h8, ne18.symm, c6, c10]; decide
        · simp [hk, hq]
    · simp [h1, h8]

theorem step4_MP {a b : Position} (h : MP a b) {m : Move} (ok : MoveOK m) (turn : Color) :
    MP (step4 a turn m) (step4 b turn.opp (mm m)) := by
  unfold step4
  simp only [mm_ty]
  cases hty : m.ty <;> simp only [] <;> try exact h
  · -- en passant
    obtain ⟨e1, e2⟩ := epc_mirror m.to ok.t (ok.ep hty)
    have ea : m.enPassantCapture = epc m.to := by rw [enPassantCapture_eq', hty]; rfl
    have eb : (mm m).enPassantCapture = ms (epc m.to) := by rw [enPassantCapture_eq', mm_ty, hty, mm_to, ← e1]; rfl
    rw [ea, eb]
    exact h.xor e2 turn.opp .pawn
  all_goals
    rcases rookMove_mirror m with ⟨e, l1, l2⟩ | ⟨e1, e2⟩
    · rw [e]
      exact (h.xor l1 turn .rook).xor l2 turn .rook
    · rw [e1, e2]
      simp only [xor_xor_rook]
      exact h

theorem rawCore_MP {p q : Position} (h : MP p q) {m : Move} (ok : MoveOK m) (turn : Color) (pc : Piece) :
    MP (rawCore p turn pc m) (rawCore q turn.opp pc (mm m)) := by
  unfold rawCore
  have s1 := h.xor ok.f turn pc
  have s2 : MP (if m.isCapture then (p.xor m.from turn pc).xor m.to turn.opp m.capture else p.xor m.from turn pc)
      (if m.isCapture then (q.xor (ms m.from) turn.opp pc).xor (ms m.to) turn.opp.opp m.capture
        else q.xor (ms m.from) turn.opp pc) := by
    by_cases hc : m.isCapture = true
    · rw [if_pos hc, if_pos hc]; exact s1.xor ok.t turn.opp m.capture
    · rw [if_neg hc, if_neg hc]; exact s1
  have s3 := s2.xor ok.t turn (movedPiece m pc)
  exact step4_MP s3 ok turn

theorem touches_mirror (m : Move) {c c' : Nat} (hc : ms c' = c) : touches (mm m) c = touches m c' := by
  unfold touches
  simp only [mm_from, mm_to, ms_eq_const hc]

theorem moveRaw_MP {p q : Position} (h : MP p q) {m : Move} (ok : MoveOK m) (turn : Color) (pc : Piece) :
    MP (moveRaw p turn pc m) (moveRaw q turn.opp pc (mm m)) := by
  have hc := rawCore_MP h ok turn pc
  obtain ⟨c1, c2, c3, c4, c5, c6, _⟩ := ms_consts
  have a1 : (ms m.from = E1) = (m.from = E8) := ms_eq_const c2
  have a8 : (ms m.from = E8) = (m.from = E1) := ms_eq_const c1
  refine ⟨fun c k => ?_, ?_, ?_, ?_, ?_, ?_, ?_, ?_, ?_, ?_, ?_⟩
  · rw [moveRaw_pieces, moveRaw_pieces]; exact hc.pc c k
  · rw [moveRaw_rotated]; exact hc.rp
  · rw [moveRaw_rotated]; exact hc.rq
  · rw [moveRaw_rotated, moveRaw_rotated]; exact hc.occ
  · rw [moveRaw_castling, moveRaw_castling, right_wK, right_bK, h.wk, touches_mirror m c4]
    simp only [mm_from, a1]
  · rw [moveRaw_castling, moveRaw_castling, right_wQ, right_bQ, h.wq, touches_mirror m c6]
    simp only [mm_from, a1]
  · rw [moveRaw_castling, moveRaw_castling, right_bK, right_wK, h.bk, touches_mirror m c3]
    simp only [mm_from, a8]
  · rw [moveRaw_castling, moveRaw_castling, right_bQ, right_wQ, h.bq, touches_mirror m c5]
    simp only [mm_from, a8]
  · rw [moveRaw_enpassant, enPassantTarget_eq']
    by_cases hj : m.ty = .jump
    · rw [hj]; exact (ept_mirror m.to ok.t (ok.jump hj)).2.1
    · have : (m.ty != MoveType.jump) = true := by rw [bne_iff_ne]; exact hj
      rw [if_pos this]; decide
  · rw [moveRaw_enpassant, moveRaw_enpassant, enPassantTarget_eq', enPassantTarget_eq', mm_ty, mm_to]
    intro h0
    by_cases hj : m.ty = .jump
    · rw [hj] at h0
      exact absurd h0 (ept_mirror m.to ok.t (ok.jump hj)).2.2.1
    · have : (m.ty != MoveType.jump) = true := by rw [bne_iff_ne]; exact hj
      rw [if_pos this]
  · rw [moveRaw_enpassant, moveRaw_enpassant, enPassantTarget_eq', enPassantTarget_eq', mm_ty, mm_to]
    intro h0
    by_cases hj : m.ty = .jump
    · obtain ⟨e1, _, e3, e4, e5⟩ := ept_mirror m.to ok.t (ok.jump hj)
      rw [hj]
      exact ⟨e1, e4, e5⟩
    · have : (m.ty != MoveType.jump) = true := by rw [bne_iff_ne]; exact hj
      rw [if_pos this] at h0
      exact absurd rfl h0

theorem any_congr_mem {α : Type} {f g : α → Bool} : ∀ {l : List α}, (∀ a ∈ l, f a = g a) → l.any f = l.any g
  | [], _ => rfl
  | a :: l, h => by
    rw [List.any_cons, List.any_cons, h a (List.mem_cons_self ..),
      any_congr_mem (fun b hb => h b (List.mem_cons_of_mem _ hb))]

theorem move_none {p : Position} {m : Move} (h : p.square m.from = none) : p.move m = none := by
  unfold Position.move
  rw [h]

theorem safeSquares_mirror (turn : Color) (t : MoveType) :
    Position.safeCastlingSquares turn.opp t = (Position.safeCastlingSquares turn t).map ms := by
  cases turn <;> cases t <;> decide

theorem safeSquares_lt (turn : Color) (t : MoveType) : ∀ sq ∈ Position.safeCastlingSquares turn t, sq < 64 := by
  cases turn <;> cases t <;> decide

/-- the legality test of `Position.Move`, as a function of the colour and piece on the origin square -/
def moveTest (p : Position) (turn : Color) (pc : Piece) (m : Move) : Bool :=
  !(m.isCastle && (Position.safeCastlingSquares turn m.ty).any (fun sq => p.isAttacked turn sq)) &&
    !(moveRaw p turn pc m).isChecked turn

theorem move_eq_test {p : Position} {m : Move} {turn : Color} {pc : Piece} (hsq : p.square m.from = some (turn, pc)) :
    p.move m = if moveTest p turn pc m then some (moveRaw p turn pc m) else none := by
  have h := move_isSome_eq hsq
  cases hm : p.move m with
  | none =>
    rw [hm] at h
    have : moveTest p turn pc m = false := by unfold moveTest; exact h.symm
    rw [this]; rfl
  | some x =>
    rw [hm] at h
    have : moveTest p turn pc m = true := by unfold moveTest; exact h.symm
    rw [this, move_eq_some hsq hm]; rfl

theorem moveTest_mirror {p q : Position} (h : MP p q) {m : Move} (ok : MoveOK m) (turn : Color) (pc : Piece)
    (hk : One ((moveRaw p turn pc m).pieces turn .king)) :
    moveTest q turn.opp pc (mm m) = moveTest p turn pc m := by
  unfold moveTest
  rw [isChecked_mirror (moveRaw_MP h ok turn pc) turn hk, mm_isCastle, mm_ty, safeSquares_mirror, List.any_map]
  have : (Position.safeCastlingSquares turn m.ty).any ((fun sq => q.isAttacked turn.opp sq) ∘ Spec.mirrorSq) =
      (Position.safeCastlingSquares turn m.ty).any (fun sq => p.isAttacked turn sq) := by
    exact any_congr_mem (fun sq hsq => isAttacked_mirror h turn (safeSquares_lt turn m.ty sq hsq))
  rw [this]

end Morlock.Proofs.TuroMirror
