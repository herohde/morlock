import Morlock.Proofs.FltRnd
/-! # Conversions to integers: `Q.roundAway` (`math.Round`), `Q.floor`, `Q.trunc` -/
namespace Morlock.Model.Flt
namespace Q

theorem roundAway_abs (x : Q) (hd : 0 < x.den) :
    2 * x.den * (x.roundAway).natAbs ≤ 2 * x.num.natAbs + x.den ∧
      2 * x.num.natAbs + x.den < 2 * x.den * (x.roundAway).natAbs + 2 * x.den := by
  have hq : (x.roundAway).natAbs = (2 * x.num.natAbs + x.den) / (2 * x.den) := by
    unfold roundAway
    simp only []
    split
    · rw [Int.natAbs_neg, Int.natAbs_natCast]
    · rw [Int.natAbs_natCast]
  rw [hq]
  have h1 := Nat.div_add_mod (2 * x.num.natAbs + x.den) (2 * x.den)
  have h2 := Nat.mod_lt (2 * x.num.natAbs + x.den) (show 0 < 2 * x.den by omega)
  generalize (2 * x.num.natAbs + x.den) / (2 * x.den) = q at *
  generalize (2 * x.num.natAbs + x.den) % (2 * x.den) = r at *
  omega

theorem roundAway_eq (x : Q) :
    x.roundAway = if x.num < 0 then -(((2 * x.num.natAbs + x.den) / (2 * x.den) : Nat) : Int)
      else (((2 * x.num.natAbs + x.den) / (2 * x.den) : Nat) : Int) := rfl

theorem roundAway_zero (x : Q) (h : x.num = 0) : x.roundAway = 0 := by
  rw [roundAway_eq, if_neg (by omega), h]
  simp only [Int.natAbs_zero, Nat.mul_zero, Nat.zero_add]
  rcases Nat.eq_zero_or_pos x.den with hd | hd
  · simp [hd]
  · rw [Nat.div_eq_of_lt (by omega)]; rfl

theorem roundAway_sign (x : Q) : (0 ≤ x.num → 0 ≤ x.roundAway) ∧ (x.num ≤ 0 → x.roundAway ≤ 0) := by
  constructor
  · intro h
    rw [roundAway_eq, if_neg (by omega)]
    exact Int.natCast_nonneg _
  · intro h
    rcases Int.lt_or_eq_of_le h with h1 | h1
    · rw [roundAway_eq, if_pos h1]
      have := Int.natCast_nonneg ((2 * x.num.natAbs + x.den) / (2 * x.den)); omega
    · rw [roundAway_zero x h1]; exact Int.le_refl _

theorem roundAway_neg (x : Q) : x.neg.roundAway = -x.roundAway := by
  rcases Int.lt_trichotomy x.num 0 with h | h | h
  · have h1 : ¬ (x.neg.num < 0) := by simp [Q.neg]; omega
    rw [roundAway_eq, roundAway_eq, if_pos h, if_neg h1]
    simp [Q.neg]
  · rw [roundAway_zero x h, roundAway_zero x.neg (by simp [Q.neg, h])]; rfl
  · have h1 : x.neg.num < 0 := by simp [Q.neg]; omega
    rw [roundAway_eq, roundAway_eq, if_neg (show ¬ x.num < 0 by omega), if_pos h1]
    simp [Q.neg]

theorem roundAway_ofInt (n : Int) : (Q.ofInt n).roundAway = n := by
  unfold roundAway Q.ofInt
  simp only []
  have : (2 * n.natAbs + 1) / (2 * 1) = n.natAbs := by omega
  rw [this]
  split <;> omega

theorem floor_ofInt (n : Int) : (Q.ofInt n).floor = n := by
  unfold floor Q.ofInt; simp

theorem trunc_ofInt (n : Int) : (Q.ofInt n).trunc = n := by
  unfold trunc Q.ofInt; simp

theorem floor_spec (x : Q) (hd : 0 < x.den) :
    x.floor * x.den ≤ x.num ∧ x.num < (x.floor + 1) * x.den := by
  unfold floor
  have hd' : (0 : Int) < x.den := by omega
  exact ⟨Int.ediv_mul_le _ (by omega), Int.lt_ediv_add_one_mul_self _ hd'⟩

/-- `roundAway_abs` read for `R = round x · den`, which has the sign of `x` -/
theorem roundAway_spec (x : Q) (hd : 0 < x.den) :
    2 * x.roundAway * x.den ≤ 2 * x.num + x.den ∧ 2 * x.num ≤ 2 * x.roundAway * x.den + x.den := by
  obtain ⟨h1, h2⟩ := roundAway_abs x hd
  obtain ⟨s1, s2⟩ := roundAway_sign x
  have hR : (x.roundAway * x.den).natAbs = x.den * x.roundAway.natAbs := by
    rw [Int.natAbs_mul, Int.natAbs_natCast, Nat.mul_comm]
  rw [Nat.mul_assoc, ← hR] at h1 h2
  have p1 : 0 ≤ x.num → 0 ≤ x.roundAway * x.den := fun h => Int.mul_nonneg (s1 h) (Int.natCast_nonneg _)
  have p2 : x.num ≤ 0 → x.roundAway * x.den ≤ 0 := fun h =>
    Int.mul_nonpos_of_nonpos_of_nonneg (s2 h) (Int.natCast_nonneg _)
  rw [Int.mul_assoc]
  generalize x.roundAway * x.den = R at *
  omega

end Q
end Morlock.Model.Flt
