import Morlock.Model.Minimax
import Morlock.Proofs.ABTTSearch
import Morlock.Proofs.DetState
/-!
# Halting, the rest (helper for `Props/C12More.lean`): `Minimax`, and the follow-up search on an untouched table

The Go code polls the context exactly ONCE per visited node (at node entry, right after `nodes++`); a node that sees
"cancelled" answers `ZeroScore, nil` at once, its ancestors keep iterating over their remaining moves (each of those
children polls once and answers at once) - so a cancelled run still *returns a score* from `search`; it is the extra
poll in `Minimax.Search` that turns it into `ErrHalted`. There is no table.

`mmNodes g ex d p` is the number of nodes an undisturbed run visits; `MMNodeOK` is what a node promises, for every
exploration `ex` that picks every move (`V'` depends on `ex` only through `pick`; no root exception for draws:
`runMinimax.search` tests the draw at the root as well).
-/
namespace Morlock.Proofs.AB
open Morlock Morlock.Model Morlock.Model.Score Morlock.Spec
open Morlock.Props.C09
variable {P : Type}

/-- What a run of `minimax` (a node, or a move loop) does to the search state, whatever the cancellation instant;
    `N` bounds the number of polls. -/
structure MMFrame (st st' : SState) (N : Nat) : Prop where
  cancelAt : st'.cancelAt = st.cancelAt
  tt : st'.tt = st.tt
  fuelOut : st'.fuelOut = st.fuelOut
  /-- one poll per node counted -/
  count : st'.polls + st.nodes = st'.nodes + st.polls
  lo : st.polls ≤ st'.polls
  hi : st'.polls ≤ st.polls + N

theorem MMFrame.refl (st : SState) : MMFrame st st 0 :=
  ⟨rfl, rfl, rfl, Nat.add_comm _ _, Nat.le_refl _, Nat.le_refl _⟩

theorem MMFrame.trans {s1 s2 s3 : SState} {N1 N2 : Nat} (h1 : MMFrame s1 s2 N1) (h2 : MMFrame s2 s3 N2) :
    MMFrame s1 s3 (N1 + N2) := by
  obtain ⟨a1, a2, a3, a4, a5, a6⟩ := h1
  obtain ⟨b1, b2, b3, b4, b5, b6⟩ := h2
  exact ⟨b1.trans a1, b2.trans a2, b3.trans a3, by omega, by omega, by omega⟩

theorem MMFrame.weaken {s1 s2 : SState} {N N' : Nat} (h : MMFrame s1 s2 N) (hN : N ≤ N') : MMFrame s1 s2 N' :=
  ⟨h.cancelAt, h.tt, h.fuelOut, h.count, h.lo, Nat.le_trans h.hi (by omega)⟩

theorem MMFrame.mono {s1 s2 : SState} {N : Nat} (h : MMFrame s1 s2 N) : Mono s1 s2 := ⟨h.cancelAt, h.lo⟩

/-- The state after `nodes++` and the poll at node entry. -/
def enter (st : SState) : SState := tick { st with nodes := st.nodes + 1 }

theorem frame_enter (st : SState) : MMFrame st (enter st) 1 := by
  refine ⟨rfl, rfl, rfl, ?_, ?_, ?_⟩ <;> simp only [enter, tick] <;> omega

theorem enter_polls (st : SState) : (enter st).polls = st.polls + 1 := rfl

theorem minimax_zero (g : Game P) (p : P) (st : SState) :
    minimax g 0 p st =
      if cancelled { st with nodes := st.nodes + 1 } then (zeroScore, [], enter st)
      else if g.isDraw p then (zeroScore, [], enter st)
      else (heuristicScore (g.eval p), [], enter st) := by
  simp only [minimax, poll_eq, enter]
  rfl

theorem minimax_succ (g : Game P) (d : Nat) (p : P) (st : SState) :
    minimax g (d + 1) p st =
      if cancelled { st with nodes := st.nodes + 1 } then (zeroScore, [], enter st)
      else if g.isDraw p then (zeroScore, [], enter st)
      else
        let r := mmLoop g (minimax g d) p (g.moves p) negInfScore [] false (enter st)
        if !r.2.2.1 then (terminal g p, [], r.2.2.2) else (r.1, r.2.1, r.2.2.2) := by
  simp only [minimax, poll_eq, enter, terminal]
  rfl

theorem mmLoop_nil {g : Game P} {rec : P → SState → Score × List Move × SState} {p : P} {s : Score}
    {pv : List Move} {hl : Bool} {st : SState} : mmLoop g rec p [] s pv hl st = (s, pv, hl, st) := rfl

theorem mmLoop_none {g : Game P} {rec : P → SState → Score × List Move × SState} {p : P} {m : Move}
    {rest : List Move} {s : Score} {pv : List Move} {hl : Bool} {st : SState} (h : g.push p m = none) :
    mmLoop g rec p (m :: rest) s pv hl st = mmLoop g rec p rest s pv hl st := by
  simp only [mmLoop, h]

theorem mmLoop_some {g : Game P} {rec : P → SState → Score × List Move × SState} {p : P} {m : Move}
    {rest : List Move} {s : Score} {pv : List Move} {hl : Bool} {st : SState} {c : P} (h : g.push p m = some c) :
    mmLoop g rec p (m :: rest) s pv hl st =
      mmLoop g rec p rest (Score.max s (lift (rec c st).1))
        (if s.less (lift (rec c st).1) then m :: (rec c st).2.1 else pv) true (rec c st).2.2 := by
  simp only [mmLoop, h, lift, scoreMax_eq]
  split <;> simp [*]

/-- `Principal` for the position-determined value `V'` (no root exception); the moves are generated moves. -/
def Principal' (g : Game P) (ex : P → Explore) (le : LeafEval P) : Nat → P → List Move → Prop
  | _, _, [] => True
  | 0, _, _ :: _ => False
  | n + 1, p, m :: rest => ∃ c, g.push p m = some c ∧ (ex p).pick m = true ∧ m ∈ g.moves p ∧
      lift (V' g ex le n c) = V' g ex le (n + 1) p ∧ Principal' g ex le n c rest

/-- On a region without a drawn position at the root ply, `V = V'`, so `Principal'` is `Principal`. -/
theorem principal_of_principal' {g : Game P} {ex : P → Explore} {le : LeafEval P} {R : Nat → P → Prop} {r : Int}
    (hcl : Closed g ex R) (hrf : RootFreeOn g R r) :
    ∀ (pv : List Move) (n : Nat) (p : P), R n p → Principal' g ex le n p pv → Principal g ex le r n p pv := by
  intro pv
  induction pv with
  | nil => intro n p _ _; cases n <;> trivial
  | cons m rest ih =>
    intro n p hp h
    cases n with
    | zero => exact h.elim
    | succ n =>
      obtain ⟨c, hpush, hpick, hmem, heq, hrest⟩ := h
      have hc : R n c := hcl n p m c hp hmem hpick hpush
      refine ⟨c, hpush, hpick, ?_, ih n c hc hrest⟩
      rw [V_eq_V'_on ex le hcl hrf n c hc, V_eq_V'_on ex le hcl hrf (n + 1) p hp]
      exact heq

theorem kids_full_none {g : Game P} {ex : P → Explore} {p : P} {m : Move} {rest : List Move}
    (h : g.push p m = none) : kids g ex p (m :: rest) = kids g ex p rest := by
  simp [kids, h]

theorem kids_full_some {g : Game P} {ex : P → Explore} (hfull : ∀ p m, (ex p).pick m = true) {p : P} {m : Move}
    {rest : List Move} {c : P} (h : g.push p m = some c) : kids g ex p (m :: rest) = c :: kids g ex p rest := by
  simp [kids, h, hfull]

/-- The contract of the recursive call: `N c` nodes below `c`, value `vc c`, PV predicate `pvc c`. -/
structure MMRecOK (N : P → Nat) (vc : P → Score) (pvc : P → List Move → Prop)
    (rec : P → SState → Score × List Move × SState) : Prop where
  frame : ∀ c st, MMFrame st (rec c st).2.2 (N c)
  live : ∀ c st, Live (rec c st).2.2 →
    (rec c st).2.2.polls = st.polls + N c ∧ (rec c st).1 = vc c ∧ pvc c (rec c st).2.1

theorem mmLoop_spec {g : Game P} {ex : P → Explore} (hfull : ∀ p m, (ex p).pick m = true) {N : P → Nat}
    {vc : P → Score} {pvc : P → List Move → Prop} {rec : P → SState → Score × List Move × SState}
    (H : MMRecOK N vc pvc rec) (p : P) :
    ∀ (l : List Move) (s : Score) (pv : List Move) (hl : Bool) (st : SState),
    ∀ res, mmLoop g rec p l s pv hl st = res →
      MMFrame st res.2.2.2 (((kids g ex p l).map N).sum) ∧
      res.2.2.1 = (hl || legalAny g p l) ∧
      (Live res.2.2.2 →
        res.2.2.2.polls = st.polls + ((kids g ex p l).map N).sum ∧
        res.1 = ((kids g ex p l).map fun c => lift (vc c)).foldl Score.max s ∧
        ((res.2.1 = pv ∧ res.1 = s) ∨
          ∃ m c rem, m ∈ l ∧ g.push p m = some c ∧ res.2.1 = m :: rem ∧ res.1 = lift (vc c) ∧ pvc c rem)) := by
  intro l
  induction l with
  | nil =>
    intro s pv hl st res hres
    rw [mmLoop_nil] at hres
    subst hres
    simp [kids, legalAny, MMFrame.refl]
  | cons m rest ih =>
    intro s pv hl st res hres
    cases hpush : g.push p m with
    | none =>
      rw [mmLoop_none hpush] at hres
      obtain ⟨h1, h2, h3⟩ := ih s pv hl st res hres
      rw [kids_full_none hpush, legalAny_cons, hpush]
      refine ⟨h1, by simpa using h2, fun hlive => ?_⟩
      obtain ⟨q1, q2, q3⟩ := h3 hlive
      refine ⟨q1, q2, ?_⟩
      rcases q3 with q3 | ⟨m', c, rem, e1, e2⟩
      · exact Or.inl q3
      · exact Or.inr ⟨m', c, rem, List.mem_cons_of_mem _ e1, e2⟩
    | some c =>
      rw [mmLoop_some hpush] at hres
      have hf := H.frame c st
      have hlv := H.live c st
      generalize rec c st = r at hres hf hlv
      obtain ⟨h1, h2, h3⟩ := ih _ _ true r.2.2 res hres
      rw [kids_full_some hfull hpush, legalAny_cons, hpush]
      simp only [List.map_cons, List.sum_cons, List.foldl_cons, Option.isSome_some, Bool.true_or, Bool.or_true]
      refine ⟨hf.trans h1, by simpa using h2, fun hlive => ?_⟩
      obtain ⟨r1, r2, r3⟩ := hlv (h1.mono.live hlive)
      obtain ⟨q1, q2, q3⟩ := h3 hlive
      rw [r2] at q2 q3
      refine ⟨by omega, q2, ?_⟩
      rcases q3 with ⟨e1, e2⟩ | ⟨m', c', rem, e1, e2⟩
      · by_cases hless : s.less (lift (vc c)) = true
        · right
          refine ⟨m, c, r.2.1, List.mem_cons_self, hpush, ?_, ?_, r3⟩
          · rw [e1, if_pos hless]
          · rw [e2, scoreMax_eq, if_pos hless]
        · left
          refine ⟨?_, ?_⟩
          · rw [e1, if_neg hless]
          · rw [e2, scoreMax_eq, if_neg hless]
      · exact Or.inr ⟨m', c', rem, List.mem_cons_of_mem _ e1, e2⟩

/-- What `minimax` promises at one node: whatever the cancellation instant, `cancelAt`, the table and the fuel flag are
    untouched and one poll is made per node counted, at least 1 and at most `mmNodes`; if no poll reported "cancelled",
    exactly `mmNodes` polls, the plain negamax value with the static leaf, and a principal PV. -/
def MMNodeOK (g : Game P) (ex : P → Explore) (d : Nat) (p : P) (st : SState) (r : Score × List Move × SState) : Prop :=
  MMFrame st r.2.2 (mmNodes g ex d p) ∧ st.polls + 1 ≤ r.2.2.polls ∧
  (Live r.2.2 →
    r.2.2.polls = st.polls + mmNodes g ex d p ∧
    r.1 = V' g ex .static d p ∧
    Principal' g ex .static d p r.2.1 ∧
    (r.2.1 = [] → ∀ d', d = d' + 1 → g.isDraw p = false → legalAny g p (g.moves p) = true → r.1 = negInfScore))

theorem principal'_nil (g : Game P) (ex : P → Explore) (le : LeafEval P) (n : Nat) (p : P) :
    Principal' g ex le n p [] := by cases n <;> trivial

/-- A node that answers at once: cancelled at entry, drawn, or a leaf. -/
theorem mmNodeOK_enter {g : Game P} {ex : P → Explore} {d : Nat} {p : P} {st : SState} {s : Score}
    (hN : g.isDraw p = true ∨ d = 0 ∨ cancelled { st with nodes := st.nodes + 1 } = true)
    (hs : cancelled { st with nodes := st.nodes + 1 } = false → s = V' g ex .static d p) :
    MMNodeOK g ex d p st (s, [], enter st) := by
  refine ⟨(frame_enter st).weaken (mmNodes_pos g ex d p), Nat.le_of_eq (enter_polls st).symm, fun hlive => ?_⟩
  have hc : cancelled { st with nodes := st.nodes + 1 } = false := (cancelled_false_iff _).2 hlive
  have hn : mmNodes g ex d p = 1 := by
    rcases hN with h | h | h
    · cases d with
      | zero => rfl
      | succ d => simp [mmNodes, h]
    · subst h; rfl
    · rw [hc] at h; cases h
  refine ⟨by rw [enter_polls, hn], hs hc, principal'_nil _ _ _ _ _, ?_⟩
  intro _ d' hd hdraw hl
  rcases hN with h | h | h
  · rw [hdraw] at h; cases h
  · omega
  · rw [hc] at h; cases h

theorem minimax_spec (g : Game P) (ex : P → Explore) (hfull : ∀ p m, (ex p).pick m = true) :
    ∀ (d : Nat) (p : P) (st : SState), MMNodeOK g ex d p st (minimax g d p st) := by
  intro d
  induction d with
  | zero =>
    intro p st
    rw [minimax_zero]
    by_cases hc : cancelled { st with nodes := st.nodes + 1 } = true
    · rw [if_pos hc]
      exact mmNodeOK_enter (Or.inr (Or.inr hc)) (fun h => by rw [hc] at h; cases h)
    · rw [if_neg hc]
      by_cases hd : g.isDraw p = true
      · rw [if_pos hd]
        exact mmNodeOK_enter (Or.inl hd) (fun _ => by simp [V', hd])
      · rw [if_neg hd]
        exact mmNodeOK_enter (Or.inr (Or.inl rfl)) (fun _ => by simp [V', hd, leafV])
  | succ d ih =>
    intro p st
    rw [minimax_succ]
    by_cases hc : cancelled { st with nodes := st.nodes + 1 } = true
    · rw [if_pos hc]
      exact mmNodeOK_enter (Or.inr (Or.inr hc)) (fun h => by rw [hc] at h; cases h)
    · rw [if_neg hc]
      by_cases hd : g.isDraw p = true
      · rw [if_pos hd]
        exact mmNodeOK_enter (Or.inl hd) (fun _ => by simp [V', hd])
      · rw [if_neg hd]
        have hd' : g.isDraw p = false := by simpa using hd
        have H : MMRecOK (mmNodes g ex d) (V' g ex .static d) (Principal' g ex .static d) (minimax g d) :=
          ⟨fun c st => (ih c st).1, fun c st hl => ⟨((ih c st).2.2 hl).1, ((ih c st).2.2 hl).2.1, ((ih c st).2.2 hl).2.2.1⟩⟩
        obtain ⟨h1, h2, h3⟩ := mmLoop_spec (g := g) hfull H p (g.moves p) negInfScore [] false (enter st) _ rfl
        generalize mmLoop g (minimax g d) p (g.moves p) negInfScore [] false (enter st) = r at h1 h2 h3
        have hN : mmNodes g ex (d + 1) p = 1 + ((kids g ex p (g.moves p)).map (mmNodes g ex d)).sum := by
          simp [mmNodes, hd']
        have hframe : MMFrame st r.2.2.2 (mmNodes g ex (d + 1) p) := by
          rw [hN]; exact (frame_enter st).trans h1
        have hlo : st.polls + 1 ≤ r.2.2.2.polls := by have := h1.lo; rw [enter_polls] at this; exact this
        rw [Bool.false_or] at h2
        dsimp only
        cases hl : r.2.2.1 with
        | true =>
          rw [hl] at h2
          simp only [Bool.not_true, Bool.false_eq_true, if_false]
          refine ⟨hframe, hlo, fun hlive => ?_⟩
          obtain ⟨q1, q2, q3⟩ := h3 hlive
          have hV : V' g ex .static (d + 1) p =
              ((kids g ex p (g.moves p)).map fun c => lift (V' g ex .static d c)).foldl Score.max negInfScore := by
            simp [V', hd', ← h2]
          refine ⟨by rw [q1, hN, enter_polls]; omega, by rw [q2, hV], ?_, ?_⟩
          · rcases q3 with ⟨e1, _⟩ | ⟨m, c, rem, e1, e2, e3, e4, e5⟩
            · rw [e1]; exact principal'_nil _ _ _ _ _
            · rw [e3]
              exact ⟨c, e2, hfull p m, e1, by rw [← e4, q2, hV], e5⟩
          · intro hnil _ _ _ _
            rcases q3 with ⟨_, e2⟩ | ⟨m, c, rem, _, _, e3, _⟩
            · exact e2
            · rw [e3] at hnil; cases hnil
        | false =>
          rw [hl] at h2
          simp only [Bool.not_false, if_true]
          refine ⟨hframe, hlo, fun hlive => ?_⟩
          obtain ⟨q1, _, _⟩ := h3 hlive
          refine ⟨by rw [q1, hN, enter_polls]; omega, by simp [V', hd', ← h2], principal'_nil _ _ _ _ _, ?_⟩
          intro _ _ _ _ h
          rw [← h2] at h; cases h

theorem minimaxSearch_eq (g : Game P) (p : P) (d : Nat) (st : SState) :
    minimaxSearch g p d st =
      if cancelled (minimax g d p { st with nodes := 0 }).2.2 then
        (none, tick (minimax g d p { st with nodes := 0 }).2.2)
      else (some ⟨(minimax g d p { st with nodes := 0 }).2.2.nodes, (minimax g d p { st with nodes := 0 }).1,
          (minimax g d p { st with nodes := 0 }).2.1⟩, tick (minimax g d p { st with nodes := 0 }).2.2) := by
  simp only [minimaxSearch, poll_eq]
  rfl

theorem minimaxSearch_spec (g : Game P) (ex : P → Explore) (hfull : ∀ p m, (ex p).pick m = true) (p : P) (d : Nat)
    (st : SState) :
    (minimaxSearch g p d st).2.cancelAt = st.cancelAt ∧ (minimaxSearch g p d st).2.tt = st.tt ∧
    (minimaxSearch g p d st).2.fuelOut = st.fuelOut ∧
    (minimaxSearch g p d st).2.polls = (minimaxSearch g p d st).2.nodes + st.polls + 1 ∧
    st.polls + 2 ≤ (minimaxSearch g p d st).2.polls ∧
    (minimaxSearch g p d st).2.polls ≤ st.polls + mmNodes g ex d p + 1 ∧
    ((minimaxSearch g p d st).1 = none ↔ ¬ Live (minimaxSearch g p d st).2) ∧
    (Live (minimaxSearch g p d st).2 →
      (minimaxSearch g p d st).2.polls = st.polls + mmNodes g ex d p + 1 ∧
      ∃ pv, (minimaxSearch g p d st).1 = some ⟨mmNodes g ex d p, V' g ex .static d p, pv⟩ ∧
        Principal' g ex .static d p pv ∧
        (∀ d', d = d' + 1 → g.isDraw p = false → legalAny g p (g.moves p) = true →
          V' g ex .static d p ≠ negInfScore → pv ≠ [])) := by
  obtain ⟨h1, h2, h3⟩ := minimax_spec g ex hfull d p { st with nodes := 0 }
  rw [minimaxSearch_eq]
  generalize minimax g d p { st with nodes := 0 } = r at h1 h2 h3
  obtain ⟨a1, a2, a3, a4, a5, a6⟩ := h1
  simp only at a1 a2 a3 a4 a5 a6 h2
  by_cases hc : cancelled r.2.2 = true
  · rw [if_pos hc]
    have hnl := not_live_of_cancelled hc
    refine ⟨a1, a2, a3, ?_, ?_, ?_, ⟨fun _ => hnl, fun _ => rfl⟩, fun hl => absurd hl hnl⟩ <;>
      simp only [tick] <;> omega
  · rw [if_neg hc]
    have hc' : cancelled r.2.2 = false := by simpa using hc
    have hlive : Live (tick r.2.2) := (cancelled_false_iff _).1 hc'
    obtain ⟨q1, q2, q3, q4⟩ := h3 ((mono_tick _).live hlive)
    simp only at q1
    refine ⟨a1, a2, a3, ?_, ?_, ?_, ⟨fun h => (by cases h), fun h => absurd hlive h⟩, fun _ => ⟨?_, r.2.1, ?_, q3, ?_⟩⟩
    · simp only [tick]; omega
    · simp only [tick]; omega
    · simp only [tick]; omega
    · simp only [tick]; omega
    · have : r.2.2.nodes = mmNodes g ex d p := by omega
      rw [this, q2]
    · intro d' hd hdraw hl hne hnil
      exact hne (by rw [← q2]; exact q4 hnil d' hd hdraw hl)

/-! ## The follow-up search when the halted search left the table as it was -/

/-- A search whose very first poll reports "cancelled" does nothing but poll. -/
theorem alphabeta_cancelled_at_once (g : Game P) (ex : P → Explore) (le : LeafEval P) (rootPly : Int) (d : Nat) (p : P)
    (a b : Score) (st : SState) (hc : cancelled st = true) :
    alphabeta g ex le rootPly d p a b st = (invalidScore, [], tick st) := by
  cases d with
  | zero => rw [alphabeta_zero_eq]; simp only [abEnter, poll_eq, hc, if_true]
  | succ d => rw [alphabeta_succ_eq]; simp only [abEnter, poll_eq, hc, if_true]

/-- `AlphaBeta.Search` on a context that is already cancelled leaves the table exactly as it was. -/
theorem alphaBetaSearch_cancelled_at_once_tt (g : Game P) (ex : P → Explore) (le : LeafEval P) (p : P) (d : Nat)
    (st : SState) (k : Nat) (hk : st.cancelAt = some k) (hle : k ≤ st.polls + 1) :
    (alphaBetaSearch g ex le p d invalidScore invalidScore st).2.tt = st.tt := by
  have hc : cancelled ({ st with nodes := 0 } : SState) = true := by
    simp only [cancelled, poll, hk, decide_eq_true_eq]; exact hle
  rw [alphaBetaSearch_state, alphabeta_cancelled_at_once g ex le _ d p _ _ _ hc]
  rfl

/-- The result of a search without cancellation depends on the incoming state through the table only. -/
theorem alphaBetaSearch_of_tt_eq (g : Game P) (ex : P → Explore) (le : LeafEval P) (p : P) (d : Nat) (a b : Score)
    (s1 s2 : SState) (h1 : s1.cancelAt = none) (h2 : s2.cancelAt = none) (htt : s1.tt = s2.tt) :
    (alphaBetaSearch g ex le p d a b s1).1 = (alphaBetaSearch g ex le p d a b s2).1 := by
  rw [Det.alphaBetaSearch_fresh g ex le p d a b s1 h1, Det.alphaBetaSearch_fresh g ex le p d a b s2 h2, htt]

end Morlock.Proofs.AB
