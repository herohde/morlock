import Morlock.Proofs.GenOfficers
import Morlock.Proofs.GenSym
import Morlock.Proofs.AttackPawns
/-!
# Stage F of C01: `IsAttacked` / `IsChecked` against the reference `attackedBy` / `inCheck`
-/
namespace Morlock.Proofs.Gen
open Morlock Morlock.Model Morlock.Proofs.Attack

variable {p : Position} {b : Board} {turn : Color} {m : Move} {castling ep fr sq : Nat}

/-- Square `sq` is attacked by a piece of colour `opp` standing somewhere on the mailbox board. -/
def Att (b : Board) (opp : Color) (sq : Nat) : Prop :=
  ∃ s k, b s = some (opp, k) ∧
    ((k = .pawn ∧ sq ∈ Spec.pawnTargets (absColor opp) s) ∨
     (k ≠ .pawn ∧ sq ∈ Spec.officerTargets (occB b) (kindOf k) s))

theorem allPiecesList_eq : Position.allPiecesList = [.king, .queen, .rook, .knight, .bishop, .pawn] := by
  decide

theorem pawnAttack_iff (h : Rep p b) (opp : Color) (hsq : sq < 64) :
    ((pawnCaptureboard opp (p.pieces opp .pawn) &&& bitMask sq) != 0) = true ↔
      ∃ s, b s = some (opp, .pawn) ∧ sq ∈ Spec.pawnTargets (absColor opp) s := by
  rw [bitMask_lt hsq, and_two_pow_ne_zero, pawnSet_testBit opp _ sq (h.piecesLt opp .pawn)]
  constructor
  · rintro ⟨s, _, hbit, hm⟩
    exact ⟨s, (h.testBit_pieces opp (by simp) s).mp hbit, hm⟩
  · rintro ⟨s, hb, hm⟩
    exact ⟨s, h.lt_of_some hb, (h.testBit_pieces opp (by simp) s).mpr hb, hm⟩

/-- The officer test of `IsAttackedBy`: look from the target square, then use symmetry. -/
theorem officerAttack_iff (h : Rep p b) (opp : Color) (hsq : sq < 64)
    {piece : Piece} (hp : piece ≠ .none) (hpw : piece ≠ .pawn) :
    (p.pieces opp piece != 0 && ((attackboard p.rotated sq piece).getD 0 &&& p.pieces opp piece) != 0) = true ↔
      ∃ s, b s = some (opp, piece) ∧ sq ∈ Spec.officerTargets (occB b) (kindOf piece) s := by
  rw [attackboard_of_rep h hsq hp hpw, Option.getD_some, Bool.and_eq_true, and_ne_zero_iff]
  simp only [testBit_toBB]
  constructor
  · rintro ⟨_, t, ht, hbit⟩
    exact ⟨t, (h.testBit_pieces opp hp t).mp hbit, officerTargets_symm hsq ht⟩
  · rintro ⟨s, hb, hm⟩
    have hs := h.lt_of_some hb
    have hbit := (h.testBit_pieces opp hp s).mpr hb
    refine ⟨?_, s, officerTargets_symm hs hm, hbit⟩
    rw [bne_iff_ne]
    intro e; rw [e] at hbit; simp at hbit

theorem isAttacked_iff_att (h : Rep p b) (c : Color) (hsq : sq < 64) :
    p.isAttacked c sq = true ↔ Att b c.opp sq := by
  unfold Position.isAttacked Position.isAttackedBy Att
  simp only [List.any_eq_true, allPiecesList_eq]
  constructor
  · rintro ⟨piece, hmem, hp⟩
    have hne : piece ≠ .none := by rintro rfl; simp at hmem
    by_cases hpw : piece = .pawn
    · subst hpw
      rw [if_pos rfl] at hp
      obtain ⟨s, hb, hm⟩ := (pawnAttack_iff h c.opp hsq).mp hp
      exact ⟨s, _, hb, Or.inl ⟨rfl, hm⟩⟩
    · rw [if_neg hpw] at hp
      obtain ⟨s, hb, hm⟩ := (officerAttack_iff h c.opp hsq hne hpw).mp hp
      exact ⟨s, _, hb, Or.inr ⟨hpw, hm⟩⟩
  · rintro ⟨s, k, hb, hk⟩
    have hne := h.ne_none_of_some hb
    refine ⟨k, by cases k <;> simp at hne ⊢, ?_⟩
    rcases hk with ⟨rfl, hm⟩ | ⟨hpw, hm⟩
    · rw [if_pos rfl]; exact (pawnAttack_iff h c.opp hsq).mpr ⟨s, hb, hm⟩
    · rw [if_neg hpw]; exact (officerAttack_iff h c.opp hsq hne hpw).mpr ⟨s, hb, hm⟩

theorem attackedBy_iff_att (h : Rep p b) (turn opp : Color) (sq : Nat) :
    Spec.attackedBy (abs p turn) (absColor opp) sq = true ↔ Att b opp sq := by
  unfold Spec.attackedBy Att
  simp only [List.any_eq_true, Spec.allSquares, List.mem_range]
  constructor
  · rintro ⟨s, hs, hm⟩
    cases hat : (abs p turn).at s with
    | none => rw [hat] at hm; cases hm
    | some x =>
      obtain ⟨c', K⟩ := x
      rw [hat] at hm
      simp only [Bool.and_eq_true, decide_eq_true_eq] at hm
      obtain ⟨hc, hm⟩ := hm
      subst hc
      have hb := (h.abs_at_iff turn s opp K).mp hat
      refine ⟨s, kindPiece K, hb, ?_⟩
      by_cases hK : K = .pawn
      · subst hK
        left
        refine ⟨rfl, ?_⟩
        simpa using hm
      · right
        rw [if_neg hK, h.abs_occ] at hm
        refine ⟨by cases K <;> simp [kindPiece] at hK ⊢, ?_⟩
        rw [kindOf_kindPiece]
        simpa using hm
  · rintro ⟨s, k, hb, hk⟩
    have hne := h.ne_none_of_some hb
    have hs := h.lt_of_some hb
    have hat : (abs p turn).at s = some (absColor opp, kindOf k) :=
      (h.abs_at_iff turn s opp (kindOf k)).mpr (by rw [kindPiece_kindOf hne]; exact hb)
    refine ⟨s, hs, ?_⟩
    rw [hat]
    simp only [decide_true, Bool.true_and]
    rcases hk with ⟨rfl, hm⟩ | ⟨hpw, hm⟩
    · simpa [kindOf] using hm
    · have : kindOf k ≠ .pawn := by cases k <;> simp [kindOf] at hne hpw ⊢
      rw [if_neg this, h.abs_occ]
      simpa using hm

/-- The reference knows no squares beyond the board: nothing attacks them. -/
theorem attackedBy_of_ge (s : Spec.Pos) (c : Spec.Color) (hsq : 64 ≤ sq) :
    Spec.attackedBy s c sq = false := by
  unfold Spec.attackedBy
  rw [List.any_eq_false]
  intro x _
  have h1 : (Spec.pawnTargets c x).contains sq = false := by
    rw [List.contains_eq_mem, decide_eq_false_iff_not]
    exact fun h => absurd (pawnTargets_lt _ _ _ h) (Nat.not_lt.mpr hsq)
  have h2 : ∀ k, (Spec.officerTargets s.occ k x).contains sq = false := by
    intro k
    rw [List.contains_eq_mem, decide_eq_false_iff_not]
    exact fun h => absurd (officerTargets_lt _ _ _ _ h) (Nat.not_lt.mpr hsq)
  split
  · rw [h1, h2]; simp
  · exact Bool.false_ne_true

theorem isAttacked_eq (h : Rep p b) (turn c : Color) (hsq : sq < 64) :
    p.isAttacked c sq = Spec.attackedBy (abs p turn) (absColor c.opp) sq := by
  rw [Bool.eq_iff_iff, isAttacked_iff_att h c hsq, attackedBy_iff_att h turn c.opp sq]

theorem kingSquare?_eq (h : Rep p b) (turn c : Color) :
    Spec.kingSquare? (abs p turn) (absColor c) =
      if p.pieces c .king = 0 then none else some (lastPopSquare (p.pieces c .king)) := by
  unfold Spec.kingSquare?
  have hpred : ∀ s, decide ((abs p turn).at s = some (absColor c, Spec.Kind.king)) =
      decide (b s = some (c, Piece.king)) := by
    intro s
    have := h.abs_at_iff turn s c .king
    simp only [kindPiece] at this
    exact decide_eq_decide.mpr this
  simp only [hpred]
  by_cases h0 : p.pieces c .king = 0
  · rw [if_pos h0, List.find?_eq_none]
    intro s _
    simpa using (king_zero_iff h c).mp h0 s
  · rw [if_neg h0]
    obtain ⟨hk, hlow⟩ := kingSquare_spec h c h0
    have h64 := h.lt_of_some hk
    rw [List.find?_eq_some_iff_append]
    refine ⟨by simpa using hk, List.range (lastPopSquare (p.pieces c .king)),
      (List.range' (lastPopSquare (p.pieces c .king) + 1) (63 - lastPopSquare (p.pieces c .king))), ?_, ?_⟩
    · unfold Spec.allSquares
      have e : 64 = lastPopSquare (p.pieces c .king) + ((63 - lastPopSquare (p.pieces c .king)) + 1) := by omega
      rw [List.range_eq_range', List.range_eq_range']
      conv => lhs; rw [e]
      rw [List.range'_append_1 |>.symm]
      congr 1
      rw [Nat.zero_add, List.range'_succ]
    · intro s hs
      simp only [List.mem_range] at hs
      simpa using hlow s hs

theorem isChecked_of_king (h : Rep p b) {c : Color} (h0 : p.pieces c .king ≠ 0) :
    p.isChecked c = p.isAttacked c (lastPopSquare (p.pieces c .king)) := by
  unfold Position.isChecked
  rw [if_pos (bne_iff_ne.mpr (Nat.ne_of_lt (lastPopSquare_spec h0 (h.piecesLt c .king)).1))]

theorem isChecked_eq {p : Position} {b : Board} (h : Rep p b) (turn c : Color) :
    p.isChecked c = Spec.inCheck (abs p turn) (absColor c) := by
  unfold Spec.inCheck
  rw [kingSquare?_eq h turn c]
  by_cases h0 : p.pieces c .king = 0
  · rw [if_pos h0]
    simp [Position.isChecked, h0, lastPopSquare]
  · rw [if_neg h0, isChecked_of_king h h0,
      isAttacked_eq h turn c (lastPopSquare_spec h0 (h.piecesLt c .king)).1, absColor_opp]

end Morlock.Proofs.Gen
