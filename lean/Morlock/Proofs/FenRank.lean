import Morlock.Proofs.FenLex
/-!
# One rank of the placement field

`enc` is the run-length encoding `Encode` performs on a rank (a list of eight cells), `cellsOf` the
cursor decoding `Decode` performs on a rank string. They are mutually inverse on ranks of at most
eight cells resp. on rank strings with maximal digit runs, and `placements` on a rank string visits
exactly `piecesOf (cellsOf _)`.
-/
namespace Morlock.Proofs.Fen
open Morlock Morlock.Model Morlock.Model.Fen

abbrev Cell := Option (Color × Piece)

/-- Loop body of `Encode` over one rank. -/
def rankStep (acc : String × Nat) (cell : Cell) : String × Nat :=
  match cell with
  | none => (acc.1, acc.2 + 1)
  | some (color, piece) =>
    ((if acc.2 > 0 then acc.1 ++ toString acc.2 else acc.1).push (printPiece color piece), 0)

def rankFlush (acc : String × Nat) : String := if acc.2 > 0 then acc.1 ++ toString acc.2 else acc.1

/-- The rank string `Encode` writes for eight cells (a-file first). -/
def rankStrOf (cells : List Cell) : String := rankFlush (cells.foldl rankStep ("", 0))

/-- The digits written for a run of `n` blanks. -/
def runChars (n : Nat) : List Char := if n > 0 then (toString n).toList else []

/-- Run-length encoding of a rank, `n` blanks pending. -/
def enc : Nat → List Cell → List Char
  | n, [] => runChars n
  | n, none :: cs => enc (n + 1) cs
  | n, some (c, k) :: cs => runChars n ++ printPiece c k :: enc 0 cs

theorem rankFlush_foldl (cells : List Cell) (s : String) (n : Nat) :
    (rankFlush (cells.foldl rankStep (s, n))).toList = s.toList ++ enc n cells := by
  induction cells generalizing s n with
  | nil =>
    simp only [List.foldl_nil, rankFlush, enc, runChars]
    by_cases h : n > 0 <;> simp [h]
  | cons cell cs ih =>
    cases cell with
    | none => simp only [List.foldl_cons, rankStep, enc]; exact ih _ _
    | some x =>
      obtain ⟨c, k⟩ := x
      simp only [List.foldl_cons, rankStep, enc, runChars]
      rw [ih]
      by_cases h : n > 0 <;> simp [h]

theorem rankStrOf_toList (cells : List Cell) : (rankStrOf cells).toList = enc 0 cells := by
  unfold rankStrOf; rw [rankFlush_foldl]; simp

/-- Cells described by a rank string: a digit `d` is `d` blanks, a letter is a piece. -/
def cellsOf : List Char → List Cell
  | [] => []
  | r :: rs =>
    if '1' ≤ r && r ≤ '8' then List.replicate (r.toNat - '0'.toNat) none ++ cellsOf rs
    else parsePiece r :: cellsOf rs

/-- The placements of a list of cells, the first cell on square `sq`, going down. -/
def piecesOf : Int → List Cell → List (Nat × Color × Piece)
  | _, [] => []
  | sq, none :: cs => piecesOf (sq - 1) cs
  | sq, some (c, k) :: cs => (sq.toNat, c, k) :: piecesOf (sq - 1) cs

/-- Digits `1`–`8` and the twelve piece letters. -/
def RankChars (rk : List Char) : Prop :=
  ∀ c ∈ rk, ('1' ≤ c && c ≤ '8') = true ∨ (parsePiece c).isSome = true

theorem piecesOf_replicate (d : Nat) (sq : Int) (cs : List Cell) :
    piecesOf sq (List.replicate d none ++ cs) = piecesOf (sq - d) cs := by
  induction d generalizing sq with
  | zero => simp
  | succ d ih =>
    rw [List.replicate_succ, List.cons_append, piecesOf, ih]
    congr 1; omega

theorem ne_slash {r : Char} (h : ('1' ≤ r && r ≤ '8') = true ∨ (parsePiece r).isSome = true) : r ≠ '/' := by
  rintro rfl; revert h; decide

/-- The placement loop on a rank string places `piecesOf (cellsOf _)` and moves the cursor down by the width, provided
    the cursor does not run below `-1`. -/
theorem placements_rank (rk tl : List Char) (sq : Int) (acc : List (Nat × Color × Piece))
    (hc : RankChars rk) (hsq : -1 ≤ sq - ((cellsOf rk).length : Int)) :
    placements (rk ++ tl) sq acc =
      placements tl (sq - ((cellsOf rk).length : Int)) ((piecesOf sq (cellsOf rk)).reverse ++ acc) := by
  induction rk generalizing sq acc with
  | nil => simp [cellsOf, piecesOf]
  | cons r rs ih =>
    have hrs : RankChars rs := fun c h => hc c (List.mem_cons_of_mem _ h)
    have hne := ne_slash (hc r (List.mem_cons_self ..))
    by_cases hd : ('1' ≤ r && r ≤ '8') = true
    · simp only [cellsOf, hd, if_true, List.length_append, List.length_replicate] at hsq ⊢
      rw [List.cons_append, placements, if_neg hne, if_pos hd, ih _ _ hrs (by omega), piecesOf_replicate]
      congr 1; omega
    · obtain ⟨⟨c, k⟩, hck⟩ := Option.isSome_iff_exists.mp ((hc r (List.mem_cons_self ..)).resolve_left hd)
      have hcell : cellsOf (r :: rs) = some (c, k) :: cellsOf rs := by rw [cellsOf, if_neg hd, hck]
      rw [hcell] at hsq ⊢
      simp only [List.length_cons] at hsq ⊢
      have hneg : ¬ sq < 0 := by omega
      rw [List.cons_append, placements, if_neg hne, if_neg hd]
      simp only [hck, if_neg hneg, piecesOf]
      rw [ih _ _ hrs (by omega)]
      simp only [List.reverse_cons, List.append_assoc, List.singleton_append]
      congr 1; omega

theorem run_spec : ∀ n, n < 9 → n ≠ 0 →
    (toString n).toList = [Nat.digitChar n] ∧ ('1' ≤ Nat.digitChar n && Nat.digitChar n ≤ '8') = true ∧
      (Nat.digitChar n).toNat - '0'.toNat = n := by decide +kernel

theorem runChars_of_pos {n : Nat} (h0 : n ≠ 0) (h8 : n ≤ 8) : runChars n = [Nat.digitChar n] := by
  unfold runChars
  rw [if_pos (by omega), (run_spec n (by omega) h0).1]

theorem runChars_zero : runChars 0 = [] := rfl

theorem runChars_of_rank18 {c : Char} (h : ('1' ≤ c && c ≤ '8') = true) :
    runChars (c.toNat - '0'.toNat) = [c] := by
  rw [rank18_iff] at h
  have h48 : '0'.toNat = 48 := rfl
  rw [runChars_of_pos (by omega) (by omega), digitChar_of_isDigit ((isDigit_iff c).2 (by omega))]

theorem cellsOf_runChars_append {n : Nat} (h8 : n ≤ 8) (rest : List Char) :
    cellsOf (runChars n ++ rest) = List.replicate n none ++ cellsOf rest := by
  by_cases h0 : n = 0
  · subst h0; simp [runChars_zero]
  · obtain ⟨_, h2, h3⟩ := run_spec n (by omega) h0
    rw [runChars_of_pos h0 h8, List.singleton_append, cellsOf, if_pos h2, h3]

theorem printPiece_not_rank18 (c : Color) (k : Piece) :
    ('1' ≤ printPiece c k && printPiece c k ≤ '8') = false := by
  cases c <;> cases k <;> decide

theorem parsePiece_printPiece (c : Color) {k : Piece} (hk : k ≠ .none) :
    parsePiece (printPiece c k) = some (c, k) := by
  cases c <;> cases k <;> first | contradiction | decide

theorem printPiece_parsePiece {r : Char} {c : Color} {k : Piece} (h : parsePiece r = some (c, k)) :
    printPiece c k = r ∧ k ≠ .none := by
  unfold parsePiece at h
  split at h <;> first
    | (cases h; exact ⟨rfl, by decide⟩)
    | cases h

theorem piece_not_rank18 {r : Char} (h : (parsePiece r).isSome = true) : ('1' ≤ r && r ≤ '8') = false := by
  obtain ⟨⟨c, k⟩, hck⟩ := Option.isSome_iff_exists.mp h
  rw [← (printPiece_parsePiece hck).1]; exact printPiece_not_rank18 c k

/-- No cell holds the piece `NoPiece`. -/
def CellsWF (cells : List Cell) : Prop := ∀ c k, some (c, k) ∈ cells → k ≠ Piece.none

theorem CellsWF.tail {x : Cell} {cs : List Cell} (h : CellsWF (x :: cs)) : CellsWF cs :=
  fun c k hm => h c k (List.mem_cons_of_mem _ hm)

theorem cellsOf_enc (cells : List Cell) (n : Nat) (hwf : CellsWF cells) (hlen : n + cells.length ≤ 8) :
    cellsOf (enc n cells) = List.replicate n none ++ cells := by
  induction cells generalizing n with
  | nil =>
    have := cellsOf_runChars_append (n := n) (by simpa using hlen) []
    simpa [enc, cellsOf] using this
  | cons cell cs ih =>
    cases cell with
    | none =>
      rw [enc, ih (n + 1) hwf.tail (by simp at hlen ⊢; omega), List.replicate_succ']
      simp
    | some x =>
      obtain ⟨c, k⟩ := x
      have hk : k ≠ .none := hwf c k (List.mem_cons_self ..)
      rw [enc, cellsOf_runChars_append (by omega), cellsOf, printPiece_not_rank18,
        parsePiece_printPiece c hk, ih 0 hwf.tail (by simp at hlen ⊢; omega)]
      simp

/-- A rank string in the standard grammar: digits `1`–`8` and piece letters, no two digits adjacent (every run of blanks
    is written as one digit). -/
def canonRank : List Char → Bool
  | [] => true
  | c :: rest =>
    if '1' ≤ c && c ≤ '8' then
      (match rest with
       | [] => true
       | d :: _ => (parsePiece d).isSome) && canonRank rest
    else (parsePiece c).isSome && canonRank rest

theorem enc_replicate (d n : Nat) (cs : List Cell) :
    enc n (List.replicate d none ++ cs) = enc (n + d) cs := by
  induction d generalizing n with
  | zero => simp
  | succ d ih => rw [List.replicate_succ, List.cons_append, enc, ih]; congr 1; omega

theorem canonRank_chars {rk : List Char} (h : canonRank rk = true) : RankChars rk := by
  induction rk with
  | nil => intro c hc; cases hc
  | cons r rs ih =>
    unfold canonRank at h
    intro c hc
    by_cases hd : ('1' ≤ r && r ≤ '8') = true
    · rw [if_pos hd, Bool.and_eq_true] at h
      rcases List.mem_cons.mp hc with e | hc
      · exact Or.inl (e ▸ hd)
      · exact ih h.2 c hc
    · rw [if_neg hd, Bool.and_eq_true] at h
      rcases List.mem_cons.mp hc with e | hc
      · exact Or.inr (e ▸ h.1)
      · exact ih h.2 c hc

theorem canonRank_enc (cells : List Cell) (n : Nat) (hwf : CellsWF cells) (hlen : n + cells.length ≤ 8) :
    canonRank (enc n cells) = true := by
  induction cells generalizing n with
  | nil =>
    by_cases h0 : n = 0
    · subst h0; rfl
    · rw [enc, runChars_of_pos h0 (by simpa using hlen)]
      unfold canonRank
      rw [if_pos (run_spec n (by simp at hlen; omega) h0).2.1]; rfl
  | cons cell cs ih =>
    cases cell with
    | none => rw [enc]; exact ih (n + 1) hwf.tail (by simp at hlen ⊢; omega)
    | some x =>
      obtain ⟨c, k⟩ := x
      have hk : k ≠ .none := hwf c k (List.mem_cons_self ..)
      have ih0 := ih 0 hwf.tail (by simp at hlen ⊢; omega)
      have hpp : canonRank (printPiece c k :: enc 0 cs) = true := by
        unfold canonRank
        rw [printPiece_not_rank18, parsePiece_printPiece c hk, ih0]; rfl
      rw [enc]
      by_cases h0 : n = 0
      · subst h0; exact hpp
      · rw [runChars_of_pos h0 (by omega), List.singleton_append]
        unfold canonRank
        rw [if_pos (run_spec n (by omega) h0).2.1]
        simp only [parsePiece_printPiece c hk, Option.isSome_some, Bool.true_and]
        exact hpp

theorem enc_cellsOf (rk : List Char) (h : canonRank rk = true) : enc 0 (cellsOf rk) = rk := by
  induction rk with
  | nil => rfl
  | cons r rs ih =>
    unfold canonRank at h
    by_cases hd : ('1' ≤ r && r ≤ '8') = true
    · rw [if_pos hd, Bool.and_eq_true] at h
      have hrun := runChars_of_rank18 hd
      rw [cellsOf, if_pos hd, enc_replicate, Nat.zero_add]
      cases rs with
      | nil => simpa [cellsOf, enc] using hrun
      | cons e rs' =>
        have hp : (parsePiece e).isSome = true := h.1
        have he := piece_not_rank18 hp
        obtain ⟨⟨c, k⟩, hck⟩ := Option.isSome_iff_exists.mp hp
        have ih' := ih h.2
        rw [cellsOf, he] at ih' ⊢
        simp only [Bool.false_eq_true, if_false, hck, enc, runChars_zero, List.nil_append] at ih' ⊢
        rw [hrun, ih']; rfl
    · rw [if_neg hd, Bool.and_eq_true] at h
      obtain ⟨⟨c, k⟩, hck⟩ := Option.isSome_iff_exists.mp h.1
      rw [cellsOf, if_neg hd, hck, enc, runChars_zero, ih h.2, (printPiece_parsePiece hck).1]; rfl

theorem cellsOf_wf (rk : List Char) : CellsWF (cellsOf rk) := by
  induction rk with
  | nil => intro c k h; cases h
  | cons r rs ih =>
    intro c k hm
    unfold cellsOf at hm
    split at hm
    · rcases List.mem_append.mp hm with h | h
      · rw [List.mem_replicate] at h; cases h.2
      · exact ih c k h
    · rcases List.mem_cons.mp hm with h | h
      · exact (printPiece_parsePiece h.symm).2
      · exact ih c k h

end Morlock.Proofs.Fen
