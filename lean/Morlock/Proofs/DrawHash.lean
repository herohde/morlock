import Morlock.Proofs.DrawOps
import Morlock.Props.C07
/-!
# C05: hash faithfulness from C07, and clocks / lines along a sequence of moves
-/
namespace Morlock.Proofs.Draw
open Morlock Morlock.Model Morlock.Model.World Morlock.Proofs Morlock.Proofs.Arena

/-- The moves C07 speaks about. -/
def GoodMove (w : World) (b : Nat) (m : Move) : Prop :=
  (∃ bd, Rep (w.cur b).pos bd) ∧ MetaOK (w.cur b).pos m = true ∧
    ∃ pc, (w.cur b).pos.square m.from = some ((w.board b).turn, pc)

theorem hashFaithful_push_good {w w' : World} {z : ZTable} {b : Nat} {m : Move} (hz : z.enpassant 0 = 0)
    (hw : WFWorld w) (hb : b < w.boards.size) (h : w.pushMove z b m = some w')
    (hf : HashFaithful z w b) (hg : GoodMove w b m) : HashFaithful z w' b := by
  obtain ⟨⟨bd, hrep⟩, hok, pc, hsq⟩ := hg
  obtain ⟨_, ht, hh, hm, _⟩ := push_line hw hb h
  refine line_forall_push hw hb h hf ?_
  show (w'.cur b).hash = _
  rw [hh, hf.cur, ht]
  exact Props.C07.move_eq_hash z hz hrep hok hsq hm

theorem pushAll_cons {z : ZTable} {b : Nat} {w w' : World} {m : Move} {ms : List Move} (hw : WFWorld w)
    (hb : b < w.boards.size) (h : pushAll z b w (m :: ms) = some w') :
    ∃ w1, w.pushMove z b m = some w1 ∧ WFWorld w1 ∧ b < w1.boards.size ∧ pushAll z b w1 ms = some w' := by
  simp only [pushAll, Option.bind_eq_some_iff] at h
  obtain ⟨w1, hpm, h⟩ := h
  exact ⟨w1, hpm, wf_push hw hb hpm, by rw [boards_size_push hpm]; exact hb, h⟩

theorem pushAll_clock {z : ZTable} {b : Nat} (ms : List Move) :
    ∀ {w w' : World}, WFWorld w → b < w.boards.size → pushAll z b w ms = some w' →
      (w'.cur b).noprogress = ms.foldl updateNoProgress (w.cur b).noprogress := by
  induction ms with
  | nil => intro w w' _ _ h; cases h; rfl
  | cons m r ih =>
    intro w w' hw hb h
    obtain ⟨w1, hs, hw1, hb1, h⟩ := pushAll_cons hw hb h
    rw [ih hw1 hb1 h, List.foldl_cons, (push_line hw hb hs).2.2.2.2.1]

theorem pushAll_inv {z : ZTable} {b : Nat} (ms : List Move) :
    ∀ {w w' : World}, WFWorld w → b < w.boards.size → pushAll z b w ms = some w' →
      (RepMapOK w b → RepMapOK w' b) ∧ (ClockOK w b → ClockOK w' b) := by
  induction ms with
  | nil => intro w w' _ _ h; cases h; exact ⟨id, id⟩
  | cons m r ih =>
    intro w w' hw hb h
    obtain ⟨w1, hs, hw1, hb1, h⟩ := pushAll_cons hw hb h
    have := ih hw1 hb1 h
    exact ⟨fun hr => this.1 (repMapOK_push hw hb hs hr), fun hc => this.2 (clockOK_push hw hb hs hc)⟩

end Morlock.Proofs.Draw
