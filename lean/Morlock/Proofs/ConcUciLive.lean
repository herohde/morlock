import Morlock.Proofs.ConcUciQuiet
/-!
# UCI driver model: the request the GUI is waiting on, and why it gets answered (C04)
-/
namespace Morlock.Model.UciConc

/-- commands that make the result of an earlier `go` unwanted (the loop calls `ensureInactive` for them) -/
def Cmd.supersedes : Cmd → Bool
  | .ucinewgame | .position | .go _ | .goMalformed | .quit | .eof => true
  | _ => false

/-- (log newest first) the arguments of the latest well-formed `go`, unless a later command superseded it -/
def cur : List Ev → Option GoArgs
  | [] => none
  | .consume (.go g) :: _ => some g
  | .consume c :: es => if c.supersedes then none else cur es
  | _ :: es => cur es

/-- (log newest first) a `stop` was consumed after the latest well-formed `go` -/
def stopped : List Ev → Bool
  | [] => false
  | .consume (.go _) :: _ => false
  | .consume .stop :: _ => true
  | _ :: es => stopped es

/-- loop states in which the latest `go` (if not superseded) has been numbered and stored into `d.active` -/
def LPc.live : LPc → Bool
  | .goSpawn _ _ _ | .goTimer _ | .select | .ready | .ponderChk _ | .ponderSend _ | .stopLoad | .stopChk _
  | .haltLock (.stop _) | .haltAwait (.stop _) _ | .haltQuit (.stop _) _ | .haltRead (.stop _) _
  | .haltUnlock (.stop _) _ | .complete _ _ | .sendInfo _ _ | .sendBest _ _ => true
  | _ => false

/-- after `d.searches++`, before the forwarder of this `go` exists -/
def LPc.preSpawn : LPc → Bool
  | .bookStore _ | .analyze _ _ | .goStore _ _ _ | .goSpawn _ _ _ => true
  | _ => false

/-- what the loop's program counter implies about the current request `c = cur log`, `K = d.searches` and
`st = stopped log` -/
def PcOk (pc : LPc) (c : Option GoArgs) (K : Nat) (st : Bool) : Prop :=
  match pc with
  | .ensureStore (.go g) | .haltLock (.ensure (.go g)) | .haltAwait (.ensure (.go g)) _
  | .haltQuit (.ensure (.go g)) _ | .haltRead (.ensure (.go g)) _ | .haltUnlock (.ensure (.go g)) _
  | .goStart g => c = some g ∧ st = false
  | .analyze g _ | .goStore g _ _ => c = some g ∧ g.book = .miss ∧ st = false ∧ 1 ≤ K
  | .goSpawn g id _ => c = some g ∧ g.book = .miss ∧ st = false ∧ id = K ∧ 1 ≤ K
  | .bookStore _ => (∃ g, c = some g ∧ g.book = .hit) ∧ st = false ∧ 1 ≤ K
  | .goTimer id => (∃ g, c = some g ∧ g.book = .miss ∧ g.movetime = true) ∧ st = false ∧ id = K ∧ 1 ≤ K
  | .ensureStore _ | .haltLock (.ensure _) | .haltAwait (.ensure _) _ | .haltQuit (.ensure _) _
  | .haltRead (.ensure _) _ | .haltUnlock (.ensure _) _
  | .waitFwd | .closeOut | .closeDriver | .finished => c = none
  | .haltLock (.stop id) | .haltAwait (.stop id) _ | .haltQuit (.stop id) _ | .haltRead (.stop id) _
  | .haltUnlock (.stop id) _ => id = K ∧ id ≠ 0
  | _ => True

/-- the loop is executing `stop(K)` for the current go number `K`: it will either find the work done or reach
`searchCompleted(K, _)` -/
def LPc.stopping (K : Nat) : LPc → Bool
  | .stopChk id => id == K
  | .haltLock (.stop id) | .haltAwait (.stop id) _ | .haltQuit (.stop id) _ | .haltRead (.stop id) _ => id == K
  | .haltUnlock (.stop id) (some _) => id == K
  | .complete id _ => id == K
  | _ => false

/-- `searchCompleted(K, _)` is about to run its CAS in the loop -/
def LPc.completing (K : Nat) : LPc → Bool
  | .complete id _ => id == K
  | _ => false

/-- `e.Halt` found no active search (for a `stop`) -/
def LPc.haltFailed : LPc → Bool
  | .haltUnlock (.stop _) none => true
  | _ => false

/-- live, and the forwarder of the current go has been spawned -/
def LPc.spawned : LPc → Bool
  | .goSpawn _ _ _ => false
  | pc => pc.live

/-- live, and the timer of the current go (if any) has been started -/
def LPc.timed : LPc → Bool
  | .goSpawn _ _ _ | .goTimer _ => false
  | pc => pc.live

def FPc.past : FPc → Bool
  | .wgDone | .finished => true
  | _ => false

/-- a timer for go `K` has not fired yet -/
def TimerPending (s : State) : Prop := ∃ t ∈ s.timers, t.id = s.searches ∧ t.fired = false

/-- the current go number has been committed (its `bestmove` is decided) -/
def Committed (s : State) : Prop := 1 ≤ commitCount s.searches s.log

end Morlock.Model.UciConc

namespace Morlock.Proofs.ConcUci
open Morlock.Model.UciConc

structure ReqInv (s : State) : Prop where
  pc : PcOk s.loop (cur s.log) s.searches (stopped s.log)
  fid : ∀ f ∈ s.fwds, f.id ≠ 0 ∧ f.id ≤ s.searches
  fidLt : s.loop.preSpawn = true → ∀ f ∈ s.fwds, f.id < s.searches
  fmiss : s.loop.live = true → ∀ f ∈ s.fwds, f.id = s.searches → ∀ g, cur s.log = some g → g.book = .miss

theorem reqInv_init (cmds : List Cmd) (pcap : Nat) : ReqInv (init cmds pcap) :=
  ⟨trivial, List.forall_mem_nil _, nofun, fun _ => List.forall_mem_nil _⟩

@[simp] theorem cur_send (l : Line) (es : List Ev) : cur (.send l :: es) = cur es := rfl
@[simp] theorem cur_sendClosed (l : Line) (es : List Ev) : cur (.sendClosed l :: es) = cur es := rfl
@[simp] theorem cur_commit (i l : Nat) (es : List Ev) : cur (.commit i l :: es) = cur es := rfl
@[simp] theorem cur_out (c : Bool) (l : Line) (es : List Ev) : cur (Ev.out c l :: es) = cur es := by cases c <;> rfl
@[simp] theorem stopped_send (l : Line) (es : List Ev) : stopped (.send l :: es) = stopped es := rfl
@[simp] theorem stopped_sendClosed (l : Line) (es : List Ev) : stopped (.sendClosed l :: es) = stopped es := rfl
@[simp] theorem stopped_commit (i l : Nat) (es : List Ev) : stopped (.commit i l :: es) = stopped es := rfl
@[simp] theorem stopped_out (c : Bool) (l : Line) (es : List Ev) : stopped (Ev.out c l :: es) = stopped es := by
  cases c <;> rfl

@[simp] theorem dispatch_preSpawn (c : Cmd) : (dispatch c).preSpawn = false := by cases c <;> rfl
@[simp] theorem afterHalt_preSpawn (k : HaltK) (res : Option Nat) :
    (afterHalt .repaired k res).preSpawn = false := by
  cases k with
  | ensure a => cases a <;> rfl
  | stop i => cases res <;> rfl

theorem ReqInv.move {s s' : State} {pc : LPc} (h : ReqInv s) (hpc : s.loop = pc) (hn : s'.searches = s.searches)
    (hf : s'.fwds = s.fwds) (hc : cur s'.log = cur s.log)
    (hp : (!s'.loop.preSpawn || pc.preSpawn) = true)
    (hm : (!s'.loop.live || pc.live || pc.preSpawn) = true ∨ cur s.log = none)
    (hok : PcOk pc (cur s.log) s.searches (stopped s.log) → PcOk s'.loop (cur s'.log) s.searches (stopped s'.log)) :
    ReqInv s' := by
  subst hpc
  simp only [Bool.or_eq_true, Bool.not_eq_true'] at hp hm
  refine ⟨hn ▸ hok h.pc, ?_, fun hh => ?_, fun hl f hfm hid g hg => ?_⟩ <;> rw [hf, hn] at *
  · exact h.fid
  · rcases hp with hp | hp
    · rw [hp] at hh; cases hh
    · exact h.fidLt hp
  rw [hc] at hg
  rcases hm with ((a | a) | a) | a
  · rw [a] at hl; cases hl
  · exact h.fmiss a f hfm hid g hg
  · exact absurd hid (Nat.ne_of_lt (h.fidLt a f hfm))
  · rw [a] at hg; cases hg

/-- `d.searches++`: every forwarder has a smaller id -/
theorem ReqInv.incr {s s' : State} (h : ReqInv s) (hn : s'.searches = s.searches + 1) (hf : s'.fwds = s.fwds)
    (hpc : PcOk s'.loop (cur s'.log) s'.searches (stopped s'.log)) : ReqInv s' := by
  have hlt : ∀ f ∈ s'.fwds, f.id < s'.searches := fun f hm => by
    rw [hn]; exact Nat.lt_succ_of_le (h.fid f (hf ▸ hm)).2
  exact ⟨hpc, fun f hm => ⟨(h.fid f (hf ▸ hm)).1, Nat.le_of_lt (hlt f hm)⟩, fun _ => hlt,
    fun _ f hm hid => absurd hid (Nat.ne_of_lt (hlt f hm))⟩

theorem reqInv_other {s s' : State} (h : ReqInv s) (hn : s'.searches = s.searches) (hl : s'.loop = s.loop)
    (hc : cur s'.log = cur s.log) (hs : stopped s'.log = stopped s.log)
    (hf : ∀ f' ∈ s'.fwds, ∃ f ∈ s.fwds, f'.id = f.id) : ReqInv s' := by
  obtain ⟨h1, h2, h3, h4⟩ := h
  refine ⟨by rw [hl, hc, hn, hs]; exact h1, ?_, ?_, ?_⟩
  · intro f' hf'; obtain ⟨f, hfm, he⟩ := hf f' hf'; rw [he, hn]; exact h2 f hfm
  · intro hp f' hf'; obtain ⟨f, hfm, he⟩ := hf f' hf'; rw [he, hn]; exact h3 (hl ▸ hp) f hfm
  · intro hp f' hf' hid g hg; obtain ⟨f, hfm, he⟩ := hf f' hf'
    exact h4 (hl ▸ hp) f hfm (he ▸ hn ▸ hid) g (hc ▸ hg)

theorem ids_set {l : List Fwd} {j : Nat} {f : Fwd} (hj : l[j]? = some f) (f' : Fwd) (hs : f'.id = f.id) :
    ∀ g ∈ l.set j f', ∃ g' ∈ l, g.id = g'.id := by
  intro g hg
  rcases List.mem_or_eq_of_mem_set hg with hg | hg
  · exact ⟨g, hg, rfl⟩
  · exact ⟨f, List.mem_of_getElem? hj, hg ▸ hs⟩

theorem reqInv_step {s s' : State} {pc : LPc} (st : Step s pc s')
    (hpc : s.loop = pc) (ha : ActiveInv s) (h : ReqInv s) : ReqInv s' := by
  induction st
  case recvPonder | recvTimeout | ponderOn | ponderOff | bookStore | analyzeBusy | goTimer | stopLoad | stopSkip
      | casLost =>
    exact h.move hpc rfl rfl rfl rfl (.inl rfl) fun _ => trivial
  case ready | ponderSend | sendInfo | sendBest =>
    exact h.move hpc rfl rfl (cur_out _ _ _) rfl (.inl rfl) fun _ => trivial
  case analyze | waitFwd | closeOut | closeDriver | ensureStore | lockIdle | lockBusy | haltAwait | haltQuit
      | haltRead =>
    -- the new pc says the same about the request (seen after the case split on where `e.Halt` returns to)
    (try cases ‹HaltK›) <;> (try cases ‹After›) <;>
      exact h.move hpc rfl rfl rfl rfl (.inl rfl) (by exact id)
  case haltUnlock k res =>
    -- `e.Halt` returns: `ensureInactive` reaches a live pc only when the request is gone
    have h1 := hpc ▸ h.pc
    cases k with
    | stop id => cases res <;> exact h.move hpc rfl rfl rfl rfl (.inl rfl) fun _ => trivial
    | ensure a =>
      cases a
      case go | exit => exact h.move hpc rfl rfl rfl rfl (.inl rfl) id
      all_goals exact h.move hpc rfl rfl rfl rfl (.inr h1) fun _ => trivial
  case recvCmd cmd _ _ =>
    -- `ensureInactive` for the superseding commands, with the new `go` as the request
    cases cmd
    case isready | stop | other => exact h.move hpc rfl rfl rfl rfl (.inl rfl) fun _ => trivial
    case go => exact ⟨⟨rfl, rfl⟩, h.fid, nofun, nofun⟩
    all_goals exact ⟨rfl, h.fid, nofun, nofun⟩
  case goStore =>
    exact h.move hpc rfl rfl rfl rfl (.inl rfl)
      fun ⟨c1, c2, c3, c5⟩ => ⟨c1, c2, c3, ha.pend _ (hpc ▸ rfl), c5⟩
  case stopHalt h0 _ =>
    exact h.move hpc rfl rfl rfl rfl (.inl rfl) fun _ => ⟨by have := ha.act; omega, h0⟩
  case commit _ =>
    refine h.move hpc rfl rfl rfl ?_ (.inl ?_) fun _ => ?_ <;> dsimp only <;> split <;> trivial
  case bookErr =>
    exact h.incr rfl rfl trivial
  case bookHit hb =>
    have h1 := hpc ▸ h.pc
    exact h.incr rfl rfl ⟨⟨_, h1.1, hb⟩, h1.2, Nat.succ_pos _⟩
  case bookMiss hb =>
    have h1 := hpc ▸ h.pc
    exact h.incr rfl rfl ⟨h1.1, hb, h1.2, Nat.succ_pos _⟩
  case goSpawn g id j =>
    obtain ⟨c1, c2, c3, c4, c5⟩ := hpc ▸ h.pc
    refine ⟨?_, List.forall_mem_append.2 ⟨h.fid, List.forall_mem_singleton.2 ?_⟩, ?_, fun _ _ _ _ g' hg => ?_⟩
    · dsimp only; split
      · exact ⟨⟨_, c1, c2, ‹_›⟩, c3, c4, c5⟩
      · trivial
    · show id ≠ 0 ∧ id ≤ s.searches; omega
    · dsimp only; split <;> exact nofun
    · exact Option.some.inj (c1.symm.trans hg) ▸ c2
  case fRecv | fEnd | fPond | fCommit | fCasLost | fDone =>
    exact reqInv_other h rfl rfl rfl rfl (ids_set ‹s.fwds[_]? = some _› _ (by rfl))
  case fSendInfo | fSendBest =>
    exact reqInv_other h rfl rfl (cur_out _ _ _) (stopped_out _ _ _) (ids_set ‹s.fwds[_]? = some _› _ (by rfl))
  case timerSend | timerDrop | searchIter | searchExit =>
    exact reqInv_other h rfl rfl rfl rfl fun f hf => ⟨f, hf, rfl⟩

end Morlock.Proofs.ConcUci
