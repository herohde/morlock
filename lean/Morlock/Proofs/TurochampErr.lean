import Morlock.Proofs.FltLemmas
/-!
# Absolute error of one rounding: `|x| ≤ 2^k ⟹ |rnd f x − x| ≤ 2^(k − p)`

Half an ulp of the binade of `x` (the grid exponent before renormalisation), from `rhe_spec`, `expo_spec`, `carry_val`,
`ofME_spec` of the floating-point lemmas. Stated by cross-multiplication.
-/
namespace Morlock.Proofs.Turochamp
open Morlock.Model.Flt

/-- the positive core: `|a/b| ≤ 2^k`, `rndPos f a b = (m, e)`, `vn/vd = m·2^e` ⟹ `|vn/vd − a/b|·2^p ≤ 2^k` -/
theorem rndPos_err (f : Fmt) (wf : f.WF) (hmin : 2 ^ (f.p - 1) ≤ pd f.emin) (hmin0 : f.emin ≤ 0)
    {a b m vn vd k : Nat} {e : Int} (ha : 0 < a) (hb : 0 < b) (hab : a ≤ 2 ^ k * b)
    (h : rndPos f a b = some (m, e)) (hv : vn * pd e = m * pn e * vd) :
    ((vn * b - a * vd) + (a * vd - vn * b)) * 2 ^ f.p ≤ 2 ^ k * (b * vd) := by
  have hp := wf.p_pos
  rw [rndPos_eq'] at h
  split at h
  · cases h
  have hme : carry f (sig0 f a b) (expo f a b) = (m, e) := by simpa using h
  have hcv := carry_val f hp (sig0 f a b) (expo f a b)
  rw [hme] at hcv
  simp only [] at hcv
  generalize he0 : expo f a b = e0 at hcv
  have hexp := expo_spec f hp ha hb
  rw [he0] at hexp
  have hrhe := rhe_spec (a * pd e0) (b * pn e0) (Nat.mul_pos hb (pn_pos _))
  have hs0 : sig0 f a b = roundHalfEven (a * pd e0) (b * pn e0) := by unfold sig0; rw [he0]
  rw [hs0] at hcv
  generalize roundHalfEven (a * pd e0) (b * pn e0) = m0 at hcv hrhe
  have key1 : vn * pd e0 = m0 * pn e0 * vd := by
    have h1 : vn * pd e0 * pd e = m0 * pn e0 * vd * pd e := by
      calc vn * pd e0 * pd e = (vn * pd e) * pd e0 := by rw [Nat.mul_right_comm]
        _ = (m * pn e * vd) * pd e0 := by rw [hv]
        _ = (m * pn e * pd e0) * vd := by rw [Nat.mul_right_comm]
        _ = (m0 * pn e0 * pd e) * vd := by rw [hcv]
        _ = m0 * pn e0 * vd * pd e := by rw [Nat.mul_right_comm]
    exact Nat.eq_of_mul_eq_mul_right (pd_pos e) h1
  have key2 : 2 ^ (f.p - 1) * pn e0 ≤ 2 ^ k * pd e0 := by
    rcases hexp.lower with hl | hl
    · rw [hl, pn_of_nonpos hmin0, Nat.mul_one]
      calc 2 ^ (f.p - 1) ≤ pd f.emin := hmin
        _ ≤ 2 ^ k * pd f.emin := Nat.le_mul_of_pos_left _ (Nat.two_pow_pos k)
    · have h1 : 2 ^ (f.p - 1) * pn e0 * b ≤ 2 ^ k * pd e0 * b := by
        calc 2 ^ (f.p - 1) * pn e0 * b = 2 ^ (f.p - 1) * b * pn e0 := by rw [Nat.mul_right_comm]
          _ ≤ a * pd e0 := hl
          _ ≤ (2 ^ k * b) * pd e0 := Nat.mul_le_mul_right _ hab
          _ = 2 ^ k * pd e0 * b := by rw [Nat.mul_right_comm]
      exact Nat.le_of_mul_le_mul_right h1 hb
  have e1 : vn * b * pd e0 = m0 * (b * pn e0) * vd := by
    calc vn * b * pd e0 = (vn * pd e0) * b := by rw [Nat.mul_right_comm]
      _ = (m0 * pn e0 * vd) * b := by rw [key1]
      _ = m0 * (b * pn e0) * vd := by
        rw [Nat.mul_right_comm (m0 * pn e0) vd b, Nat.mul_assoc m0 (pn e0) b, Nat.mul_comm (pn e0) b]
  have e2 : a * vd * pd e0 = (a * pd e0) * vd := Nat.mul_right_comm _ _ _
  have hD : 2 * ((vn * b - a * vd) + (a * vd - vn * b)) * pd e0 ≤ (b * pn e0) * vd := by
    have hA1 : 2 * m0 * (b * pn e0) * vd ≤ (2 * (a * pd e0) + b * pn e0) * vd := Nat.mul_le_mul_right _ hrhe.1
    have hA2 : 2 * (a * pd e0) * vd ≤ (2 * m0 * (b * pn e0) + b * pn e0) * vd := Nat.mul_le_mul_right _ hrhe.2
    have x1 : 2 * ((vn * b - a * vd) + (a * vd - vn * b)) * pd e0 =
        2 * ((vn * b * pd e0 - a * vd * pd e0) + (a * vd * pd e0 - vn * b * pd e0)) := by
      rw [Nat.mul_assoc, Nat.add_mul, Nat.sub_mul, Nat.sub_mul]
    rw [x1, e1, e2]
    have y1 : 2 * m0 * (b * pn e0) * vd = 2 * (m0 * (b * pn e0) * vd) := by
      rw [Nat.mul_assoc 2 m0, Nat.mul_assoc 2]
    have y2 : 2 * (a * pd e0) * vd = 2 * (a * pd e0 * vd) := Nat.mul_assoc _ _ _
    rw [Nat.add_mul, y1] at hA2
    rw [Nat.add_mul, y2] at hA1
    rw [y1] at hA1
    rw [y2] at hA2
    omega
  have h2p : 2 ^ f.p = 2 ^ (f.p - 1) * 2 := by rw [Nat.mul_comm]; exact (two_pow_pred hp).symm
  have fin : ((vn * b - a * vd) + (a * vd - vn * b)) * 2 ^ f.p * pd e0 ≤ 2 ^ k * (b * vd) * pd e0 := by
    calc ((vn * b - a * vd) + (a * vd - vn * b)) * 2 ^ f.p * pd e0
        = 2 ^ (f.p - 1) * (2 * ((vn * b - a * vd) + (a * vd - vn * b)) * pd e0) := by
          rw [h2p]
          generalize ((vn * b - a * vd) + (a * vd - vn * b)) = D
          ac_rfl
      _ ≤ 2 ^ (f.p - 1) * ((b * pn e0) * vd) := Nat.mul_le_mul_left _ hD
      _ = (2 ^ (f.p - 1) * pn e0) * (b * vd) := by ac_rfl
      _ ≤ (2 ^ k * pd e0) * (b * vd) := Nat.mul_le_mul_right _ key2
      _ = 2 ^ k * (b * vd) * pd e0 := by rw [Nat.mul_right_comm]
  exact Nat.le_of_mul_le_mul_right fin (pd_pos e0)

/-- `rnd_err` for a positive `x` (the result is then non-negative, so the difference of the absolute values is the
absolute value of the difference) -/
theorem rnd_err_pos (f : Fmt) (wf : f.WF) (hmin : 2 ^ (f.p - 1) ≤ pd f.emin) (hmin0 : f.emin ≤ 0) {x v : Q} {k : Nat}
    (hd : 0 < x.den) (hpos : 0 < x.num) (hb : x.num.natAbs ≤ 2 ^ k * x.den) (h : rnd f x = some v) :
    (v.num * x.den - x.num * v.den).natAbs * 2 ^ f.p ≤ 2 ^ k * (x.den * v.den) := by
  obtain ⟨m, e, hr, hv⟩ := rnd_eq_some f (by omega) h
  obtain ⟨_, hval, hneg, _⟩ := ofME_spec (decide (x.num < 0)) m e
  rw [← hv] at hval hneg
  have core := rndPos_err f wf hmin hmin0 (by omega) hd hb hr hval
  have hvn : 0 ≤ v.num := by
    rcases Int.lt_or_le v.num 0 with hp | hp
    · have := (hneg.mp hp).1
      simp at this
      omega
    · exact hp
  have hsign : (v.num * x.den - x.num * v.den).natAbs =
      (v.num.natAbs * x.den - x.num.natAbs * v.den) + (x.num.natAbs * v.den - v.num.natAbs * x.den) := by
    have c1 : ((v.num.natAbs * x.den : Nat) : Int) = (v.num.natAbs : Int) * x.den := Int.natCast_mul _ _
    have c2 : ((x.num.natAbs * v.den : Nat) : Int) = (x.num.natAbs : Int) * v.den := Int.natCast_mul _ _
    have a1 : (v.num.natAbs : Int) = v.num := by omega
    have a2 : (x.num.natAbs : Int) = x.num := by omega
    have b1 : v.num * x.den = ((v.num.natAbs * x.den : Nat) : Int) := by rw [c1, a1]
    have b2 : x.num * v.den = ((x.num.natAbs * v.den : Nat) : Int) := by rw [c2, a2]
    rw [b1, b2]
    omega
  rw [hsign]
  exact core

/-- **One rounding errs by at most `2^(k−p)` on `|x| ≤ 2^k`.** -/
theorem rnd_err (f : Fmt) (wf : f.WF) (hmin : 2 ^ (f.p - 1) ≤ pd f.emin) (hmin0 : f.emin ≤ 0) {x v : Q} {k : Nat}
    (hd : 0 < x.den) (hb : x.num.natAbs ≤ 2 ^ k * x.den) (h : rnd f x = some v) :
    (v.num * x.den - x.num * v.den).natAbs * 2 ^ f.p ≤ 2 ^ k * (x.den * v.den) := by
  rcases Int.lt_trichotomy x.num 0 with hx | hx | hx
  · -- rounding commutes with negation: the positive case applied to `-x`
    have h' : rnd f x.neg = some v.neg := by rw [rnd_neg, h]; rfl
    have hn := rnd_err_pos f wf hmin hmin0 (x := x.neg) (v := v.neg) hd (by show 0 < -x.num; omega)
      (by show (-x.num).natAbs ≤ _; rw [Int.natAbs_neg]; exact hb) h'
    have e : v.neg.num * (x.neg.den : Int) - x.neg.num * (v.neg.den : Int) = -(v.num * x.den - x.num * v.den) := by
      show -v.num * (x.den : Int) - -x.num * (v.den : Int) = _
      rw [Int.neg_mul, Int.neg_mul]; omega
    rw [e, Int.natAbs_neg] at hn
    exact hn
  · rw [rnd_of_num_eq_zero f hx] at h
    have : v = ⟨0, 1⟩ := by simpa using h.symm
    subst this
    simp [hx]
  · exact rnd_err_pos f wf hmin hmin0 hd hx hb h

set_option exponentiation.threshold 2048 in
theorem f64_hmin : 2 ^ (f64.p - 1) ≤ pd f64.emin := by
  show 2 ^ 52 ≤ 2 ^ 1074
  exact Nat.pow_le_pow_right (by decide) (by decide)

theorem rnd_err32 {x v : Q} {k : Nat} (hd : 0 < x.den) (hb : x.num.natAbs ≤ 2 ^ k * x.den) (h : rnd f32 x = some v) :
    (v.num * x.den - x.num * v.den).natAbs * 2 ^ 24 ≤ 2 ^ k * (x.den * v.den) :=
  rnd_err f32 f32_wf (by decide) (by decide) hd hb h

theorem rnd_err64 {x v : Q} {k : Nat} (hd : 0 < x.den) (hb : x.num.natAbs ≤ 2 ^ k * x.den) (h : rnd f64 x = some v) :
    (v.num * x.den - x.num * v.den).natAbs * 2 ^ 53 ≤ 2 ^ k * (x.den * v.den) :=
  rnd_err f64 f64_wf f64_hmin (by decide) hd hb h

end Morlock.Proofs.Turochamp
