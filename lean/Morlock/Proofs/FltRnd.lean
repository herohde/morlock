import Morlock.Proofs.FltQ
import Morlock.Proofs.FltNearest
/-! # `rnd`: totality, symmetry, dependence on the value only, nearest; exactness on representable values follows from nearest -/
namespace Morlock.Model.Flt

/-- `x` is a finite number of the format: `|x| = m·2^e` with `m < 2^p`, `emin ≤ e`, `e + p − 1 ≤ emax` -/
def Rep (f : Fmt) (x : Q) : Prop :=
  ∃ (m : Nat) (e : Int), m < 2 ^ f.p ∧ f.emin ≤ e ∧ e + ((f.p : Int) - 1) ≤ f.emax ∧
    x.num.natAbs * pd e = m * x.den * pn e

theorem rnd_zero (f : Fmt) (d : Nat) : rnd f ⟨0, d⟩ = some ⟨0, 1⟩ := by simp [rnd]

theorem rnd_of_num_eq_zero (f : Fmt) {x : Q} (h : x.num = 0) : rnd f x = some ⟨0, 1⟩ := by simp [rnd, h]

theorem rnd_of_num_ne_zero (f : Fmt) {x : Q} (h : x.num ≠ 0) :
    rnd f x = (rndPos f x.num.natAbs x.den).map fun me => ofME (x.num < 0) me.1 me.2 := by
  unfold rnd
  have : (x.num == 0) = false := by simpa using h
  rw [this]
  simp only [Bool.false_eq_true, if_false]
  cases rndPos f x.num.natAbs x.den with
  | none => rfl
  | some me => rfl

theorem rnd_neg (f : Fmt) (x : Q) : rnd f (Q.neg x) = (rnd f x).map Q.neg := by
  by_cases h : x.num = 0
  · rw [rnd_of_num_eq_zero f h, rnd_of_num_eq_zero f (show (Q.neg x).num = 0 by simp [Q.neg, h])]; rfl
  · rw [rnd_of_num_ne_zero f h, rnd_of_num_ne_zero f (show (Q.neg x).num ≠ 0 by simp [Q.neg, h]), Option.map_map]
    show (rndPos f (-x.num).natAbs x.den).map _ = _
    rw [Int.natAbs_neg]
    congr 1
    funext me
    show ofME (decide (-x.num < 0)) me.1 me.2 = (ofME (decide (x.num < 0)) me.1 me.2).neg
    rcases Int.lt_or_gt_of_ne h with hlt | hgt
    · rw [decide_eq_false (by omega), decide_eq_true hlt, ofME_true, Q.neg_neg]
    · rw [decide_eq_true (show -x.num < 0 by omega), decide_eq_false (by omega), ofME_true]

theorem rnd_isSome_of_pos (f : Fmt) {x : Q} (h : x.num ≠ 0 → (rndPos f x.num.natAbs x.den).isSome) :
    (rnd f x).isSome := by
  by_cases h0 : x.num = 0
  · rw [rnd_of_num_eq_zero f h0]; rfl
  · rw [rnd_of_num_ne_zero f h0, Option.isSome_map]; exact h h0

theorem rnd_isSome_of_le_max (f : Fmt) (wf : f.WF) (x : Q) (hd : 0 < x.den)
    (h : x.num.natAbs * pd (f.emax - ((f.p : Int) - 1)) ≤ (2 ^ f.p - 1) * x.den * pn (f.emax - ((f.p : Int) - 1))) :
    (rnd f x).isSome :=
  rnd_isSome_of_pos f fun h0 => rndPos_isSome f wf (by omega) hd h

theorem rnd_isSome_of_le (f : Fmt) (wf : f.WF) (x : Q) (hd : 0 < x.den)
    (h : x.num.natAbs * pd f.emax ≤ x.den * pn f.emax) : (rnd f x).isSome :=
  rnd_isSome_of_pos f fun h0 => rndPos_isSome_of_le_two_pow f wf (by omega) hd h

theorem rnd_congr (f : Fmt) (wf : f.WF) {x y : Q} (hx : 0 < x.den) (hy : 0 < y.den) (h : Q.Eqv x y) :
    rnd f x = rnd f y := by
  obtain ⟨hs, hz, ha⟩ := Q.abs_of_eqv hy hx h
  by_cases h0 : x.num = 0
  · rw [rnd_of_num_eq_zero f h0, rnd_of_num_eq_zero f (hz.mp h0)]
  · rw [rnd_of_num_ne_zero f h0, rnd_of_num_ne_zero f (fun c => h0 (hz.mpr c)),
      rndPos_congr f wf.p_pos (by omega) hx (by omega) hy ha]
    simp only [propext hs]

theorem rnd_eq_some (f : Fmt) {x y : Q} (h0 : x.num ≠ 0) (h : rnd f x = some y) :
    ∃ m e, rndPos f x.num.natAbs x.den = some (m, e) ∧ y = ofME (x.num < 0) m e := by
  rw [rnd_of_num_ne_zero f h0] at h
  cases hr : rndPos f x.num.natAbs x.den with
  | none => rw [hr] at h; simp at h
  | some me =>
    rw [hr] at h
    simp only [Option.map_some, Option.some.injEq] at h
    exact ⟨me.1, me.2, rfl, h.symm⟩

theorem rnd_eq_some_iff (f : Fmt) (x y : Q) :
    rnd f x = some y ↔
      (x.num = 0 ∧ y = ⟨0, 1⟩) ∨
      (x.num ≠ 0 ∧ ∃ m e, rndPos f x.num.natAbs x.den = some (m, e) ∧ y = ofME (decide (x.num < 0)) m e) := by
  by_cases h0 : x.num = 0
  · rw [rnd_of_num_eq_zero f h0]
    constructor
    · intro h; left; exact ⟨h0, by simpa using h.symm⟩
    · rintro (⟨_, rfl⟩ | ⟨hne, _⟩)
      · rfl
      · exact absurd h0 hne
  · constructor
    · intro h; right; exact ⟨h0, rnd_eq_some f h0 h⟩
    · rintro (⟨hz, _⟩ | ⟨_, m, e, hr, rfl⟩)
      · exact absurd hz h0
      · rw [rnd_of_num_ne_zero f h0, hr]; rfl

theorem rnd_canon (f : Fmt) {x y : Q} (h : rnd f x = some y) : y.Canon := by
  rcases (rnd_eq_some_iff f x y).mp h with ⟨_, rfl⟩ | ⟨_, m, e, _, rfl⟩
  · unfold Q.Canon; simp
  · exact (ofME_spec _ m e).1

/-- a representable `a/b = m·2^e` is returned exactly: no overflow, and the result is at least as near to `a/b` as `m·2^e` itself -/
theorem rndPos_exact (f : Fmt) (wf : f.WF) {a b m : Nat} {e : Int} (ha : 0 < a) (hb : 0 < b)
    (hv : a * pd e = m * b * pn e) (hm : m < 2 ^ f.p) (he : f.emin ≤ e) (hmax : e + ((f.p : Int) - 1) ≤ f.emax) :
    ∃ m' e', rndPos f a b = some (m', e') ∧ a * pd e' = m' * b * pn e' := by
  have hsome : (rndPos f a b).isSome := by
    apply rndPos_isSome f wf ha hb
    refine le_mono_exp (e := e) (by omega) ?_
    rw [hv]
    exact Nat.mul_le_mul_right _ (Nat.mul_le_mul_right _ (by omega))
  obtain ⟨⟨m', e'⟩, hr⟩ := Option.isSome_iff_exists.mp hsome
  refine ⟨m', e', hr, ?_⟩
  have hn := rndPos_nearest f wf.p_pos ha hb hr m e hm he
  rw [hv, show adiff (m * b * pn e) (m * b * pn e) = 0 by unfold adiff; omega, Nat.zero_mul, Nat.le_zero_eq,
    Nat.mul_eq_zero] at hn
  have := pd_pos e
  unfold adiff at hn
  omega

theorem rnd_exact (f : Fmt) (wf : f.WF) {x : Q} (hd : 0 < x.den) (hr : Rep f x) :
    ∃ y, rnd f x = some y ∧ Q.Eqv y x ∧ y.Canon := by
  by_cases h0 : x.num = 0
  · refine ⟨⟨0, 1⟩, rnd_of_num_eq_zero f h0, ?_, ?_⟩
    · unfold Q.Eqv; simp [h0]
    · unfold Q.Canon; simp
  · obtain ⟨m, e, hm, he, hmax, hv⟩ := hr
    have ha : 0 < x.num.natAbs := by omega
    obtain ⟨m', e', hr', hv'⟩ := rndPos_exact f wf ha hd hv hm he hmax
    refine ⟨ofME (x.num < 0) m' e', ?_, ?_, (ofME_spec _ m' e').1⟩
    · rw [rnd_of_num_ne_zero f h0, hr']; rfl
    · obtain ⟨_, hy, hs, _⟩ := ofME_spec (decide (x.num < 0)) m' e'
      have hm' : 0 < m' := by
        apply Nat.pos_of_ne_zero; intro c; subst c
        have : 0 < x.num.natAbs * pd e' := Nat.mul_pos ha (pd_pos _)
        simp at hv'; omega
      apply Q.eqv_of_abs
      · rw [hs]; simp [hm']
      · generalize (ofME (decide (x.num < 0)) m' e') = y at *
        have : y.num.natAbs * x.den * pd e' = x.num.natAbs * y.den * pd e' := by
          calc y.num.natAbs * x.den * pd e' = y.num.natAbs * pd e' * x.den := by ac_rfl
            _ = m' * pn e' * y.den * x.den := by rw [hy]
            _ = m' * x.den * pn e' * y.den := by ac_rfl
            _ = x.num.natAbs * pd e' * y.den := by rw [hv']
            _ = x.num.natAbs * y.den * pd e' := by ac_rfl
        exact Nat.eq_of_mul_eq_mul_right (pd_pos _) this

theorem Q.norm_of_canon {x : Q} (h : x.Canon) : Q.norm x = x := by
  unfold Q.norm; simp [h.2]

theorem rnd_exact_norm (f : Fmt) (wf : f.WF) {x : Q} (hd : 0 < x.den) (hr : Rep f x) :
    rnd f x = some (Q.norm x) := by
  obtain ⟨y, hy, he, hc⟩ := rnd_exact f wf hd hr
  rw [hy]
  congr 1
  apply Q.Canon.eq_of_eqv hc (Q.norm_canon hd)
  exact Q.Eqv.trans hd he (Q.norm_eqv x).symm

theorem rnd_exact_canon (f : Fmt) (wf : f.WF) {x : Q} (hc : x.Canon) (hr : Rep f x) : rnd f x = some x := by
  rw [rnd_exact_norm f wf hc.1 hr, Q.norm_of_canon hc]

theorem rnd_rep (f : Fmt) (wf : f.WF) {x y : Q} (hd : 0 < x.den) (h : rnd f x = some y) : Rep f y := by
  rcases (rnd_eq_some_iff f x y).mp h with ⟨_, rfl⟩ | ⟨h0, m, e, hr, rfl⟩
  · exact ⟨0, f.emin, Nat.two_pow_pos _, Int.le_refl _, wf.range, by simp⟩
  · obtain ⟨hm, he, hmax, _⟩ := rndPos_spec f wf.p_pos (by omega) hd hr
    refine ⟨m, e, hm, he, hmax, ?_⟩
    rw [(ofME_spec (decide (x.num < 0)) m e).2.1]; ac_rfl

theorem rnd_nearest (f : Fmt) (hp : 1 ≤ f.p) {x y : Q} (hd : 0 < x.den) (h0 : x.num ≠ 0) (h : rnd f x = some y) :
    ∃ m e, y = ofME (decide (x.num < 0)) m e ∧
      y.Canon ∧ y.num.natAbs * pd e = m * pn e * y.den ∧ (y.num < 0 ↔ (x.num < 0 ∧ 0 < m)) ∧
      m < 2 ^ f.p ∧ f.emin ≤ e ∧ e + ((f.p : Int) - 1) ≤ f.emax ∧ (2 ^ (f.p - 1) ≤ m ∨ e = f.emin) ∧
      ∀ (m' : Nat) (e' : Int), m' < 2 ^ f.p → f.emin ≤ e' →
        adiff (x.num.natAbs * pd e) (m * x.den * pn e) * pd e' ≤
          adiff (x.num.natAbs * pd e') (m' * x.den * pn e') * pd e := by
  obtain ⟨m, e, hr, rfl⟩ := rnd_eq_some f h0 h
  obtain ⟨hc, hv, hs, _⟩ := ofME_spec (decide (x.num < 0)) m e
  obtain ⟨hm, he, hmax, hn, _, _⟩ := rndPos_spec f hp (by omega) hd hr
  refine ⟨m, e, rfl, hc, hv, ?_, hm, he, hmax, hn, ?_⟩
  · rw [hs]; simp
  · intro m' e' hm' he'
    exact rndPos_nearest f hp (by omega) hd hr m' e' hm' he'

end Morlock.Model.Flt
