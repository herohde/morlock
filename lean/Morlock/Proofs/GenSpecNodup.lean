import Morlock.Proofs.GenNodup
/-!
# The reference `Spec.pseudoMoves` lists no move twice (reference-side lemma for C01 Stage G)

A ray visits each square once and its squares show its direction (`ray_coords`), leaper targets show their jump; so
the officer targets are duplicate-free for every occupancy. The rest is bookkeeping over `movesFrom`.
-/
namespace Morlock.Proofs.Gen
open Morlock Morlock.Spec Morlock.Proofs.Attack

variable {p : Pos} {c : Spec.Color} {s : Sq} {sm : SMove}

theorem ray_nodup (occ : Sq → Bool) {df dr : Int} (hd : df ≠ 0 ∨ dr ≠ 0) :
    ∀ (fuel : Nat) (sq : Sq), (ray occ sq df dr fuel).Nodup := by
  intro fuel
  induction fuel with
  | zero => intro sq; exact List.nodup_nil
  | succ fuel ih =>
    intro sq
    unfold ray
    cases step sq df dr with
    | none => exact List.nodup_nil
    | some s =>
      simp only
      split
      · exact List.pairwise_singleton _ s
      · exact List.nodup_cons.mpr ⟨not_mem_ray_self hd fuel s, ih s⟩

/-- Rays in pairwise different unit directions: the direction is the sign of the offset of any ray square. -/
theorem slide_nodup (occ : Sq → Bool) (sq : Sq) {dirs : List (Int × Int)} (hn : dirs.Nodup)
    (hu : ∀ d ∈ dirs, (d.1.sign, d.2.sign) = d ∧ (d.1 ≠ 0 ∨ d.2 ≠ 0)) :
    (dirs.flatMap fun (df, dr) => ray occ sq df dr 8).Nodup :=
  nodup_flatMap_of_key (fun t => ((↑(t % 8) - ↑(sq % 8) : Int).sign, (↑(t / 8) - ↑(sq / 8) : Int).sign)) hn
    (fun d hd => ray_nodup occ (hu d hd).2 8 sq) (fun d hd _ hx => (ray_dir hx).trans (hu d hd).1)

/-- Leaper targets: the jump is the offset of the target. -/
theorem leap_nodup (sq : Sq) {dirs : List (Int × Int)} (hn : dirs.Nodup) :
    (dirs.filterMap fun (df, dr) => step sq df dr).Nodup := by
  refine nodup_filterMap_of_key (fun t => ((↑(t % 8) - ↑(sq % 8) : Int), (↑(t / 8) - ↑(sq / 8) : Int))) hn ?_
  intro d _ t ht
  obtain ⟨c1, c2⟩ := step_coords ht
  exact Prod.ext (by simp only; omega) (by simp only; omega)

theorem officerTargets_nodup (occ : Sq → Bool) (k : Kind) (sq : Sq) : (officerTargets occ k sq).Nodup := by
  cases k <;> unfold officerTargets
  · exact List.nodup_nil
  · exact slide_nodup occ sq (by decide) (by decide)
  · exact leap_nodup sq (by decide)
  · exact slide_nodup occ sq (by decide) (by decide)
  · exact slide_nodup occ sq (by decide) (by decide)
  · exact leap_nodup sq (by decide)

theorem withPromo_nodup (c : Spec.Color) (s t : Sq) : (withPromo c s t).Nodup := by
  unfold withPromo
  split
  · apply nodup_map_of_inj (by decide)
    intro a _ a' _ e
    simpa using e
  · simp

theorem to_of_mem_withPromo {s t : Sq} (h : sm ∈ withPromo c s t) :
    sm.to = t := (mem_withPromo.mp h).2.1

theorem pawnTargets_nodup (c : Spec.Color) (s : Sq) : (pawnTargets c s).Nodup :=
  leap_nodup s (dirs := [(1, fwd c), (-1, fwd c)]) (by simp)

theorem pawnCaps_nodup (p : Pos) (c : Spec.Color) (s : Sq) : (pawnCaps p c s).Nodup := by
  unfold pawnCaps
  apply nodup_flatMap_of_key SMove.to (pawnTargets_nodup c s)
  · intro t _
    split
    · split
      · exact withPromo_nodup ..
      · exact List.nodup_nil
    · split
      · simp
      · exact List.nodup_nil
  · intro t _ x hx
    split at hx
    · split at hx
      · exact to_of_mem_withPromo hx
      · cases hx
    · split at hx
      · simp only [List.mem_singleton] at hx; rw [hx]
      · cases hx

theorem pawnPushes_nodup (p : Pos) (c : Spec.Color) (s : Sq) : (pawnPushes p c s).Nodup := by
  unfold pawnPushes
  cases hst : step s 0 (fwd c) with
  | none => exact List.nodup_nil
  | some t =>
    simp only
    split
    · exact List.nodup_nil
    · rw [List.nodup_append]
      refine ⟨withPromo_nodup .., ?_, ?_⟩
      · split
        · split
          · split
            · exact List.nodup_nil
            · simp
          · exact List.nodup_nil
        · exact List.nodup_nil
      · intro a ha b hb e
        have hto := to_of_mem_withPromo ha
        split at hb
        · split at hb
          · rename_i t2 hst2
            split at hb
            · cases hb
            · simp only [List.mem_singleton] at hb
              have c2 := (step_coords hst2).2
              rw [e, hb] at hto
              simp only at hto
              subst hto
              have := fwd_pm c
              omega
          · cases hb
        · cases hb

theorem file_of_mem_pawnPushes
    (h : sm ∈ pawnPushes p c s) : sm.to % 8 = s % 8 := by
  rw [mem_pawnPushes] at h
  obtain ⟨t, hst, _, h | ⟨_, t2, hst2, _, rfl⟩⟩ := h
  · rw [to_of_mem_withPromo h]; exact (push_geo hst).1.symm
  · exact (jump_geo hst hst2).1.symm

theorem file_of_mem_pawnCaps
    (h : sm ∈ pawnCaps p c s) : sm.to % 8 ≠ s % 8 := by
  rw [mem_pawnCaps] at h
  obtain ⟨t, ht, h⟩ := h
  have hto : sm.to = t := by
    rcases h with ⟨_, h⟩ | ⟨_, _, rfl⟩
    · exact to_of_mem_withPromo h
    · rfl
  rw [hto]
  exact fun e => (pawnTarget_geo ht).1 e.symm

theorem officerNormal_nodup (p : Pos) (c : Spec.Color) (k : Kind) (s : Sq) : (officerNormal p c k s).Nodup := by
  unfold officerNormal
  refine nodup_filterMap_of_key SMove.to (officerTargets_nodup p.occ k s) ?_
  intro t _ x hx
  split at hx
  · split at hx
    · cases hx
    · rw [← Option.some.inj hx]
  · rw [← Option.some.inj hx]

theorem castlesFrom_nodup (p : Pos) (c : Spec.Color) (k : Kind) (s : Sq) : (castlesFrom p c k s).Nodup := by
  unfold castlesFrom
  split
  · rw [List.nodup_append]
    refine ⟨by split <;> simp, by split <;> simp, ?_⟩
    intro a ha b hb e
    split at ha
    · split at hb
      · simp only [List.mem_singleton] at ha hb
        rw [ha, hb] at e
        simp only [SMove.mk.injEq] at e
        cases c <;> simp [mkSq, fG, fC, homeRank] at e
      · cases hb
    · cases ha
  · exact List.nodup_nil

theorem movesFrom_nodup (p : Pos) (s : Sq) : (movesFrom p s).Nodup := by
  unfold movesFrom
  split
  · rename_i c' k hat
    split
    · exact List.nodup_nil
    · split
      · rw [List.nodup_append]
        refine ⟨pawnPushes_nodup .., pawnCaps_nodup .., ?_⟩
        intro a ha b hb e
        have h1 := file_of_mem_pawnPushes ha
        have h2 := file_of_mem_pawnCaps hb
        rw [e] at h1; exact h2 h1
      · rw [List.nodup_append]
        refine ⟨officerNormal_nodup .., castlesFrom_nodup .., ?_⟩
        intro a ha b hb e
        rw [mem_officerNormal] at ha
        obtain ⟨_, _, ht, _⟩ := ha
        unfold castlesFrom at hb
        split at hb
        · rename_i hc
          obtain ⟨hk, hsE⟩ := hc
          rw [hk] at ht
          have hto : b.to % 8 = 1 ∨ b.to % 8 = 5 := by
            rw [List.mem_append] at hb
            rcases hb with hb | hb <;> split at hb
            · simp only [List.mem_singleton] at hb; rw [hb]
              left; cases p.turn <;> simp [mkSq, fG, homeRank]
            · cases hb
            · simp only [List.mem_singleton] at hb; rw [hb]
              right; cases p.turn <;> simp [mkSq, fC, homeRank]
            · cases hb
          have hsf : s % 8 = 3 := by rw [hsE]; cases p.turn <;> simp [mkSq, fE, homeRank]
          rw [e] at ht
          obtain ⟨n1, n2⟩ := king_target_file ht hsf
          exact hto.elim n1 n2
        · cases hb
  · exact List.nodup_nil

theorem pseudoMoves_nodup (p : Pos) : (pseudoMoves p).Nodup := by
  rw [pseudoMoves_eq]
  apply nodup_flatMap_of_key SMove.from List.nodup_range
  · intro s _; exact movesFrom_nodup p s
  · intro s _ x hx; exact from_of_mem_movesFrom hx

end Morlock.Proofs.Gen
