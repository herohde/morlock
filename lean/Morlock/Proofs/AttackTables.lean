import Morlock.Proofs.AttackBits
/-!
# The generated tables: the rotations are permutations of `0..63`; closed forms of all seven

The evaluations walk each table once as a list: a random access `tbl[s]!` costs the kernel a length
computation and a list walk.
-/
namespace Morlock.Proofs.Attack
open Morlock Morlock.Model

/-- Walking `l`, no entry hits a bit of `seen`, which collects the entries passed: a duplicate check
    in one pass (the kernel compares no pair of entries). -/
def distinctFrom : Nat → List Nat → Bool
  | _, [] => true
  | seen, x :: l => !seen.testBit x && distinctFrom (seen ||| 2 ^ x) l

theorem nodup_of_distinctFrom : ∀ {l : List Nat} {seen : Nat}, distinctFrom seen l = true →
    l.Nodup ∧ ∀ y ∈ l, seen.testBit y = false
  | [], _, _ => ⟨List.nodup_nil, nofun⟩
  | x :: l, seen, h => by
    simp only [distinctFrom, Bool.and_eq_true, Bool.not_eq_true'] at h
    obtain ⟨hn, hb⟩ := nodup_of_distinctFrom h.2
    have hb' : ∀ y ∈ l, seen.testBit y = false ∧ y ≠ x := fun y hy => by
      have := hb y hy
      rw [Nat.testBit_or, Nat.testBit_two_pow, Bool.or_eq_false_iff, decide_eq_false_iff_not] at this
      exact ⟨this.1, fun e => this.2 e.symm⟩
    refine ⟨List.nodup_cons.mpr ⟨fun hx => (hb' x hx).2 rfl, hn⟩, fun y hy => ?_⟩
    rcases List.mem_cons.mp hy with rfl | hy
    · exact h.1
    · exact (hb' y hy).1

/-- `tbl` lists every number below 64 exactly once. -/
structure PermTable (tbl : Array Nat) : Prop where
  size : tbl.size = 64
  nodup : tbl.toList.Nodup
  cover : toBB tbl.toList = 2 ^ 64 - 1

namespace PermTable
variable {tbl : Array Nat} (h : PermTable tbl)
include h

theorem mem_iff (i : Nat) : i ∈ tbl.toList ↔ i < 64 := by
  rw [← testBit_toBB, h.cover, Nat.testBit_two_pow_sub_one, decide_eq_true_iff]

theorem get {s : Nat} (hs : s < 64) : tbl[s]! = tbl.toList[s]'(by simpa [h.size] using hs) := by
  rw [getElem!_pos tbl s (h.size ▸ hs), Array.getElem_toList]

theorem lt {s : Nat} (hs : s < 64) : tbl[s]! < 64 := by
  rw [h.get hs, ← h.mem_iff]; exact List.getElem_mem _

theorem inj {a b : Nat} (ha : a < 64) (hb : b < 64) (e : tbl[a]! = tbl[b]!) : a = b := by
  rw [h.get ha, h.get hb] at e
  exact (List.getElem_inj h.nodup).mp e

theorem surj {i : Nat} (hi : i < 64) : ∃ s, s < 64 ∧ tbl[s]! = i := by
  obtain ⟨s, hs, e⟩ := List.mem_iff_getElem.mp ((h.mem_iff i).mpr hi)
  have hs' : s < 64 := by simpa [h.size] using hs
  exact ⟨s, hs', by rw [h.get hs', e]⟩

/-- Flipping square `sq` of `occ` and bit `tbl[sq]` of `x` keeps `x` the image of `occ` under `tbl`. -/
theorem view_xor {occ x sq : Nat} (hsq : sq < 64)
    (hv : ∀ s, s < 64 → x.testBit (tbl[s]!) = occ.testBit s) :
    ∀ s, s < 64 → (x ^^^ bitMask (tbl[sq]!)).testBit (tbl[s]!) = (occ ^^^ bitMask sq).testBit s := by
  intro s hs
  rw [testBit_xor_bitMask _ (h.lt hsq), testBit_xor_bitMask _ hsq, hv s hs]
  congr 1
  by_cases e : s = sq
  · simp [e]
  · have : tbl[s]! ≠ tbl[sq]! := fun c => e (h.inj hs hsq c)
    simp [e, this]

end PermTable

theorem perm_rot90 : PermTable Gen.rot90 :=
  ⟨rfl, (nodup_of_distinctFrom (seen := 0) (by decide +kernel)).1, by decide +kernel⟩
theorem perm_rot45L : PermTable Gen.rot45L :=
  ⟨rfl, (nodup_of_distinctFrom (seen := 0) (by decide +kernel)).1, by decide +kernel⟩
theorem perm_rot45R : PermTable Gen.rot45R :=
  ⟨rfl, (nodup_of_distinctFrom (seen := 0) (by decide +kernel)).1, by decide +kernel⟩

/-! ## Closed forms

`rot90` transposes the board; the 45° tables number the squares diagonal by diagonal (`diagL`, `diagR`:
the index of a square's diagonal, 0..14), each diagonal starting at offset `triOff` and `triLen` long. -/

def triOff (d : Nat) : Nat := if d ≤ 7 then d * (d + 1) / 2 else 64 - (15 - d) * (16 - d) / 2
def triLen (d : Nat) : Nat := if d ≤ 7 then d + 1 else 15 - d
def diagL (s : Nat) : Nat := 7 - s % 8 + s / 8
def diagR (s : Nat) : Nat := s % 8 + s / 8
def c90 (s : Nat) : Nat := 8 * (s % 8) + s / 8
def c45L (s : Nat) : Nat := triOff (diagL s) + min (s / 8) (s % 8)
def c45R (s : Nat) : Nat := triOff (diagR s) + min (s / 8) (7 - s % 8)

theorem get_of_toList {tbl : Array Nat} {f : Nat → Nat} (h : tbl.toList = (List.range 64).map f)
    {s : Nat} (hs : s < 64) : tbl[s]! = f s := by
  obtain ⟨l⟩ := tbl
  subst h
  simp [hs]

theorem rot90_eq {s : Nat} (hs : s < 64) : Gen.rot90[s]! = c90 s :=
  get_of_toList (f := c90) (by decide +kernel) hs
theorem rot45L_eq {s : Nat} (hs : s < 64) : Gen.rot45L[s]! = c45L s :=
  get_of_toList (f := c45L) (by decide +kernel) hs
theorem rot45R_eq {s : Nat} (hs : s < 64) : Gen.rot45R[s]! = c45R s :=
  get_of_toList (f := c45R) (by decide +kernel) hs
theorem off45L_eq {s : Nat} (hs : s < 64) : Gen.off45L[s]! = triOff (diagL s) :=
  get_of_toList (f := fun s => triOff (diagL s)) (by decide +kernel) hs
theorem off45R_eq {s : Nat} (hs : s < 64) : Gen.off45R[s]! = triOff (diagR s) :=
  get_of_toList (f := fun s => triOff (diagR s)) (by decide +kernel) hs
theorem mask45L_eq {s : Nat} (hs : s < 64) : Gen.mask45L[s]! = 2 ^ triLen (diagL s) - 1 :=
  get_of_toList (f := fun s => 2 ^ triLen (diagL s) - 1) (by decide +kernel) hs
theorem mask45R_eq {s : Nat} (hs : s < 64) : Gen.mask45R[s]! = 2 ^ triLen (diagR s) - 1 :=
  get_of_toList (f := fun s => 2 ^ triLen (diagR s) - 1) (by decide +kernel) hs

end Morlock.Proofs.Attack
