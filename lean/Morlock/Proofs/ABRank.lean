import Morlock.Props.C09
/-!
# Rank-space arithmetic for the alpha-beta window transformation (helper for C13 / C03)

Everything here is about `Int` ranks (`Spec.rank`): `fR = neg ∘ incR` is how `lift = negate ∘ incMate` acts on
ranks, `cwR = decR ∘ neg` is how `childBound = decMate ∘ negate` acts on ranks. `rankN n` is the set of ranks of
valid scores whose mate distance is at most `n`. `incR` and `decR` are piecewise translations of the five bands of
`rankN`, each described once, band by band; from those tables: `fR` is strictly antitone, `cwR` is its inverse except
that it sends the nearest mates to the infinities. The one-child "key" step of the alpha-beta loop invariant is `Clip`
carried through `fR`.
-/
namespace Morlock.Proofs.AB
open Morlock.Props.C09

/-- `a < v < b → r = v`, `v ≤ a → v ≤ r ≤ a`, `b ≤ v → b ≤ r ≤ v`: `r` is `v` clipped into the window, or
    any value between the bound that was hit and `v`. -/
def Clip (a b v r : Int) : Prop :=
  (a < v ∧ v < b → r = v) ∧ (v ≤ a → v ≤ r ∧ r ≤ a) ∧ (b ≤ v → b ≤ r ∧ r ≤ v)

/-- Ranks of valid scores with mate distance `≤ n`. -/
def rankN (n : Nat) (r : Int) : Prop :=
  r = -1099511627776 ∨ (-34359738368 + 1 ≤ r ∧ r ≤ -34359738368 + n) ∨
  (-2147483648 < r ∧ r < 2147483648) ∨
  (34359738368 - n ≤ r ∧ r ≤ 34359738368 - 1) ∨ r = 1099511627776

theorem rankN_mono {n m : Nat} {r : Int} (h : rankN n r) (hnm : n ≤ m) : rankN m r :=
  h.imp id (Or.imp (fun h => ⟨h.1, by omega⟩) (Or.imp id (Or.imp (fun h => ⟨by omega, h.2⟩) id)))

/-- rank of `lift s` as a function of the rank of `s`. -/
def fR (r : Int) : Int := -(incR r)

/-- rank of `decMate s` as a function of the rank of `s`. -/
def decR (r : Int) : Int :=
  if r = 34359738368 - 1 then 1099511627776
  else if r = -34359738368 + 1 then -1099511627776
  else if r = 1099511627776 then r
  else if r = -1099511627776 then r
  else if r > 2147483648 then r + 1
  else if r < -2147483648 then r - 1
  else r

/-- rank of `childBound s` as a function of the rank of `s`. -/
def cwR (r : Int) : Int := decR (-r)

/-- Negation swaps the two infinities and the two mate bands. -/
theorem rankN_neg {n : Nat} {r : Int} (h : rankN n r) : rankN n (-r) := by
  rcases h with rfl | h | h | h | rfl
  · exact .inr (.inr (.inr (.inr rfl)))
  · exact .inr (.inr (.inr (.inl ⟨by omega, by omega⟩)))
  · exact .inr (.inr (.inl ⟨by omega, by omega⟩))
  · exact .inr (.inl ⟨by omega, by omega⟩)
  · exact .inl rfl

theorem rankN_isRank {n : Nat} {r : Int} (h : rankN n r) (hn : n ≤ 127) : IsRank r :=
  h.imp id (Or.imp (fun h => ⟨by omega, by omega⟩) (Or.imp id (Or.imp (fun h => ⟨by omega, by omega⟩) id)))

theorem decR_mating {r : Int} (h1 : 2147483648 < r) (h2 : r < 34359738368 - 1) : decR r = r + 1 := by
  unfold decR; omega

theorem decR_mated {r : Int} (h1 : -34359738368 + 1 < r) (h2 : r < -2147483648) : decR r = r - 1 := by
  unfold decR; omega

theorem decR_heur {r : Int} (h1 : -2147483648 ≤ r) (h2 : r ≤ 2147483648) : decR r = r := by
  unfold decR; omega

/-- `decR`, band by band: the nearest mates fall onto the infinities, the others move one step outwards. -/
theorem decR_on {n : Nat} {r : Int} (h : rankN n r) (hn : n ≤ 127) :
    (r = -1099511627776 ∧ decR r = -1099511627776) ∨
    (r = -34359738368 + 1 ∧ decR r = -1099511627776) ∨
    (-34359738368 + 1 < r ∧ r ≤ -34359738368 + n ∧ decR r = r - 1) ∨
    (-2147483648 < r ∧ r < 2147483648 ∧ decR r = r) ∨
    (34359738368 - n ≤ r ∧ r < 34359738368 - 1 ∧ decR r = r + 1) ∨
    (r = 34359738368 - 1 ∧ decR r = 1099511627776) ∨
    (r = 1099511627776 ∧ decR r = 1099511627776) := by
  rcases h with rfl | h | h | h | rfl
  · exact .inl ⟨rfl, by decide⟩
  · by_cases e : r = -34359738368 + 1
    · exact .inr (.inl ⟨e, e ▸ by decide⟩)
    · exact .inr (.inr (.inl ⟨by omega, h.2, decR_mated (by omega) (by omega)⟩))
  · exact .inr (.inr (.inr (.inl ⟨h.1, h.2, decR_heur (by omega) (by omega)⟩)))
  · by_cases e : r = 34359738368 - 1
    · exact .inr (.inr (.inr (.inr (.inr (.inl ⟨e, e ▸ by decide⟩)))))
    · exact .inr (.inr (.inr (.inr (.inl ⟨h.1, by omega, decR_mating (by omega) (by omega)⟩))))
  · exact .inr (.inr (.inr (.inr (.inr (.inr ⟨rfl, by decide⟩)))))

theorem incR_rankN {n : Nat} {x : Int} (hx : rankN n x) (hn : n ≤ 126) : rankN (n + 1) (incR x) := by
  have := incR_on (rankN_isRank hx (by omega))
  unfold rankN at *; omega

theorem decR_rankN {n : Nat} {x : Int} (hx : rankN n x) (hn : n ≤ 127) : rankN (n - 1) (decR x) := by
  rcases decR_on hx hn with ⟨-, e⟩ | ⟨-, e⟩ | ⟨h1, h2, e⟩ | ⟨h1, h2, e⟩ | ⟨h1, h2, e⟩ | ⟨-, e⟩ | ⟨-, e⟩ <;> rw [e]
  · exact .inl rfl
  · exact .inl rfl
  · exact .inr (.inl ⟨by omega, by omega⟩)
  · exact .inr (.inr (.inl ⟨h1, h2⟩))
  · exact .inr (.inr (.inr (.inl ⟨by omega, by omega⟩)))
  · exact .inr (.inr (.inr (.inr rfl)))
  · exact .inr (.inr (.inr (.inr rfl)))

theorem incR_decR {r : Int} (hr : rankN 127 r) :
    (r = 1099511627776 ∧ incR (decR r) = 34359738368 - 1) ∨
    (r = -1099511627776 ∧ incR (decR r) = -34359738368 + 1) ∨ incR (decR r) = r := by
  rcases decR_on hr (Nat.le_refl _) with
    ⟨rfl, e⟩ | ⟨rfl, e⟩ | ⟨h1, h2, e⟩ | ⟨h1, h2, e⟩ | ⟨h1, h2, e⟩ | ⟨rfl, e⟩ | ⟨rfl, e⟩ <;> rw [e]
  · exact .inr (.inl ⟨rfl, by decide⟩)
  · exact .inr (.inr (by decide))
  · exact .inr (.inr (by rw [incR_mated (by omega) (by omega)]; omega))
  · exact .inr (.inr (incR_heur (by omega) (by omega)))
  · exact .inr (.inr (by rw [incR_mating (by omega) (by omega)]; omega))
  · exact .inr (.inr (by decide))
  · exact .inl ⟨rfl, by decide⟩

theorem decR_mono {r s : Int} (hr : rankN 127 r) (hs : rankN 127 s) (h : r ≤ s) : decR r ≤ decR s := by
  have := decR_on hr (Nat.le_refl _)
  have := decR_on hs (Nat.le_refl _)
  omega

theorem fR_rankN {n : Nat} {x : Int} (hx : rankN n x) (hn : n ≤ 126) : rankN (n + 1) (fR x) :=
  rankN_neg (incR_rankN hx hn)

theorem cwR_rankN {n : Nat} {x : Int} (hx : rankN (n + 1) x) (hn : n + 1 ≤ 127) : rankN n (cwR x) :=
  decR_rankN (rankN_neg hx) hn

theorem cwR_rankN' {n : Nat} {x : Int} (hx : rankN n x) (hn : n ≤ 127) : rankN n (cwR x) :=
  rankN_mono (decR_rankN (rankN_neg hx) hn) (Nat.sub_le n 1)

theorem fR_lt_iff {x y : Int} (hx : rankN 126 x) (hy : rankN 126 y) : x < y ↔ fR y < fR x := by
  have := incR_lt_iff (rankN_isRank hx (by omega)) (rankN_isRank hy (by omega))
  unfold fR; omega

theorem fR_le_iff {x y : Int} (hx : rankN 126 x) (hy : rankN 126 y) : x ≤ y ↔ fR y ≤ fR x := by
  have := fR_lt_iff hy hx
  omega

theorem fR_inj {x y : Int} (hx : rankN 126 x) (hy : rankN 126 y) (h : fR x = fR y) : x = y :=
  Int.le_antisymm ((fR_le_iff hx hy).2 (by omega)) ((fR_le_iff hy hx).2 (by omega))

theorem fR_cwR {a : Int} (ha : rankN 127 a) :
    (a = -1099511627776 ∧ fR (cwR a) = -34359738368 + 1) ∨
    (a = 1099511627776 ∧ fR (cwR a) = 34359738368 - 1) ∨ fR (cwR a) = a := by
  have := incR_decR (rankN_neg ha)
  unfold fR cwR; omega

theorem fR_bounds {x : Int} (hx : rankN 126 x) : -34359738368 + 1 ≤ fR x ∧ fR x ≤ 34359738368 - 1 := by
  have := incR_on (rankN_isRank hx (by omega))
  unfold fR; omega

theorem cwR_anti {a b : Int} (ha : rankN 127 a) (hb : rankN 127 b) (hab : a < b) : cwR b ≤ cwR a :=
  decR_mono (rankN_neg hb) (rankN_neg ha) (by omega)

/-- `fR` is a strictly antitone map, so it carries a clipped value to a clipped value of the mirrored window. -/
theorem clip_fR {α β v r : Int} (h : Clip α β v r)
    (hα : rankN 126 α) (hβ : rankN 126 β) (hv : rankN 126 v) (hr : rankN 126 r) :
    Clip (fR β) (fR α) (fR v) (fR r) := by
  obtain ⟨c1, c2, c3⟩ := h
  refine ⟨fun ⟨h1, h2⟩ => ?_, fun h1 => ?_, fun h1 => ?_⟩
  · rw [c1 ⟨(fR_lt_iff hα hv).2 h2, (fR_lt_iff hv hβ).2 h1⟩]
  · have q := c3 ((fR_le_iff hβ hv).2 h1)
    exact ⟨(fR_le_iff hr hv).1 q.2, (fR_le_iff hβ hr).1 q.1⟩
  · have q := c2 ((fR_le_iff hv hα).2 h1)
    exact ⟨(fR_le_iff hr hα).1 q.2, (fR_le_iff hv hr).1 q.1⟩

/-- One child of a proper window: how the lifted returned value `fR r` relates to the lifted true value
    `fR v`, given `Clip` on the child window when it is proper and the weak fact for every window. -/
theorem key_proper {a b v r : Int} (ha : rankN 127 a) (hb : rankN 127 b) (hv : rankN 126 v) (hr : rankN 126 r)
    (hab : a < b) (hclip : cwR b < cwR a → Clip (cwR b) (cwR a) v r) (hweak : r = v ∨ cwR b ≤ r) :
    (a < fR v ∧ fR v < b → fR r = fR v) ∧ (fR v ≤ a → fR r ≤ a) ∧ (b ≤ fR v → b ≤ fR r ∧ fR r ≤ fR v) := by
  have ca := cwR_rankN (n := 126) ha (Nat.le_refl _)
  have cb := cwR_rankN (n := 126) hb (Nat.le_refl _)
  have h3 := fR_cwR ha
  have h4 := fR_cwR hb
  have bv := fR_bounds hv
  have br := fR_bounds hr
  have ba := fR_bounds ca
  have bb := fR_bounds cb
  by_cases hw : cwR b < cwR a
  · -- the mirrored window is `(a, b)` itself, except that an infinite end comes back as the nearest mate,
    -- and then `fR v`, `fR r` cannot lie beyond it
    have C := clip_fR (hclip hw) cb ca hv hr
    unfold Clip at C
    omega
  · -- a degenerate child window: applying `fR` to its equal ends shows that `(a, b)` is `(M-1, I)` or `(-I, -M+1)`
    have e : fR (cwR a) = fR (cwR b) := congrArg fR (Int.le_antisymm (by omega) (cwR_anti ha hb hab))
    have := fR_le_iff cb hr
    rcases hweak with rfl | e' <;> omega

/-- What the weak fact `cwR b ≤ r` about a returned value says after lifting: `fR r ≤ b`, except that below the bottom
    `b = -∞` there is still the least value of `fR`. -/
theorem fR_le_of_cwR_le {b r : Int} (hb : rankN 127 b) (hr : rankN 126 r) (h : cwR b ≤ r) :
    fR r ≤ b ∨ (b = -1099511627776 ∧ fR r = -34359738368 + 1) := by
  have := (fR_le_iff (cwR_rankN (n := 126) hb (Nat.le_refl _)) hr).1 h
  have := fR_cwR hb
  have := fR_bounds hr
  omega

/-- One child of an improper window `b ≤ a` (with `b` not the bottom): the lifted returned value cannot
    exceed both `a` and the lifted true value. -/
theorem key_improper {a b v r : Int} (hb : rankN 127 b) (hr : rankN 126 r)
    (hba : b ≤ a) (hbot : b ≠ -1099511627776) (hweak : r = v ∨ cwR b ≤ r) :
    fR r ≤ a ∨ fR r = fR v := by
  rcases hweak with rfl | e
  · exact .inr rfl
  · have := fR_le_of_cwR_le hb hr e
    omega

theorem clip_full {v r : Int} (hv : rankN 127 v) (hr : rankN 127 r)
    (h : Clip (-1099511627776) 1099511627776 v r) : r = v := by
  unfold rankN Clip at *; omega

/-- Whenever a child raises alpha (on any window, proper or not), the lifted returned value is at most the
    lifted true value of that child. -/
theorem key_raise {a b v r : Int} (ha : rankN 127 a) (hb : rankN 127 b) (hv : rankN 126 v) (hr : rankN 126 r)
    (hclip : cwR b < cwR a → Clip (cwR b) (cwR a) v r) (hweak : r = v ∨ cwR b ≤ r) (hraise : a < fR r) :
    fR r ≤ fR v := by
  by_cases hab : a < b
  · have := key_proper ha hb hv hr hab hclip hweak
    omega
  · rcases hweak with rfl | e
    · exact Int.le_refl _
    · have := fR_le_of_cwR_le hb hr e
      have := fR_bounds hv
      omega

end Morlock.Proofs.AB
