import Morlock.Proofs.FenRoundtrip
import Morlock.Spec.Fen
import Morlock.Model.Abs
/-!
# `fen.Encode` prints what the reference printer prints

`Model.Fen.encode p turn np fm` and `Spec.printFen` on the abstraction `abs p turn` and the two clocks as natural numbers are
the same `String`, field by field. Placement: both printers run the same fold over the same eight files, and the steps agree
cell by cell; `Position.square` never returns `NoPiece` (it searches `piecesInOrder`), so no hypothesis on the position is
needed. The bounds on rights and target are necessary: `Square.String` reduces the rank modulo 8, the reference does not.
-/
namespace Morlock.Proofs.FenPrint
open Morlock Morlock.Model Morlock.Model.Fen Morlock.Proofs Morlock.Proofs.Fen

theorem printFen_eq (g : Spec.FenGame) :
    Spec.printFen g =
      Spec.printPlacement g.pos ++ " " ++ (match g.pos.turn with | .white => "w" | .black => "b") ++ " " ++
        Spec.printRights g.pos ++ " " ++ (match g.pos.ep with | some s => Spec.sqName s | none => "-") ++ " " ++
        toString g.halfmove ++ " " ++ toString g.fullmove := rfl

/-- The piece comes out of the search through `piecesInOrder`. -/
theorem square_ne_none {p : Position} {sq : Nat} {c : Color} {k : Piece} (h : p.square sq = some (c, k)) :
    k ≠ .none := by
  have hmem : ∀ (c' : Color) (x : Color × Piece),
      (if !isSet (p.pieces c' .none) sq then none
       else (Position.piecesInOrder.find? fun k => isSet (p.pieces c' k) sq).map fun k => (c', k)) = some x →
      x.2 ∈ Position.piecesInOrder := by
    intro c' x hx
    split at hx
    · cases hx
    · cases hf : Position.piecesInOrder.find? fun k => isSet (p.pieces c' k) sq with
      | none => rw [hf] at hx; cases hx
      | some k' =>
        rw [hf] at hx
        simp only [Option.map_some, Option.some.injEq] at hx
        rw [← hx]
        exact List.mem_of_find?_eq_some hf
  have hk : k ∈ Position.piecesInOrder := by
    unfold Position.square at h
    split at h
    · cases h
    · simp only at h
      split at h
      · rename_i x hx
        cases h
        exact hmem .white _ hx
      · exact hmem .black _ h
  intro e
  subst e
  revert hk
  decide

theorem printPiece_cellChar (c : Color) {k : Piece} (h : k ≠ .none) :
    ∃ K, absKind k = some K ∧ printPiece c k = Spec.cellChar (absColor c, K) := by
  cases c <;> cases k <;> first | exact absurd rfl h | exact ⟨_, rfl, by decide⟩

theorem abs_at (p : Position) (turn : Color) {sq : Nat} (h : sq < 64) : (abs p turn).at sq = absCell p sq := by
  unfold Spec.Pos.at abs
  simp [Array.getD, h]

theorem foldl_congr_mem {α β : Type} {f g : β → α → β} {l : List α} (b : β)
    (h : ∀ x ∈ l, ∀ a, f a x = g a x) : l.foldl f b = l.foldl g b := by
  induction l generalizing b with
  | nil => rfl
  | cons x xs ih =>
    rw [List.foldl_cons, List.foldl_cons, h x (List.mem_cons_self ..) b]
    exact ih _ fun y hy a => h y (List.mem_cons_of_mem _ hy) a

/-- A loop over the eight files that takes `Encode`'s step on the cell it looks up is `Encode`'s loop over the row. -/
theorem foldl_rowOf {b : Board} {i : Nat} {g : String × Nat → Nat → String × Nat} (a : String × Nat)
    (h : ∀ f < 8, ∀ acc, g acc f = rankStep acc (b (newSquare (8 - f - 1) (8 - i - 1)))) :
    (List.range 8).foldl g a = (rowOf b i).foldl rankStep a := by
  unfold rowOf
  rw [List.foldl_map]
  exact foldl_congr_mem _ fun f hf acc => h f (List.mem_range.mp hf) acc

theorem square_grid : ∀ i, i < 8 → ∀ f, f < 8 →
    newSquare (8 - f - 1) (8 - i - 1) = Spec.mkSq (7 - f) (7 - i) ∧ Spec.mkSq (7 - f) (7 - i) < 64 := by
  decide +kernel

theorem placement_eq (p : Position) (turn : Color) :
    boardStr p.square = Spec.printPlacement (abs p turn) := by
  unfold boardStr Spec.printPlacement
  refine congrArg _ (List.map_congr_left fun i hi => ?_)
  dsimp only
  rw [foldl_rowOf (b := p.square) (i := i)]
  · rfl
  -- the two loops take the same step on every square: blank iff blank, same letter otherwise
  · intro f hf acc
    obtain ⟨e, hlt⟩ := square_grid i (List.mem_range.mp hi) f hf
    rw [e, abs_at p turn hlt]
    unfold absCell rankStep
    cases hs : p.square (Spec.mkSq (7 - f) (7 - i)) with
    | none => rfl
    | some x =>
      obtain ⟨c, k⟩ := x
      obtain ⟨K, hK, hl⟩ := printPiece_cellChar c (square_ne_none hs)
      simp only [hK, Option.map_some, hl]

/-- The rights field of the reference as a function of the four bits. -/
def rightsOfBits (c : Nat) : String :=
  Spec.printRights { board := #[], turn := .white, wk := c &&& wK != 0, wq := c &&& wQ != 0, bk := c &&& bK != 0,
                     bq := c &&& bQ != 0, ep := none }

theorem castling_cases : ∀ c, c < 16 → printCastling c = rightsOfBits c := by decide +kernel

theorem castling_eq (p : Position) (turn : Color) (hc : p.castling < 16) :
    printCastling p.castling = Spec.printRights (abs p turn) :=
  castling_cases _ hc

/-- With a fifth bit set and none of the four, `Encode` writes the empty string, the reference `-`. -/
theorem castling_bound_needed : printCastling 16 = "" ∧ rightsOfBits 16 = "-" := by decide

theorem squareString_sqName (e : Nat) (h : e < 64) : squareString e = Spec.sqName e := by
  apply String.toList_injective
  have hf : e % 8 < 8 := Nat.mod_lt _ (by decide)
  have hl : Spec.fileLetter (e % 8) = fileChar (e % 8) := by
    rw [(fileChar_spec _ hf).2.1]
    exact congrArg Char.ofNat (by show 97 + (7 - e % 8) = 104 - e % 8; omega)
  rw [squareString_toList h, Spec.sqName, String.toList_append, Spec.fileOf, Spec.rankOf, hl,
    (rankChar_spec _ (by omega : e / 8 < 8)).2.1, String.toList_singleton]
  rfl

theorem ep_eq (p : Position) (turn : Color) (he : p.enpassant < 64) :
    epStr p.enpassant = (match (abs p turn).ep with | some s => Spec.sqName s | none => "-") := by
  unfold epStr abs
  by_cases h0 : p.enpassant = 0
  · simp [h0]
  · simp only [h0, if_false]
    rw [if_pos (by simpa using h0)]
    exact squareString_sqName _ he

theorem ep_bound_needed : squareString 64 = "h1" ∧ Spec.sqName 64 = "h9" := by decide

theorem itoa_toNat {n : Int} (h : 0 ≤ n) : itoa n = toString n.toNat := by
  obtain ⟨m, rfl⟩ := Int.eq_ofNat_of_zero_le h
  apply String.toList_injective
  rw [itoa_natCast, Int.toNat_natCast]
  show _ = (Nat.repr m).toList
  simp

end Morlock.Proofs.FenPrint
