import Morlock.Proofs.FltPow
import Morlock.Proofs.FltRhe
import Morlock.Proofs.FltExpo
import Morlock.Proofs.FltRndPos
import Morlock.Proofs.FltQ
import Morlock.Proofs.FltRnd
import Morlock.Proofs.FltDyadic
import Morlock.Proofs.FltMono
import Morlock.Proofs.FltOrder
import Morlock.Proofs.FltBits
import Morlock.Proofs.FltOps
import Morlock.Proofs.FltSqrt
import Morlock.Proofs.FltSqrtMono
import Morlock.Proofs.FltSqrtNearest
import Morlock.Proofs.FltOverflow
import Morlock.Proofs.FltNearest
import Morlock.Proofs.FltInt
/-!
# Lemmas about the floating-point model `Model/Flt.lean`

Imports every `Proofs/Flt*.lean` except `FltFacts`, which builds on this file.  Everything is core Lean (no Mathlib).
Conventions:

* `pn e / pd e = 2^e` for an integer exponent `e` (`FltPow`); comparisons of `X / Y` with `2^e` are written by
  cross-multiplication `X * pd e < Y * pn e`.
* `Q.Eqv`, `Q.Le`, `Q.Lt`: equality and order of rationals by cross-multiplication (`Q.beq_iff`, `Q.le_iff`, `Q.lt_iff`
  connect them to the Boolean functions of the model); `Q.Canon x`: positive denominator and lowest terms.
* `Fmt.WF f`: `1 ≤ p` and `emin + (p-1) ≤ emax`; `f32_wf`, `f64_wf`.
* `Rep f x`: `x` is a finite number of the format.
-/
