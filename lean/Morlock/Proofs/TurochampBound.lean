import Morlock.Model.Turochamp
import Morlock.Proofs.FltOps
/-!
# Bounded rationals and the two facts about rounding the TUROCHAMP totality proof rests on

`Bd x B`: positive denominator and `|x| ≤ B` (`Q.AbsLe`, by cross-multiplication). `FltFacts`: a value bounded by an integer
of the format rounds to a finite value with the same bound (proved in `Proofs/TurochampFltInst.lean`). The bounds of the
exact operations are those of `Proofs/FltOps.lean`.
-/
namespace Morlock.Proofs.Turochamp
open Morlock Morlock.Model Morlock.Model.Flt Morlock.Model.Turochamp

def Bd (x : Q) (B : Nat) : Prop := 0 < x.den ∧ x.num.natAbs ≤ B * x.den

/-- The facts about `Flt.rnd` used: an integer bound that is a number of the format survives rounding, and the
result is finite (`rnd_isSome_of_absLe`, `rnd_absLe` of `Proofs/FltOps.lean`). -/
structure FltFacts : Prop where
  abs_le32 : ∀ (x : Q) (B : Nat), B ≤ 2 ^ 24 → Bd x B → ∃ v, rnd f32 x = some v ∧ Bd v B
  abs_le64 : ∀ (x : Q) (B : Nat), B ≤ 2 ^ 53 → Bd x B → ∃ v, rnd f64 x = some v ∧ Bd v B

theorem Bd.mono {x : Q} {A B : Nat} (h : Bd x A) (hab : A ≤ B) : Bd x B :=
  ⟨h.1, Nat.le_trans h.2 (Nat.mul_le_mul_right _ hab)⟩

theorem Bd.norm {x : Q} {B : Nat} (h : Bd x B) : Bd (Q.norm x) B := ⟨Q.norm_den_pos h.1, Q.AbsLe.norm h.1 h.2⟩

theorem Bd.neg {x : Q} {B : Nat} (h : Bd x B) : Bd x.neg B := ⟨h.1, Q.AbsLe.neg h.2⟩

theorem Bd.add {x y : Q} {A B : Nat} (hx : Bd x A) (hy : Bd y B) : Bd (Q.add x y) (A + B) :=
  ⟨(Q.add_canon hx.1 hy.1).1, Q.AbsLe.add hx.1 hy.1 hx.2 hy.2⟩

theorem Bd.sub {x y : Q} {A B : Nat} (hx : Bd x A) (hy : Bd y B) : Bd (Q.sub x y) (A + B) :=
  ⟨(Q.sub_canon hx.1 hy.1).1, Q.AbsLe.sub hx.1 hy.1 hx.2 hy.2⟩

theorem Bd.mul {x y : Q} {A B : Nat} (hx : Bd x A) (hy : Bd y B) : Bd (Q.mul x y) (A * B) :=
  ⟨(Q.mul_canon hx.1 hy.1).1, Q.AbsLe.mul hx.1 hy.1 hx.2 hy.2⟩

theorem Bd.div {x y : Q} {A c : Nat} (hx : Bd x A) (hy : 0 < y.num)
    (hc : y.den ≤ c * y.num.toNat) : Bd (Q.div x y) (A * c) := by
  unfold Q.div
  rw [if_pos hy]
  apply Bd.norm
  have hyn : 0 < y.num.toNat := by omega
  refine ⟨Nat.mul_pos hx.1 hyn, ?_⟩
  show (x.num * (y.den : Int)).natAbs ≤ A * c * (x.den * y.num.toNat)
  rw [Int.natAbs_mul, Int.natAbs_natCast]
  calc x.num.natAbs * y.den ≤ (A * x.den) * (c * y.num.toNat) := Nat.mul_le_mul hx.2 hc
    _ = A * c * (x.den * y.num.toNat) := by
      rw [Nat.mul_assoc, Nat.mul_assoc, Nat.mul_left_comm x.den c]

theorem Bd.div_int {x : Q} {k c : Nat} (hx : Bd x (k * c)) (hc : 0 < c) : Bd (Q.div x (Q.ofInt c)) k := by
  unfold Q.div Q.ofInt
  have : (0 : Int) < (c : Int) := by omega
  simp only [this, if_true]
  apply Bd.norm
  refine ⟨Nat.mul_pos hx.1 (by omega), ?_⟩
  show (x.num * ((1 : Nat) : Int)).natAbs ≤ k * (x.den * (c : Int).toNat)
  rw [Int.natAbs_mul, Int.natAbs_natCast, Int.toNat_natCast, Nat.mul_one]
  calc x.num.natAbs ≤ k * c * x.den := hx.2
    _ = k * (x.den * c) := by rw [Nat.mul_assoc, Nat.mul_comm c]

theorem Bd.ofInt {i : Int} {B : Nat} (h : i.natAbs ≤ B) : Bd (Q.ofInt i) B := by
  unfold Q.ofInt Bd
  simp only [Nat.mul_one]
  exact ⟨by omega, h⟩

theorem Bd.ofNat {n B : Nat} (h : n ≤ B) : Bd (Q.ofInt (n : Int)) B := Bd.ofInt (by simpa using h)

theorem Bd.roundAway {x : Q} {B : Nat} (h : Bd x B) : x.roundAway.natAbs ≤ B := by
  unfold Q.roundAway
  simp only []
  have hq : (2 * x.num.natAbs + x.den) / (2 * x.den) ≤ B := by
    have hlt : 2 * x.num.natAbs + x.den < (B + 1) * (2 * x.den) := by
      have := h.2
      have h1 := h.1
      calc 2 * x.num.natAbs + x.den ≤ 2 * (B * x.den) + x.den := by omega
        _ < (B + 1) * (2 * x.den) := by
          rw [Nat.add_mul, Nat.one_mul, Nat.mul_left_comm]
          omega
    have := (Nat.div_lt_iff_lt_mul (show 0 < 2 * x.den by have := h.1; omega)).mpr hlt
    omega
  split <;> simp only [Int.natAbs_neg, Int.natAbs_natCast] <;> exact hq

theorem add32 (F : FltFacts) {x y : Q} {A B : Nat} (hx : Bd x A) (hy : Bd y B) (hab : A + B ≤ 2 ^ 24) :
    ∃ v, add f32 x y = some v ∧ Bd v (A + B) := F.abs_le32 _ _ hab (hx.add hy)

theorem sub32 (F : FltFacts) {x y : Q} {A B : Nat} (hx : Bd x A) (hy : Bd y B) (hab : A + B ≤ 2 ^ 24) :
    ∃ v, sub f32 x y = some v ∧ Bd v (A + B) := F.abs_le32 _ _ hab (hx.sub hy)

theorem mul32 (F : FltFacts) {x y : Q} {A B : Nat} (hx : Bd x A) (hy : Bd y B) (hab : A * B ≤ 2 ^ 24) :
    ∃ v, mul f32 x y = some v ∧ Bd v (A * B) := F.abs_le32 _ _ hab (hx.mul hy)

theorem mul64 (F : FltFacts) {x y : Q} {A B : Nat} (hx : Bd x A) (hy : Bd y B) (hab : A * B ≤ 2 ^ 53) :
    ∃ v, mul f64 x y = some v ∧ Bd v (A * B) := F.abs_le64 _ _ hab (hx.mul hy)

theorem addIf32 (F : FltFacts) {s v : Q} {A B : Nat} (c : Bool) (hs : Bd s A) (hv : Bd v B) (hab : A + B ≤ 2 ^ 24) :
    ∃ r, addIf c v s = some r ∧ Bd r (A + B) := by
  cases c
  · refine ⟨s, ?_, hs.mono (by omega)⟩
    unfold addIf
    exact if_neg (by decide)
  · obtain ⟨r, hr, hb⟩ := add32 F hs hv hab
    refine ⟨r, ?_, hb⟩
    unfold addIf
    rw [if_pos rfl]
    exact hr

theorem bd_q0 : Bd q0 0 := ⟨by decide, by decide⟩
theorem bd_q1 : Bd q1 1 := ⟨by decide, by decide⟩
theorem bd_qHalf : Bd qHalf 1 := ⟨by decide, by decide⟩

end Morlock.Proofs.Turochamp
