import Morlock.Proofs.ABChessFuel
import Morlock.Model.EngineExplore
/-!
# The fuel of TUROCHAMP's quiescence search is enough

`turochamp.ConsiderableMovesOnly` is not captures-only: `IsConsiderableMove(m, b)` (asked about the board *after* the
move) starts from `considerable := b.Position().IsCheckMate(b.Turn())`, and only a capture (`m.IsCapture()`) can turn it
on otherwise. So a picked move is a capture, or a non-capture after which the opponent is checkmated. A checkmated
world has no legal move, hence no explored child; a capture removes exactly one man. Hence with at most `k + 1` men
the explored tree is exhausted within `k + 2` plies: 65 in general, 33 (so the 64 of the driver and of the `c03`
stream) on a board with at most 32 men.
-/
namespace Morlock.Proofs.AB
open Morlock Morlock.Model Morlock.Model.World Morlock.Model.Score
open Morlock.Proofs Morlock.Proofs.Arena Morlock.Proofs.Gen Morlock.Proofs.Chain Morlock.Proofs.Draw

/-- an exploration that only picks captures and moves that checkmate -/
def CaptureOrMate (z : ZTable) (ex : World → Explore) : Prop :=
  ∀ w m, (ex w).pick m = true →
    m.isCapture = true ∨
    ∃ w', w.pushMove z 0 m = some w' ∧ (w'.cur 0).pos.isCheckMate (w'.board 0).turn = true

theorem captureOrMate_of_capturesOnly (z : ZTable) {ex : World → Explore} (h : CapturesOnly ex) : CaptureOrMate z ex :=
  fun w m hp => Or.inl (h w m hp)

theorem isConsiderableCore_true {m : Move} {pos : Position} {turn : Color} {s : Option Move}
    (h : Turochamp.isConsiderableCore m pos turn s = some true) :
    m.isCapture = true ∨ pos.isCheckMate turn = true := by
  cases hc : m.isCapture with
  | true => exact Or.inl rfl
  | false =>
    right
    unfold Turochamp.isConsiderableCore at h
    simp only [hc, Bool.false_eq_true, if_false] at h
    exact Option.some.inj h

/-- **A move picked by TUROCHAMP's quiescence exploration is a capture, or it checkmates** (the board after the move
    exists and its side to move is mated). -/
theorem turochamp_pick_capture_or_mate (z : ZTable) : CaptureOrMate z (turochampExplore z) := by
  intro w m h
  have h' : (match w.pushMove z 0 m with
      | some w' => Turochamp.considerablePick 0 w' m == some true
      | none => false) = true := h
  cases hp : w.pushMove z 0 m with
  | none => rw [hp] at h'; cases h'
  | some w' =>
    rw [hp] at h'
    exact (isConsiderableCore_true (eq_of_beq h')).imp id fun h1 => ⟨w', rfl, h1⟩

theorem move_none_of_mated {p : Position} {turn : Color} (h : p.isCheckMate turn = true) {m : Move}
    (hm : m ∈ p.pseudoLegalMoves turn) : p.move m = none := by
  unfold Position.isCheckMate at h
  simp only [Bool.and_eq_true, List.isEmpty_iff] at h
  cases hq : p.move m with
  | none => rfl
  | some q =>
    have : m ∈ p.legalMoves turn := List.mem_filter.2 ⟨hm, by rw [hq]; rfl⟩
    rw [h.2] at this
    cases this

/-- Below a checkmated world there is no child at all. -/
theorem qdone_mated (z : ZTable) (ev : World → Int) (ex : World → Explore) {w : World} (hw : Inv w)
    (h : (w.cur 0).pos.isCheckMate (w.board 0).turn = true) : QDone (boardGameW z ev) ex 1 w := by
  refine Or.inr fun m c hm _ hpush => ?_
  obtain ⟨_, _, _, hmv, _⟩ := push_line hw.1 hw.2.1 (show w.pushMove z 0 m = some c from hpush)
  rw [move_none_of_mated h hm] at hmv
  cases hmv

/-- Any fuel `≥ 2` that exceeds the number of men exhausts the tree of an exploration that picks only captures and
    checkmating moves: `men - 1` drops with a capture, and a mated child needs one ply. -/
theorem captureOrMate_qdone (z : ZTable) (ev : World → Int) (ex : World → Explore) (hex : CaptureOrMate z ex)
    (w : World) (h : Inv w) (fuel : Nat) (h2 : 2 ≤ fuel) (hmen : menP (w.cur 0).pos < fuel) :
    QDone (boardGameW z ev) ex fuel w := by
  obtain ⟨k, rfl⟩ : ∃ k, fuel = k + 2 := ⟨fuel - 2, by omega⟩
  refine qdone_of_measure Inv (fun w => menP (w.cur 0).pos - 1) 1 (fun w m c h hm hp hpush => ?_) k w h (by omega)
  have hc : Inv c := inv_push h hm hpush
  rcases hex w m hp with hcap | ⟨w', hw', hmate⟩
  · obtain ⟨_, _, _, hmv, _⟩ := push_line h.1 h.2.1 hpush
    have := menP_capture h.2.2 hm hcap hmv
    exact ⟨hc, Or.inl (by omega)⟩
  · rw [show w.pushMove z 0 m = some c from hpush] at hw'
    cases hw'
    exact ⟨hc, Or.inr (qdone_mated z ev ex hc hmate)⟩

theorem turochamp_qdone_men (z : ZTable) :
    ∀ k w, Inv w → menP (w.cur 0).pos ≤ k + 1 → QDone (turochampGame z) (turochampExplore z) (k + 2) w :=
  fun k w h hk => captureOrMate_qdone z turochampKey _ (turochamp_pick_capture_or_mate z) w h (k + 2) (by omega) (by omega)

theorem turochamp_qdone (z : ZTable) (w : World) (h : Inv w) :
    QDone (turochampGame z) (turochampExplore z) 65 w :=
  turochamp_qdone_men z 63 w h (by have := menP_le (w.cur 0).pos; omega)

theorem turochamp_qdone_33 (z : ZTable) (w : World) (h : Inv w) (h32 : popCount (w.cur 0).pos.all ≤ 32) :
    QDone (turochampGame z) (turochampExplore z) 33 w :=
  turochamp_qdone_men z 31 w h (by rw [menP_eq_popCount h.2.2.1.rep]; omega)

/-- The fuel of the driver and of the `c03` stream (64) is enough on every board with at most 32 men. -/
theorem turochamp_qdone_32 (z : ZTable) (w : World) (h : Inv w) (h32 : popCount (w.cur 0).pos.all ≤ 32) :
    QDone (turochampGame z) (turochampExplore z) 64 w :=
  QDone_mono _ _ 33 64 w (by decide) (turochamp_qdone_33 z w h h32)

theorem inv_kidsW {z : ZTable} {ev : World → Int} {ex : World → Explore} {w c : World} (h : Inv w)
    (hc : c ∈ kids (boardGameW z ev) ex w ((boardGameW z ev).moves w)) : Inv c := by
  obtain ⟨m, hm, _, hpush⟩ := mem_kids hc
  exact inv_push h hm hpush

/-- The reference value of TUROCHAMP's main search does not depend on the fuel of its quiescence leaves (from 65 on). -/
theorem turochamp_V_fuel_irrelevant (z : ZTable) (ex : World → Explore) (rootPly : Int) (fuel : Nat) (hf : 65 ≤ fuel) :
    ∀ d w, Inv w → V (turochampGame z) ex (turochampLeaf z fuel) rootPly d w =
      V (turochampGame z) ex (turochampLeaf z 65) rootPly d w :=
  V_fuel_irrelevant_of_qdone Inv (fun _ _ => inv_kidsW) 65 (turochamp_qdone z) rootPly fuel hf

end Morlock.Proofs.AB
