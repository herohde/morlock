import Morlock.Model.Search
import Morlock.Proofs.ABRank
/-!
# Score-level facts for the alpha-beta proofs: graded validity, `lift`, `childBound`, `cutoff`
-/
namespace Morlock.Proofs.AB
open Morlock Morlock.Model Morlock.Model.Score Morlock.Spec
open Morlock.Props.C09

/-- How a parent sees the value of a child: one more ply of mate distance, from the other side. -/
def lift (s : Score) : Score := (incMate s).negate

/-- Graded validity: a valid score whose mate distance (if it is a mate score) is at most `n`. -/
def okN (n : Nat) (s : Score) : Prop :=
  Valid s ∧ (s.ty = .mateInX → -(n : Int) ≤ s.mate ∧ s.mate ≤ n)

instance (n : Nat) (s : Score) : Decidable (okN n s) := by unfold okN; infer_instance

theorem okN_mono {n m : Nat} {s : Score} (h : okN n s) (hnm : n ≤ m) : okN m s :=
  ⟨h.1, fun t => by have := h.2 t; omega⟩

theorem okN_valid {n : Nat} {s : Score} (h : okN n s) : Valid s := h.1

theorem okN_rankN {n : Nat} {s : Score} (h : okN n s) : rankN n (rank s) := by
  obtain ⟨t, m, p⟩ := s
  obtain ⟨hv, hm⟩ := h
  cases t <;> simp [Valid] at hv hm
  · exact .inr (.inr (.inl hv.2))
  · by_cases h : m < 0
    · exact .inr (.inl (by simp only [rank, h, if_true]; omega))
    · exact .inr (.inr (.inr (.inl (by simp only [rank, h, if_false]; omega))))
  · exact .inr (.inr (.inr (.inr rfl)))
  · exact .inl rfl

/-- Graded validity is validity plus a condition on the rank alone, so it can be carried through rank space. -/
theorem okN_of_rankN {n : Nat} {s : Score} (hv : Valid s) (hr : rankN n (rank s)) : okN n s := by
  refine ⟨hv, fun t => ?_⟩
  obtain ⟨t', m, p⟩ := s
  cases t
  simp [Valid] at hv
  simp only [rank, rankN] at hr
  show -(n : Int) ≤ m ∧ m ≤ n
  omega

theorem okN_zero : okN 0 zeroScore := by decide
theorem okN_negInf : okN 0 negInfScore := by decide
theorem okN_inf : okN 0 infScore := by decide

theorem okN_heuristic {e : Int} (h1 : -2147483648 < e) (h2 : e < 2147483648) : okN 0 (heuristicScore e) := by
  simp [okN, Valid, heuristicScore, h1, h2]

theorem rank_zero : rank zeroScore = 0 := by decide
theorem rank_negInf : rank negInfScore = -1099511627776 := by decide
theorem rank_inf : rank infScore = 1099511627776 := by decide

theorem okN_incable {n : Nat} {s : Score} (h : okN n s) (hn : n ≤ 126) : Incable s :=
  fun t => by have := h.2 t; omega

theorem okN_noMin {n : Nat} {s : Score} (h : okN n s) (hn : n ≤ 127) : NoMin s :=
  fun t => by have := h.2 t; omega

theorem okN_neg {n : Nat} {s : Score} (h : okN n s) (hn : n ≤ 127) : okN n s.negate :=
  okN_of_rankN (valid_neg s h.1) (rank_neg s h.1 (okN_noMin h hn) ▸ rankN_neg (okN_rankN h))

theorem okN_inc {n : Nat} {s : Score} (h : okN n s) (hn : n ≤ 126) : okN (n + 1) s.incMate :=
  have hi := okN_incable h hn
  okN_of_rankN (valid_inc s h.1 hi) (rank_inc s h.1 hi ▸ incR_rankN (okN_rankN h) hn)

theorem okN_lift {n : Nat} {s : Score} (h : okN n s) (hn : n ≤ 126) : okN (n + 1) (lift s) :=
  okN_neg (okN_inc h hn) (by omega)

theorem rank_lift {n : Nat} {s : Score} (h : okN n s) (hn : n ≤ 126) : rank (lift s) = fR (rank s) := by
  have hi := okN_incable h hn
  unfold lift fR
  rw [rank_neg _ (valid_inc s h.1 hi) (okN_noMin (okN_inc h hn) (by omega)), rank_inc s h.1 hi]

theorem valid_dec (s : Score) (hs : Valid s) : Valid (decMate s) := by
  obtain ⟨t, m, p⟩ := s
  cases t <;> simp [Valid] at hs
  · simp [decMate, Valid, hs]
  · obtain ⟨rfl, h0, hs⟩ := hs
    by_cases h1 : m = 1
    · subst h1; decide
    · by_cases h2 : m = -1
      · subst h2; decide
      · by_cases h : m < 0 <;> simp [decMate, Valid, mateInXScore, wrap8, h, h1, h2] <;> omega
  · simp [decMate, Valid, hs]
  · simp [decMate, Valid, hs]

theorem rank_dec (s : Score) (hs : Valid s) : rank (decMate s) = decR (rank s) := by
  obtain ⟨t, m, p⟩ := s
  cases t <;> simp [Valid] at hs
  · exact (decR_heur (r := p) (by omega) (by omega)).symm
  · obtain ⟨rfl, h0, hs⟩ := hs
    by_cases h1 : m = 1
    · subst h1; decide
    · by_cases h2 : m = -1
      · subst h2; decide
      · by_cases h : m < 0 <;> simp [decMate, rank, mateInXScore, h, h1, h2]
        · rw [decR_mated (by omega) (by omega), wrap8_id (by omega) (by omega)]; omega
        · rw [decR_mating (by omega) (by omega), wrap8_id (by omega) (by omega)]; omega
  · obtain ⟨rfl, rfl⟩ := hs; decide
  · obtain ⟨rfl, rfl⟩ := hs; decide

theorem rank_cw {n : Nat} {s : Score} (h : okN n s) (hn : n ≤ 127) : rank (childBound s) = cwR (rank s) := by
  unfold childBound cwR
  rw [rank_dec _ (valid_neg s h.1), rank_neg s h.1 (okN_noMin h hn)]

theorem okN_cw {n : Nat} {s : Score} (h : okN (n + 1) s) (hn : n + 1 ≤ 127) : okN n (childBound s) :=
  okN_of_rankN (valid_dec _ (valid_neg s h.1)) (rank_cw h hn ▸ cwR_rankN (okN_rankN h) hn)

theorem okN_cw' {n : Nat} {s : Score} (h : okN n s) (hn : n ≤ 127) : okN n (childBound s) :=
  okN_of_rankN (valid_dec _ (valid_neg s h.1)) (rank_cw h hn ▸ cwR_rankN' (okN_rankN h) hn)

theorem cutoff_iff {a b : Score} (ha : Valid a) (hb : Valid b) :
    cutoff a b = true ↔ rank b ≤ rank a := by
  unfold cutoff
  rw [Bool.or_eq_true, beq_iff_eq, lt_iff_rank b a hb ha]
  constructor
  · rintro (rfl | h) <;> omega
  · intro h
    by_cases e : rank b = rank a
    · exact .inl (rank_injective b a hb ha e).symm
    · exact .inr (by omega)

theorem cutoff_false {a b : Score} (ha : Valid a) (hb : Valid b) (h : rank a < rank b) :
    cutoff a b = false := by
  cases hc : cutoff a b
  · rfl
  · have := (cutoff_iff ha hb).1 hc; omega

/-- The "raise alpha" step of both move loops. -/
theorem raise_spec {n : Nat} {a s : Score} (ha : okN n a) (hs : okN n s) :
    (a.less s = true ↔ rank a < rank s) ∧
    okN n (if a.less s then s else a) ∧
    rank (if a.less s then s else a) = Max.max (rank a) (rank s) := by
  refine ⟨lt_iff_rank a s ha.1 hs.1, ?_, (max_min a s ha.1 hs.1).1⟩
  split <;> assumption

theorem scoreMax_eq (a s : Score) : Score.max a s = if a.less s then s else a := rfl

theorem lift_inj {n : Nat} {x y : Score} (hx : okN n x) (hy : okN n y) (hn : n ≤ 126)
    (h : rank (lift x) = rank (lift y)) : x = y := by
  rw [rank_lift hx hn, rank_lift hy hn] at h
  exact rank_injective x y hx.1 hy.1
    (fR_inj (rankN_mono (okN_rankN hx) hn) (rankN_mono (okN_rankN hy) hn) h)

end Morlock.Proofs.AB
