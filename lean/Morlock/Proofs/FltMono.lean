import Morlock.Proofs.FltRndPos
/-! # Order of pairs `m·2^e`: binades, the grid of the format, monotonicity of `rndPos`

`m·2^e ≤ m'·2^e'` is written `m * pn e * pd e' ≤ m' * pn e' * pd e`; lemma names call this order `ple`. -/
namespace Morlock.Model.Flt

theorem ple_trans {m1 m2 m3 : Nat} {e1 e2 e3 : Int}
    (h1 : m1 * pn e1 * pd e2 ≤ m2 * pn e2 * pd e1) (h2 : m2 * pn e2 * pd e3 ≤ m3 * pn e3 * pd e2) :
    m1 * pn e1 * pd e3 ≤ m3 * pn e3 * pd e1 := by
  have : m1 * pn e1 * pd e3 * pd e2 ≤ m3 * pn e3 * pd e1 * pd e2 := by
    calc m1 * pn e1 * pd e3 * pd e2 = m1 * pn e1 * pd e2 * pd e3 := Nat.mul_right_comm ..
      _ ≤ m2 * pn e2 * pd e1 * pd e3 := Nat.mul_le_mul_right _ h1
      _ = m2 * pn e2 * pd e3 * pd e1 := Nat.mul_right_comm ..
      _ ≤ m3 * pn e3 * pd e2 * pd e1 := Nat.mul_le_mul_right _ h2
      _ = m3 * pn e3 * pd e1 * pd e2 := Nat.mul_right_comm ..
  exact Nat.le_of_mul_le_mul_right this (pd_pos _)

theorem carry_ple (f : Fmt) (hp : 1 ≤ f.p) {m m' : Nat} {e e' : Int} (h : m * pn e * pd e' ≤ m' * pn e' * pd e) :
    (carry f m e).1 * pn (carry f m e).2 * pd (carry f m' e').2 ≤
      (carry f m' e').1 * pn (carry f m' e').2 * pd (carry f m e).2 :=
  ple_trans (ple_trans (Nat.le_of_eq (carry_val f hp m e)) h) (Nat.le_of_eq (carry_val f hp m' e').symm)

theorem ple_of_exp_lt {p : Nat} (hp : 1 ≤ p) {m m' : Nat} {e e' : Int} (hm : m ≤ 2 ^ p) (hm' : 2 ^ (p - 1) ≤ m')
    (hlt : e < e') : m * pn e * pd e' ≤ m' * pn e' * pd e := by
  obtain ⟨K, hK, hK0⟩ : ∃ K : Nat, e' = e + K ∧ 0 < K := ⟨(e' - e).toNat, by omega, by omega⟩
  have h2K : 2 ≤ 2 ^ K := two_le_two_pow hK0
  have h3 : m ≤ 2 ^ K * m' := by
    calc m ≤ 2 ^ p := hm
      _ = 2 * 2 ^ (p - 1) := (two_pow_pred hp).symm
      _ ≤ 2 ^ K * m' := Nat.mul_le_mul h2K hm'
  calc m * pn e * pd e' = m * (pn e * pd e') := Nat.mul_assoc ..
    _ ≤ 2 ^ K * m' * (pn e * pd e') := Nat.mul_le_mul_right _ h3
    _ = m' * (2 ^ K * pn e * pd e') := by ac_rfl
    _ = m' * (pn e' * pd e) := by rw [pn_pd_shift hK]
    _ = m' * pn e' * pd e := (Nat.mul_assoc ..).symm

/-- the format seen from the exponent `E`, in units of `2^E`: `m'·2^e'` with `m' < 2^p` is a multiple of the unit (`E ≤ e'`)
or lies below `2^(p-1)` units (`e' < E`) -/
theorem grid_cases {p : Nat} (hp : 1 ≤ p) {m' : Nat} (hm' : m' < 2 ^ p) (E e' : Int) :
    (∃ k, m' * pn e' * pd E = k * (pn E * pd e')) ∨
      (e' < E ∧ m' * pn e' * pd E < 2 ^ (p - 1) * (pn E * pd e')) := by
  rcases Int.lt_or_le e' E with hlt | hle
  · -- `(m' + 1)·2^e' ≤ 2^p·2^e' ≤ 2^(p-1)·2^E`
    have := ple_of_exp_lt hp (Nat.succ_le_of_lt hm') (Nat.le_refl (2 ^ (p - 1))) hlt
    rw [Nat.mul_assoc (2 ^ (p - 1))] at this
    exact Or.inr ⟨hlt, Nat.lt_of_lt_of_le ((Nat.mul_lt_mul_right (pd_pos _)).mpr
      ((Nat.mul_lt_mul_right (pn_pos _)).mpr (Nat.lt_succ_self m'))) this⟩
  · left
    obtain ⟨K, hK⟩ : ∃ K : Nat, e' = E + K := ⟨(e' - E).toNat, by omega⟩
    exact ⟨m' * 2 ^ K, by rw [Nat.mul_assoc, pn_pd_shift hK]; ac_rfl⟩

theorem pre_mono (f : Fmt) (hp : 1 ≤ f.p) {a b a' b' : Nat} (ha : 0 < a) (hb : 0 < b) (ha' : 0 < a') (hb' : 0 < b')
    (hr : a * b' ≤ a' * b) :
    sig0 f a b * pn (expo f a b) * pd (expo f a' b') ≤ sig0 f a' b' * pn (expo f a' b') * pd (expo f a b) := by
  have hE := expo_spec f hp ha hb
  rcases Int.lt_or_eq_of_le (expo_mono (f := f) hp ha hb ha' hb' hr) with hlt | he
  · refine ple_of_exp_lt hp (sig0_le f hp ha hb) ?_ hlt
    rcases sig0_normal f hp ha' hb' with h0 | h0
    · exact h0
    · have := hE.ge; omega
  · have : sig0 f a b ≤ sig0 f a' b' := by
      unfold sig0
      rw [← he]
      exact rhe_mono (Nat.mul_pos hb (pn_pos _)) (Nat.mul_pos hb' (pn_pos _)) (ratio_le_scale hr _ _)
    rw [← he]
    exact Nat.mul_le_mul_right _ (Nat.mul_le_mul_right _ this)

theorem rndPos_mono (f : Fmt) (hp : 1 ≤ f.p) {a b a' b' m m' : Nat} {e e' : Int}
    (ha : 0 < a) (hb : 0 < b) (ha' : 0 < a') (hb' : 0 < b') (hr : a * b' ≤ a' * b)
    (h : rndPos f a b = some (m, e)) (h' : rndPos f a' b' = some (m', e')) :
    m * pn e * pd e' ≤ m' * pn e' * pd e := by
  have := carry_ple f hp (pre_mono f hp ha hb ha' hb' hr)
  rw [rndPos_eq'] at h h'
  rwa [(fin_eq_some h).1, (fin_eq_some h').1] at this

theorem exp_le_of_ple (f : Fmt) (hp : 1 ≤ f.p) {m m' : Nat} {e e' : Int}
    (hn : 2 ^ (f.p - 1) ≤ m ∨ e = f.emin) (hm' : m' < 2 ^ f.p) (he' : f.emin ≤ e')
    (h : m * pn e * pd e' ≤ m' * pn e' * pd e) : e ≤ e' := by
  rcases hn with hm | h0
  case inr => omega
  apply Int.le_of_not_gt
  intro hlt
  -- otherwise `(m' + 1)·2^e' ≤ 2^p·2^e' ≤ m·2^e`
  have := ple_of_exp_lt hp (Nat.succ_le_of_lt hm') hm hlt
  have hpos := Nat.mul_pos (pn_pos e') (pd_pos e)
  rw [Nat.succ_mul, Nat.add_mul] at this
  omega

theorem rndPos_isSome_mono (f : Fmt) (hp : 1 ≤ f.p) {a b a' b' : Nat}
    (ha : 0 < a) (hb : 0 < b) (ha' : 0 < a') (hb' : 0 < b') (hr : a * b' ≤ a' * b)
    (h' : (rndPos f a' b').isSome) : (rndPos f a b).isSome := by
  have hm := carry_ple f hp (pre_mono f hp ha hb ha' hb' hr)
  have n1 := carry_normal f hp (sig0_le f hp ha hb) (expo_spec f hp ha hb).ge (sig0_normal f hp ha hb)
  have n2 := carry_normal f hp (sig0_le f hp ha' hb') (expo_spec f hp ha' hb').ge (sig0_normal f hp ha' hb')
  have hle := exp_le_of_ple f hp n1.2.2.1 n2.1 n2.2.1 hm
  rw [rndPos_eq', fin_isSome_iff] at h' ⊢
  omega

end Morlock.Model.Flt
