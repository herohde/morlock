import Morlock.Proofs.AttackLoops
import Morlock.Proofs.AttackTables
/-!
# Geometric side conditions of the four diagonal loops, checked on all 64 squares

A module of its own, so that `lake build` checks these kernel evaluations in parallel with those of `AttackGeo`.
-/
namespace Morlock.Proofs.Attack
open Morlock Morlock.Model Morlock.Spec

theorem geo_UL : allBelow 64 (fun sq => geoOK (specUL sq) sq c45L (triOff (diagL sq)) (2 ^ triLen (diagL sq) - 1)) = true := by
  decide +kernel
theorem geo_DR : allBelow 64 (fun sq => geoOK (specDR sq) sq c45L (triOff (diagL sq)) (2 ^ triLen (diagL sq) - 1)) = true := by
  decide +kernel
theorem geo_UR : allBelow 64 (fun sq => geoOK (specUR sq) sq c45R (triOff (diagR sq)) (2 ^ triLen (diagR sq) - 1)) = true := by
  decide +kernel
theorem geo_DL : allBelow 64 (fun sq => geoOK (specDL sq) sq c45R (triOff (diagR sq)) (2 ^ triLen (diagR sq) - 1)) = true := by
  decide +kernel

end Morlock.Proofs.Attack
