import Morlock.Proofs.DrawGood
import Morlock.Proofs.DrawAbs
import Morlock.Proofs.DrawSpecGame
/-!
# C05: a board and a reference game in lock-step

`Sync z g w b`: the reference game `g` (`Spec.Game`: start position with clocks, moves) and board `b` of `w`
tell the same story - the positions of `g` are the abstractions of the positions of the line (with sides),
the half-move clock of `g` is the clock of the current node, and the history is good. Established by
`newBoard`, preserved by fully sound moves (`FullStep`); it yields the three quantities the draw rules
read: repetitions, clock, material.
-/
namespace Morlock.Proofs.Draw
open Morlock Morlock.Model Morlock.Model.World Morlock.Proofs Morlock.Proofs.Arena Morlock.Proofs.Material

/-- A good step that is classified as the rules classify it (`ClassOK`) and captures no king. -/
structure FullStep (p : Position) (t : Color) (m : Move) (q : Position) : Prop where
  good : GoodStep p t m q
  cls : ClassOK (abs p t) m = true
  noKing : m.capture ≠ .king

structure Sync (z : ZTable) (g : Spec.Game) (w : World) (b : Nat) : Prop where
  hist : GoodHistory z w b
  posOK : ∀ n ∈ lineK w b, PosOK n.pos
  positions : g.positions.reverse = (sided (w.board b).turn (lineK w b)).map (fun e => abs e.1.pos e.2)
  clock : (g.halfmove : Int) = (w.cur b).noprogress

theorem Sync.cur_posOK {z : ZTable} {g : Spec.Game} {w : World} {b : Nat} (h : Sync z g w b) : PosOK (w.cur b).pos :=
  h.posOK (key (w.cur b)) (by rw [lineK_head]; exact List.mem_cons_self)

theorem Sync.current {z : ZTable} {g : Spec.Game} {w : World} {b : Nat} (h : Sync z g w b) :
    g.current = abs (w.cur b).pos (w.board b).turn := by
  have hp := congrArg List.reverse h.positions
  rw [List.reverse_reverse, lineK_head, sided_cons, List.map_cons, List.reverse_cons] at hp
  unfold Spec.Game.current
  rw [hp]
  simp

theorem Sync.repetitions {z : ZTable} {g : Spec.Game} {w : World} {b : Nat} (h : Sync z g w b) :
    g.repetitions = occurrences w b := by
  rw [repetitions_eq, h.positions, List.countP_map, h.current]
  unfold occurrences occOf
  apply List.countP_congr
  intro e he
  have hpe := h.posOK e.1 (mem_sided_fst he)
  have hpc := h.cur_posOK
  simp only [Function.comp]
  rw [abs_beq hpe.rep hpc.rep hpe.castling hpc.castling]
  rfl

theorem sync_newBoard (w : World) (z : ZTable) {pos : Position} (turn : Color) (n0 f : Nat) (fm : Int)
    (hpos : PosOK pos) :
    Sync z { start := { pos := abs pos turn, halfmove := n0, fullmove := f }, moves := [] }
      (w.newBoard z pos turn (n0 : Int) fm).1 (w.newBoard z pos turn (n0 : Int) fm).2 := by
  refine ⟨goodHistory_newBoard w z pos turn fm (Int.natCast_nonneg n0), ?_, ?_, ?_⟩
  · intro n hn
    rw [newBoard_line] at hn
    simp only [List.mem_singleton] at hn
    subst hn
    exact hpos
  · rw [newBoard_line, (newBoard_cur w z pos turn n0 fm).2.1]
    rfl
  · rw [(newBoard_cur w z pos turn n0 fm).1]
    rfl

theorem sync_push {z : ZTable} {g : Spec.Game} {w w' : World} {b : Nat} {m : Move} (hz : z.enpassant 0 = 0)
    (hw : WFWorld w) (hb : b < w.boards.size) (h : w.pushMove z b m = some w') (hs : Sync z g w b)
    (hstep : FullStep (w.cur b).pos (w.board b).turn m (w'.cur b).pos) :
    Sync z (gsnoc g (absMove m)) w' b := by
  obtain ⟨hl, ht, _, _, hnp, _⟩ := push_line hw hb h
  have hpc := hs.cur_posOK
  have hgs := hstep.good
  obtain ⟨pc, hsq⟩ := hgs.mover
  have hq : PosOK (w'.cur b).pos := posOK_move hpc hgs.ok hgs.sound hstep.noKing hgs.moved
  have habs : abs (w'.cur b).pos (w.board b).turn.opp = Spec.apply (abs (w.cur b).pos (w.board b).turn) (absMove m) :=
    abs_move hpc.rep hgs.ok hsq hstep.cls (landOK_of_kingHome hpc.rep hgs.ok hpc.kingHome hstep.noKing _) hgs.moved
  refine ⟨goodHistory_push hz hw hb h hs.hist hgs, ?_, ?_, ?_⟩
  · intro n hn
    rw [hl] at hn
    rcases List.mem_cons.mp hn with rfl | hn
    · exact hq
    · exact hs.posOK n hn
  · rw [positions_snoc, List.reverse_append, hs.positions, hs.current, ← habs, hl, ht, sided_cons, Color.opp_opp]
    rfl
  · rw [halfmove_snoc, hs.current, reset_eq hpc.rep hsq hgs.sound, hnp, updateNoProgress_eq, ← hs.clock]
    by_cases hr : isReset m = true <;> simp [hr]

/-- With repetition count (`Sync.repetitions`) and half-move clock (`Sync.clock`), the third quantity the draw rules
read: the material test. -/
theorem sync_material {z : ZTable} {g : Spec.Game} {w w' : World} {b : Nat} {m : Move} (hz : z.enpassant 0 = 0)
    (hw : WFWorld w) (hb : b < w.boards.size) (h : w.pushMove z b m = some w') (hs : Sync z g w b)
    (hstep : FullStep (w.cur b).pos (w.board b).turn m (w'.cur b).pos) :
    ((g.current.occ (absMove m).to ||
        ((absMove m).promo.isSome && decide ((absMove m).promo ≠ some Spec.Kind.queen))) &&
      Spec.insufficientMaterial (gsnoc g (absMove m)).current) =
      (materialTrigger m && (w'.cur b).pos.hasInsufficientMaterial) := by
  obtain ⟨_, ht, _⟩ := push_line hw hb h
  have hgs := hstep.good
  obtain ⟨pc, hsq⟩ := hgs.mover
  rw [(sync_push hz hw hb h hs hstep).current, hs.current, ht]
  exact material_flag_eq hs.cur_posOK hgs.ok hsq hstep.cls hgs.sound hstep.noKing hgs.moved

def FullPlay (z : ZTable) (b : Nat) : World → List Move → Prop
  | _, [] => True
  | w, m :: ms => ∀ w', w.pushMove z b m = some w' →
      FullStep (w.cur b).pos (w.board b).turn m (w'.cur b).pos ∧ FullPlay z b w' ms

def gappend (g : Spec.Game) (ms : List Spec.SMove) : Spec.Game := { g with moves := g.moves ++ ms }

theorem gappend_nil (g : Spec.Game) : gappend g [] = g := by
  unfold gappend; simp

theorem gappend_cons (g : Spec.Game) (m : Spec.SMove) (ms : List Spec.SMove) :
    gappend g (m :: ms) = gappend (gsnoc g m) ms := by
  unfold gappend gsnoc; simp

theorem gappend_snoc (g : Spec.Game) (ms : List Spec.SMove) (m : Spec.SMove) :
    gappend g (ms ++ [m]) = gsnoc (gappend g ms) m := by
  unfold gappend gsnoc; simp

theorem sync_pushAll {z : ZTable} {b : Nat} (hz : z.enpassant 0 = 0) (ms : List Move) :
    ∀ {g : Spec.Game} {w w' : World}, WFWorld w → b < w.boards.size → pushAll z b w ms = some w' →
      Sync z g w b → FullPlay z b w ms → Sync z (gappend g (ms.map absMove)) w' b := by
  induction ms with
  | nil => intro g w w' _ _ h hs _; cases h; rw [List.map_nil, gappend_nil]; exact hs
  | cons m r ih =>
    intro g w w' hw hb h hs hp
    obtain ⟨w1, hpm, hw1, hb1, h⟩ := pushAll_cons hw hb h
    obtain ⟨hstep, hrest⟩ := hp w1 hpm
    rw [List.map_cons, gappend_cons]
    exact ih hw1 hb1 h (sync_push hz hw hb hpm hs hstep) hrest

theorem pushAll_snoc {z : ZTable} {b : Nat} (ms : List Move) (m : Move) :
    ∀ (w : World), pushAll z b w (ms ++ [m]) = (pushAll z b w ms).bind (fun w1 => w1.pushMove z b m) := by
  induction ms with
  | nil => intro w; simp [pushAll]
  | cons x r ih =>
    intro w
    simp only [List.cons_append, pushAll, Option.bind_assoc]
    exact congrArg _ (funext ih)

theorem fullPlay_snoc {z : ZTable} {b : Nat} (ms : List Move) (m : Move) :
    ∀ {w w1 : World}, FullPlay z b w (ms ++ [m]) → pushAll z b w ms = some w1 →
      FullPlay z b w ms ∧ (∀ w', w1.pushMove z b m = some w' →
        FullStep (w1.cur b).pos (w1.board b).turn m (w'.cur b).pos) := by
  induction ms with
  | nil =>
    intro w w1 hp h
    cases h
    exact ⟨trivial, fun w' hw' => (hp w' hw').1⟩
  | cons x r ih =>
    intro w w1 hp h
    simp only [pushAll, Option.bind_eq_some_iff] at h
    obtain ⟨w2, hpm, h⟩ := h
    obtain ⟨hstep, hrest⟩ := hp w2 hpm
    obtain ⟨h1, h2⟩ := ih hrest h
    refine ⟨fun w2' hpm' => ?_, h2⟩
    rw [hpm] at hpm'
    cases hpm'
    exact ⟨hstep, h1⟩

/-- Everything asked of one move, as a `Bool`. -/
def stepCheck (p : Position) (t : Color) (m : Move) : Bool := StepOK p t m && MoveSound p.square m

def playCheck : Position → Color → List Move → Bool
  | _, _, [] => true
  | p, t, m :: ms => stepCheck p t m && (match p.move m with | some q => playCheck q t.opp ms | none => true)

theorem fullStep_of_stepCheck {p q : Position} {t : Color} {m : Move} (hp : PosOK p)
    (hc : stepCheck p t m = true) (hm : p.move m = some q) : FullStep p t m q := by
  unfold stepCheck StepOK at hc
  simp only [Bool.and_eq_true, bne_iff_ne, ne_eq] at hc
  obtain ⟨⟨⟨⟨hok, hcl⟩, hcap⟩, hcol⟩, hsound⟩ := hc
  cases hsq : p.square m.from with
  | none => rw [hsq] at hcol; cases hcol
  | some x =>
    obtain ⟨c, pc⟩ := x
    rw [hsq] at hcol
    have hct : c = t := by simpa using hcol
    subst hct
    exact ⟨⟨hp.rep, hok, ⟨pc, hsq⟩, hsound, hm⟩, hcl, hcap⟩

/-- `FullPlay` from a criterion on positions that makes every accepted move a fully sound step and holds again in the
position reached. -/
theorem fullPlay_of_steps {z : ZTable} {b : Nat} {I : Position → Color → List Move → Prop}
    (step : ∀ {p q : Position} {t : Color} {m : Move} {ms : List Move}, I p t (m :: ms) → p.move m = some q →
      FullStep p t m q ∧ I q t.opp ms) (ms : List Move) :
    ∀ {w : World}, WFWorld w → b < w.boards.size → I (w.cur b).pos (w.board b).turn ms → FullPlay z b w ms := by
  induction ms with
  | nil => intro w _ _ _; trivial
  | cons m r ih =>
    intro w hw hb hi w' hpm
    obtain ⟨_, ht, _, hmv, _⟩ := push_line hw hb hpm
    obtain ⟨hstep, hi'⟩ := step hi hmv
    exact ⟨hstep, ih (wf_push hw hb hpm) (by rw [boards_size_push hpm]; exact hb) (by rw [ht]; exact hi')⟩

theorem fullPlay_of_playCheck {z : ZTable} {b : Nat} (ms : List Move) {w : World} (hw : WFWorld w)
    (hb : b < w.boards.size) (hp : PosOK (w.cur b).pos)
    (hc : playCheck (w.cur b).pos (w.board b).turn ms = true) : FullPlay z b w ms := by
  refine fullPlay_of_steps (I := fun p t ms => PosOK p ∧ playCheck p t ms = true) ?_ ms hw hb ⟨hp, hc⟩
  intro p q t m ms hi hmv
  have hc := hi.2
  simp only [playCheck, Bool.and_eq_true, hmv] at hc
  have hstep := fullStep_of_stepCheck hi.1 hc.1 hmv
  exact ⟨hstep, posOK_move hi.1 hstep.good.ok hstep.good.sound hstep.noKing hmv, hc.2⟩

end Morlock.Proofs.Draw
