import Morlock.Proofs.GenLegal
import Morlock.Proofs.RepExample
/-!
# Concrete positions satisfying `WF` (for the `example`s of C01)
-/
namespace Morlock.Proofs.Gen
open Morlock Morlock.Model

/-- The initial position `rnbqkbnr/pppppppp/8/8/8/8/PPPPPPPP/RNBQKBNR w KQkq -`. -/
def startPl : List (Nat × Color × Piece) :=
  [(0, .white, .rook), (1, .white, .knight), (2, .white, .bishop), (3, .white, .king), (4, .white, .queen),
   (5, .white, .bishop), (6, .white, .knight), (7, .white, .rook),
   (8, .white, .pawn), (9, .white, .pawn), (10, .white, .pawn), (11, .white, .pawn), (12, .white, .pawn),
   (13, .white, .pawn), (14, .white, .pawn), (15, .white, .pawn),
   (48, .black, .pawn), (49, .black, .pawn), (50, .black, .pawn), (51, .black, .pawn), (52, .black, .pawn),
   (53, .black, .pawn), (54, .black, .pawn), (55, .black, .pawn),
   (56, .black, .rook), (57, .black, .knight), (58, .black, .bishop), (59, .black, .king), (60, .black, .queen),
   (61, .black, .bishop), (62, .black, .knight), (63, .black, .rook)]

def startPos : Position := (Position.newPosition startPl 15 0).getD {}

theorem eq_some_getD_of_isSome {α : Type} {o : Option α} (d : α) (h : o.isSome = true) : o = some (o.getD d) := by
  cases o with
  | none => cases h
  | some a => rfl

/-- The initial position as a record of numbers (`rw` with it before evaluating: the kernel would otherwise replay
    `NewPosition` at every use). -/
theorem startPos_val : startPos =
    { white := { all := 65535, pawn := 65280, bishop := 36, knight := 66, rook := 129, queen := 16, king := 8 },
      black := { all := 18446462598732840960, pawn := 71776119061217280, bishop := 2594073385365405696,
                 knight := 4755801206503243776, rook := 9295429630892703744, queen := 1152921504606846976,
                 king := 576460752303423488 },
      rotated := { rot := 18446462598732906495, rot90 := 14106333703424951235, rot45L := 18100395833141857503,
                   rot45R := 18100395833141857503 },
      castling := 15, enpassant := 0 } := by decide +kernel

theorem startPos_rep : Rep startPos startPos.square :=
  (rep_getD_newPosition startPos_val (by decide) (by decide +kernel)).self

theorem startPos_wf : WF startPos .white := ⟨startPos_rep, by rw [startPos_val]; decide +kernel⟩

/-- "Kiwipete", a rich middlegame position (all castling rights, pins, captures, promotions nearby). -/
theorem kiwiPos_wf : WF kiwiPos .white ∧ WF kiwiPos .black :=
  ⟨⟨kiwiPos_rep, by rw [kiwiPos_val]; decide +kernel⟩, ⟨kiwiPos_rep, by rw [kiwiPos_val]; decide +kernel⟩⟩

theorem kiwiPos_notChecked : kiwiPos.isChecked .white = false ∧ kiwiPos.isChecked .black = false := by
  rw [kiwiPos_val]; decide +kernel

/-- `exPos` has an en-passant target (d6) with White to move; `exPosB` is its mirror image. -/
theorem exPos_wf : WF exPos .white ∧ WF exPosB .black :=
  ⟨⟨exPos_rep.self, by rw [exPos_val]; decide +kernel⟩, ⟨exPosB_rep, by rw [exPosB_val]; decide +kernel⟩⟩

end Morlock.Proofs.Gen
