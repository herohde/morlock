import Morlock.Proofs.TurochampMirror
import Morlock.Proofs.TurochampDeterministic
/-!
# `Eval.Evaluate` is colour-blind, reduced to three facts about the legal moves under the mirror

By `evaluateCoreOrd_closed`, `Eval.Evaluate` is a function of `Material.Evaluate` and the exact sums `idealPlay`. Of
`idealPlay` the defence sum, the king-safety term, the pawn sum, the castling-right, has-castled and check terms are
mirror invariant (proved here). What remains (`MirrorGap`): `mayCheckMate`, `mayCastle` and the exact mobility sum.
-/
namespace Morlock.Proofs.Turochamp
open Morlock Morlock.Model Morlock.Model.Flt Morlock.Model.Turochamp Morlock.Proofs.Gen Morlock.Proofs.Mirror
open Morlock.Proofs.TuroMirror

theorem isum_map_mirror {x y : Nat} (h : MB x y) (g g' : Nat → Int) (hg : ∀ u, u < 64 → g' u = g (Spec.mirrorSq u)) :
    isum ((toSquares y).map g') = isum ((toSquares x).map g) := by
  have e1 : (toSquares y).map g' = ((toSquares y).map Spec.mirrorSq).map g := by
    rw [List.map_map]
    apply List.map_congr_left
    intro u hu
    exact hg u (toSquares_lt h.ly hu)
  rw [e1]
  exact isum_perm (h.map_toSquares.map g)

theorem defSum_mirror {p q : Position} {b : Board} (hp : Rep p b) (hq : Rep q (mirrorBoard b)) (c : Color) :
    defSum q c.opp (toSquares (middle q c.opp)) = defSum p c (toSquares (middle p c)) := by
  unfold defSum
  apply isum_map_mirror (middle_MB hp hq c)
  intro u hu
  have := defenders_mirror hp hq c (Spec.mirrorSq_lt hu)
  rw [Spec.mirrorSq_mirrorSq] at this
  rw [this]

theorem pawnSum_mirror {p q : Position} {b : Board} (hp : Rep p b) (hq : Rep q (mirrorBoard b)) (c : Color) :
    pawnSum q c.opp (toSquares (q.pieces c.opp .pawn)) = pawnSum p c (toSquares (p.pieces c .pawn)) := by
  unfold pawnSum
  apply isum_map_mirror (pieces_MB hp hq c .pawn)
  intro u hu
  have h1 := pawnRanks_mirror c (Spec.mirrorSq_lt hu)
  have h2 := officerDefended_mirror hp hq c (Spec.mirrorSq_lt hu) kqrnb (fun _ h => h)
  rw [Spec.mirrorSq_mirrorSq] at h1 h2
  unfold pawn10
  rw [h1, h2]

theorem safety10_mirror {p q : Position} {t : Color} (hw : WF p t) {b : Board} (hp : Rep p b)
    (hq : Rep q (mirrorBoard b)) (c : Color) : safety10 q c.opp = safety10 p c := by
  unfold safety10
  by_cases hk : p.pieces c .king = 0
  · have hkq := (king_zero_mirror hp hq c).mpr hk
    simp [hk, hkq]
  · have hkq : q.pieces c.opp .king ≠ 0 := fun e => hk ((king_zero_mirror hp hq c).mp e)
    have hs := safety_mirror hw hp hq c hk
    simp [hk, hkq, hs]

/-- What this file leaves open about the mirror image: the two flags of loop (1) and the exact mobility sum, for one colour
(closed by `mirrorGap_closed`, `Proofs/TurochampMirror3.lean`, and `mirrorGap_bits`, `Proofs/TuroMirror.lean`). -/
structure MirrorGap (p q : Position) (c : Color) : Prop where
  mate : mayCheckMate q c.opp = mayCheckMate p c
  castle : mayCastle q c.opp = mayCastle p c
  mob : mob10 (mobility q c.opp) = mob10 (mobility p c)

theorem nodup_of_map_fst {A : List (Nat × Nat)} (h : (A.map (·.1)).Nodup) : A.Nodup := by
  rw [List.nodup_iff_pairwise_ne] at h ⊢
  exact List.Pairwise.of_map (·.1) (fun a b hne e => hne (by rw [e])) h

theorem mobility_perm_of_wsum {p q : Position} {c d : Color}
    (h : ∀ k, wsum (q.legalMoves d) (Spec.mirrorSq k) = wsum (p.legalMoves c) k) :
    (mobility q d).Perm ((mobility p c).map fun e => (Spec.mirrorSq e.1, e.2)) := by
  obtain ⟨ndq, memq⟩ := mobility_exact q d
  obtain ⟨ndp, memp⟩ := mobility_exact p c
  apply (List.perm_ext_iff_of_nodup (nodup_of_map_fst ndq) ?_).mpr
  · intro e
    obtain ⟨k, n⟩ := e
    rw [memq k n]
    constructor
    · rintro ⟨hw, hn⟩
      refine List.mem_map.mpr ⟨(Spec.mirrorSq k, n), ?_, by simp⟩
      rw [memp]
      refine ⟨?_, hn⟩
      rw [← h, Spec.mirrorSq_mirrorSq]
      exact hw
    · intro hm
      obtain ⟨e0, he0, heq⟩ := List.mem_map.mp hm
      obtain ⟨k0, n0⟩ := e0
      simp only [Prod.mk.injEq] at heq
      obtain ⟨hk, hn⟩ := heq
      subst hn
      rw [memp] at he0
      rw [← hk, h]
      exact he0
  · have : ((mobility p c).map fun e => (Spec.mirrorSq e.1, e.2)).map (·.1) = ((mobility p c).map (·.1)).map Spec.mirrorSq := by
      rw [List.map_map, List.map_map]; rfl
    apply nodup_of_map_fst
    rw [this]
    exact nodup_map_of_inj ndp (fun a _ b _ e => Spec.mirrorSq_inj e)

theorem mob10_of_wsum {p q : Position} {c d : Color}
    (h : ∀ k, wsum (q.legalMoves d) (Spec.mirrorSq k) = wsum (p.legalMoves c) k) :
    mob10 (mobility q d) = mob10 (mobility p c) := by
  rw [mob10_perm (mobility_perm_of_wsum h)]
  unfold mob10
  rw [List.map_map]
  rfl

theorem idealPlay_mirror {p q : Position} {t : Color} (hw : WF p t) {b : Board} (hp : Rep p b)
    (hq : Rep q (mirrorBoard b)) (habs : abs q t.opp = Spec.mirror (abs p t))
    (hwk : (q.castling &&& wK != 0) = (p.castling &&& bK != 0))
    (hwq : (q.castling &&& wQ != 0) = (p.castling &&& bQ != 0))
    (hbk : (q.castling &&& bK != 0) = (p.castling &&& wK != 0))
    (hbq : (q.castling &&& bQ != 0) = (p.castling &&& wQ != 0))
    (c : Color) (castled : Bool) (hg : MirrorGap p q c) :
    idealPlay q castled c.opp = idealPlay p castled c := by
  unfold idealPlay pre10
  have hchk := isChecked_mirror hw hp hq habs c.opp
  rw [castleRight_mirror c hwk hwq hbk hbq, hg.mate, hg.castle, hg.mob, defSum_mirror hp hq c, pawnSum_mirror hp hq c,
    safety10_mirror hw hp hq c, hchk]

theorem sane_mirror {p q : Position} {b : Board} (hp : Rep p b) (hq : Rep q (mirrorBoard b)) (c : Color)
    (hs : Sane p c) : Sane q c.opp := by
  have l1 := (pieces_MB hp hq c .none).map_toSquares.length_eq
  have l2 := (middle_MB hp hq c).map_toSquares.length_eq
  have l3 := (pieces_MB hp hq c .pawn).map_toSquares.length_eq
  simp only [List.length_map] at l1 l2 l3
  refine ⟨by rw [l1]; exact hs.men, by rw [l2, l3]; exact hs.officers, ?_⟩
  intro sq hsq
  have h64 := toSquares_lt (hq.piecesLt c.opp .pawn) hsq
  have hm : Spec.mirrorSq sq ∈ toSquares (p.pieces c .pawn) := by
    rw [mem_toSquares (hp.piecesLt _ _), ← pieces_mirror hp hq c .pawn h64, ← mem_toSquares (hq.piecesLt _ _)]
    exact hsq
  have := pawnRanks_mirror c (Spec.mirrorSq_lt h64)
  rw [Spec.mirrorSq_mirrorSq] at this
  rw [this]
  exact hs.ranks _ hm

/-- `Eval.Evaluate` is colour-blind, for any iteration orders on both boards, given `MirrorGap` for the two colours -/
theorem evaluateCoreOrd_mirror {p q : Position} {t : Color} (hw : WF p t) (hwq : WF q t.opp) {b : Board} (hp : Rep p b)
    (hq : Rep q (mirrorBoard b)) (habs : abs q t.opp = Spec.mirror (abs p t))
    (hwk : (q.castling &&& wK != 0) = (p.castling &&& bK != 0))
    (hwq' : (q.castling &&& wQ != 0) = (p.castling &&& bQ != 0))
    (hbk : (q.castling &&& bK != 0) = (p.castling &&& wK != 0))
    (hbq : (q.castling &&& bQ != 0) = (p.castling &&& wQ != 0))
    (hW : Sane p .white) (hB : Sane p .black) (hgap : ∀ c, MirrorGap p q c)
    (cs co : Bool) (turn : Color) (oS oO oS' oO' : List (Nat × Nat) → List (Nat × Nat))
    (hpS : ∀ l, (oS l).Perm l) (hpO : ∀ l, (oO l).Perm l) (hpS' : ∀ l, (oS' l).Perm l) (hpO' : ∀ l, (oO' l).Perm l) :
    evaluateCoreOrd oS oO q cs co turn.opp = evaluateCoreOrd oS' oO' p cs co turn := by
  have hSp : ∀ c, Small p c := fun c => by cases c <;> exact small_of_sane hw (by assumption)
  have hSq : ∀ c, Small q c := fun c => by
    have : Sane q c := by
      have := sane_mirror hp hq c.opp (by cases c <;> assumption)
      rwa [Color.opp_opp] at this
    exact small_of_sane hwq this
  rw [evaluateCoreOrd_closed (hSq turn.opp) (hSq turn.opp.opp) cs co oS oO hpS hpO,
    evaluateCoreOrd_closed (hSp turn) (hSp turn.opp) cs co oS' oO' hpS' hpO',
    materialEvaluate_mirror hp hq turn,
    idealPlay_mirror hw hp hq habs hwk hwq' hbk hbq turn cs (hgap turn)]
  have h2 := idealPlay_mirror hw hp hq habs hwk hwq' hbk hbq turn.opp co (hgap turn.opp)
  rw [h2]

end Morlock.Proofs.Turochamp
