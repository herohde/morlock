import Morlock.Proofs.ArenaPlay
/-!
# Forks: shared past, isolated future

Right after `fork` the new board has the view of the original and no existing view changes. Two boards stay
isolated as long as the nodes one may still write to are not on the other's chain (`Sep`), a statement about
two index lists (`Apart`): a move conses the new node onto the mover's chain, a take-back removes the head, a
fork gives the new board a fresh head on the forked board's tail, and nobody else's chain changes. So in an
interleaved run of two separated boards each view evolves as if the other board had not moved.
-/
namespace Morlock.Proofs.Arena
open Morlock Morlock.Model Morlock.Model.World

theorem fork_node_old {w : World} (b : Nat) {j : Nat} (hj : j < w.nodes.size) : (w.fork b).1.node j = w.node j := by
  rw [fork_node, if_neg (Nat.ne_of_lt hj)]

theorem anc_fork {w : World} (hw : WFWorld w) (b : Nat) {o : Option Nat} (ho : bound o ≤ w.nodes.size) :
    ancIdx (w.fork b).1 o = ancIdx w o ∧ anc (w.fork b).1 o = anc w o :=
  anc_congr fun _ hj => fork_node_old b (Nat.lt_of_lt_of_le (ancIdx_lt hw hj) ho)

theorem fork_board_old {w : World} (b : Nat) {a : Nat} (ha : a < w.boards.size) : (w.fork b).1.board a = w.board a := by
  rw [fork_board, if_neg (Nat.ne_of_lt ha)]

theorem fork_cur_new (w : World) (b : Nat) : (w.fork b).1.cur w.boards.size = forkNode w b := by
  unfold cur
  rw [fork_board, if_pos rfl, fork_node, if_pos rfl]

theorem view_fork_new {w : World} (hw : WFWorld w) (b : Nat) : view (w.fork b).1 (w.fork b).2 = view w b := by
  have hbd : (w.fork b).1.board w.boards.size = { w.board b with current := w.nodes.size } := by
    rw [fork_board, if_pos rfl]
  unfold view
  rw [fork_id, hbd, fork_cur_new]
  simp only [forkNode]
  rw [(anc_fork hw b (bound_cur_prev_le_size hw b)).2]

theorem view_fork_old {w : World} (hw : WFWorld w) (b : Nat) {a : Nat} (ha : a < w.boards.size) :
    view (w.fork b).1 a = view w a := by
  have hbd := fork_board_old (w := w) b ha
  have hcur : (w.fork b).1.cur a = w.cur a := by
    unfold cur
    rw [hbd]
    exact fork_node_old b (hw.cur_lt a ha)
  refine frame_view_next hbd ⟨_, hcur⟩ fun j hj => fork_node_old b ?_
  exact Nat.lt_of_lt_of_le (ancIdx_lt hw hj) (bound_prev_le_size hw _)

theorem push_board_other {w w' : World} {z : ZTable} {x y : Nat} {m : Move} (h : w.pushMove z x m = some w')
    (hxy : x ≠ y) : w'.board y = w.board y := by
  obtain ⟨_, next, _, rfl⟩ := pushMove_some h
  rw [setBoard_board, if_neg (fun c => hxy c.1)]
  rfl

theorem pop_board_other {w w' : World} {x y : Nat} {m : Move} (h : w.popMove x = some (w', m))
    (hxy : x ≠ y) : w'.board y = w.board y := by
  obtain ⟨pi, _, _, rfl⟩ := popMove_some h
  rw [setBoard_board, if_neg (fun c => hxy c.1)]
  rfl

theorem pop_current {w w' : World} {x : Nat} {m : Move} (hx : x < w.boards.size)
    (h : w.popMove x = some (w', m)) : (w.cur x).prev = some (w'.board x).current := by
  obtain ⟨pi, hp, _, rfl⟩ := popMove_some h
  rw [setBoard_board, if_pos ⟨rfl, hx⟩]
  exact hp

theorem pop_node_prev {w w' : World} {x : Nat} {m : Move} (h : w.popMove x = some (w', m)) (j : Nat) :
    (w'.node j).prev = (w.node j).prev := by
  obtain ⟨pi, _, _, rfl⟩ := popMove_some h
  exact setNode_prev w (i := pi) (n := { w.node pi with next := {} }) rfl j

/-- Only `next` is written (and a node appended): every `prev` inside the old arena stays. -/
theorem step_prev_old {w w' : World} {z : ZTable} {x : Nat} {o : Op} (h : step z x w o = some w')
    {j : Nat} (hj : j < w.nodes.size) : (w'.node j).prev = (w.node j).prev := by
  cases o with
  | push m =>
    obtain ⟨_, next, _, rfl⟩ := pushMove_some (show w.pushMove z x m = some w' from h)
    exact pushArena_prev_old w x m _ (Nat.ne_of_lt hj)
  | pop =>
    obtain ⟨m, hp⟩ := step_pop_some h
    exact pop_node_prev hp j

theorem step_board_other {w w' : World} {z : ZTable} {x y : Nat} {o : Op} (h : step z x w o = some w')
    (hxy : x ≠ y) : w'.board y = w.board y := by
  cases o with
  | push m =>
    have h : w.pushMove z x m = some w' := h
    exact push_board_other h hxy
  | pop =>
    obtain ⟨m, hp⟩ := step_pop_some h
    exact pop_board_other hp hxy

theorem ancIdx_step {w w' : World} {z : ZTable} {x : Nat} {o : Op} (hw : WFWorld w)
    (h : step z x w o = some w') {c : Option Nat} (hc : bound c ≤ w.nodes.size) :
    ancIdx w' c = ancIdx w c :=
  ancIdx_eq_of_prev hw fun _ hj => step_prev_old h (Nat.lt_of_lt_of_le hj hc)

/-- A move on `x` does not change the view of another board `y`, unless `x`'s current node is a strict
ancestor of `y`'s current node (then `y` reads the `next` that the move overwrites). -/
theorem push_frame {w w' : World} {z : ZTable} {x y : Nat} {m : Move} (hw : WFWorld w) (hy : y < w.boards.size)
    (hxy : x ≠ y) (h : w.pushMove z x m = some w')
    (hsep : (w.board x).current ∉ ancIdx w (w.cur y).prev) : view w' y = view w y := by
  have hbd := push_board_other h hxy
  obtain ⟨_, next, _, rfl⟩ := pushMove_some h
  have hlt : ∀ j ∈ ancIdx w (w.cur y).prev, j < w.nodes.size :=
    fun j hj => Nat.lt_of_lt_of_le (ancIdx_lt hw hj) (bound_prev_le_size hw _)
  refine frame_view_next hbd ?_ fun j hj => ?_
  · unfold cur
    rw [hbd, setBoard_node, pushArena_node_old _ _ _ _ (hw.cur_lt y hy)]
    split
    · exact ⟨m, rfl⟩
    · exact ⟨_, rfl⟩
  · rw [setBoard_node, pushArena_node_old _ _ _ _ (hlt j hj), if_neg]
    exact fun hc => hsep (hc ▸ hj)

/-- A take-back on `x` does not change the view of another board `y`, unless the node `x` returns to is a
strict ancestor of `y`'s current node (then `y` reads the `next` that the take-back clears). -/
theorem pop_frame {w w' : World} {x y : Nat} {m : Move} (hxy : x ≠ y)
    (h : w.popMove x = some (w', m))
    (hsep : ∀ pi, (w.cur x).prev = some pi → pi ∉ ancIdx w (w.cur y).prev) : view w' y = view w y := by
  have hbd := pop_board_other h hxy
  obtain ⟨pi, hp, _, rfl⟩ := popMove_some h
  refine frame_view_next hbd ?_ fun j hj => ?_
  · unfold cur
    rw [hbd, setBoard_node, setNode_node]
    split
    · rename_i hc
      exact ⟨{}, by rw [hc.1]⟩
    · exact ⟨_, rfl⟩
  · rw [setBoard_node, setNode_node, if_neg]
    exact fun hc => hsep pi hp (hc.1 ▸ hj)

/-- The `d + 1` first entries of `cx` do not occur in `cy`. -/
def Apart (cx cy : List Nat) (d : Nat) : Prop := ∀ j ∈ cx.take (d + 1), j ∉ cy

theorem Apart.head {a : Nat} {cx cy : List Nat} {d : Nat} (h : Apart (a :: cx) cy d) : a ∉ cy :=
  h a (by simp)

theorem Apart.cons_left {a : Nat} {cx cy : List Nat} {d : Nat} (ha : a ∉ cy) (h : Apart cx cy d) :
    Apart (a :: cx) cy (d + 1) := by
  intro j hj
  rw [List.take_succ_cons, List.mem_cons] at hj
  rcases hj with rfl | hj
  · exact ha
  · exact h j hj

theorem Apart.tail_left {a : Nat} {cx cy : List Nat} {d : Nat} (h : Apart (a :: cx) cy (d + 1)) : Apart cx cy d :=
  fun j hj => h j (by rw [List.take_succ_cons]; exact List.mem_cons_of_mem _ hj)

theorem Apart.cons_right {a : Nat} {cx cy : List Nat} {d : Nat} (ha : a ∉ cx) (h : Apart cx cy d) :
    Apart cx (a :: cy) d := by
  intro j hj hm
  rcases List.mem_cons.mp hm with rfl | hm
  · exact ha (List.mem_of_mem_take hj)
  · exact h j hj hm

theorem Apart.tail_right {a : Nat} {cx cy : List Nat} {d : Nat} (h : Apart cx (a :: cy) d) : Apart cx cy d :=
  fun j hj hm => h j hj (List.mem_cons_of_mem _ hm)

theorem Apart.zero {a : Nat} {cx cy : List Nat} (ha : a ∉ cy) : Apart (a :: cx) cy 0 := by
  intro j hj
  rw [Nat.zero_add, List.take_succ_cons, List.take_zero, List.mem_singleton] at hj
  exact hj ▸ ha

/-- The chain of board `x`: its current node and all ancestors (indices, nearest first). -/
def chainIdx (w : World) (x : Nat) : List Nat := ancIdx w (some (w.board x).current)

/-- `x`, being `d` moves above its starting point, cannot write into anything `y` reads: the `d + 1`
topmost nodes of `x`'s chain (the only ones whose `next` a move or an allowed take-back of `x` writes)
are not on `y`'s chain. -/
def Sep (w : World) (x y : Nat) (d : Nat) : Prop :=
  ∀ j ∈ (chainIdx w x).take (d + 1), j ∉ chainIdx w y

theorem Sep.of_chains {w : World} {x y d : Nat} {cx cy : List Nat} (hx : chainIdx w x = cx) (hy : chainIdx w y = cy)
    (h : Apart cx cy d) : Sep w x y d := by
  unfold Sep
  rw [hx, hy]
  exact h

theorem Sep.mono {w : World} {x y d d' : Nat} (h : Sep w x y d) (hd : d' ≤ d) : Sep w x y d' :=
  fun j hj => h j (List.take_subset_take_left _ (Nat.succ_le_succ hd) hj)

theorem Sep.congr {w w' : World} {x y d : Nat} (hx : chainIdx w' x = chainIdx w x) (hy : chainIdx w' y = chainIdx w y)
    (h : Sep w x y d) : Sep w' x y d :=
  Sep.of_chains hx hy h

theorem chainIdx_eq {w : World} (hw : WFWorld w) (x : Nat) :
    chainIdx w x = (w.board x).current :: ancIdx w (w.cur x).prev := ancIdx_some hw _

theorem mem_chain_lt {w : World} (hw : WFWorld w) {y : Nat} (hy : y < w.boards.size) {j : Nat}
    (hj : j ∈ chainIdx w y) : j < w.nodes.size :=
  Nat.lt_of_lt_of_le (ancIdx_lt hw hj) (hw.cur_lt y hy)

theorem chainIdx_step_other {w w' : World} {z : ZTable} {x y : Nat} {o : Op} (hw : WFWorld w)
    (hy : y < w.boards.size) (hxy : x ≠ y) (h : step z x w o = some w') : chainIdx w' y = chainIdx w y := by
  unfold chainIdx
  rw [step_board_other h hxy]
  exact ancIdx_step hw h (hw.cur_lt y hy)

theorem chainIdx_push_self {w w' : World} {z : ZTable} {x : Nat} {m : Move} (hw : WFWorld w) (hx : x < w.boards.size)
    (h : w.pushMove z x m = some w') : chainIdx w' x = w.nodes.size :: chainIdx w x := by
  have hw' := wf_push hw hx h
  have htail := ancIdx_step (o := .push m) (c := some (w.board x).current) hw h (hw.cur_lt x hx)
  obtain ⟨_, next, _, rfl⟩ := pushMove_some h
  unfold chainIdx
  rw [setBoard_board, if_pos ⟨rfl, hx⟩, ancIdx_some hw', setBoard_node]
  show _ :: ancIdx _ ((pushArena w x m _).node w.nodes.size).prev = _
  rw [pushArena_node_new]
  exact congrArg (_ :: ·) htail

theorem chainIdx_pop_self {w w' : World} {x : Nat} {m : Move} (hw : WFWorld w) (hx : x < w.boards.size)
    (h : w.popMove x = some (w', m)) : chainIdx w x = (w.board x).current :: chainIdx w' x := by
  rw [chainIdx_eq hw, pop_current hx h]
  exact congrArg (_ :: ·) (ancIdx_eq_of_prev hw fun j _ => pop_node_prev h j).symm

theorem chainIdx_fork_old {w : World} (hw : WFWorld w) (x : Nat) {y : Nat} (hy : y < w.boards.size) :
    chainIdx (w.fork x).1 y = chainIdx w y := by
  unfold chainIdx
  rw [fork_board_old x hy]
  exact (anc_fork hw x (o := some (w.board y).current) (hw.cur_lt y hy)).1

theorem chainIdx_fork_new {w : World} (hw : WFWorld w) (x : Nat) :
    chainIdx (w.fork x).1 w.boards.size = w.nodes.size :: ancIdx w (w.cur x).prev := by
  have hbf : ((w.fork x).1.board w.boards.size).current = w.nodes.size := by
    rw [fork_board, if_pos rfl]
  unfold chainIdx
  rw [hbf, ancIdx_some (wf_fork hw x), fork_node, if_pos rfl]
  exact congrArg (_ :: ·) (anc_fork hw x (bound_prev_le_size hw _)).1

/-- The top node of the fork is new. -/
theorem sep_fork_new {w : World} (hw : WFWorld w) (x : Nat) {c : Nat} (hc : c < w.boards.size) :
    Sep (w.fork x).1 w.boards.size c 0 :=
  Sep.of_chains (chainIdx_fork_new hw x) (chainIdx_fork_old hw x hc)
    (Apart.zero fun hm => Nat.lt_irrefl _ (mem_chain_lt hw hc hm))

/-- The top node of the forked board is above everything it shares with the fork. -/
theorem sep_fork_self {w : World} (hw : WFWorld w) {x : Nat} (hx : x < w.boards.size) :
    Sep (w.fork x).1 x w.boards.size 0 := by
  refine Sep.of_chains ((chainIdx_fork_old hw x hx).trans (chainIdx_eq hw x)) (chainIdx_fork_new hw x) (Apart.zero ?_)
  intro hm
  rcases List.mem_cons.mp hm with h | h
  · exact Nat.lt_irrefl _ (h ▸ hw.cur_lt x hx)
  · exact Nat.lt_irrefl _ (Nat.lt_of_lt_of_le (ancIdx_lt hw h) (bound_prev_le hw.prev_lt _))

/-- The chain of the fork is that of `x` with a new top node. -/
theorem sep_fork_old_new {w : World} (hw : WFWorld w) {a x d : Nat} (ha : a < w.boards.size) (hx : x < w.boards.size)
    (h : Sep (w.fork x).1 a x d) : Sep (w.fork x).1 a w.boards.size d := by
  have h' : Apart (chainIdx (w.fork x).1 a) (chainIdx (w.fork x).1 x) d := h
  rw [chainIdx_fork_old hw x ha, chainIdx_fork_old hw x hx, chainIdx_eq hw x] at h'
  exact Sep.of_chains (chainIdx_fork_old hw x ha) (chainIdx_fork_new hw x)
    (h'.tail_right.cons_right fun hm => Nat.lt_irrefl _ (mem_chain_lt hw ha hm))

theorem sep_fork {w : World} (hw : WFWorld w) {b : Nat} (hb : b < w.boards.size) :
    Sep (w.fork b).1 b (w.fork b).2 0 ∧ Sep (w.fork b).1 (w.fork b).2 b 0 :=
  ⟨sep_fork_self hw hb, sep_fork_new hw b hb⟩

/-- Depth bookkeeping: a move goes one up, a take-back one down and is only allowed above depth 0. -/
def Op.depth (o : Op) (d : Nat) : Option Nat :=
  match o, d with
  | .push _, d => some (d + 1)
  | .pop, 0 => none
  | .pop, d + 1 => some d

theorem step_sep {w w' : World} {z : ZTable} {x y : Nat} {dx dx' dy : Nat} {o : Op} (hw : WFWorld w)
    (hx : x < w.boards.size) (hy : y < w.boards.size) (hxy : x ≠ y)
    (hsx : Sep w x y dx) (hsy : Sep w y x dy) (hd : o.depth dx = some dx') (h : step z x w o = some w') :
    view w' y = view w y ∧ Sep w' x y dx' ∧ Sep w' y x dy := by
  have hchy' := chainIdx_step_other hw hy hxy h
  have hax : Apart (chainIdx w x) (chainIdx w y) dx := hsx
  have hay : Apart (chainIdx w y) (chainIdx w x) dy := hsy
  cases o with
  | push m =>
    cases hd
    have hchx' := chainIdx_push_self hw hx h
    have hnew : w.nodes.size ∉ chainIdx w y := fun hm => Nat.lt_irrefl _ (mem_chain_lt hw hy hm)
    refine ⟨push_frame hw hy hxy h fun hm => ?_, Sep.of_chains hchx' hchy' (hax.cons_left hnew),
      Sep.of_chains hchy' hchx' (hay.cons_right hnew)⟩
    rw [chainIdx_eq hw x, chainIdx_eq hw y] at hax
    exact hax.head (List.mem_cons_of_mem _ hm)
  | pop =>
    cases dx with
    | zero => cases hd
    | succ d =>
      cases hd
      obtain ⟨m, hp⟩ := step_pop_some h
      have hchx := chainIdx_pop_self hw hx hp
      rw [hchx] at hax hay
      refine ⟨pop_frame hxy hp fun pi hpi hm => ?_, Sep.of_chains rfl hchy' hax.tail_left,
        Sep.of_chains hchy' rfl hay.tail_right⟩
      have hpi' : chainIdx w' x = pi :: ancIdx w' (w'.node pi).prev := by
        rw [pop_current hx hp, Option.some.injEq] at hpi
        rw [← hpi]
        exact chainIdx_eq (wf_pop hw hp) x
      have := hax.tail_left
      rw [hpi', chainIdx_eq hw y] at this
      exact this.head (List.mem_cons_of_mem _ hm)

/-- An interleaved sequence of operations on two boards: `(true, o)` is `o` on the first board,
`(false, o)` is `o` on the second. -/
def run2 (z : ZTable) (a b : Nat) : World → List (Bool × Op) → Option World
  | w, [] => some w
  | w, (s, o) :: r => (step z (if s then a else b) w o).bind (run2 z a b · r)

/-- The operations of one of the two boards. -/
def proj (s : Bool) : List (Bool × Op) → List Op
  | [] => []
  | (s', o) :: r => if s' = s then o :: proj s r else proj s r

/-- Neither board is ever taken back below the point where it started (`da`, `db`: current heights). -/
def above2 : Nat → Nat → List (Bool × Op) → Bool
  | _, _, [] => true
  | da, db, (true, o) :: r =>
    match o.depth da with
    | none => false
    | some da' => above2 da' db r
  | da, db, (false, o) :: r =>
    match o.depth db with
    | none => false
    | some db' => above2 da db' r

theorem run2_eq_foldlM (z : ZTable) (a b : Nat) (ops : List (Bool × Op)) (w : World) :
    run2 z a b w ops = ops.foldlM (fun w p => step z (if p.1 then a else b) w p.2) w := by
  induction ops generalizing w with
  | nil => rfl
  | cons p r ih => simp only [run2, List.foldlM_cons, ih, Option.bind_eq_bind]

theorem run2_wf {z : ZTable} {a b : Nat} (ops : List (Bool × Op)) {w w' : World} (hw : WFWorld w)
    (ha : a < w.boards.size) (hb : b < w.boards.size) (h : run2 z a b w ops = some w') :
    WFWorld w' ∧ w'.boards.size = w.boards.size := by
  rw [run2_eq_foldlM] at h
  refine foldlM_inv (fun s => WFWorld s ∧ s.boards.size = w.boards.size) ?_ ⟨hw, rfl⟩ h
  intro s p s' _ hs h
  have := step_wf hs.1 (by rw [hs.2]; split <;> assumption) h
  exact ⟨this.1, this.2.trans hs.2⟩

theorem above2_true {da db : Nat} {o : Op} {r : List (Bool × Op)} (h : above2 da db ((true, o) :: r) = true) :
    ∃ da', o.depth da = some da' ∧ above2 da' db r = true := by
  rw [above2] at h
  cases hd : o.depth da with
  | none => rw [hd] at h; cases h
  | some da' => rw [hd] at h; exact ⟨da', rfl, h⟩

theorem above2_false {da db : Nat} {o : Op} {r : List (Bool × Op)} (h : above2 da db ((false, o) :: r) = true) :
    ∃ db', o.depth db = some db' ∧ above2 da db' r = true := by
  rw [above2] at h
  cases hd : o.depth db with
  | none => rw [hd] at h; cases h
  | some db' => rw [hd] at h; exact ⟨db', rfl, h⟩

theorem run2_view {z : ZTable} {a b : Nat} (ops : List (Bool × Op)) :
    ∀ {w w' : World} {da db : Nat}, WFWorld w → a < w.boards.size → b < w.boards.size → a ≠ b →
      Sep w a b da → Sep w b a db → above2 da db ops = true → run2 z a b w ops = some w' →
      viewRun z (view w a) (proj true ops) = some (view w' a) ∧
      viewRun z (view w b) (proj false ops) = some (view w' b) := by
  induction ops with
  | nil =>
    intro w w' da db _ _ _ _ _ _ _ h
    cases h
    exact ⟨rfl, rfl⟩
  | cons so r ih =>
    intro w w' da db hw ha hb hab hsa hsb habove h
    obtain ⟨s, o⟩ := so
    obtain ⟨w1, hs, hr⟩ := Option.bind_eq_some_iff.mp h
    cases s with
    | true =>
      obtain ⟨da', hd, habove⟩ := above2_true habove
      have hs : step z a w o = some w1 := hs
      have hwf := step_wf hw ha hs
      obtain ⟨hv, hs1, hs2⟩ := step_sep hw ha hb hab hsa hsb hd hs
      have hrec := ih hwf.1 (hwf.2 ▸ ha) (hwf.2 ▸ hb) hab hs1 hs2 habove hr
      refine ⟨?_, hv ▸ hrec.2⟩
      show (viewStep z (view w a) o).bind _ = _
      rw [← step_view hw ha o, hs]
      exact hrec.1
    | false =>
      obtain ⟨db', hd, habove⟩ := above2_false habove
      have hs : step z b w o = some w1 := hs
      have hwf := step_wf hw hb hs
      obtain ⟨hv, hs1, hs2⟩ := step_sep hw hb ha (Ne.symm hab) hsb hsa hd hs
      have hrec := ih hwf.1 (hwf.2 ▸ ha) (hwf.2 ▸ hb) hab hs2 hs1 habove hr
      refine ⟨hv ▸ hrec.1, ?_⟩
      show (viewStep z (view w b) o).bind _ = _
      rw [← step_view hw hb o, hs]
      exact hrec.2
end Morlock.Proofs.Arena
