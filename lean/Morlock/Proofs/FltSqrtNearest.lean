import Morlock.Proofs.FltSqrtMono
/-! # `sqrtPos` returns a number of the format that is nearest to `√(a/b)` among all numbers of the format -/
namespace Morlock.Model.Flt

/-- `v = Vn/Vd` is at least as close to `√(a/b)` as `w = Wn/Wd` (`v, w ≥ 0`), without square roots:
if `w < v` the midpoint `(v+w)/2` is `≤ √(a/b)`, i.e. `(v+w)² ≤ 4a/b`; if `v < w` it is `≥ √(a/b)`.
(Denominators cleared: `v + w = (Vn·Wd + Wn·Vd)/(Vd·Wd)`.) -/
def SqrtCloser (a b Vn Vd Wn Wd : Nat) : Prop :=
  (Wn * Vd < Vn * Wd → (Vn * Wd + Wn * Vd) ^ 2 * b ≤ 4 * a * (Vd * Wd) ^ 2) ∧
  (Vn * Wd < Wn * Vd → 4 * a * (Vd * Wd) ^ 2 ≤ (Vn * Wd + Wn * Vd) ^ 2 * b)

/-- each of the four comparisons of `SqrtCloser` is one of fractions on a common scale -/
theorem SqrtCloser.congr {a b Vn Vd Vn' Vd' Wn Wd : Nat} (hVd : 0 < Vd) (hVd' : 0 < Vd')
    (hv : Vn * Vd' = Vn' * Vd) (h : SqrtCloser a b Vn Vd Wn Wd) : SqrtCloser a b Vn' Vd' Wn Wd := by
  have m1 : Wn * Vd' * Vd = Wn * Vd * Vd' := Nat.mul_right_comm ..
  have m2 : Vn' * Wd * Vd = Vn * Wd * Vd' := by rw [Nat.mul_right_comm, ← hv, Nat.mul_right_comm]
  have key : (Vn' * Wd + Wn * Vd') * Vd = (Vn * Wd + Wn * Vd) * Vd' := by rw [Nat.add_mul, Nat.add_mul, m1, m2]
  have l1 : (Vn' * Wd + Wn * Vd') ^ 2 * b * Vd ^ 2 = (Vn * Wd + Wn * Vd) ^ 2 * b * Vd' ^ 2 := by
    rw [Nat.mul_right_comm, ← Nat.mul_pow, key, Nat.mul_pow, Nat.mul_right_comm]
  have l2 : 4 * a * (Vd' * Wd) ^ 2 * Vd ^ 2 = 4 * a * (Vd * Wd) ^ 2 * Vd' ^ 2 := by
    rw [Nat.mul_assoc (4 * a), ← Nat.mul_pow, Nat.mul_assoc (4 * a), ← Nat.mul_pow]
    congr 2; ac_rfl
  have hsq : 0 < Vd ^ 2 := Nat.pow_pos hVd
  have hsq' : 0 < Vd' ^ 2 := Nat.pow_pos hVd'
  exact ⟨fun hlt => (cmp_scale hsq hsq' l1 l2).2.mpr (h.1 ((cmp_scale hVd hVd' m1 m2).1.mp hlt)),
    fun hlt => (cmp_scale hsq hsq' l2 l1).2.mpr (h.2 ((cmp_scale hVd hVd' m2 m1).1.mp hlt))⟩

theorem pn_two_mul (e : Int) : pn (2 * e) = pn e ^ 2 := by
  unfold pn; rw [← Nat.pow_mul]; congr 1; omega
theorem pd_two_mul (e : Int) : pd (2 * e) = pd e ^ 2 := by
  unfold pd; rw [← Nat.pow_mul]; congr 1; omega

/-- `M` units within half a unit of `√(a/b)` (scale `P`, unit `U`) are nearest among the multiples of the unit and what lies
below `L ≤ M` units, where, should `M = L`, even `M·U ≤ √(a/b)` -/
theorem sqrtCloser_grid {a b P U M W L : Nat}
    (hup : 4 * a * P ^ 2 ≤ ((2 * M + 1) * U) ^ 2 * b) (hlo : 1 ≤ M → ((2 * M - 1) * U) ^ 2 * b ≤ 4 * a * P ^ 2)
    (hW : (∃ k, W = k * U) ∨ (W < L * U ∧ L ≤ M ∧ (M = L → (M * U) ^ 2 * b ≤ a * P ^ 2))) :
    (W < M * U → (M * U + W) ^ 2 * b ≤ 4 * a * P ^ 2) ∧ (M * U < W → 4 * a * P ^ 2 ≤ (M * U + W) ^ 2 * b) := by
  -- a candidate at most `M - 1` units is no closer from below, one at least `M + 1` units no closer from above
  have caseLow : ∀ W, W < M * U → W ≤ (M - 1) * U → (M * U + W) ^ 2 * b ≤ 4 * a * P ^ 2 := by
    intro W hWV hW
    have hM : 1 ≤ M := Nat.pos_of_ne_zero (fun h => by subst h; simp at hWV)
    have : M * U + W ≤ (2 * M - 1) * U := by
      rw [show 2 * M - 1 = M + (M - 1) by omega, Nat.add_mul]; omega
    exact Nat.le_trans (sq_mul_le this b) (hlo hM)
  have caseHigh : ∀ W, (M + 1) * U ≤ W → 4 * a * P ^ 2 ≤ (M * U + W) ^ 2 * b := by
    intro W hW
    have : (2 * M + 1) * U ≤ M * U + W := by
      rw [show 2 * M + 1 = M + (M + 1) by omega, Nat.add_mul]; omega
    exact Nat.le_trans hup (sq_mul_le this b)
  rcases hW with ⟨k, rfl⟩ | ⟨hWL, hLM, hv2⟩
  · exact ⟨fun hWV => caseLow _ hWV (Nat.mul_le_mul_right _ (by have := Nat.lt_of_mul_lt_mul_right hWV; omega)),
      fun hVW => caseHigh _ (Nat.mul_le_mul_right _ (Nat.lt_of_mul_lt_mul_right hVW))⟩
  · have hLV : L * U ≤ M * U := Nat.mul_le_mul_right _ hLM
    refine ⟨fun hWV => ?_, fun hVW => by omega⟩
    rcases Nat.lt_or_ge ((M - 1) * U) W with h1 | h1
    case inr => exact caseLow W hWV h1
    have hML : M = L := by have := Nat.lt_of_mul_lt_mul_right (Nat.lt_trans h1 hWL); omega
    calc (M * U + W) ^ 2 * b ≤ (2 * (M * U)) ^ 2 * b := sq_mul_le (by omega) b
      _ = 4 * ((M * U) ^ 2 * b) := two_mul_sq ..
      _ ≤ 4 * (a * P ^ 2) := Nat.mul_le_mul_left _ (hv2 hML)
      _ = 4 * a * P ^ 2 := (Nat.mul_assoc ..).symm

theorem sqrt_pre_nearest (f : Fmt) (hp : 1 ≤ f.p) {a b : Nat} (ha : 0 < a) (hb : 0 < b) (m' : Nat) (e' : Int)
    (hm' : m' < 2 ^ f.p) (he' : f.emin ≤ e') :
    SqrtCloser a b (ssig a b (sexpo f a b) * pn (sexpo f a b)) (pd (sexpo f a b)) (m' * pn e') (pd e') := by
  obtain ⟨hge, hlt, hnorm⟩ := sexpo_spec f hp ha hb
  obtain ⟨hsig, hhalf, _⟩ := ssig_spec (a := a) hb (sexpo f a b)
  obtain ⟨hfl, _⟩ := sfl_spec (a := a) hb (sexpo f a b)
  generalize sexpo f a b = E at *
  generalize ssig a b E = M at *
  rw [pn_two_mul, pd_two_mul] at hfl
  unfold SqrtHalfUlp at hhalf
  rw [pn_two_mul, pd_two_mul] at hhalf
  -- on the scale `pd E·pd e'` the unit in the last place is `pn E·pd e'`; the half-ulp bounds and the floor on that scale
  have id1 (K : Nat) : (K * (pn E * pd e')) ^ 2 * b = K ^ 2 * (b * pn E ^ 2) * pd e' ^ 2 := by
    rw [Nat.mul_pow, Nat.mul_pow]; ac_rfl
  have id2 (c : Nat) : c * a * (pd E * pd e') ^ 2 = c * (a * pd E ^ 2) * pd e' ^ 2 := by
    rw [Nat.mul_pow]; ac_rfl
  have hup : 4 * a * (pd E * pd e') ^ 2 ≤ ((2 * M + 1) * (pn E * pd e')) ^ 2 * b := by
    rw [id1, id2]; exact Nat.mul_le_mul_right _ hhalf.2
  have hlo : 1 ≤ M → ((2 * M - 1) * (pn E * pd e')) ^ 2 * b ≤ 4 * a * (pd E * pd e') ^ 2 := fun hM => by
    rw [id1, id2]; exact Nat.mul_le_mul_right _ (hhalf.1.resolve_left (by omega))
  have hv2 : M ≤ sfl a b E → (M * (pn E * pd e')) ^ 2 * b ≤ a * (pd E * pd e') ^ 2 := fun hM => by
    rw [id1, Nat.mul_pow (pd E), ← Nat.mul_assoc a]
    exact Nat.mul_le_mul_right _ (Nat.le_trans (sq_mul_le hM _) hfl)
  unfold SqrtCloser
  rw [Nat.mul_assoc M]
  refine sqrtCloser_grid (L := 2 ^ (f.p - 1)) hup hlo ?_
  rcases grid_cases hp hm' E e' with hk | ⟨hlt', hW⟩
  · exact Or.inl hk
  · -- lower binade: below `2^(p-1)` units, and the floor is at least `2^(p-1)`
    have hflE : 2 ^ (f.p - 1) ≤ sfl a b E := hnorm.resolve_left (by omega)
    exact Or.inr ⟨hW, by omega, fun h => hv2 (by omega)⟩

theorem sqrtPos_nearest (f : Fmt) (hp : 1 ≤ f.p) {a b m : Nat} {e : Int} (ha : 0 < a) (hb : 0 < b)
    (h : sqrtPos f a b = some (m, e)) (m' : Nat) (e' : Int) (hm' : m' < 2 ^ f.p) (he' : f.emin ≤ e') :
    SqrtCloser a b (m * pn e) (pd e) (m' * pn e') (pd e') := by
  have hpre := sqrt_pre_nearest f hp ha hb m' e' hm' he'
  have hcv := carry_val f hp (ssig a b (sexpo f a b)) (sexpo f a b)
  rw [sqrtPos_eq] at h
  rw [(fin_eq_some h).1] at hcv
  exact SqrtCloser.congr (pd_pos _) (pd_pos _) hcv.symm hpre

end Morlock.Model.Flt
