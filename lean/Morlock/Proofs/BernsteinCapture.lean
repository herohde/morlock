import Morlock.Proofs.BernsteinSort
import Morlock.Proofs.GenQueries
/-!
# `eval.FindCapture` on a represented position: exactly the attackers of the square, each once
-/
namespace Morlock.Proofs.Bernstein
open Morlock Morlock.Model Morlock.Model.Bernstein Morlock.Proofs.Gen Morlock.Proofs.Attack

theorem pawnTargets_rev (c : Spec.Color) {s t : Nat} (hs : s < 64) (ht : t < 64) :
    s ∈ Spec.pawnTargets c.opp t ↔ t ∈ Spec.pawnTargets c s :=
  ⟨Gen.pawnTargets_rev (by cases c <;> rfl) ht, Gen.pawnTargets_rev (by cases c <;> rfl) hs⟩

/-- the placements `FindCapture` emits for one kind, from the bitboard of their squares -/
theorem mem_placements {piece : Piece} {side : Color} {bb : Nat} (hbb : bb < 2 ^ 64) (pl : Placement) :
    pl ∈ (toSquares bb).map (fun fr => ({ piece := piece, color := side, square := fr } : Placement)) ↔
      pl.piece = piece ∧ pl.color = side ∧ bb.testBit pl.square = true := by
  rw [List.mem_map]
  constructor
  · rintro ⟨fr, hfr, rfl⟩
    exact ⟨rfl, rfl, (mem_toSquares hbb fr).mp hfr⟩
  · rintro ⟨h1, h2, h3⟩
    exact ⟨pl.square, (mem_toSquares hbb _).mpr h3, by cases pl; simp only at h1 h2 ⊢; rw [h1, h2]⟩

theorem mem_captureOfficers {p : Position} {b : Board} (h : Rep p b) (side : Color) {sq : Nat} (hsq : sq < 64)
    {piece : Piece} (hp : piece ≠ .none) (hpw : piece ≠ .pawn) (pl : Placement) :
    pl ∈ (toSquares (((attackboard p.rotated sq piece).getD 0) &&& p.pieces side piece)).map
        (fun fr => ({ piece := piece, color := side, square := fr } : Placement)) ↔
      pl.piece = piece ∧ pl.color = side ∧ b pl.square = some (side, piece) ∧
        sq ∈ Spec.officerTargets (occB b) (kindOf piece) pl.square := by
  rw [attackboard_of_rep h hsq hp hpw, Option.getD_some, mem_placements (and_lt_right _ (h.piecesLt side piece)),
    Nat.testBit_and, Bool.and_eq_true, testBit_toBB]
  refine and_congr Iff.rfl (and_congr Iff.rfl ⟨?_, ?_⟩)
  · rintro ⟨ht, hb⟩
    rw [h.one side piece _ hp (officerTargets_lt _ _ _ _ ht), decide_eq_true_eq] at hb
    exact ⟨hb, officerTargets_symm hsq ht⟩
  · rintro ⟨hb, hm⟩
    have hs := h.lt_of_some hb
    exact ⟨officerTargets_symm hs hm, by rw [h.one side piece _ hp hs, decide_eq_true_eq]; exact hb⟩

theorem mem_capturePawns {p : Position} {b : Board} (h : Rep p b) (side : Color) {sq : Nat} (hsq : sq < 64)
    (pl : Placement) :
    pl ∈ (toSquares (pawnCaptureboard side.opp (bitMask sq) &&& p.pieces side .pawn)).map
        (fun fr => ({ piece := .pawn, color := side, square := fr } : Placement)) ↔
      pl.piece = .pawn ∧ pl.color = side ∧ b pl.square = some (side, .pawn) ∧
        sq ∈ Spec.pawnTargets (absColor side) pl.square := by
  rw [mem_placements (and_lt_right _ (h.piecesLt side .pawn)), Nat.testBit_and, Bool.and_eq_true,
    pawnSet_testBit side.opp _ _ (Attack.bitMask_lt hsq)]
  refine and_congr Iff.rfl (and_congr Iff.rfl ⟨?_, ?_⟩)
  · rintro ⟨⟨s, hs, hbit, hm⟩, hpc⟩
    rw [bitMask_testBit hsq, decide_eq_true_eq] at hbit
    subst hbit
    have hfr := pawnTargets_lt _ _ _ hm
    rw [h.one side .pawn _ (by simp) hfr, decide_eq_true_eq] at hpc
    rw [absColor_opp] at hm
    exact ⟨hpc, (pawnTargets_rev (absColor side) hfr hs).mp hm⟩
  · rintro ⟨hb, hm⟩
    have hfr := h.lt_of_some hb
    refine ⟨⟨sq, hsq, by rw [bitMask_testBit hsq]; simp, ?_⟩, ?_⟩
    · rw [absColor_opp]; exact (pawnTargets_rev (absColor side) hfr hsq).mpr hm
    · rw [h.one side .pawn _ (by simp) hfr, decide_eq_true_eq]; exact hb

/-- the officer kinds `FindCapture` ranges over: every piece but the pawn -/
theorem mem_kqrnbPieces (k : Piece) : k ∈ kqrnbPieces ↔ k ≠ .none ∧ k ≠ .pawn := by
  cases k <;> decide

theorem mem_findCapture {p : Position} {b : Board} (h : Rep p b) (side : Color) {sq : Nat} (hsq : sq < 64)
    (pl : Placement) :
    pl ∈ findCapture p side sq ↔
      pl.color = side ∧ b pl.square = some (side, pl.piece) ∧
      ((pl.piece = .pawn ∧ sq ∈ Spec.pawnTargets (absColor side) pl.square) ∨
       (pl.piece ≠ .pawn ∧ sq ∈ Spec.officerTargets (occB b) (kindOf pl.piece) pl.square)) := by
  unfold findCapture
  rw [List.mem_append, List.mem_flatMap, mem_capturePawns h side hsq]
  constructor
  · rintro (⟨piece, hpc, hpl⟩ | ⟨h1, h2, hb, hm⟩)
    · obtain ⟨hn, hpw⟩ := (mem_kqrnbPieces piece).mp hpc
      obtain ⟨h1, h2, hb, hm⟩ := (mem_captureOfficers h side hsq hn hpw pl).mp hpl
      rw [← h1] at hb hm hpw
      exact ⟨h2, hb, Or.inr ⟨hpw, hm⟩⟩
    · exact ⟨h2, by rw [h1]; exact hb, Or.inl ⟨h1, hm⟩⟩
  · rintro ⟨h2, hb, ⟨h1, hm⟩ | ⟨hpw, hm⟩⟩
    · exact Or.inr ⟨h1, h2, by rw [← h1]; exact hb, hm⟩
    · have hn := h.ne_none_of_some hb
      exact Or.inl ⟨pl.piece, (mem_kqrnbPieces _).mpr ⟨hn, hpw⟩,
        (mem_captureOfficers h side hsq hn hpw pl).mpr ⟨rfl, h2, hb, hm⟩⟩

theorem nodup_map_placement (piece : Piece) (side : Color) {bb : Nat} (hbb : bb < 2 ^ 64) :
    ((toSquares bb).map (fun fr => ({ piece := piece, color := side, square := fr } : Placement))).Nodup := by
  have hn : (toSquares bb).Pairwise (· ≠ ·) := toSquares_nodup hbb
  exact List.Pairwise.map _ (fun a c hne e => hne (by simpa using congrArg Placement.square e)) hn

/-- Each kind once per square, and placements of different kinds differ. -/
theorem findCapture_nodup {p : Position} {b : Board} (h : Rep p b) (side : Color) (sq : Nat) :
    (findCapture p side sq).Nodup := by
  unfold findCapture
  have hl : ∀ piece x, x &&& p.pieces side piece < 2 ^ 64 := fun piece x => and_lt_right _ (h.piecesLt side piece)
  have hkind : ∀ (k : Piece) (bb : Nat), ∀ a ∈ (toSquares bb).map
      (fun fr => ({ piece := k, color := side, square := fr } : Placement)), a.piece = k := by
    intro k bb a ha
    obtain ⟨_, _, rfl⟩ := List.mem_map.mp ha
    rfl
  refine List.nodup_append.mpr ⟨List.pairwise_flatMap.mpr ⟨fun k _ => nodup_map_placement k side (hl k _), ?_⟩,
    nodup_map_placement .pawn side (hl .pawn _), fun a ha c hc e => ?_⟩
  · have hnd : kqrnbPieces.Pairwise (· ≠ ·) := by decide
    exact hnd.imp fun {k1 k2} hne a ha c hc e => hne (by rw [← hkind k1 _ a ha, ← hkind k2 _ c hc, e])
  · obtain ⟨k, hk, ha⟩ := List.mem_flatMap.mp ha
    exact ((mem_kqrnbPieces k).mp hk).2 (by rw [← hkind k _ a ha, e, hkind .pawn _ c hc])

theorem sortByNominalValue_head {l : List Placement} {a : Placement} {rest : List Placement}
    (h : sortByNominalValue l = a :: rest) :
    a ∈ l ∧ ∀ pl ∈ l, nominalValue a.piece ≤ nominalValue pl.piece := by
  have hperm := sortByNominalValue_perm l
  have hsorted := sortByNominalValue_sorted l
  rw [h] at hperm hsorted
  refine ⟨hperm.mem_iff.mp (List.mem_cons_self ..), fun pl hpl => ?_⟩
  rcases List.mem_cons.mp (hperm.mem_iff.mpr hpl) with rfl | hr
  · exact Int.le_refl _
  · exact (List.pairwise_cons.mp hsorted).1 pl hr

theorem isSafe_iff (p : Position) (side : Color) (piece : Piece) (sq : Nat) :
    isSafe p side piece sq = true ↔
      findCapture p side.opp sq = [] ∨
      (p.isDefended side sq = true ∧ ∀ pl ∈ findCapture p side.opp sq, nominalValue piece ≤ nominalValue pl.piece) := by
  unfold isSafe
  cases hs : sortByNominalValue (findCapture p side.opp sq) with
  | nil =>
    have : findCapture p side.opp sq = [] := by
      have := (sortByNominalValue_perm (findCapture p side.opp sq)).length_eq
      rw [hs] at this
      exact List.length_eq_zero_iff.mp this.symm
    simp [this]
  | cons a rest =>
    obtain ⟨hmem, hmin⟩ := sortByNominalValue_head hs
    have hne : findCapture p side.opp sq ≠ [] := List.ne_nil_of_mem hmem
    simp only
    cases hd : p.isDefended side sq with
    | false => simp [hne]
    | true =>
      simp only [Bool.not_true, Bool.false_eq_true, if_false, decide_eq_true_eq, ge_iff_le, true_and]
      constructor
      · intro hle
        exact Or.inr (fun pl hpl => Int.le_trans hle (hmin pl hpl))
      · rintro (h0 | hall)
        · exact absurd h0 hne
        · exact hall a hmem

theorem findCapture_eq_nil_iff {p : Position} {b : Board} (h : Rep p b) (side : Color) {sq : Nat} (hsq : sq < 64) :
    findCapture p side.opp sq = [] ↔ p.isAttacked side sq = false := by
  rw [← Bool.not_eq_true, isAttacked_iff_att h side hsq]
  constructor
  · intro he ⟨s, k, hb, hk⟩
    have : (⟨k, side.opp, s⟩ : Placement) ∈ findCapture p side.opp sq :=
      (mem_findCapture h side.opp hsq _).mpr ⟨rfl, hb, hk⟩
    rw [he] at this
    cases this
  · intro hn
    apply List.eq_nil_iff_forall_not_mem.mpr
    intro pl hpl
    obtain ⟨_, hb, hk⟩ := (mem_findCapture h side.opp hsq pl).mp hpl
    exact hn ⟨pl.square, pl.piece, hb, hk⟩

end Morlock.Proofs.Bernstein
