import Morlock.Proofs.GenBits
import Morlock.Proofs.RepAbs
/-!
# Stage A of C01 (continued): `emitMove` / `emitPromo` membership, `captureAt` under `Rep`
-/
namespace Morlock.Proofs.Gen
open Morlock Morlock.Model

variable {p : Position} {b : Board} {turn : Color} {m : Move} {castling ep fr sq : Nat}

theorem mem_emitMove {t : MoveType} {piece : Piece} {fr ab : Nat}
    (hab : ab < 2 ^ 64) (m : Move) :
    m ∈ p.emitMove turn t piece fr ab ↔
      ab.testBit m.to = true ∧ m.ty = t ∧ m.piece = piece ∧ m.from = fr ∧ m.promotion = .none ∧
      m.capture = (if t = .capture then p.captureAt m.to turn else .none) := by
  unfold Position.emitMove
  simp only [List.mem_map, mem_toSquares hab]
  constructor
  · rintro ⟨to, hbit, rfl⟩
    exact ⟨hbit, rfl, rfl, rfl, rfl, rfl⟩
  · rintro ⟨hbit, h1, h2, h3, h4, h5⟩
    refine ⟨m.to, hbit, ?_⟩
    cases m
    simp only at h1 h2 h3 h4 h5
    subst h1 h2 h3 h4 h5
    rfl

theorem mem_emitPromo {t : MoveType} {piece : Piece} {fr ab : Nat}
    (hab : ab < 2 ^ 64) (m : Move) :
    m ∈ p.emitPromo turn t piece fr ab ↔
      ab.testBit m.to = true ∧ m.ty = t ∧ m.piece = piece ∧ m.from = fr ∧
      m.promotion ∈ Position.promoPieces ∧
      m.capture = (if t = .capturePromotion then p.captureAt m.to turn else .none) := by
  unfold Position.emitPromo
  simp only [List.mem_flatMap, List.mem_map, mem_toSquares hab]
  constructor
  · rintro ⟨to, hbit, pc, hpc, rfl⟩
    exact ⟨hbit, rfl, rfl, rfl, hpc, rfl⟩
  · rintro ⟨hbit, h1, h2, h3, h4, h5⟩
    refine ⟨m.to, hbit, m.promotion, h4, ?_⟩
    cases m
    simp only at h1 h2 h3 h5
    subst h1 h2 h3 h5
    rfl

theorem promoPieces_eq : Position.promoPieces = [.queen, .rook, .knight, .bishop] := by decide

theorem mem_promoPieces (k : Piece) :
    k ∈ Position.promoPieces ↔ k = .queen ∨ k = .rook ∨ k = .knight ∨ k = .bishop := by
  rw [promoPieces_eq]; simp

/-- The enemy piece on `sq` as the mailbox board sees it (`none` if empty or own). -/
def capAt (b : Board) (sq : Nat) (turn : Color) : Piece :=
  match b sq with
  | some (c, k) => if c = turn.opp then k else .none
  | none => .none

theorem captureAt_of_rep (h : Rep p b) (sq : Nat) (turn : Color) :
    p.captureAt sq turn = capAt b sq turn := by
  unfold Position.captureAt capAt
  have hone : ∀ k', k' ≠ Piece.none → isSet (p.pieces turn.opp k') sq = decide (b sq = some (turn.opp, k')) :=
    fun k' hk' => h.isSet_pieces turn.opp hk' sq
  cases hb : b sq with
  | none =>
    simp [Position.piecesInOrder, List.find?, hone, hb]
  | some x =>
    obtain ⟨c, k⟩ := x
    have hk : k ≠ .none := h.ne_none_of_some hb
    by_cases hc : c = turn.opp
    · subst hc
      cases k <;> simp [Position.piecesInOrder, List.find?, hone, hb] at hk ⊢
    · have : ∀ k', (some (c, k) = some (turn.opp, k')) = False := by
        intro k'; simp [hc]
      simp [Position.piecesInOrder, List.find?, hone, hb, hc, this]

theorem capAt_enemy {k : Piece} (hb : b sq = some (turn.opp, k)) :
    capAt b sq turn = k := by simp [capAt, hb]

theorem capAt_empty (hb : b sq = none) :
    capAt b sq turn = .none := by simp [capAt, hb]

end Morlock.Proofs.Gen
