import Morlock.Proofs.SargonRay
import Morlock.Proofs.GenAbs
import Morlock.Proofs.GenBits
import Morlock.Proofs.AttackBounds
import Morlock.Proofs.MirrorModel
/-!
# SARGON: `FindAttackers` is total on every represented position

`FindAttackers` is one `mapE` over six groups (`findAttackers_eq`), and a group holds exactly the pieces of its kind and side
that attack the target (`groups_spec`).

The Go recursion `addAttackerStack` lifts the attacker from the rotated occupancy and looks for a rook/queen (bishop/queen) of
the same side among the squares that *became* visible from the target. It has no explicit bound. It ends because it walks
along one line: with `pre ++ f :: S` the empty-board ray from the target through the attacker `f` (`RayInv`), the candidate
taken is the first man of `S`, and the recursion goes on from it with a shorter `S` (`RayInv.step`); a ray has at most seven
squares, the model's budget is `stackFuel = 32`. A king is not looked behind, a knight stands on no line. So `findAttackers`
returns `ok l`; `l` has at most 384 stacks, each at most `stackFuel` deep.
-/
namespace Morlock.Proofs.Sargon
open Morlock Morlock.Model Morlock.Model.Sargon Morlock.Proofs.Attack Morlock.Proofs.Gen

theorem xor_bits {occ f : Nat} (hf : f < 64) (hin : occ.testBit f = true) (s : Nat) :
    (occ ^^^ bitMask f).testBit s = (occ.testBit s && decide (s ≠ f)) := by
  rw [testBit_xor_bitMask _ hf]
  by_cases e : s = f
  · subst e; simp [hin]
  · simp [e]

theorem xor_bits_without {occ f : Nat} (hf : f < 64) (hin : occ.testBit f = true) :
    (fun x => (occ ^^^ bitMask f).testBit x) = without (fun x => occ.testBit x) f := by
  funext s
  rw [xor_bits hf hin, without_apply]

theorem mapE_spec {α β : Type} (f : α → Except SErr β) :
    ∀ (l : List α) (bs : List β), mapE f l = .ok bs →
      bs.length = l.length ∧ (∀ y ∈ bs, ∃ x ∈ l, f x = .ok y) ∧ (∀ x ∈ l, ∃ y ∈ bs, f x = .ok y) := by
  intro l
  induction l with
  | nil => intro bs h; cases h; simp
  | cons x l ih =>
    intro bs h
    unfold mapE at h
    cases hx : f x with
    | error e => rw [hx] at h; cases h
    | ok v =>
      rw [hx] at h
      cases hr : mapE f l with
      | error e => rw [hr] at h; cases h
      | ok vs =>
        rw [hr] at h
        cases h
        obtain ⟨h1, h2, h3⟩ := ih vs hr
        refine ⟨by simp [h1], ?_, ?_⟩
        · intro y hy
          rcases List.mem_cons.mp hy with rfl | hy
          · exact ⟨x, List.mem_cons_self .., hx⟩
          · obtain ⟨x', hx', hfx⟩ := h2 y hy
            exact ⟨x', List.mem_cons_of_mem _ hx', hfx⟩
        · intro a ha
          rcases List.mem_cons.mp ha with rfl | ha
          · exact ⟨v, List.mem_cons_self .., hx⟩
          · obtain ⟨y, hy, hfx⟩ := h3 a ha
            exact ⟨y, List.mem_cons_of_mem _ hy, hfx⟩

theorem mapE_total {α β : Type} (f : α → Except SErr β) :
    ∀ l : List α, (∀ a ∈ l, ∃ b, f a = .ok b) → ∃ bs, mapE f l = .ok bs := by
  intro l
  induction l with
  | nil => intro _; exact ⟨[], rfl⟩
  | cons a l ih =>
    intro h
    obtain ⟨b, hb⟩ := h a (List.mem_cons_self ..)
    obtain ⟨bs, hbs⟩ := ih (fun x hx => h x (List.mem_cons_of_mem _ hx))
    exact ⟨b :: bs, by simp [mapE, hb, hbs]⟩

theorem occB_of_some {b : Board} {x : Nat} {v : Color × Piece} (h : b x = some v) : occB b x = true := by
  unfold occB; rw [h]; rfl

theorem occB_false {b : Board} {x : Nat} (h : occB b x = false) : b x = none := by
  unfold occB at h
  cases hb : b x with
  | none => rfl
  | some v => rw [hb] at h; cases h

theorem rot_of_some {p : Position} {b : Board} (h : Rep p b) {s : Nat} {v : Color × Piece} (hb : b s = some v) :
    p.rotated.rot.testBit s = true := by
  rw [h.rot s (h.lt_of_some hb), hb]; rfl

theorem occupied_of_piece {p : Position} {b : Board} (h : Rep p b) (c : Color) {k : Piece} (hk : k ≠ .none) {s : Nat}
    (hs : (p.pieces c k).testBit s = true) : s < 64 ∧ p.rotated.rot.testBit s = true ∧ b s = some (c, k) := by
  have hlt : s < 64 := lt_of_testBit (h.piecesLt c k) hs
  rw [h.one c k s hk hlt] at hs
  have hb : b s = some (c, k) := by simpa using hs
  exact ⟨hlt, rot_of_some h hb, hb⟩

/-- the `bb` of `addAttackerStack` -/
def stackBB (pos : Position) (side : Color) (target : Nat) (r : Rotated) («from» : Nat) : Bitboard :=
  if isSameRankOrFile «from» target then
    andNot (rookAttackboard (r.xor «from») target) (rookAttackboard r target) &&&
      (pos.pieces side .queen ||| pos.pieces side .rook)
  else if isSameDiagonal «from» target then
    andNot (bishopAttackboard (r.xor «from») target) (bishopAttackboard r target) &&&
      (pos.pieces side .queen ||| pos.pieces side .bishop)
  else 0

def lineAB : Spec.Kind → Rotated → Nat → Bitboard
  | .rook => rookAttackboard
  | .bishop => bishopAttackboard
  | _ => fun _ _ => 0

theorem lineAB_of_inv {k : Spec.Kind} (hk : IsLine k) {occ : Nat} {r : Rotated} (hi : RotInv occ r) {t : Nat} (ht : t < 64) :
    lineAB k r t = toBB (Spec.officerTargets (fun x => occ.testBit x) k t) := by
  rcases hk with rfl | rfl
  · exact rook_of_inv hi ht
  · exact bishop_of_inv hi ht

/-- the candidates on the lines of kind `k`: queens and sliders of `side` that `target` sees once `from` is lifted -/
def lineBB (pos : Position) (side : Color) (target : Nat) (r : Rotated) («from» : Nat) (k : Spec.Kind) : Bitboard :=
  andNot (lineAB k (r.xor «from») target) (lineAB k r target) &&& (pos.pieces side .queen ||| pos.pieces side (sliderOf k))

theorem stackBB_cases (pos : Position) (side : Color) (target : Nat) (r : Rotated) (f : Nat) :
    stackBB pos side target r f = 0 ∨ ∃ k, IsLine k ∧ stackBB pos side target r f = lineBB pos side target r f k := by
  unfold stackBB
  split
  · exact Or.inr ⟨.rook, Or.inl rfl, rfl⟩
  · split
    · exact Or.inr ⟨.bishop, Or.inr rfl, rfl⟩
    · exact Or.inl rfl

theorem stackBB_of_mem_ray (pos : Position) (side : Color) (r : Rotated) {o : Nat → Bool} {k : Spec.Kind} (hk : IsLine k)
    {d : Int × Int} (hd : d ∈ dirsOf k) {n t f : Nat} (ht : t < 64) (hf : f ∈ Spec.ray o t d.1 d.2 n) :
    stackBB pos side t r f = lineBB pos side t r f k := by
  obtain ⟨h1, h2⟩ := sameLine_of_lineDir (ray_lt _ _ _ _ _ _ hf) ht (lineDir_of_mem_ray hk hd hf)
  unfold stackBB
  rw [h1, h2]
  rcases hk with rfl | rfl <;> rfl

theorem lineBB_testBit (p : Position) (side : Color) {t occ : Nat} {r : Rotated} {f : Nat} (hi : RotInv occ r) (hf : f < 64)
    (ht : t < 64) {k : Spec.Kind} (hk : IsLine k) (x : Nat) :
    (lineBB p side t r f k).testBit x = true ↔
      (x ∈ Spec.officerTargets (fun y => (occ ^^^ bitMask f).testBit y) k t ∧ x ∉ Spec.officerTargets (fun y => occ.testBit y) k t) ∧
      ((p.pieces side .queen).testBit x = true ∨ (p.pieces side (sliderOf k)).testBit x = true) := by
  unfold lineBB
  rw [lineAB_of_inv hk (xor_inv hf hi) ht, lineAB_of_inv hk hi ht, Nat.testBit_and, andNot_testBit, Nat.testBit_or,
    Bool.and_eq_true, Bool.and_eq_true, Bool.or_eq_true, Bool.not_eq_true', testBit_toBB, ← Bool.not_eq_true, testBit_toBB]

theorem addAttackerStack_succ (pos : Position) (pins : Pins) (side : Color) (target fuel : Nat) (r : Rotated)
    (piece : Piece) (f : Nat) :
    addAttackerStack pos pins side target (fuel + 1) r piece f =
      if isPinnedFor pins f target then .ok none else
      if piece = .king then .ok (some { front := { piece := piece, color := side, square := f } }) else
      if stackBB pos side target r f != 0 then
        match addAttackerStack pos pins side target fuel (r.xor f)
            (pieceAt pos (lastPopSquare (stackBB pos side target r f))) (lastPopSquare (stackBB pos side target r f)) with
        | .error e => .error e
        | .ok none => .ok (some { front := { piece := piece, color := side, square := f } })
        | .ok (some b) => .ok (some { front := { piece := piece, color := side, square := f }, behind := b.front :: b.behind })
      else .ok (some { front := { piece := piece, color := side, square := f } }) := rfl

/-- the three ways `addAttackerStack` returns: the attacker is pinned; it stands alone (a king, nobody new behind it, or the
    one behind is pinned); the one behind heads a stack of its own -/
theorem addAttackerStack_cases {pos : Position} {pins : Pins} {side : Color} {t fuel : Nat} {r : Rotated} {piece : Piece} {f : Nat}
    {res : Option Attacker} (h : addAttackerStack pos pins side t (fuel + 1) r piece f = .ok res) :
    (isPinnedFor pins f t = true ∧ res = none) ∨
    (isPinnedFor pins f t = false ∧
      (res = some { front := { piece := piece, color := side, square := f } } ∨
       ∃ b', addAttackerStack pos pins side t fuel (r.xor f) (pieceAt pos (lastPopSquare (stackBB pos side t r f)))
            (lastPopSquare (stackBB pos side t r f)) = .ok (some b') ∧ piece ≠ .king ∧ stackBB pos side t r f ≠ 0 ∧
          res = some { front := { piece := piece, color := side, square := f }, behind := b'.front :: b'.behind })) := by
  rw [addAttackerStack_succ] at h
  split at h
  · cases h; exact Or.inl ⟨by assumption, rfl⟩
  · rename_i hpin
    refine Or.inr ⟨by simpa using hpin, ?_⟩
    split at h
    · cases h; exact Or.inl rfl
    · rename_i hking
      split at h
      · rename_i hbb
        split at h
        · cases h
        · cases h; exact Or.inl rfl
        · rename_i b' hb'
          cases h
          exact Or.inr ⟨b', hb', hking, by simpa using hbb, rfl⟩
      · cases h; exact Or.inl rfl

theorem addAttackerStack_depth (pos : Position) (pins : Pins) (side : Color) (target : Nat) :
    ∀ fuel r piece f a, addAttackerStack pos pins side target fuel r piece f = .ok (some a) → a.behind.length < fuel := by
  intro fuel
  induction fuel with
  | zero => intro r piece f a h; cases h
  | succ n ih =>
    intro r piece f a h
    rcases addAttackerStack_cases h with ⟨_, h⟩ | ⟨_, h | ⟨b', hb', _, _, h⟩⟩ <;> cases h
    · exact Nat.succ_pos n
    · exact Nat.succ_lt_succ (ih _ _ _ _ hb')

theorem addAttackerStack_none (pos : Position) (pins : Pins) (side : Color) (target : Nat) :
    ∀ fuel r piece f, addAttackerStack pos pins side target fuel r piece f = .ok none → isPinnedFor pins f target = true := by
  intro fuel r piece f h
  cases fuel with
  | zero => cases h
  | succ n =>
    rcases addAttackerStack_cases h with ⟨hp, _⟩ | ⟨_, h | ⟨_, _, _, _, h⟩⟩
    · exact hp
    · cases h
    · cases h

theorem addAttackerStack_some (pos : Position) (pins : Pins) (side : Color) (target : Nat) :
    ∀ fuel r piece f a, addAttackerStack pos pins side target fuel r piece f = .ok (some a) →
      a.front = { piece := piece, color := side, square := f } ∧ isPinnedFor pins f target = false := by
  intro fuel r piece f a h
  cases fuel with
  | zero => cases h
  | succ n =>
    rcases addAttackerStack_cases h with ⟨_, h⟩ | ⟨hp, h | ⟨_, _, _, _, h⟩⟩ <;> cases h <;> exact ⟨rfl, hp⟩

theorem addAttackerStack_not_pinned {pos : Position} {pins : Pins} {side : Color} {t fuel : Nat} {r : Rotated} {piece : Piece}
    {f : Nat} {res : Option Attacker} (h : addAttackerStack pos pins side t fuel r piece f = .ok res)
    (hp : isPinnedFor pins f t = false) : ∃ a, res = some a := by
  cases fuel with
  | zero => cases h
  | succ n =>
    rcases addAttackerStack_cases h with ⟨hp', _⟩ | ⟨_, h | ⟨_, _, _, _, h⟩⟩
    · rw [hp] at hp'; cases hp'
    · exact ⟨_, h⟩
    · exact ⟨_, h⟩

theorem lineBB_lt {p : Position} {b : Board} (hrep : Rep p b) (side : Color) (t : Nat) (r : Rotated) (f : Nat) (k : Spec.Kind) :
    lineBB p side t r f k < 2 ^ 64 :=
  and_lt_right _ (Nat.or_lt_two_pow (hrep.piecesLt _ _) (hrep.piecesLt _ _))

/-- a piece `k` of colour `c` on `s` attacks `t` by the rules (reference geometry on the mailbox board) -/
def Attacks (b : Board) (c : Color) (k : Piece) (s t : Nat) : Prop :=
  (k = .pawn ∧ t ∈ Spec.pawnTargets (absColor c) s) ∨
  (k ≠ .pawn ∧ k ≠ .none ∧ t ∈ Spec.officerTargets (occB b) (kindOf k) s)

theorem piece_bit_iff {p : Position} {b : Board} (hrep : Rep p b) (c : Color) {k : Piece} (hk : k ≠ .none) (x : Nat) :
    (p.pieces c k).testBit x = true ↔ b x = some (c, k) := by
  constructor
  · intro h; exact (occupied_of_piece hrep c hk h).2.2
  · intro h
    rw [hrep.one c k x hk (hrep.lt_of_some h), decide_eq_true_eq]; exact h

theorem line_of_attacks {p : Position} {b : Board} (hrep : Rep p b) {side : Color} {k : Piece} {f t : Nat}
    (hb : b f = some (side, k)) (hatt : Attacks b side k f t) (hk : k = .queen ∨ k = .rook ∨ k = .bishop ∨ k = .pawn) :
    ∃ line, IsLine line ∧ ∃ d ∈ dirsOf line, f ∈ Spec.ray (occB b) t d.1 d.2 8 := by
  have hf := hrep.lt_of_some hb
  rcases hatt with ⟨_, hin⟩ | ⟨hp, _, hin⟩
  · obtain ⟨d, hd, hstep⟩ := pawnTarget_step_back hf hin
    exact ⟨.bishop, Or.inr rfl, d, hd, mem_ray_of_step _ hstep 7⟩
  · have hin := officerTargets_symm hf hin
    rcases hk with rfl | rfl | rfl | rfl
    · simp only [kindOf, Spec.officerTargets, List.mem_flatMap, Prod.exists] at hin
      obtain ⟨df, dr, hd, hx⟩ := hin
      rcases List.mem_append.mp hd with hd | hd
      · exact ⟨.rook, Or.inl rfl, (df, dr), hd, hx⟩
      · exact ⟨.bishop, Or.inr rfl, (df, dr), hd, hx⟩
    · exact ⟨.rook, Or.inl rfl, (mem_lineTargets (Or.inl rfl)).mp hin⟩
    · exact ⟨.bishop, Or.inr rfl, (mem_lineTargets (Or.inr rfl)).mp hin⟩
    · exact absurd rfl hp

/-- the state of the recursion: `pre ++ f :: S` is the empty-board ray from the target through the attacker `f`; the men among
    `pre` have been lifted, behind `f` the board is as it was -/
structure RayInv (b : Board) (t occ : Nat) (r : Rotated) (f : Nat) (k : Spec.Kind) (d : Int × Int) (pre S : List Nat) : Prop where
  target_lt : t < 64
  line : IsLine k
  dir : d ∈ dirsOf k
  inv : RotInv occ r
  from_lt : f < 64
  from_in : occ.testBit f = true
  ray : Spec.ray noOcc t d.1 d.2 8 = pre ++ f :: S
  pre_empty : ∀ x ∈ pre, occ.testBit x = false
  rest : ∀ x ∈ S, occ.testBit x = occB b x

/-- **The candidates** of one level of the recursion are the queens and line sliders of `side` among the squares of `S` up to
    its first man. -/
theorem RayInv.stackBB_testBit {p : Position} {b : Board} (hrep : Rep p b) (side : Color) {t occ : Nat} {r : Rotated} {f : Nat}
    {k : Spec.Kind} {d : Int × Int} {pre S : List Nat} (h : RayInv b t occ r f k d pre S) (x : Nat) :
    (stackBB p side t r f).testBit x = true ↔
      x ∈ takeThrough (occB b) S ∧ (b x = some (side, .queen) ∨ b x = some (side, sliderOf k)) := by
  have hfE : f ∈ Spec.ray noOcc t d.1 d.2 8 := by rw [h.ray]; simp
  have hnv := newVis_iff (o := fun y => occ.testBit y) h.line h.dir h.ray h.pre_empty h.from_in x
  rw [← xor_bits_without h.from_lt h.from_in] at hnv
  rw [stackBB_of_mem_ray p side r h.line h.dir h.target_lt hfE, lineBB_testBit p side h.inv h.from_lt h.target_lt h.line, hnv,
    takeThrough_congr S h.rest, piece_bit_iff hrep side (by decide), piece_bit_iff hrep side (sliderOf_ne_none h.line)]

theorem RayInv.alone {p : Position} {b : Board} (hrep : Rep p b) (side : Color) {t occ : Nat} {r : Rotated} {f : Nat}
    {k : Spec.Kind} {d : Int × Int} {pre S : List Nat} (h : RayInv b t occ r f k d pre S) (hz : stackBB p side t r f = 0) :
    (∀ x ∈ S, occB b x = false) ∨ ∃ mid s S' c q, S = mid ++ s :: S' ∧ (∀ x ∈ mid, occB b x = false) ∧ b s = some (c, q) ∧
      ¬ (c = side ∧ (q = .queen ∨ q = sliderOf k)) := by
  rcases split_first (occB b) S with hall | ⟨mid, s, S', rfl, hmid, hs⟩
  · exact Or.inl hall
  · cases hbs : b s with
    | none => unfold occB at hs; rw [hbs] at hs; cases hs
    | some cq =>
      obtain ⟨c, q⟩ := cq
      refine Or.inr ⟨mid, s, S', c, q, rfl, hmid, hbs, ?_⟩
      rintro ⟨rfl, hq⟩
      have := (h.stackBB_testBit hrep c s).mpr ⟨by rw [takeThrough_split _ S' hmid hs]; simp, by
        rw [hbs]; rcases hq with rfl | rfl
        · exact Or.inl rfl
        · exact Or.inr rfl⟩
      rw [hz] at this; simp at this

theorem RayInv.step {p : Position} {b : Board} (hrep : Rep p b) (side : Color) {t occ : Nat} {r : Rotated} {f : Nat}
    {k : Spec.Kind} {d : Int × Int} {pre S : List Nat} (h : RayInv b t occ r f k d pre S) (hz : stackBB p side t r f ≠ 0) :
    ∃ mid S' q, S = mid ++ lastPopSquare (stackBB p side t r f) :: S' ∧ (∀ x ∈ mid, occB b x = false) ∧
      b (lastPopSquare (stackBB p side t r f)) = some (side, q) ∧ (q = .queen ∨ q = sliderOf k) ∧
      RayInv b t (occ ^^^ bitMask f) (r.xor f) (lastPopSquare (stackBB p side t r f)) k d (pre ++ f :: mid) S' := by
  have hnd : (pre ++ f :: S).Nodup := h.ray ▸ ray_nodup noOcc (dirsOf_sub h.line h.dir) 8 t
  have hfS : f ∉ S := (List.nodup_cons.mp (List.nodup_append.mp hnd).2.1).1
  have hbit : (stackBB p side t r f).testBit (lastPopSquare (stackBB p side t r f)) = true ∧
      lastPopSquare (stackBB p side t r f) < 64 := by
    rcases stackBB_cases p side t r f with h0 | ⟨k'', _, e⟩
    · exact absurd h0 hz
    · rw [e] at hz ⊢
      have := lastPopSquare_spec hz (lineBB_lt hrep side t r f k'')
      exact ⟨this.2.1, this.1⟩
  generalize lastPopSquare (stackBB p side t r f) = F at *
  obtain ⟨hFS, hbF⟩ := (h.stackBB_testBit hrep side F).mp hbit.1
  have hoF : occB b F = true := hbF.elim occB_of_some occB_of_some
  obtain ⟨mid, S', rfl, hmid⟩ := takeThrough_mem_occ (occB b) S F hFS hoF
  obtain ⟨q, hbq, hq⟩ : ∃ q, b F = some (side, q) ∧ (q = .queen ∨ q = sliderOf k) := by
    rcases hbF with e | e
    · exact ⟨_, e, Or.inl rfl⟩
    · exact ⟨_, e, Or.inr rfl⟩
  have hF : F ∈ mid ++ F :: S' := by simp
  refine ⟨mid, S', q, rfl, hmid, hbq, hq, h.target_lt, h.line, h.dir, xor_inv h.from_lt h.inv, hbit.2, ?_, by rw [h.ray]; simp, ?_, ?_⟩
  · have hFf : F ≠ f := fun e => hfS (e ▸ hF)
    rw [xor_bits h.from_lt h.from_in, h.rest F hF, hoF]; simp [hFf]
  · intro x hx
    rw [xor_bits h.from_lt h.from_in]
    rcases List.mem_append.mp hx with hx | hx
    · simp [h.pre_empty x hx]
    · rcases List.mem_cons.mp hx with rfl | hx
      · simp
      · have h1 := h.rest x (List.mem_append_left _ hx)
        rw [hmid x hx] at h1
        simp [h1]
  · intro x hx
    have hxS : x ∈ mid ++ F :: S' := List.mem_append_right _ (List.mem_cons_of_mem _ hx)
    have hxf : x ≠ f := fun e => hfS (e ▸ hxS)
    rw [xor_bits h.from_lt h.from_in, h.rest x hxS]
    simp [hxf]

/-- **`addAttackerStack` does not run out of budget**: one level per man on the line behind the attacker. -/
theorem addAttackerStack_ok {p : Position} {b : Board} (hrep : Rep p b) (pins : Pins) (side : Color) {t : Nat} {k : Spec.Kind}
    {d : Int × Int} :
    ∀ fuel occ r piece f pre S, RayInv b t occ r f k d pre S → S.length < fuel →
      ∃ res, addAttackerStack p pins side t fuel r piece f = .ok res := by
  intro fuel
  induction fuel with
  | zero => intro occ r piece f pre S _ hlen; cases hlen
  | succ n ih =>
    intro occ r piece f pre S hinv hlen
    rw [addAttackerStack_succ]
    split
    · exact ⟨_, rfl⟩
    · split
      · exact ⟨_, rfl⟩
      · split
        · rename_i hbb
          obtain ⟨mid, S', q, rfl, _, _, _, hinv'⟩ := hinv.step hrep side (by simpa using hbb)
          obtain ⟨res, hres⟩ := ih _ _ (pieceAt p (lastPopSquare (stackBB p side t r f))) _ _ _ hinv'
            (by simp only [List.length_append, List.length_cons] at hlen; omega)
          rw [hres]
          cases res with
          | none => exact ⟨_, rfl⟩
          | some a => exact ⟨_, rfl⟩
        · exact ⟨_, rfl⟩

theorem addAttackerStack_alone_ok (pos : Position) (pins : Pins) (side : Color) (t fuel : Nat) (r : Rotated) {piece : Piece} {f : Nat}
    (h : piece = .king ∨ stackBB pos side t r f = 0) : ∃ res, addAttackerStack pos pins side t (fuel + 1) r piece f = .ok res := by
  rw [addAttackerStack_succ]
  split
  · exact ⟨_, rfl⟩
  · split
    · exact ⟨_, rfl⟩
    · split
      · rename_i hk hbb
        exact absurd (h.resolve_left hk) (by simpa using hbb)
      · exact ⟨_, rfl⟩

theorem addAttackerStack_alone {pos : Position} {pins : Pins} {side : Color} {t fuel : Nat} {r : Rotated} {piece : Piece} {f : Nat}
    {a : Attacker} (h : piece = .king ∨ stackBB pos side t r f = 0)
    (hres : addAttackerStack pos pins side t fuel r piece f = .ok (some a)) : a.behind = [] := by
  cases fuel with
  | zero => cases hres
  | succ n =>
    rcases addAttackerStack_cases hres with ⟨_, e⟩ | ⟨_, e | ⟨_, _, hk, hz, _⟩⟩
    · cases e
    · cases e; rfl
    · exact h.elim (fun c => absurd c hk) (fun c => absurd c hz)

/-- a direct attacker is a king, or has no candidate behind it (a knight), or stands on a line of the target -/
theorem top_cases {p : Position} {b : Board} (hrep : Rep p b) {t : Nat} (ht : t < 64) {side : Color} {piece : Piece} {f : Nat}
    (hb : b f = some (side, piece)) (hatt : Attacks b side piece f t) :
    piece = .king ∨ (stackBB p side t p.rotated f = 0 ∧ Spec.lineDir t f = none) ∨
      ∃ k d pre S, RayInv b t p.rotated.rot p.rotated f k d pre S := by
  have hf64 := hrep.lt_of_some hb
  have hne := hrep.ne_none_of_some hb
  have hocc : (fun s => p.rotated.rot.testBit s) = occB b := hrep.occ_eq
  by_cases hK : piece = .king
  · exact Or.inl hK
  by_cases hN : piece = .knight
  · subst hN
    rcases hatt with ⟨hp, _⟩ | ⟨_, _, hin⟩
    · cases hp
    · obtain ⟨h1, h2, h3⟩ := knightTarget_off_lines _ hf64 hin
      exact Or.inr (Or.inl ⟨by unfold stackBB; simp [h1, h2], h3⟩)
  · obtain ⟨k, hk, d, hd, hfr⟩ := line_of_attacks hrep hb hatt (by cases piece <;> simp_all)
    have hof := occB_of_some hb
    rw [ray_eq_takeThrough] at hfr
    obtain ⟨pre, S, hE, hpre⟩ := takeThrough_mem_occ (occB b) _ f hfr hof
    refine Or.inr (Or.inr ⟨k, d, pre, S, ht, hk, hd, hrep.rotInv, hf64, rot_of_some hrep hb, hE, fun x hx => ?_, fun x _ => congrFun hocc x⟩)
    have e : p.rotated.rot.testBit x = occB b x := congrFun hocc x
    rw [e]; exact hpre x hx

/-- the six loops of `FindAttackers`, in the order of the code: a kind of piece and the board of its candidates -/
def groups (p : Position) (t : Nat) (side : Color) : List (Piece × Bitboard) :=
  [(.king, kingAttackboard t &&& p.pieces side .king), (.queen, queenAttackboard p.rotated t &&& p.pieces side .queen),
   (.rook, rookAttackboard p.rotated t &&& p.pieces side .rook), (.knight, knightAttackboard t &&& p.pieces side .knight),
   (.bishop, bishopAttackboard p.rotated t &&& p.pieces side .bishop),
   (.pawn, pawnCaptureboard side.opp (bitMask t) &&& p.pieces side .pawn)]

theorem kqrnb_eq : kqrnb = [.king, .queen, .rook, .knight, .bishop] := by decide

theorem findAttackers_eq (p : Position) (pins : Pins) (t : Nat) (side : Color) :
    findAttackers p pins t side =
      match mapE (fun g => stacksOn p pins side g.1 t g.2) (groups p t side) with
      | .error e => .error e
      | .ok ls => .ok ls.flatten := by
  unfold findAttackers groups
  rw [kqrnb_eq]
  simp only [mapE, attackboard]
  cases stacksOn p pins side .king t (kingAttackboard t &&& p.pieces side .king) with
  | error e => rfl
  | ok lk =>
  cases stacksOn p pins side .queen t (queenAttackboard p.rotated t &&& p.pieces side .queen) with
  | error e => rfl
  | ok lq =>
  cases stacksOn p pins side .rook t (rookAttackboard p.rotated t &&& p.pieces side .rook) with
  | error e => rfl
  | ok lr =>
  cases stacksOn p pins side .knight t (knightAttackboard t &&& p.pieces side .knight) with
  | error e => rfl
  | ok ln =>
  cases stacksOn p pins side .bishop t (bishopAttackboard p.rotated t &&& p.pieces side .bishop) with
  | error e => rfl
  | ok lb =>
  cases stacksOn p pins side .pawn t (pawnCaptureboard side.opp (bitMask t) &&& p.pieces side .pawn) with
  | error e => rfl
  | ok lp => simp

/-- **What a group holds**: exactly the pieces of its kind and of `side` that attack the target by the rules. -/
theorem groups_spec {p : Position} {b : Board} (hrep : Rep p b) {t : Nat} (ht : t < 64) (side : Color) {g : Piece × Bitboard}
    (hg : g ∈ groups p t side) :
    g.1 ≠ .none ∧ g.2 < 2 ^ 64 ∧ ∀ f, g.2.testBit f = true ↔ b f = some (side, g.1) ∧ Attacks b side g.1 f t := by
  have officer : ∀ (piece : Piece) (ab : Nat), piece ≠ .none → piece ≠ .pawn → attackboard p.rotated t piece = some ab →
      piece ≠ .none ∧ ab &&& p.pieces side piece < 2 ^ 64 ∧
        ∀ f, (ab &&& p.pieces side piece).testBit f = true ↔ b f = some (side, piece) ∧ Attacks b side piece f t := by
    intro piece ab hk hpw hab
    rw [attackboard_of_rep hrep ht hk hpw] at hab
    cases hab
    refine ⟨hk, and_lt_right _ (hrep.piecesLt side piece), fun f => ?_⟩
    rw [Nat.testBit_and, Bool.and_eq_true, testBit_toBB, piece_bit_iff hrep side hk, and_comm]
    refine and_congr_right fun hb => ?_
    rw [officerTargets_symm_iff ht (hrep.lt_of_some hb)]
    exact ⟨fun h => Or.inr ⟨hpw, hk, h⟩, fun h => h.elim (fun c => absurd c.1 hpw) fun c => c.2.2⟩
  simp only [groups, List.mem_cons, List.not_mem_nil, or_false] at hg
  rcases hg with rfl | rfl | rfl | rfl | rfl | rfl
  · exact officer .king _ (by decide) (by decide) rfl
  · exact officer .queen _ (by decide) (by decide) rfl
  · exact officer .rook _ (by decide) (by decide) rfl
  · exact officer .knight _ (by decide) (by decide) rfl
  · exact officer .bishop _ (by decide) (by decide) rfl
  · refine ⟨(by decide : Piece.pawn ≠ .none), and_lt_right _ (hrep.piecesLt side .pawn), fun f => ?_⟩
    rw [Nat.testBit_and, Bool.and_eq_true, pawn_of_lt side.opp ht, testBit_toBB, piece_bit_iff hrep side (by decide), and_comm]
    refine and_congr_right fun hb => ?_
    have hf : Spec.fwd (absColor side.opp) = -Spec.fwd (absColor side) := by cases side <;> rfl
    constructor
    · exact fun h => Or.inl ⟨rfl, pawnTargets_rev (by rw [hf, Int.neg_neg]) ht h⟩
    · exact fun h => h.elim (fun c => pawnTargets_rev hf (hrep.lt_of_some hb) c.2) fun c => absurd rfl c.1

theorem group_of_piece (p : Position) (t : Nat) (side : Color) {k : Piece} (hk : k ≠ .none) : ∃ bb, (k, bb) ∈ groups p t side := by
  cases k <;> first | exact absurd rfl hk | exact ⟨_, by simp [groups]; rfl⟩

def DepthOK (l : List Attacker) : Prop := ∀ a ∈ l, a.behind.length < stackFuel

theorem stacksOn_ok {p : Position} {b : Board} (hrep : Rep p b) (pins : Pins) (side : Color) {t : Nat} (ht : t < 64)
    {g : Piece × Bitboard} (hg : g ∈ groups p t side) :
    ∃ l, stacksOn p pins side g.1 t g.2 = .ok l ∧ l.length ≤ 64 ∧ DepthOK l := by
  unfold stacksOn
  have hlt := (groups_spec hrep ht side hg).2.1
  obtain ⟨bs, hbs⟩ := mapE_total (fun f => addAttackerStack p pins side t stackFuel p.rotated g.1 f) (toSquares g.2) (by
    intro f hf
    obtain ⟨hb, hatt⟩ := ((groups_spec hrep ht side hg).2.2 f).mp ((mem_toSquares hlt f).mp hf)
    rcases top_cases hrep ht hb hatt with h | h | ⟨k, d, pre, S, hinv⟩
    · exact addAttackerStack_alone_ok p pins side t _ p.rotated (Or.inl h)
    · exact addAttackerStack_alone_ok p pins side t _ p.rotated (Or.inr h.1)
    · have hlen := ray_length_le_seven noOcc (dir_ne_zero (dirsOf_sub hinv.line hinv.dir)) ht 8
      rw [hinv.ray, List.length_append, List.length_cons] at hlen
      exact addAttackerStack_ok hrep pins side stackFuel _ _ g.1 f pre S hinv (by unfold stackFuel; omega))
  obtain ⟨hlen, hmem, _⟩ := mapE_spec _ _ _ hbs
  rw [hbs]
  refine ⟨_, rfl, ?_, ?_⟩
  · have h1 : (bs.filterMap id).length ≤ bs.length := List.length_filterMap_le _ _
    have h2 := toSquares_length g.2
    omega
  · intro a ha
    rw [List.mem_filterMap] at ha
    obtain ⟨oa, hoa, hid⟩ := ha
    simp only [id] at hid
    subst hid
    obtain ⟨f, _, hf⟩ := hmem _ hoa
    exact addAttackerStack_depth _ _ _ _ _ _ _ _ _ hf

/-- **`FindAttackers` is total**: no panic in `Attackboard`, no runaway recursion; at most 384 stacks. -/
theorem findAttackers_ok {p : Position} {b : Board} (hrep : Rep p b) (pins : Pins) {t : Nat} (ht : t < 64) (side : Color) :
    ∃ l, findAttackers p pins t side = .ok l ∧ l.length ≤ 384 ∧ DepthOK l := by
  obtain ⟨ls, hls⟩ := mapE_total (fun g => stacksOn p pins side g.1 t g.2) (groups p t side)
    (fun g hg => (stacksOn_ok hrep pins side ht hg).imp fun _ h => h.1)
  obtain ⟨hlen, hmem, _⟩ := mapE_spec _ _ _ hls
  have hgood : ∀ lg ∈ ls, lg.length ≤ 64 ∧ DepthOK lg := by
    intro lg hlg
    obtain ⟨g, hg, hgl⟩ := hmem lg hlg
    obtain ⟨l', hl', h⟩ := stacksOn_ok hrep pins side ht hg
    rw [hgl] at hl'; cases hl'; exact h
  rw [findAttackers_eq, hls]
  refine ⟨_, rfl, ?_, ?_⟩
  · have : ∀ (L : List (List Attacker)), (∀ lg ∈ L, lg.length ≤ 64) → L.flatten.length ≤ 64 * L.length := by
      intro L
      induction L with
      | nil => intro _; simp
      | cons x L ih =>
        intro h
        have h1 := h x (List.mem_cons_self ..)
        have h2 := ih (fun y hy => h y (List.mem_cons_of_mem _ hy))
        simp only [List.flatten_cons, List.length_append, List.length_cons]; omega
    have h1 := this ls (fun lg hlg => (hgood lg hlg).1)
    have h2 : ls.length = 6 := hlen
    omega
  · intro a ha
    obtain ⟨lg, hlg, ha⟩ := List.mem_flatten.mp ha
    exact (hgood lg hlg).2 a ha

end Morlock.Proofs.Sargon
