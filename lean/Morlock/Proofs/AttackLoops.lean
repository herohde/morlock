import Morlock.Proofs.AttackScan
/-!
# The eight transcribed loops as `ScanSpec`s

Each `ScanSpec` below repeats one loop of `rookRank`/`rookFile`/`bishopL`/`bishopR` (bounds, cell and
state-bit index functions, start index) together with the reference direction `(df, dr)` it walks.
That they really are the loops of the model is checked by definitional unfolding in `AttackGlue`.
-/
namespace Morlock.Proofs.Attack
open Morlock Morlock.Model Morlock.Spec

def specRankR (sq : Nat) : ScanSpec :=
  ⟨8, fun i => i + (sqRank sq <<< 3), fun i => i, sqFile sq + 1, 1, 0⟩
def specRankL (sq : Nat) : ScanSpec :=
  ⟨sqFile sq + 1, fun k => (sqFile sq - k) + (sqRank sq <<< 3), fun k => sqFile sq - k, 1, -1, 0⟩
def specFileD (sq : Nat) : ScanSpec :=
  ⟨8, fun i => sqFile sq + (i <<< 3), fun i => i, sqRank sq + 1, 0, 1⟩
def specFileU (sq : Nat) : ScanSpec :=
  ⟨sqRank sq + 1, fun k => sqFile sq + ((sqRank sq - k) <<< 3), fun k => sqRank sq - k, 1, 0, -1⟩
def specUL (sq : Nat) : ScanSpec :=
  ⟨Nat.min (8 - sqRank sq) (8 - sqFile sq), fun i => ((sqRank sq + i) <<< 3) + (sqFile sq + i),
    fun i => Nat.min (sqRank sq) (sqFile sq) + i, 1, 1, 1⟩
def specDR (sq : Nat) : ScanSpec :=
  ⟨Nat.min (sqRank sq) (sqFile sq) + 1, fun i => ((sqRank sq - i) <<< 3) + (sqFile sq - i),
    fun i => Nat.min (sqRank sq) (sqFile sq) - i, 1, -1, -1⟩
def specUR (sq : Nat) : ScanSpec :=
  ⟨Nat.min (8 - sqRank sq) (sqFile sq + 1), fun i => ((sqRank sq + i) <<< 3) + (sqFile sq - i),
    fun i => Nat.min (sqRank sq) (7 - sqFile sq) + i, 1, -1, 1⟩
def specDL (sq : Nat) : ScanSpec :=
  ⟨Nat.min (sqRank sq + 1) (8 - sqFile sq), fun i => ((sqRank sq - i) <<< 3) + (sqFile sq + i),
    fun i => Nat.min (sqRank sq) (7 - sqFile sq) - i, 1, 1, -1⟩

end Morlock.Proofs.Attack
