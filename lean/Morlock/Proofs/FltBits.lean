import Morlock.Proofs.FltOrder
/-! # IEEE bit patterns: `ofBits (bits x) = rnd x`; equal patterns ⟺ equal values -/
namespace Morlock.Model.Flt

/-- the interchange formats: bias `2^(ebits-1) − 1 = emax`, `emin = 2 − p − emax` -/
structure Fmt.IEEE (f : Fmt) : Prop where
  p_pos : 1 ≤ f.p
  ebits_ge : 2 ≤ f.ebits
  emax_eq : f.emax = ((2 ^ (f.ebits - 1) - 1 : Nat) : Int)
  emin_eq : f.emin = 2 - (f.p : Int) - f.emax

theorem f32_ieee : f32.IEEE := ⟨by decide, by decide, by decide, by decide⟩
theorem f64_ieee : f64.IEEE := ⟨by decide, by decide, by decide, by decide⟩

theorem Fmt.IEEE.wf {f : Fmt} (h : f.IEEE) : f.WF := by
  refine ⟨h.p_pos, ?_⟩
  have h1 := h.emax_eq
  have h2 := h.emin_eq
  have : 2 ≤ 2 ^ (f.ebits - 1) := two_le_two_pow (by have := h.ebits_ge; omega)
  omega

/-- decoding of `sign | field | fraction` -/
theorem decode_fields (s F r A T : Nat) (hT : 0 < T) (hA : 0 < A) (hr : r < T) (hF : F < A) (hs : s < 2) :
    (s * (A * T) + F * T + r) / (A * T) % 2 = s ∧ (s * (A * T) + F * T + r) / T % A = F ∧
      (s * (A * T) + F * T + r) % T = r := by
  have e0 : s * (A * T) + F * T + r = r + (s * A + F) * T := by grind
  have e1 : (s * (A * T) + F * T + r) / T = s * A + F := by
    rw [e0, Nat.add_mul_div_right _ _ hT, Nat.div_eq_of_lt hr]; simp
  refine ⟨?_, ?_, ?_⟩
  · have : (s * (A * T) + F * T + r) / (A * T) = (s * (A * T) + F * T + r) / T / A := by
      rw [Nat.div_div_eq_div_mul, Nat.mul_comm T A]
    rw [this, e1]
    have : (s * A + F) / A = s := by
      rw [Nat.add_comm, Nat.add_mul_div_right _ _ hA, Nat.div_eq_of_lt hF]; simp
    rw [this]; exact Nat.mod_eq_of_lt hs
  · rw [e1, Nat.add_comm, Nat.add_mul_mod_self_right]; exact Nat.mod_eq_of_lt hF
  · rw [e0, Nat.add_mul_mod_self_right]; exact Nat.mod_eq_of_lt hr

theorem ofME_zero (neg : Bool) (e : Int) : ofME neg 0 e = ⟨0, 1⟩ := by
  obtain ⟨hc, _, _, hz⟩ := ofME_spec neg 0 e
  exact Q.Canon.eq_of_eqv hc (by unfold Q.Canon; simp) (by simp [Q.Eqv, hz.mpr rfl])

theorem ofBits_eq (f : Fmt) (hp : 1 ≤ f.p) (neg : Bool) (F r : Nat) (hr : r < 2 ^ (f.p - 1))
    (hF : F < 2 ^ f.ebits - 1) :
    ofBits f ((if neg then 2 ^ (f.ebits + f.p - 1) else 0) + F * 2 ^ (f.p - 1) + r) =
      if F = 0 then some (ofME neg r f.emin)
      else some (ofME neg (r + 2 ^ (f.p - 1)) ((F : Int) - (2 ^ (f.ebits - 1) - 1 : Nat) - ((f.p : Int) - 1))) := by
  have hA : 0 < 2 ^ f.ebits := Nat.two_pow_pos _
  have hT : 0 < 2 ^ (f.p - 1) := Nat.two_pow_pos _
  have hpow : 2 ^ (f.ebits + f.p - 1) = 2 ^ f.ebits * 2 ^ (f.p - 1) := by
    rw [← Nat.pow_add]; congr 1; omega
  have hsign : (if neg then 2 ^ (f.ebits + f.p - 1) else 0) = (if neg then 1 else 0) * (2 ^ f.ebits * 2 ^ (f.p - 1)) := by
    cases neg <;> simp [hpow]
  obtain ⟨d1, d2, d3⟩ := decode_fields (if neg then 1 else 0) F r (2 ^ f.ebits) (2 ^ (f.p - 1)) hT hA hr (by omega)
    (by cases neg <;> simp)
  unfold ofBits
  simp only []
  rw [hsign, hpow, d1, d2, d3]
  have hne : (F == 2 ^ f.ebits - 1) = false := by simp; omega
  rw [hne]
  have hneg : ((if neg = true then 1 else 0) == 1) = neg := by cases neg <;> simp
  rw [hneg]
  by_cases h0 : F = 0 <;> simp [h0]

theorem bits_of_num_eq_zero (f : Fmt) {x : Q} (h : x.num = 0) : bits f x = some 0 := by simp [bits, h]

theorem bits_of_num_ne_zero (f : Fmt) {x : Q} (h0 : x.num ≠ 0) :
    bits f x = (rndPos f x.num.natAbs x.den).bind fun me =>
        (let sign := if x.num < 0 then 2 ^ (f.ebits + f.p - 1) else 0
         if me.1 == 0 then some 0
         else if me.1 < 2 ^ (f.p - 1) then some (sign + me.1)
         else
           let field : Int := me.2 + ((f.p : Int) - 1) + (2 ^ (f.ebits - 1) - 1 : Nat)
           some (sign + field.toNat * 2 ^ (f.p - 1) + (me.1 - 2 ^ (f.p - 1)))) := by
  unfold bits
  have : (x.num == 0) = false := by simpa using h0
  rw [this]
  simp only [Bool.false_eq_true, if_false]
  cases rndPos f x.num.natAbs x.den with
  | none => rfl
  | some me => rfl

theorem ofBits_zero (f : Fmt) (hp : 1 ≤ f.p) (he : 1 ≤ f.ebits) : ofBits f 0 = some ⟨0, 1⟩ := by
  have hT : 0 < 2 ^ (f.p - 1) := Nat.two_pow_pos _
  have h2 : 2 ≤ 2 ^ f.ebits := two_le_two_pow he
  have := ofBits_eq f hp false 0 0 hT (by omega)
  simp only [Bool.false_eq_true, if_false, Nat.zero_mul, Nat.add_zero, if_true] at this
  rw [this, ofME_zero]

/-- a subnormal (`m < 2^(p-1)`, then `e = emin`) has field `0` and fraction `m`; a normal pair field
`e + (p−1) + bias ∈ [1, 2^ebits − 2]` and fraction `m − 2^(p-1)` -/
theorem ofBits_pair (f : Fmt) (ieee : f.IEEE) (neg : Bool) {m : Nat} {e : Int} (hm : m < 2 ^ f.p) (he : f.emin ≤ e)
    (hmax : e + ((f.p : Int) - 1) ≤ f.emax) (hn : 2 ^ (f.p - 1) ≤ m ∨ e = f.emin) :
    (if m < 2 ^ (f.p - 1) then some ((if neg = true then 2 ^ (f.ebits + f.p - 1) else 0) + m)
      else some ((if neg = true then 2 ^ (f.ebits + f.p - 1) else 0) +
        (e + ((f.p : Int) - 1) + ((2 ^ (f.ebits - 1) - 1 : Nat) : Int)).toNat * 2 ^ (f.p - 1) + (m - 2 ^ (f.p - 1)))).bind
      (ofBits f) = some (ofME neg m e) := by
  have hp := ieee.p_pos
  have hebits : 1 ≤ f.ebits := by have := ieee.ebits_ge; omega
  have h2e : 2 * 2 ^ (f.ebits - 1) = 2 ^ f.ebits := two_pow_pred hebits
  have hEpos : 2 ≤ 2 ^ (f.ebits - 1) := two_le_two_pow (by have := ieee.ebits_ge; omega)
  have h1 := ieee.emax_eq
  have h2 := ieee.emin_eq
  have hP := two_pow_pred hp
  split
  · rename_i hsub
    have := ofBits_eq f hp neg 0 m hsub (by omega)
    simp only [Nat.zero_mul, Nat.add_zero, if_true] at this
    rw [Option.bind_some, this, hn.resolve_left (by omega)]
  · rename_i hsub
    generalize hF : (e + ((f.p : Int) - 1) + ((2 ^ (f.ebits - 1) - 1 : Nat) : Int)).toNat = F
    have := ofBits_eq f hp neg F (m - 2 ^ (f.p - 1)) (by omega) (by omega)
    rw [Option.bind_some, this, if_neg (by omega), show m - 2 ^ (f.p - 1) + 2 ^ (f.p - 1) = m by omega,
      show (F : Int) - ((2 ^ (f.ebits - 1) - 1 : Nat) : Int) - ((f.p : Int) - 1) = e by omega]

theorem ofBits_bits (f : Fmt) (ieee : f.IEEE) (x : Q) (hd : 0 < x.den) : (bits f x).bind (ofBits f) = rnd f x := by
  have hp := ieee.p_pos
  have hzero := ofBits_zero f hp (by have := ieee.ebits_ge; omega)
  by_cases h0 : x.num = 0
  · rw [rnd_of_num_eq_zero f h0, bits_of_num_eq_zero f h0]
    exact hzero
  · rw [rnd_of_num_ne_zero f h0, bits_of_num_ne_zero f h0]
    cases hr : rndPos f x.num.natAbs x.den with
    | none => rfl
    | some me =>
      obtain ⟨m, e⟩ := me
      obtain ⟨hm, hemin, hemax, hnorm, _, _⟩ := rndPos_spec f hp (by omega) hd hr
      simp only [Option.bind_some, Option.map_some]
      by_cases hm0 : m = 0
      · subst hm0
        simp only [beq_self_eq_true, if_true, Option.bind_some]
        rw [hzero, ofME_zero]
      · rw [if_neg (by simpa using hm0)]
        have := ofBits_pair f ieee (decide (x.num < 0)) hm hemin hemax hnorm
        simpa using this

theorem bits_congr (f : Fmt) (wf : f.WF) {x y : Q} (hx : 0 < x.den) (hy : 0 < y.den) (h : Q.Eqv x y) :
    bits f x = bits f y := by
  obtain ⟨hs, hz, ha⟩ := Q.abs_of_eqv hy hx h
  by_cases h0 : x.num = 0
  · rw [bits_of_num_eq_zero f h0, bits_of_num_eq_zero f (hz.mp h0)]
  · rw [bits_of_num_ne_zero f h0, bits_of_num_ne_zero f (fun c => h0 (hz.mpr c)),
      rndPos_congr f wf.p_pos (by omega) hx (by omega) hy ha]
    simp only [propext hs]

theorem bits_inj (f : Fmt) (ieee : f.IEEE) {x y : Q} (hx : 0 < x.den) (hy : 0 < y.den) (rx : Rep f x) (ry : Rep f y)
    (h : bits f x = bits f y) : Q.Eqv x y := by
  have wf := ieee.wf
  obtain ⟨x', hx', ex, cx⟩ := rnd_exact f wf hx rx
  obtain ⟨y', hy', ey, cy⟩ := rnd_exact f wf hy ry
  have : rnd f x = rnd f y := by rw [← ofBits_bits f ieee x hx, ← ofBits_bits f ieee y hy, h]
  rw [hx', hy'] at this
  have : x' = y' := by simpa using this
  subst this
  exact Q.Eqv.trans cx.1 ex.symm ey

theorem bits_rnd (f : Fmt) (wf : f.WF) {x y : Q} (hd : 0 < x.den) (h : rnd f x = some y) : bits f y = bits f x := by
  have hp := wf.p_pos
  rcases (rnd_eq_some_iff f x y).mp h with ⟨h0, rfl⟩ | ⟨h0, m, e, hr, hy⟩
  · rw [bits_of_num_eq_zero f h0, bits_of_num_eq_zero f rfl]
  · obtain ⟨hc, hv, hs, hzero⟩ := ofME_spec (decide (x.num < 0)) m e
    rw [← hy] at hc hv hs hzero
    rcases Nat.eq_zero_or_pos m with hm | hm
    · have hy0 := hzero.mpr hm
      rw [bits_of_num_ne_zero f h0, hr]
      subst hm
      rw [bits_of_num_eq_zero f hy0]; rfl
    · have hy0 : y.num ≠ 0 := fun c => by have := hzero.mp c; omega
      have hsy : (y.num < 0) = (x.num < 0) := by
        apply propext; rw [hs]; simp [hm]
      -- rounding the value of the result pair gives the same pair
      have hr' : rndPos f y.num.natAbs y.den = some (m, e) := by
        obtain ⟨hm', he, hmax, hn, _, _⟩ := rndPos_spec f hp (by omega) hd hr
        exact rndPos_of_normal f hp (by omega) hc.1 (by rw [hv]; ac_rfl) hm' he hmax hn
      rw [bits_of_num_ne_zero f h0, bits_of_num_ne_zero f hy0, hr, hr']
      simp only [hsy]

end Morlock.Model.Flt
