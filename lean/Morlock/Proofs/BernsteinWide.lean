import Morlock.Proofs.BernsteinEval
import Morlock.Proofs.FltFacts
import Morlock.Proofs.EngineKeys
/-!
# BERNSTEIN: `Eval.Evaluate` is finite for every factor that keeps Go's `int` from wrapping

The scores are only known to lie in `[1, 2^63]`: the conversion `eval.Pawns(score)` rounds, but

* it is finite and at most `2^63` (`rnd32_facts_abs_le`: a power of two survives rounding),
* the divisor is at least `1`, because rounding is monotone and `1` is a float32 (`rnd_mono`, `rnd32_int`),
* the product with `100` is at most `100 · 2^63 < 2^70`, the quotient by something `≥ 1` likewise: far below `2^127`.
-/
namespace Morlock.Proofs.Bernstein
open Morlock Morlock.Model Morlock.Model.Bernstein
open Morlock.Model.Flt

/-- `eval.Pawns(n)` for `1 ≤ n ≤ 2^63`: finite, between `1` and `2^63` -/
theorem rnd_score {n : Int} (h1 : 1 ≤ n) (h2 : n ≤ 2 ^ 63) :
    ∃ a, rnd f32 (Q.ofInt n) = some a ∧ 0 < a.den ∧ a.AbsLe (2 ^ 63) ∧ (a.den : Int) ≤ a.num := by
  have hd : 0 < (Q.ofInt n).den := Nat.one_pos
  have hb : (Q.ofInt n).AbsLe (2 ^ 63) := (Q.absLe_ofInt n).mono (by omega)
  obtain ⟨a, ha⟩ := Option.isSome_iff_exists.mp
    (rnd32_isSome_of_le (Q.ofInt n) hd (Nat.le_trans hb (Nat.mul_le_mul_right _ (by decide))))
  have hone : rnd f32 (Q.ofInt 1) = some (Q.ofInt 1) := rnd32_int 1 (by decide)
  have hle : Q.Le (Q.ofInt 1) (Q.ofInt n) := by
    show (1 : Int) * ((1 : Nat) : Int) ≤ n * ((1 : Nat) : Int)
    omega
  have hmono : (1 : Int) * (a.den : Int) ≤ a.num * ((1 : Nat) : Int) :=
    rnd_mono f32 f32_wf (x := Q.ofInt 1) (y := Q.ofInt n) Nat.one_pos hd hle hone ha
  exact ⟨a, ha, rnd_den_pos ha, rnd32_facts_abs_le _ _ 63 (by decide) hd hb ha, by omega⟩

/-- `± Pawns(s) * 100 / Pawns(o)` is a finite float32 for `1 ≤ s, o ≤ 2^63` -/
theorem ratio_isSome_wide {s o : Int} (hs : 1 ≤ s) (hs' : s ≤ 2 ^ 63) (ho : 1 ≤ o) (ho' : o ≤ 2 ^ 63) (sign : Bool) :
    ((rnd f32 (Q.ofInt s)).bind fun a =>
      (Flt.mul f32 (if sign then a.neg else a) (Q.ofInt 100)).bind fun m =>
      (rnd f32 (Q.ofInt o)).bind fun b => Flt.div f32 m b).isSome = true := by
  obtain ⟨a, ha, had, habs, _⟩ := rnd_score hs hs'
  obtain ⟨b, hb, hbd, _, hbge⟩ := rnd_score ho ho'
  rw [ha, Option.bind_some]
  generalize ha' : (if sign then a.neg else a) = a'
  have ha'd : 0 < a'.den := by subst ha'; cases sign <;> exact had
  have ha'b : a'.AbsLe (2 ^ 63) := by
    subst ha'; cases sign
    · exact habs
    · exact habs.neg
  -- the product
  have hxd : 0 < (a'.mul (Q.ofInt 100)).den := (Q.mul_canon ha'd (y := Q.ofInt 100) Nat.one_pos).1
  have hxa : (a'.mul (Q.ofInt 100)).AbsLe (2 ^ 70) :=
    (Q.AbsLe.mul ha'd Nat.one_pos ha'b (Q.absLe_ofInt 100)).mono (by decide)
  obtain ⟨m, hm⟩ := Option.isSome_iff_exists.mp
    (rnd32_isSome_of_le _ hxd (Nat.le_trans hxa (Nat.mul_le_mul_right _ (by decide))))
  have hma : m.AbsLe (2 ^ 70) := rnd32_facts_abs_le _ _ 70 (by decide) hxd hxa hm
  unfold Flt.mul
  rw [hm, Option.bind_some, hb, Option.bind_some]
  -- the divisor is at least one
  apply div_isSome f32 f32_wf (rnd_den_pos hm) (by omega)
  have e1 : pd f32.emax = 1 := by decide
  have e2 : pn f32.emax = 2 ^ 127 := by decide
  rw [e1, e2, Nat.mul_one]
  calc m.num.natAbs * b.den ≤ (2 ^ 70 * m.den) * b.num.natAbs := Nat.mul_le_mul hma (by omega)
    _ = m.den * b.num.natAbs * 2 ^ 70 := by rw [Nat.mul_comm (2 ^ 70), Nat.mul_right_comm]
    _ ≤ m.den * b.num.natAbs * 2 ^ 127 := Nat.mul_le_mul_left _ (by decide)

/-- the bound on `|factor|` up to which Go's 64-bit `int` provably does not wrap: `2^52` (`1344 · 2^52 + 82304 < 2^63`) -/
def factorMax : Int := 2 ^ 52

def scoreMax : Int := 82304 + 1344 * 2 ^ 52

theorem scoreMax_lt : scoreMax < 2 ^ 63 := by decide

/-- No `int` wraps: the product `factor * material`, the sum before `max(1, ·)` and the score are 64-bit integers. -/
theorem evaluate_bounds_wide {p : Position} {factor : Int} {side : Color} {v : Int}
    (hf0 : -factorMax ≤ factor) (hf1 : factor ≤ factorMax) (h : evaluate p factor side = some v) :
    1 ≤ v ∧ v ≤ scoreMax ∧ -(2 ^ 63) < factor * material p side ∧ factor * material p side < 2 ^ 63 := by
  obtain ⟨h1, h2, h3, h4⟩ := evaluate_le hf0 hf1 h
  have e1 : 1344 * factorMax = 6052837899185946624 := by decide
  have e2 : (2 : Int) ^ 63 = 9223372036854775808 := by decide
  have e3 : scoreMax = 82304 + 1344 * factorMax := rfl
  rw [e1] at h2 h3 h4
  rw [e2, e3, e1]
  omega

theorem evalEvaluate_isSome_wide {p : Position} {factor : Int} {turn : Color}
    (hf0 : -factorMax ≤ factor) (hf1 : factor ≤ factorMax)
    (hk1 : p.kingSquare turn < 64) (hk2 : p.kingSquare turn.opp < 64) :
    (evalEvaluate p factor turn).isSome = true := by
  obtain ⟨s, hs⟩ := Option.isSome_iff_exists.mp ((evaluate_isSome_iff p factor turn).mpr hk1)
  obtain ⟨o, ho⟩ := Option.isSome_iff_exists.mp ((evaluate_isSome_iff p factor turn.opp).mpr hk2)
  have bs := evaluate_bounds_wide hf0 hf1 hs
  have bo := evaluate_bounds_wide hf0 hf1 ho
  have hmax := scoreMax_lt
  rw [evalEvaluate_of_scores hs ho]
  unfold scoreRatio
  split
  · rfl
  · split
    · have := ratio_isSome_wide (s := s) (o := o) bs.1 (by omega) bo.1 (by omega) false
      simpa using this
    · have := ratio_isSome_wide (s := o) (o := s) bo.1 (by omega) bs.1 (by omega) true
      simpa using this

end Morlock.Proofs.Bernstein
