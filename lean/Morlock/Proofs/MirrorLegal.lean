import Morlock.Proofs.MirrorApply
import Morlock.Proofs.PromoLegal
/-!
# C20: the legal moves of the colour-swapped mirror image are the mirror images of the legal moves

Hypotheses: a 64-cell board, and at most one king of the side to move (`kingSquare?` takes the first king
in square order, and the mirror reverses the order of the ranks — with two kings of the mover on different
ranks the reference itself is not mirror-symmetric).
-/
namespace Morlock.Spec
open Morlock.Proofs.Attack Morlock.Proofs.Gen

theorem oneKing_apply {p : Pos} {m : SMove} (hm : m ∈ pseudoMoves p) {c' : Color} (hu : OneKing p c') :
    OneKing (apply p m) c' := by
  obtain ⟨hlt, hmf⟩ := mem_pseudoMoves.mp hm
  obtain ⟨k, hat⟩ := at_of_mem_movesFrom hmf
  have hpromo : ∀ pk, m.promo = some pk → pk ≠ .king := fun pk hpk =>
    ne_king_of_mem_promoKinds (pseudo_promo hm hpk).2.1
  -- the moved king is the only one: an old king elsewhere would be a second king before the move
  have lone : ∀ s, s < 64 → c' = p.turn → k = .king → p.at s = some (c', .king) → s = m.from :=
    fun s hs hc hk o => hu s m.from hs hlt o (by rw [hat, hc, hk])
  intro s1 s2 h1 h2 a1 a2
  rcases apply_king hat hpromo a1 with ⟨e1, hc1, hk1⟩ | ⟨o1, n1⟩ <;>
    rcases apply_king hat hpromo a2 with ⟨e2, hc2, hk2⟩ | ⟨o2, n2⟩
  · rw [e1, e2]
  · exact absurd (lone s2 h2 hc1 hk1 o2) n2
  · exact absurd (lone s1 h1 hc2 hk2 o1) n1
  · exact hu s1 s2 h1 h2 o1 o2

theorem isLegal_mirror {p : Pos} (hsz : p.board.size = 64) (hu : OneKing p p.turn) {m : SMove}
    (hm : m ∈ pseudoMoves p) : isLegal (mirror p) (mirrorMove m) = isLegal p m := by
  obtain ⟨hf, ht⟩ := to_lt_of_pseudo hm
  have hM := Mir.of_mirror p
  have hmid : (fileOf m.from + fileOf m.to) / 2 < 8 := by
    have := fileOf_lt m.from
    have := fileOf_lt m.to
    omega
  -- the square the king passes over
  have hatt : attackedBy (mirror p) p.turn.opp.opp
      (mkSq ((fileOf (mirrorMove m).from + fileOf (mirrorMove m).to) / 2) (rankOf (mirrorMove m).from)) =
      attackedBy p p.turn.opp (mkSq ((fileOf m.from + fileOf m.to) / 2) (rankOf m.from)) := by
    rw [mirrorMove_from, mirrorMove_to, fileOf_mirrorSq hf, fileOf_mirrorSq ht, rankOf_mirrorSq hf,
      ← mirrorSq_mkSq hmid (rankOf_lt hf), attackedBy_mirror]
  unfold isLegal
  simp only [mirror_turn, isCastle_mir hM hf ht, apply_mirror hsz hf ht, inCheck_mirror hu,
    inCheck_mirror (oneKing_apply hm hu), hatt]

theorem legalMoves_mirror {p : Pos} (hsz : p.board.size = 64) (hu : OneKing p p.turn) :
    (legalMoves (mirror p)).Perm ((legalMoves p).map mirrorMove) := by
  refine perm_map_of_mem_iff mirrorMove_mirrorMove (legalMoves_nodup _) (legalMoves_nodup _) fun m => ?_
  rw [mem_legalMoves, mem_legalMoves, pseudoMoves_mir (Mir.of_mirror p)]
  refine and_congr_right fun h1 => ?_
  have := isLegal_mirror hsz hu h1
  rw [mirrorMove_mirrorMove] at this
  rw [this]

theorem pseudoMoves_mirror (p : Pos) : (pseudoMoves (mirror p)).Perm ((pseudoMoves p).map mirrorMove) :=
  perm_map_of_mem_iff mirrorMove_mirrorMove (pseudoMoves_nodup _) (pseudoMoves_nodup _)
    fun _ => pseudoMoves_mir (Mir.of_mirror p)

/-- The invariant under which the reference is mirror-symmetric. -/
structure Sym (p : Pos) : Prop where
  size : p.board.size = 64
  kings : ∀ c, OneKing p c

theorem Sym.apply {p : Pos} (h : Sym p) {m : SMove} (hm : m ∈ pseudoMoves p) : Sym (apply p m) where
  size := by rw [apply_board_size]; exact h.size
  kings := fun c => oneKing_apply hm (h.kings c)

theorem Sym.mirror {p : Pos} (h : Sym p) : Sym (mirror p) where
  size := mirror_board_size p
  kings := fun c => by
    have := (h.kings c.opp).mir (Mir.of_mirror p)
    rwa [Color.opp_opp] at this

theorem perft_succ (d : Nat) (p : Pos) :
    perft (d + 1) p = ((legalMoves p).map fun m => perft d (apply p m)).sum := by
  rw [List.sum_eq_foldl, List.foldl_map]; rfl

theorem perft_one (p : Pos) : perft 1 p = (legalMoves p).length := by
  rw [perft_succ]
  show ((legalMoves p).map fun _ => 1).sum = _
  rw [List.map_const', List.sum_replicate_nat, Nat.mul_one]

theorem perft_mirror : ∀ (d : Nat) {p : Pos}, Sym p → perft d (mirror p) = perft d p := by
  intro d
  induction d with
  | zero => intro p _; rfl
  | succ d ih =>
    intro p hs
    rw [perft_succ, perft_succ, ((legalMoves_mirror hs.size (hs.kings p.turn)).map _).sum_nat, List.map_map]
    refine congrArg List.sum (List.map_congr_left fun m hm => ?_)
    have hpm : m ∈ pseudoMoves p := (mem_legalMoves.mp hm).1
    obtain ⟨hf, ht⟩ := to_lt_of_pseudo hpm
    show perft d (apply (mirror p) (mirrorMove m)) = _
    rw [apply_mirror hs.size hf ht]
    exact ih (hs.apply hpm)
end Morlock.Spec
