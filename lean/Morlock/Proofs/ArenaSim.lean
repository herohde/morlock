import Morlock.Proofs.ArenaView
/-!
# `pushMove` / `popMove` act on views as pure functions

The arena operations commute with `view`; and a frame rule: for `view` only the board record, the current
node minus `next`, and the strict ancestors matter.
-/
namespace Morlock.Proofs.Arena
open Morlock Morlock.Model Morlock.Model.World

/-- The node a move leaves behind on the past of a view: the old current node with `next := m`. -/
def View.top (v : View) (m : Move) : Node :=
  { pos := v.pos, hash := v.hash, noprogress := v.noprogress, next := m, prev := none }

/-- The view after an accepted move `m` leading to a node with the given contents. -/
def View.pushed (v : View) (m : Move) (pos : Position) (hash : Nat) (np : Int) : View :=
  { pos := pos, hash := hash, noprogress := np,
    past := v.top m :: v.past,
    turn := v.turn.opp, ply := v.ply + 1,
    moves := if v.turn.opp = .white then v.moves + 1 else v.moves,
    castledW := if m.isCastle && v.turn = .white then true else v.castledW,
    castledB := if m.isCastle && v.turn = .black then true else v.castledB,
    reps := fun h => if h = hash then v.reps hash + 1 else v.reps h,
    result := pushResult (v.reps hash + 1)
      (ipcList hash pos v.turn.opp np (v.top m :: v.past) 1 v.turn.opp.opp 1) np pos m }

/-- `pushMove` on a view. -/
def viewPush (z : ZTable) (v : View) (m : Move) : Option View :=
  if blockedR v.result then none else
  match v.pos.move m with
  | none => none
  | some next =>
    some { pos := next, hash := z.move v.hash v.pos m, noprogress := updateNoProgress v.noprogress m,
           past := { pos := v.pos, hash := v.hash, noprogress := v.noprogress, next := m, prev := none } :: v.past,
           turn := v.turn.opp, ply := v.ply + 1,
           moves := if v.turn.opp = .white then v.moves + 1 else v.moves,
           castledW := if m.isCastle && v.turn = .white then true else v.castledW,
           castledB := if m.isCastle && v.turn = .black then true else v.castledB,
           reps := fun h => if h = z.move v.hash v.pos m then v.reps (z.move v.hash v.pos m) + 1 else v.reps h,
           result := pushResult (v.reps (z.move v.hash v.pos m) + 1)
             (ipcList (z.move v.hash v.pos m) next v.turn.opp (updateNoProgress v.noprogress m)
               ({ pos := v.pos, hash := v.hash, noprogress := v.noprogress, next := m, prev := none } :: v.past)
               1 v.turn.opp.opp 1)
             (updateNoProgress v.noprogress m) next m }

theorem viewPush_eq (z : ZTable) (v : View) (m : Move) :
    viewPush z v m =
      if blockedR v.result then none else
        (v.pos.move m).map fun next => v.pushed m next (z.move v.hash v.pos m) (updateNoProgress v.noprogress m) := by
  unfold viewPush
  cases v.pos.move m <;> rfl

theorem viewPush_eq_some {z : ZTable} {v v' : View} {m : Move} (h : viewPush z v m = some v') :
    blockedR v.result = false ∧ ∃ next, v.pos.move m = some next ∧
      v' = v.pushed m next (z.move v.hash v.pos m) (updateNoProgress v.noprogress m) := by
  rw [viewPush_eq] at h
  split at h
  · cases h
  · rename_i hb
    obtain ⟨next, hm, h⟩ := Option.map_eq_some_iff.mp h
    exact ⟨by simpa using hb, next, hm, h.symm⟩

/-- The view after taking back the move that led from `p` (with the older past `r`). -/
def View.popped (v : View) (p : Node) (r : List Node) : View :=
  { pos := p.pos, hash := p.hash, noprogress := p.noprogress, past := r, turn := v.turn.opp,
    ply := v.ply - 1, moves := if v.turn.opp = .black then v.moves - 1 else v.moves,
    castledW := if p.next.isCastle && v.turn.opp = .white then false else v.castledW,
    castledB := if p.next.isCastle && v.turn.opp = .black then false else v.castledB,
    reps := fun h => if h = v.hash then v.reps v.hash - 1 else v.reps h,
    result := { outcome := .undecided } }

/-- `popMove` on a view. -/
def viewPop (v : View) : Option (View × Move) :=
  match v.past with
  | [] => none
  | p :: r =>
    some ({ pos := p.pos, hash := p.hash, noprogress := p.noprogress, past := r, turn := v.turn.opp,
            ply := v.ply - 1, moves := if v.turn.opp = .black then v.moves - 1 else v.moves,
            castledW := if p.next.isCastle && v.turn.opp = .white then false else v.castledW,
            castledB := if p.next.isCastle && v.turn.opp = .black then false else v.castledB,
            reps := fun h => if h = v.hash then v.reps v.hash - 1 else v.reps h,
            result := { outcome := .undecided } }, p.next)

theorem viewPop_of_past {v : View} {p : Node} {r : List Node} (h : v.past = p :: r) :
    viewPop v = some (v.popped p r, p.next) := by
  unfold viewPop; rw [h]; rfl

theorem viewPop_of_nil {v : View} (h : v.past = []) : viewPop v = none := by
  unfold viewPop; rw [h]

theorem frame_view {w w' : World} {b : Nat}
    (hbd : w'.board b = w.board b)
    (hpos : (w'.cur b).pos = (w.cur b).pos) (hhash : (w'.cur b).hash = (w.cur b).hash)
    (hnp : (w'.cur b).noprogress = (w.cur b).noprogress) (hprev : (w'.cur b).prev = (w.cur b).prev)
    (hanc : ∀ j ∈ ancIdx w (w.cur b).prev, w'.node j = w.node j) :
    view w' b = view w b := by
  unfold view
  rw [hbd, hpos, hhash, hnp, hprev, (anc_congr hanc).2]

theorem frame_view_next {w w' : World} {b : Nat} (hbd : w'.board b = w.board b)
    (hcur : ∃ m, w'.cur b = { w.cur b with next := m })
    (hanc : ∀ j ∈ ancIdx w (w.cur b).prev, w'.node j = w.node j) : view w' b = view w b := by
  obtain ⟨m, hm⟩ := hcur
  exact frame_view hbd (by rw [hm]) (by rw [hm]) (by rw [hm]) (by rw [hm]) hanc

theorem view_setBoard_other {w : World} {b f : Nat} (bd : Board) (h : f ≠ b) :
    view (w.setBoard f bd) b = view w b := by
  have hbd : (w.setBoard f bd).board b = w.board b := by
    rw [setBoard_board, if_neg (fun c => h c.1)]
  exact frame_view hbd (by simp [cur, hbd]) (by simp [cur, hbd]) (by simp [cur, hbd]) (by simp [cur, hbd])
    (fun j _ => rfl)

theorem view_setBoard_self {w : World} {b : Nat} (hb : b < w.boards.size) (bd : Board) :
    view (w.setBoard b bd) b =
      { pos := (w.node bd.current).pos, hash := (w.node bd.current).hash,
        noprogress := (w.node bd.current).noprogress,
        past := (anc w (w.node bd.current).prev).map eraseNode,
        turn := bd.turn, ply := bd.ply, moves := bd.moves, castledW := bd.castledW, castledB := bd.castledB,
        reps := fun h => repGet bd.repetitions h, result := bd.result } := by
  have hbd : (w.setBoard b bd).board b = bd := by rw [setBoard_board, if_pos ⟨rfl, hb⟩]
  have hanc : ∀ o, anc (w.setBoard b bd) o = anc w o :=
    fun o => (anc_congr (w1 := w) (w2 := w.setBoard b bd) (fun j _ => rfl)).2
  unfold view cur
  rw [hbd, hanc]
  rfl

theorem anc_pushArena {w : World} (hw : WFWorld w) {b : Nat} (hb : b < w.boards.size) (m : Move) {n : Node}
    (hn : n.prev = some (w.board b).current) :
    anc (pushArena w b m n) n.prev = { w.cur b with next := m } :: anc w (w.cur b).prev := by
  have hc := hw.cur_lt b hb
  rw [hn, anc_some (wf_pushArena hw hb m hn), pushArena_node_old _ _ _ _ hc, if_pos rfl]
  show _ :: anc (pushArena w b m n) (w.cur b).prev = _
  refine congrArg (_ :: ·) (anc_eq_of_node hw fun j hj => ?_)
  have hjc : j < (w.board b).current := Nat.lt_of_lt_of_le hj (bound_prev_le hw.prev_lt _)
  rw [pushArena_node_old _ _ _ _ (Nat.lt_trans hjc hc), if_neg (Nat.ne_of_gt hjc)]

theorem view_pushed {w : World} (hw : WFWorld w) {b : Nat} (hb : b < w.boards.size) (m : Move)
    {n : Node} (hn : n.prev = some (w.board b).current) :
    view ((pushArena w b m n).setBoard b (pushBoard w b m n)) b =
      (view w b).pushed m n.pos n.hash n.noprogress := by
  have hbnd : bound n.prev ≤ (pushArena w b m n).nodes.size := by
    rw [hn, pushArena_size]
    exact Nat.succ_le_succ (Nat.le_of_lt (hw.cur_lt b hb))
  have hcur : (pushArena w b m n).node w.nodes.size = n := pushArena_node_new _ _ _ _
  have hipc := ipc_eq (wf_pushArena hw hb m hn) n (w.board b).turn.opp (w.board b).turn.opp.opp n.noprogress hbnd
  rw [anc_pushArena hw hb m hn, ← ipcList_erase] at hipc
  refine (view_setBoard_self (w := pushArena w b m n) hb (pushBoard w b m n)).trans ?_
  unfold View.pushed View.top view pushBoard
  simp only [hcur, anc_pushArena hw hb m hn, repGet_repSet, if_true, hipc]
  rfl

theorem push_view {w : World} (hw : WFWorld w) {z : ZTable} {b : Nat} (hb : b < w.boards.size) (m : Move) :
    (w.pushMove z b m).map (fun w' => view w' b) = viewPush z (view w b) m := by
  rw [pushMove_eq, viewPush_eq, view_result, view_pos, view_hash, view_noprogress]
  show Option.map _ (if blockedR (w.board b).result then none else _) = _
  split
  · rfl
  · cases (w.cur b).pos.move m with
    | none => rfl
    | some next => exact congrArg some (view_pushed hw hb m (n := pushNode w z b m next) rfl)

theorem push_view_some {w w' : World} (hw : WFWorld w) {z : ZTable} {b : Nat} (hb : b < w.boards.size) {m : Move}
    (h : w.pushMove z b m = some w') : viewPush z (view w b) m = some (view w' b) := by
  rw [← push_view hw hb, h]; rfl

theorem push_view_none {w : World} (hw : WFWorld w) {z : ZTable} {b : Nat} (hb : b < w.boards.size) {m : Move}
    (h : w.pushMove z b m = none) : viewPush z (view w b) m = none := by
  rw [← push_view hw hb, h]; rfl

theorem view_popped {w : World} (hw : WFWorld w) {b : Nat} (hb : b < w.boards.size) {pi : Nat}
    (hp : (w.cur b).prev = some pi) :
    view ((w.setNode pi { w.node pi with next := {} }).setBoard b (popBoard w b pi)) b =
      (view w b).popped (eraseNode (w.node pi)) ((anc w (w.node pi).prev).map eraseNode) := by
  have hlt : pi < w.nodes.size := hw.prev_lt_size hp
  have hanc : anc (w.setNode pi { w.node pi with next := {} }) (w.node pi).prev = anc w (w.node pi).prev :=
    anc_eq_of_node hw fun j hj => by
      rw [setNode_node, if_neg fun h => Nat.ne_of_gt (Nat.lt_of_lt_of_le hj (bound_prev_le hw.prev_lt pi)) h.1]
  have hcur : (w.setNode pi { w.node pi with next := {} }).node pi = { w.node pi with next := {} } := by
    rw [setNode_node, if_pos ⟨rfl, hlt⟩]
  refine (view_setBoard_self (w := w.setNode pi { w.node pi with next := {} }) hb (popBoard w b pi)).trans ?_
  unfold View.popped view popBoard
  simp only [hcur, hanc, repGet_repSet]
  rfl

theorem pop_view {w : World} (hw : WFWorld w) {b : Nat} (hb : b < w.boards.size) :
    (w.popMove b).map (fun r => (view r.1 b, r.2)) = viewPop (view w b) := by
  rw [popMove_eq]
  cases hp : (w.cur b).prev with
  | none => exact (viewPop_of_nil (by simp [view, hp])).symm
  | some pi =>
    rw [viewPop_of_past (p := eraseNode (w.node pi)) (r := (anc w (w.node pi).prev).map eraseNode)
      (by simp [view, hp, anc_some hw]), ← view_popped hw hb hp]
    rfl

theorem pop_view_some {w w' : World} (hw : WFWorld w) {b : Nat} (hb : b < w.boards.size) {m : Move}
    (h : w.popMove b = some (w', m)) : viewPop (view w b) = some (view w' b, m) := by
  rw [← pop_view hw hb, h]; rfl

end Morlock.Proofs.Arena
