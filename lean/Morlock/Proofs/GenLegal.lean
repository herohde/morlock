import Morlock.Proofs.GenSpecNodup
import Morlock.Proofs.GenQueries
/-!
# Stage G of C01: `Position.Move` accepts exactly the legal moves; the legal lists agree
-/
namespace Morlock.Proofs.Gen
open Morlock Morlock.Model Morlock.Proofs.Attack

variable {p : Position} {b : Board} {turn : Color} {m : Move}

/-- `Position.Move` on a known origin square: the castling-through-check test, then the update `moveRaw`,
    refused if it leaves the mover's king attacked. -/
theorem move_eq {pc : Piece}
    (hsq : p.square m.from = some (turn, pc)) :
    p.move m =
      if (m.isCastle && (Position.safeCastlingSquares turn m.ty).any (fun sq => p.isAttacked turn sq)) = true
      then none
      else if (moveRaw p turn pc m).isChecked turn = true then none else some (moveRaw p turn pc m) := by
  unfold Position.move moveRaw movedPiece Move.isCastle
  rw [hsq]
  cases hty : m.ty <;> simp only [reduceCtorEq, decide_false, decide_true, Bool.or_false, Bool.or_true,
    Bool.false_and, Bool.true_and, Bool.false_eq_true, if_false, Bool.or_self]
  case kingSideCastle | queenSideCastle =>
    generalize (Position.safeCastlingSquares turn _).any _ = a
    cases a <;> rfl
  all_goals rfl

theorem move_isSome_eq {pc : Piece}
    (hsq : p.square m.from = some (turn, pc)) :
    (p.move m).isSome =
      (!(m.isCastle && (Position.safeCastlingSquares turn m.ty).any (fun sq => p.isAttacked turn sq)) &&
       !(moveRaw p turn pc m).isChecked turn) := by
  rw [move_eq hsq]
  cases (m.isCastle && (Position.safeCastlingSquares turn m.ty).any (fun sq => p.isAttacked turn sq)) <;>
    cases (moveRaw p turn pc m).isChecked turn <;> rfl

theorem inCheck_congr {s1 s2 : Spec.Pos} (h : s1.board = s2.board) (c : Spec.Color) :
    Spec.inCheck s1 c = Spec.inCheck s2 c := by
  unfold Spec.inCheck Spec.kingSquare? Spec.attackedBy Spec.Pos.occ Spec.Pos.at
  rw [h]

/-- The board of the reference successor is the abstraction of the prescribed board `boardAfter`
    (the board half of C02 `move_refines_spec`, without its `LandOK` hypothesis). -/
theorem apply_board {pc : Piece}
    (h : Rep p b) (hok : MetaOKb b m = true) (hsqb : b m.from = some (turn, pc))
    (hcl : ClassOK (abs p turn) m = true) :
    (Spec.apply (abs p turn) (absMove m)).board = absBoard (boardAfter b m) := by
  have hpcne : pc ≠ .none := h.ne_none_of_some hsqb
  have hat : (abs p turn).at m.from = some (absColor turn, kindOf pc) := by
    rw [h.abs_at, hsqb, absCellB_some _ hpcne]
  obtain ⟨hE, hC, _, hP, hEsq, _, hCsq⟩ := classOK_iff.mp hcl
  have hbp : (abs p turn).board = absBoard b := by rw [abs_board, ← h.board_eq]
  have hcell := cell_moved m turn hpcne hP
  have hsp := (metaOKb_shape hok hsqb).special
  unfold Spec.apply
  simp only [absMove] at hat hE hC ⊢
  rw [hat, boardAfter_eq hsqb]
  simp only [hE, hC, hbp]
  refine (congrArg (Spec.setCell _ m.to)
    (?_ : _ = absCellB (some (turn, movedPiece m pc)))).trans ?_
  · rw [hcell]; cases absKind m.promotion <;> rfl
  cases hs : moveShape m <;> rw [hs] at hsp <;> simp only
  · have e1 : (m.ty == MoveType.enPassant) = false := by
      simpa using mt (moveShape_ep_iff m).mpr (by rw [hs]; nofun)
    have e2 : m.isCastle = false := by
      simpa using mt (moveShape_castle_iff m).mpr (by rw [hs]; nofun)
    simp only [e1, e2, Bool.false_eq_true, if_false]
    rw [absBoard_upd, absBoard_upd]
    rfl
  · -- en passant: the victim is neither on the origin nor on the (empty) destination
    have e1 := (moveShape_ep_iff m).mp hs
    have e2 : m.isCastle = false := by simp [Move.isCastle, e1]
    simp only [e1, e2, beq_self_eq_true, if_true, Bool.false_eq_true, if_false]
    rw [← hEsq e1, upd_swap2 _ _ _ _ hsp.ne_from hsp.ne_to, absBoard_upd, absBoard_upd, absBoard_upd]
    rfl
  · -- castling: the rook's squares differ from the king's
    have e2 := (moveShape_castle_iff m).mp hs
    have e1 : (m.ty == MoveType.enPassant) = false := by
      simpa using mt (moveShape_ep_iff m).mpr (by rw [hs]; nofun)
    simp only [e1, e2, Bool.false_eq_true, if_false, if_true]
    rw [upd_swap2 _ _ _ _ hsp.r1_ne_from hsp.r1_ne_to, upd_swap2 _ _ _ _ hsp.r2_ne_from hsp.r2_ne_to,
      absBoard_upd, absBoard_upd, absBoard_upd, absBoard_upd, hCsq e2]
    split <;> rfl

theorem moveRaw_isChecked {pc : Piece}
    (h : Rep p b) (hok : MetaOKb b m = true) (hsqb : b m.from = some (turn, pc))
    (hcl : ClassOK (abs p turn) m = true) :
    (moveRaw p turn pc m).isChecked turn =
      Spec.inCheck (Spec.apply (abs p turn) (absMove m)) (absColor turn) := by
  have hrep := moveRaw_rep h hok hsqb
  rw [isChecked_eq hrep turn turn]
  apply inCheck_congr
  rw [apply_board h hok hsqb hcl, abs_board, ← hrep.board_eq]

/-- The squares the engine tests for a castle: the king's home square and the square it crosses, midway to
    its destination (a fixed table, checked by evaluation). -/
theorem castleParams_safe (turn : Color) : ∀ cs ∈ castleParams turn,
    Position.safeCastlingSquares turn cs.ty =
      [kingHomeSq turn, Spec.mkSq ((kingHomeSq turn % 8 + cs.to % 8) / 2) (kingHomeSq turn / 8)] ∧
    Spec.mkSq ((kingHomeSq turn % 8 + cs.to % 8) / 2) (kingHomeSq turn / 8) < 64 := by
  cases turn <;> decide

theorem castle_safe_eq (h : Rep p b)
    (hw : WFb b p.castling p.enpassant turn) (hm : CastleMove b p.castling turn m)
    (hfr : m.from = kingHomeSq turn) :
    (Position.safeCastlingSquares turn m.ty).any (fun sq => p.isAttacked turn sq) =
      (Spec.inCheck (abs p turn) (absColor turn) ||
       Spec.attackedBy (abs p turn) (absColor turn).opp
         (Spec.mkSq ((Spec.fileOf (absMove m).from + Spec.fileOf (absMove m).to) / 2)
           (Spec.rankOf (absMove m).from))) := by
  have hk := hm.kingHome hw
  have hk0 : p.pieces turn .king ≠ 0 := fun h0 => (king_zero_iff h turn).mp h0 _ hk
  have hksq : lastPopSquare (p.pieces turn .king) = kingHomeSq turn :=
    hw.king_unique _ _ _ (kingSquare_spec h turn hk0).1 hk
  have hchk : Spec.inCheck (abs p turn) (absColor turn) = p.isAttacked turn (kingHomeSq turn) := by
    rw [← isChecked_eq h turn turn, isChecked_of_king h hk0, hksq]
  obtain ⟨cs, hcs, _, _, _, hty, _, hto, _⟩ := hm
  obtain ⟨hsafe, hmid⟩ := castleParams_safe turn cs hcs
  rw [hchk, ← absColor_opp, hty, hsafe]
  simp only [absMove, Spec.fileOf, Spec.rankOf, hfr, hto, List.any_cons, List.any_nil, Bool.or_false]
  rw [isAttacked_eq h turn turn hmid]

theorem move_isSome_eq_legal (h : Rep p b)
    (hw : WFb b p.castling p.enpassant turn)
    (hm : PseudoMove b p.castling p.enpassant turn m) :
    (p.move m).isSome = Spec.isLegal (abs p turn) (absMove m) := by
  obtain ⟨hok, hcl⟩ := hm.metaOK_classOK h hw
  rw [h.metaOK_iff] at hok
  obtain ⟨hsqb, _, _⟩ := hm.features hw
  have hsq : p.square m.from = some (turn, m.piece) := by rw [h.square_eq]; exact hsqb
  rw [move_isSome_eq hsq, moveRaw_isChecked h hok hsqb hcl]
  have hC : Spec.isCastle (abs p turn) (absMove m) = m.isCastle := by
    unfold ClassOK at hcl
    simp only [Bool.and_eq_true, beq_iff_eq] at hcl
    exact hcl.1.1.1.1.1.2
  unfold Spec.isLegal
  simp only [hC]
  have hturn : (abs p turn).turn = absColor turn := rfl
  rw [hturn]
  by_cases hcas : m.isCastle = true
  · have hcm : m.from = kingHomeSq turn ∧ CastleMove b p.castling turn m := by
      refine hm.elim (fun _ _ hs => ?_) (fun hp => ?_) (fun hf hc => ⟨hf, hc⟩)
      · rcases hs.2.2.2.2 with ⟨_, hty, _⟩ | ⟨_, _, hty, _⟩ <;> simp [Move.isCastle, hty] at hcas
      · rcases hp.2.2 with ⟨_, _, _, ⟨_, hty, _⟩ | ⟨_, hty, _⟩⟩ | ⟨_, _, _, _, _, _, hty, _⟩ |
          ⟨_, _, _, _, ⟨_, hty, _⟩ | ⟨_, hty, _⟩⟩ | ⟨_, _, _, _, hty, _⟩ <;>
          simp [Move.isCastle, hty] at hcas
    rw [castle_safe_eq h hw hcm.2 hcm.1, hcas]
    simp only [Bool.true_and, if_true, Bool.not_or]
  · have : m.isCastle = false := by simpa using hcas
    rw [this]
    simp

theorem pseudo_perm_aux (h : Rep p b)
    (hw : WFb b p.castling p.enpassant turn) :
    ((p.pseudoLegalMoves turn).map absMove).Perm (Spec.pseudoMoves (abs p turn)) := by
  rw [List.perm_ext_iff_of_nodup (pseudo_nodup_aux h hw) (pseudoMoves_nodup _)]
  intro sm
  rw [List.mem_map]
  exact pseudo_iff_aux h hw sm

theorem legal_perm_aux (h : Rep p b)
    (hw : WFb b p.castling p.enpassant turn) :
    ((p.legalMoves turn).map absMove).Perm (Spec.legalMoves (abs p turn)) := by
  unfold Position.legalMoves Spec.legalMoves
  have hp := (pseudo_perm_aux h hw).filter (Spec.isLegal (abs p turn))
  rw [List.filter_map] at hp
  have hf : (p.pseudoLegalMoves turn).filter (Spec.isLegal (abs p turn) ∘ absMove) =
      (p.pseudoLegalMoves turn).filter (fun m => (p.move m).isSome) := by
    apply List.filter_congr
    intro m hm
    exact (move_isSome_eq_legal h hw ((mem_pseudoLegalMoves h hw m).mp hm)).symm
  rw [hf] at hp
  exact hp

end Morlock.Proofs.Gen
