import Morlock.Model.Position
/-!
# `Position.Move` does not read the en-passant target of the position it is applied to

It overwrites the field (step 5 of `Position.Move`); only the generator reads it.
-/
namespace Morlock.Model.Position

theorem xor_ep (p : Position) (e sq : Nat) (c : Color) (k : Piece) :
    ({ p with enpassant := e }).xor sq c k = { p.xor sq c k with enpassant := e } := by cases c <;> rfl

theorem move_ep (p : Position) (e : Nat) (m : Move) : ({ p with enpassant := e }).move m = p.move m := by
  unfold Position.move
  show (match p.square m.from with | none => none | some (turn, piece0) => _) = _
  cases p.square m.from with
  | none => rfl
  | some tp =>
    obtain ⟨turn, piece0⟩ := tp
    have ha : ∀ sq, ({ p with enpassant := e }).isAttacked turn sq = p.isAttacked turn sq := fun _ => rfl
    -- a castling move: the test of the squares the king crosses is the same on both sides
    cases m.isCapture <;> simp only [xor_ep, ha, Bool.false_eq_true, if_false, if_true] <;> cases m.ty <;>
      first | rfl | (generalize List.any _ _ = a; cases a <;> rfl)

end Morlock.Model.Position
