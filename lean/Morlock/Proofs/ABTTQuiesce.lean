import Morlock.Proofs.ABRef
/-!
# Quiescence under a table invariant and cancellation

`quiesce` never touches the table; with cancellation it returns the clipped quiescence value whenever it is
still live at the end.
-/
namespace Morlock.Proofs.AB
open Morlock Morlock.Model Morlock.Model.Score Morlock.Spec
open Morlock.Props.C09
variable {P : Type}

/-- Table untouched, cancellation instant fixed, poll counter grown. -/
def Same (st st' : SState) : Prop := st'.tt = st.tt ∧ Mono st st'

theorem Same.refl (st : SState) : Same st st := ⟨rfl, Mono.refl _⟩
theorem Same.trans {s1 s2 s3 : SState} (h1 : Same s1 s2) (h2 : Same s2 s3) : Same s1 s3 :=
  ⟨h2.1.trans h1.1, h1.2.trans h2.2⟩

/-- the recursive searcher of the quiescence loop, seen as an `abLoop` searcher (empty PV) -/
def wrapQ (rec : P → Score → Score → SState → Score × SState) :
    P → Score → Score → SState → Score × List Move × SState :=
  fun c a b st => ((rec c a b st).1, [], (rec c a b st).2)

def projQ (r : Score × List Move × Bool × Bool × SState) : Score × Bool × SState := (r.1, r.2.2.1, r.2.2.2.2)

theorem quiesceLoop_eq (g : Game P) (ex : P → Explore) (rec) (p : P) (b : Score) :
    ∀ (l : List Move) (a : Score) (pv : List Move) (hl : Bool) (st : SState),
      quiesceLoop g ex rec p b l a hl st = projQ (abLoop g ex (wrapQ rec) p b l a pv hl st) := by
  intro l
  induction l with
  | nil => intro a pv hl st; rfl
  | cons m rest ih =>
    intro a pv hl st
    cases hpush : g.push p m with
    | none => rw [abLoop_none hpush, ← ih]; simp [quiesceLoop, childOf, hpush]
    | some c =>
      cases hp : (ex p).pick m with
      | false =>
        rw [abLoop_skip hpush hp, apply_ite projQ, ← ih]
        simp only [quiesceLoop, childOf, hpush, hp, Bool.false_eq_true, if_false]
        rfl
      | true =>
        rw [abLoop_pick hpush hp]
        dsimp only
        rw [apply_ite projQ, ← ih]
        simp only [quiesceLoop, childOf, hpush, hp, if_true, wrapQ, scoreMax_eq, lift]
        rfl

theorem quiesce_same (g : Game P) (ex : P → Explore) :
    ∀ fuel p a b st, Same st (quiesce g ex fuel p a b st).2 := by
  intro fuel
  induction fuel with
  | zero => intro p a b st; exact ⟨rfl, rfl, Nat.le_refl _⟩
  | succ fuel ih =>
    intro p a b st
    have ht : Same st (tick st) := ⟨rfl, mono_tick st⟩
    rw [quiesce_succ_eq]
    by_cases hc : cancelled st = true
    · simp only [hc, if_true]; exact ht
    · by_cases hd : g.isDraw p = true
      · simp only [hc, hd, if_true, Bool.false_eq_true, if_false]; exact ht
      · simp only [hc, hd, Bool.false_eq_true, if_false]
        have hl := quiesceLoop_frame (g := g) (ex := ex) (p := p) (b := b) Same Same.refl Same.trans
          (heapOrder (g.moves p) (ex p).prio) (fun _ c _ _ _ => ih c)
          (Score.max a (heuristicScore (g.eval p))) false { tick st with nodes := (tick st).nodes + 1 }
        have h2 : Same st { tick st with nodes := (tick st).nodes + 1 } := ⟨rfl, mono_tick st⟩
        by_cases hh : (!(quiesceLoop g ex (quiesce g ex fuel) p b (heapOrder (g.moves p) (ex p).prio)
          (Score.max a (heuristicScore (g.eval p))) false { tick st with nodes := (tick st).nodes + 1 }).2.1) = true
        · simp only [hh, if_true]; exact h2.trans hl
        · simp only [hh, Bool.false_eq_true, if_false]; exact h2.trans hl

/-- One node of `quiesce`, given the contract one level down; with the stand-pat bound and the terminal value. -/
theorem quiesce_succ_tt {g : Game P} (hev : EvalOk g) (ex : P → Explore) {Inv : TTState → Prop} (K fuel : Nat)
    (hf : K + fuel + 1 ≤ 127)
    (IH : RecTT Inv (fun _ => True) (K + fuel) (Q g ex fuel) (fun _ _ _ => True) (wrapQ (quiesce g ex fuel)))
    (p : P) (a b : Score) (st : SState) (hinv : Inv st.tt) (ha : okN (K + fuel + 1) a) (hb : okN (K + fuel + 1) b) :
    ∀ r, quiesce g ex (fuel + 1) p a b st = r → Live r.2 →
      okN (K + fuel + 1) r.1 ∧
      (r.1 = Q g ex (fuel + 1) p ∨ rank a ≤ rank r.1) ∧
      (rank a < rank b → Clip (rank a) (rank b) (rank (Q g ex (fuel + 1) p)) (rank r.1)) ∧
      (g.isDraw p = false → legalAny g p (g.moves p) = true →
        rank (heuristicScore (g.eval p)) ≤ rank r.1 ∧ rank a ≤ rank r.1) ∧
      (g.isDraw p = false → legalAny g p (g.moves p) = false → r.1 = terminal g p) := by
  intro r hr hlive
  rw [quiesce_succ_eq] at hr
  have hc : cancelled st = false := by
    cases hc : cancelled st with
    | false => rfl
    | true => simp only [hc, if_true] at hr; subst hr; exact absurd hlive (not_live_of_cancelled hc)
  simp only [hc, Bool.false_eq_true, if_false] at hr
  by_cases hd : g.isDraw p = true
  · simp only [hd, if_true] at hr
    subst hr
    have hQ : Q g ex (fuel + 1) p = zeroScore := by simp only [Q, hd, if_true]
    rw [hQ]
    exact ⟨okN_mono okN_zero (by omega), Or.inl rfl, fun _ => clip_self _ _ _,
      fun h => by simp [hd] at h, fun h => by simp [hd] at h⟩
  · have hd' : g.isDraw p = false := by simpa using hd
    simp only [hd', Bool.false_eq_true, if_false] at hr
    have hsc : okN (K + fuel + 1) (heuristicScore (g.eval p)) :=
      okN_mono (okN_heuristic (hev p).1 (hev p).2) (by omega)
    obtain ⟨_, ha1, ra1⟩ := raise_spec ha hsc
    rw [← scoreMax_eq] at ha1 ra1
    have hperm := ABHeap.heapOrder_perm (g.moves p) (ex p).prio
    rw [quiesceLoop_eq g ex _ p b _ _ []] at hr
    obtain ⟨hm, _, hpost⟩ := abLoop_tt (g := g) (ex := ex) (p := p) IH (by omega) (b := b)
      (heapOrder (g.moves p) (ex p).prio) (fun _ _ _ _ _ => trivial)
      (Score.max a (heuristicScore (g.eval p))) [] false
      { tick st with nodes := (tick st).nodes + 1 } hinv (fun _ => ⟨ha1, hb⟩) _ rfl
    generalize abLoop g ex (wrapQ (quiesce g ex fuel)) p b (heapOrder (g.moves p) (ex p).prio)
      (Score.max a (heuristicScore (g.eval p))) [] false
      { tick st with nodes := (tick st).nodes + 1 } = res at hr hm hpost
    simp only [projQ] at hr
    have hlres : Live res.2.2.2.2 := by
      by_cases hh : (!res.2.2.1) = true
      · simp only [hh, if_true] at hr; subst hr; exact hlive
      · simp only [hh, Bool.false_eq_true, if_false] at hr; subst hr; exact hlive
    obtain ⟨h2, h3, h4, h5, h6, _, _⟩ := hpost hlres
    rw [legalAny_perm g p hperm, Bool.false_or] at h4
    rw [maxR_perm (kidsR_perm g ex p (Q g ex fuel) hperm)] at h5 h6
    by_cases hl : legalAny g p (g.moves p) = true
    · rw [hl] at h4
      simp only [h4, Bool.not_true, Bool.false_eq_true, if_false] at hr
      subst hr
      have rQ := rank_Q_succ hev ex fuel p (by omega) hd' hl
      rw [ra1, maxR_max, ← rQ] at h5 h6
      have hge := maxR_ge (kidsR g ex p (Q g ex fuel) (g.moves p)) (rank (heuristicScore (g.eval p)))
      rw [← rQ] at hge
      rw [ra1] at h3
      have hra := Int.le_trans (Int.le_max_left ..) h3
      refine ⟨h2, Or.inr hra, ?_, fun _ _ => ⟨Int.le_trans (Int.le_max_right ..) h3, hra⟩,
        fun _ h => by simp [hl] at h⟩
      intro hab
      have Nb := okN_rankN hb
      have Na := okN_rankN ha
      unfold rankN at Na Nb
      dsimp only
      by_cases hp : Max.max (rank a) (rank (heuristicScore (g.eval p))) < rank b
      · have := h5 hp
        unfold Clip; omega
      · have := h6 (by omega) (by omega)
        unfold Clip; omega
    · have hl' : legalAny g p (g.moves p) = false := by simpa using hl
      rw [hl'] at h4
      simp only [h4, Bool.not_false, if_true] at hr
      subst hr
      have : Q g ex (fuel + 1) p = terminal g p := by simp [Q, hd', hl']
      rw [this]
      exact ⟨okN_mono (okN_terminal g p) (by omega), Or.inl rfl, fun _ => clip_self _ _ _,
        fun _ h => by simp [hl'] at h, fun _ _ => rfl⟩

theorem quiesce_recTT {g : Game P} (hev : EvalOk g) (ex : P → Explore) (Inv : TTState → Prop) (K : Nat) :
    ∀ fuel, K + fuel ≤ 127 →
      RecTT Inv (fun _ => True) (K + fuel) (Q g ex fuel) (fun _ _ _ => True) (wrapQ (quiesce g ex fuel)) := by
  intro fuel
  induction fuel with
  | zero =>
    intro _
    refine ⟨fun c => okN_mono okN_zero (by omega), ?_⟩
    intro c a b st _ hinv _
    have hs := quiesce_same g ex 0 c a b st
    refine ⟨hs.2, by simp only [wrapQ]; rw [hs.1]; exact hinv, fun _ => ?_⟩
    simp only [wrapQ, quiesce, Q]
    exact ⟨okN_mono okN_zero (by omega), Or.inl trivial, fun _ => clip_self _ _ _, trivial⟩
  | succ fuel ih =>
    intro hf
    have IH := ih (by omega)
    refine ⟨fun c => okN_mono (Q_ok hev ex (fuel + 1) c (by omega)) (by omega), ?_⟩
    intro p a b st _ hinv hab
    have hs := quiesce_same g ex (fuel + 1) p a b st
    refine ⟨hs.2, by simp only [wrapQ]; rw [hs.1]; exact hinv, fun hlive => ?_⟩
    simp only [wrapQ] at hlive ⊢
    obtain ⟨ha, hb⟩ := hab (hs.2.live hlive)
    obtain ⟨h1, h2, h3, _⟩ := quiesce_succ_tt hev ex K fuel (by omega) IH p a b st hinv ha hb _ rfl hlive
    exact ⟨h1, h2, h3, trivial⟩

theorem quiesce_quiet {g : Game P} (hev : EvalOk g) (ex : P → Explore) (K fuel : Nat) (hKf : K + fuel ≤ 127)
    (p : P) (a b : Score) (st : SState) (hst : Quiet st) (ha : okN (K + fuel) a) (hb : okN (K + fuel) b) :
    let r := quiesce g ex fuel p a b st
    Quiet r.2 ∧ okN (K + fuel) r.1 ∧ (r.1 = Q g ex fuel p ∨ rank a ≤ rank r.1) ∧
    (rank a < rank b → Clip (rank a) (rank b) (rank (Q g ex fuel p)) (rank r.1)) := by
  obtain ⟨hm, hi, h⟩ := (quiesce_recTT hev ex (fun t => t.slots.size = 0) K fuel hKf).node p a b st trivial hst.1
    (fun _ => ⟨ha, hb⟩)
  obtain ⟨hq, hl⟩ := hst.of_mono hm hi
  obtain ⟨h1, h2, h3, _⟩ := h hl
  exact ⟨hq, h1, h2, h3⟩

end Morlock.Proofs.AB
