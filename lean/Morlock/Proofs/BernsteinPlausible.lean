import Morlock.Proofs.BernsteinSort
/-!
# Structure of `FindPlausibleMoves`: a reordering of the base list, or (castling branch) of a non-empty part of it
-/
namespace Morlock.Proofs.Bernstein
open Morlock Morlock.Model Morlock.Model.Bernstein

theorem baseMoves_perm (p : Position) (side : Color) :
    (baseMoves p side).Perm ((p.legalMoves side).filter fun m => !m.isUnderPromotion) := by
  unfold baseMoves
  exact (sortByPriority_perm _ _).trans (sortByPriority_perm _ _)

theorem get_set (r : RankMap) (m : Move) (v : Int) (m' : Move) :
    (r.set m v).get m' = if m' = m then v else r.get m' := by
  unfold RankMap.set RankMap.get
  rw [List.lookup_cons]
  by_cases h : m' = m
  · subst h; simp
  · have : (m' == m) = false := by simpa using h
    rw [this, if_neg h]

/-- one iteration of the first ranking loop -/
def step23 (p : Position) (side : Color) (acc : RankMap × Bool) (m : Move) : RankMap × Bool :=
  if gain p side m then (acc.1.set m 23, acc.2)
  else if loss p side m then (acc.1.set m 22, acc.2)
  else if exchange m then (acc.1.set m 21, acc.2)
  else if m.isCastle then (acc.1.set m 20, true)
  else acc

theorem rank23_eq (p : Position) (side : Color) (moves : List Move) :
    rank23 p side moves = moves.foldl (step23 p side) ([], false) := rfl

/-- an iteration leaves the state alone, or gives the move a positive rank and raises the flag only for a castling move -/
theorem step23_cases (p : Position) (side : Color) (acc : RankMap × Bool) (m : Move) :
    step23 p side acc m = acc ∨ ∃ v, 0 < v ∧ (step23 p side acc m).1 = acc.1.set m v ∧
      ((step23 p side acc m).2 = acc.2 ∨ m.isCastle = true) := by
  unfold step23
  split
  · exact Or.inr ⟨23, by decide, rfl, Or.inl rfl⟩
  · split
    · exact Or.inr ⟨22, by decide, rfl, Or.inl rfl⟩
    · split
      · exact Or.inr ⟨21, by decide, rfl, Or.inl rfl⟩
      · split
        · rename_i hc; exact Or.inr ⟨20, by decide, rfl, Or.inr hc⟩
        · exact Or.inl rfl

/-- The `rank[move] > 0` filter of the castling branch keeps at least one move. -/
theorem rank23_castle_witness (p : Position) (side : Color) (moves : List Move)
    (h : (rank23 p side moves).2 = true) : ∃ m ∈ moves, 0 < (rank23 p side moves).1.get m := by
  rw [rank23_eq] at h ⊢
  -- invariant of the loop: a raised flag has a move of the list with a positive rank behind it (the last one ranked will do)
  refine List.foldlRecOn moves (step23 p side) (b := ([], false))
    (motive := fun acc => acc.2 = true → ∃ m ∈ moves, 0 < acc.1.get m) (fun h => by cases h) (fun acc ih m hm => ?_) h
  rcases step23_cases p side acc m with e | ⟨v, hv, e1, _⟩
  · rw [e]; exact ih
  · exact fun _ => ⟨m, hm, by rw [e1, get_set, if_pos rfl]; exact hv⟩

theorem rank23_no_castle (p : Position) (side : Color) {moves : List Move} (h : ∀ m ∈ moves, m.isCastle = false) :
    (rank23 p side moves).2 = false := by
  rw [rank23_eq]
  refine List.foldlRecOn moves (step23 p side) (b := ([], false)) (motive := fun acc => acc.2 = false) rfl (fun acc ih m hm => ?_)
  rcases step23_cases p side acc m with e | ⟨_, _, _, e2 | e2⟩
  · rw [e]; exact ih
  · rw [e2]; exact ih
  · rw [h m hm] at e2; cases e2

/-- `FindPlausibleMoves` returns a reordering of the whole base list (in check; no castling move
ranked), or — castling branch, flag raised — a reordering of the non-empty part of it that has a positive rank. -/
theorem findPlausibleMoves_cases (p : Position) (side : Color) :
    (findPlausibleMoves p side).Perm (baseMoves p side) ∨
    ((rank23 p side (baseMoves p side)).2 = true ∧
     ∃ keep : Move → Bool, (findPlausibleMoves p side).Perm ((baseMoves p side).filter keep) ∧
      ∃ m ∈ baseMoves p side, keep m = true) := by
  unfold findPlausibleMoves
  simp only
  split
  · exact Or.inl (sortByPriority_perm _ _)
  · cases hr : rank23 p side (baseMoves p side) with
    | mk rank castle =>
      simp only
      cases castle with
      | false =>
        simp only [Bool.false_eq_true, if_false]
        exact Or.inl (sortByPriority_perm _ _)
      | true =>
        simp only [if_true]
        refine Or.inr ⟨trivial, fun m => decide (rank.get m > 0), sortByPriority_perm _ _, ?_⟩
        obtain ⟨m, hm, hpos⟩ := rank23_castle_witness p side (baseMoves p side) (by rw [hr])
        rw [hr] at hpos
        exact ⟨m, hm, by simpa using hpos⟩

theorem mem_findPlausibleMoves_base {p : Position} {side : Color} {m : Move}
    (h : m ∈ findPlausibleMoves p side) : m ∈ baseMoves p side := by
  rcases findPlausibleMoves_cases p side with hp | ⟨_, keep, hp, _⟩
  · exact hp.mem_iff.mp h
  · exact (List.mem_filter.mp (hp.mem_iff.mp h)).1

theorem findPlausibleMoves_nodup {p : Position} {side : Color} (h : (baseMoves p side).Nodup) :
    (findPlausibleMoves p side).Nodup := by
  rcases findPlausibleMoves_cases p side with hp | ⟨_, keep, hp, _⟩
  · exact hp.nodup_iff.mpr h
  · exact hp.nodup_iff.mpr (h.filter _)

theorem findPlausibleMoves_ne_nil {p : Position} {side : Color} (h : baseMoves p side ≠ []) :
    findPlausibleMoves p side ≠ [] := by
  rcases findPlausibleMoves_cases p side with hp | ⟨_, keep, hp, m, hm, hk⟩
  · intro e; rw [e] at hp; exact h hp.symm.eq_nil
  · intro e
    rw [e] at hp
    have : m ∈ (baseMoves p side).filter keep := List.mem_filter.mpr ⟨hm, hk⟩
    rw [hp.symm.eq_nil] at this
    cases this

/-- Outside the castling branch nothing is dropped. -/
theorem findPlausibleMoves_perm_of_no_castle {p : Position} {side : Color}
    (h : ∀ m ∈ p.legalMoves side, m.isCastle = false) :
    (findPlausibleMoves p side).Perm (baseMoves p side) := by
  rcases findPlausibleMoves_cases p side with hp | ⟨hflag, _⟩
  · exact hp
  · -- the castling branch needs a castling move in the list
    rw [rank23_no_castle p side fun m hm => h m (List.mem_filter.mp ((baseMoves_perm p side).mem_iff.mp hm)).1] at hflag
    cases hflag

end Morlock.Proofs.Bernstein
