import Morlock.Spec.Search
/-!
# C20: the colour-swapping mirror of a reference position, and the material evaluation under it

`Spec.mirror` flips the board top to bottom (square `8·r + f ↦ 8·(7 − r) + f`), swaps the colours of
all men, the side to move and the castling rights of the two colours, and mirrors the en-passant
target. `Spec.material` (side to move minus opponent) is invariant under it.
-/
namespace Morlock.Spec

/-- The vertical mirror of a square: `8·r + f ↦ 8·(7 − r) + f`; squares off the board are left alone
    (which makes `mirrorSq` an involution on all of `Nat`). -/
def mirrorSq (s : Nat) : Nat := if s < 64 then 8 * (7 - s / 8) + s % 8 else s

def mirrorCell : Option (Color × Kind) → Option (Color × Kind)
  | some (c, k) => some (c.opp, k)
  | none => none

def mirror (p : Pos) : Pos :=
  { board := ((List.range 64).map fun i => mirrorCell (p.at (mirrorSq i))).toArray
    turn := p.turn.opp
    wk := p.bk
    wq := p.bq
    bk := p.wk
    bq := p.wq
    ep := p.ep.map mirrorSq }

def mirrorMove (m : SMove) : SMove := { «from» := mirrorSq m.from, to := mirrorSq m.to, promo := m.promo }

theorem fileOf_lt (s : Nat) : fileOf s < 8 := Nat.mod_lt s (by decide)
theorem rankOf_lt {s : Nat} (h : s < 64) : rankOf s < 8 := Nat.div_lt_of_lt_mul h

theorem mkSq_lt {f r : Nat} (hf : f < 8) (hr : r < 8) : mkSq f r < 64 := by
  show (8 * r + f : Nat) < 64; omega

theorem fileOf_mkSq {f : Nat} (hf : f < 8) (r : Nat) : fileOf (mkSq f r) = f := by
  show (8 * r + f) % 8 = f
  rw [Nat.mul_add_mod, Nat.mod_eq_of_lt hf]

theorem rankOf_mkSq {f : Nat} (hf : f < 8) (r : Nat) : rankOf (mkSq f r) = r := by
  show (8 * r + f) / 8 = r
  rw [Nat.mul_add_div (by decide), Nat.div_eq_of_lt hf, Nat.add_zero]

theorem mkSq_fileOf_rankOf (s : Nat) : mkSq (fileOf s) (rankOf s) = s := Nat.div_add_mod s 8

theorem sub7_inj {a b : Nat} (ha : a < 8) (hb : b < 8) : 7 - a = 7 - b ↔ a = b :=
  ⟨fun h => by rw [← Nat.sub_sub_self (Nat.le_of_lt_succ ha), h, Nat.sub_sub_self (Nat.le_of_lt_succ hb)],
    fun h => by rw [h]⟩

theorem sub7_add2 {a b : Nat} (ha : a < 8) (hb : b < 8) : 7 - a + 2 = 7 - b ↔ b + 2 = a := by omega

theorem mirrorSq_of_lt {s : Nat} (h : s < 64) : mirrorSq s = 8 * (7 - s / 8) + s % 8 := if_pos h

theorem mirrorSq_of_ge {s : Nat} (h : 64 ≤ s) : mirrorSq s = s := if_neg (Nat.not_lt.mpr h)

theorem mirrorSq_eq_mkSq {s : Nat} (h : s < 64) : mirrorSq s = mkSq (fileOf s) (7 - rankOf s) :=
  mirrorSq_of_lt h

theorem mirrorSq_lt {s : Nat} (h : s < 64) : mirrorSq s < 64 := by
  rw [mirrorSq_eq_mkSq h]; exact mkSq_lt (fileOf_lt s) (Nat.lt_succ_of_le (Nat.sub_le 7 _))

theorem fileOf_mirrorSq {s : Nat} (h : s < 64) : fileOf (mirrorSq s) = fileOf s := by
  rw [mirrorSq_eq_mkSq h, fileOf_mkSq (fileOf_lt s)]

theorem rankOf_mirrorSq {s : Nat} (h : s < 64) : rankOf (mirrorSq s) = 7 - rankOf s := by
  rw [mirrorSq_eq_mkSq h, rankOf_mkSq (fileOf_lt s)]

theorem mirrorSq_mkSq {f r : Nat} (hf : f < 8) (hr : r < 8) : mirrorSq (mkSq f r) = mkSq f (7 - r) := by
  rw [mirrorSq_eq_mkSq (mkSq_lt hf hr), fileOf_mkSq hf, rankOf_mkSq hf]

@[simp] theorem mirrorSq_mirrorSq (s : Nat) : mirrorSq (mirrorSq s) = s := by
  by_cases h : s < 64
  · have hr := rankOf_lt h
    rw [mirrorSq_eq_mkSq h, mirrorSq_mkSq (fileOf_lt s) (Nat.lt_succ_of_le (Nat.sub_le 7 _)),
      Nat.sub_sub_self (Nat.le_of_lt_succ hr), mkSq_fileOf_rankOf]
  · have h' : 64 ≤ s := by omega
    rw [mirrorSq_of_ge (s := s) h', mirrorSq_of_ge h']

theorem mirrorSq_inj {a b : Nat} (h : mirrorSq a = mirrorSq b) : a = b := by
  rw [← mirrorSq_mirrorSq a, h, mirrorSq_mirrorSq]

theorem mirrorSq_lt_iff {s : Nat} : mirrorSq s < 64 ↔ s < 64 :=
  ⟨fun h => by have := mirrorSq_lt h; rwa [mirrorSq_mirrorSq] at this, mirrorSq_lt⟩

@[simp] theorem Color.opp_opp (c : Color) : c.opp.opp = c := by cases c <;> rfl

theorem Color.opp_inj {a b : Color} (h : a.opp = b.opp) : a = b := by
  rw [← Color.opp_opp a, h, Color.opp_opp]

theorem Color.eq_opp_iff {a b : Color} : a = b.opp ↔ a.opp = b := by
  cases a <;> cases b <;> decide

@[simp] theorem mirrorCell_mirrorCell (v : Option (Color × Kind)) : mirrorCell (mirrorCell v) = v := by
  cases v with
  | none => rfl
  | some x => obtain ⟨c, k⟩ := x; simp [mirrorCell]

@[simp] theorem mirrorCell_none : mirrorCell none = none := rfl
@[simp] theorem mirrorCell_some (c : Color) (k : Kind) : mirrorCell (some (c, k)) = some (c.opp, k) := rfl

theorem mirrorCell_isSome (v : Option (Color × Kind)) : (mirrorCell v).isSome = v.isSome := by
  cases v with
  | none => rfl
  | some x => rfl

theorem mirrorCell_eq_iff {v w : Option (Color × Kind)} : mirrorCell v = w ↔ v = mirrorCell w :=
  ⟨fun h => by rw [← h, mirrorCell_mirrorCell], fun h => by rw [h, mirrorCell_mirrorCell]⟩

theorem mirrorCell_eq_none {v : Option (Color × Kind)} : mirrorCell v = none ↔ v = none := mirrorCell_eq_iff

theorem mirrorCell_eq_some {v : Option (Color × Kind)} {c : Color} {k : Kind} :
    mirrorCell v = some (c, k) ↔ v = some (c.opp, k) := mirrorCell_eq_iff

def mirrorArr (b : Array (Option (Color × Kind))) : Array (Option (Color × Kind)) :=
  ((List.range 64).map fun i => mirrorCell (b.getD (mirrorSq i) none)).toArray

theorem mirror_board (p : Pos) : (mirror p).board = mirrorArr p.board := rfl

@[simp] theorem mirrorArr_size (b : Array (Option (Color × Kind))) : (mirrorArr b).size = 64 := by
  simp [mirrorArr]

theorem getD_mirrorArr (b : Array (Option (Color × Kind))) {i : Nat} (hi : i < 64) :
    (mirrorArr b).getD i none = mirrorCell (b.getD (mirrorSq i) none) := by
  unfold mirrorArr
  rw [Array.getD_eq_getD_getElem?, List.getElem?_toArray, List.getElem?_map, List.getElem?_range hi]
  rfl

@[simp] theorem mirror_board_size (p : Pos) : (mirror p).board.size = 64 := mirrorArr_size _

@[simp] theorem mirror_turn (p : Pos) : (mirror p).turn = p.turn.opp := rfl
@[simp] theorem mirror_ep (p : Pos) : (mirror p).ep = p.ep.map mirrorSq := rfl

theorem mirror_at {p : Pos} {s : Nat} (hs : s < 64) : (mirror p).at s = mirrorCell (p.at (mirrorSq s)) := by
  unfold Pos.at; rw [mirror_board, getD_mirrorArr _ hs]

theorem at_eq_none_of_size {p : Pos} (hsz : p.board.size = 64) {s : Nat} (hs : 64 ≤ s) : p.at s = none := by
  unfold Pos.at
  rw [Array.getD, dif_neg (by omega)]

theorem mirror_at_ge {p : Pos} {s : Nat} (hs : 64 ≤ s) : (mirror p).at s = none :=
  at_eq_none_of_size (mirror_board_size p) hs

theorem mirror_at_mirrorSq {p : Pos} {s : Nat} (hs : s < 64) : (mirror p).at (mirrorSq s) = mirrorCell (p.at s) := by
  rw [mirror_at (mirrorSq_lt hs), mirrorSq_mirrorSq]

theorem mirror_occ {p : Pos} {s : Nat} (hs : s < 64) : (mirror p).occ s = p.occ (mirrorSq s) := by
  unfold Pos.occ; rw [mirror_at hs, mirrorCell_isSome]

theorem mirror_occ_mirrorSq {p : Pos} {s : Nat} (hs : s < 64) : (mirror p).occ (mirrorSq s) = p.occ s := by
  rw [mirror_occ (mirrorSq_lt hs), mirrorSq_mirrorSq]

theorem mirror_right (p : Pos) (c : Color) (ks : Bool) : (mirror p).right c.opp ks = p.right c ks := by
  cases c <;> cases ks <;> rfl

theorem arr_ext64 {a b : Array (Option (Color × Kind))} (ha : a.size = 64) (hb : b.size = 64)
    (h : ∀ i, i < 64 → a.getD i none = b.getD i none) : a = b := by
  apply Array.ext
  · rw [ha, hb]
  · intro i h1 h2
    have := h i (by omega)
    rw [Array.getD, dif_pos h1, Array.getD, dif_pos h2] at this
    exact this

theorem Pos.ext' {a b : Pos} (h1 : a.board = b.board) (h2 : a.turn = b.turn) (h3 : a.wk = b.wk)
    (h4 : a.wq = b.wq) (h5 : a.bk = b.bk) (h6 : a.bq = b.bq) (h7 : a.ep = b.ep) : a = b := by
  cases a; cases b
  rw [Pos.mk.injEq]
  exact ⟨h1, h2, h3, h4, h5, h6, h7⟩

theorem mirror_mirror {p : Pos} (hsz : p.board.size = 64) : mirror (mirror p) = p := by
  refine Pos.ext' (arr_ext64 (mirror_board_size _) hsz fun i hi => ?_) (Color.opp_opp _) rfl rfl rfl rfl ?_
  · show (mirror (mirror p)).at i = p.at i
    rw [mirror_at hi, mirror_at (mirrorSq_lt hi), mirrorSq_mirrorSq, mirrorCell_mirrorCell]
  · cases h : p.ep <;> simp [mirror, h]

theorem mirrorMove_from (m : SMove) : (mirrorMove m).from = mirrorSq m.from := rfl
theorem mirrorMove_to (m : SMove) : (mirrorMove m).to = mirrorSq m.to := rfl

@[simp] theorem mirrorMove_mirrorMove (m : SMove) : mirrorMove (mirrorMove m) = m := by
  cases m; simp [mirrorMove]

def cellValue (t : Color) : Option (Color × Kind) → Int
  | some (c, k) => if c = t then kindValue k else - kindValue k
  | none => 0

theorem cellValue_mirror (t : Color) (v : Option (Color × Kind)) :
    cellValue t.opp (mirrorCell v) = cellValue t v := by
  cases v with
  | none => rfl
  | some x =>
    obtain ⟨c, k⟩ := x
    cases c <;> cases t <;> rfl

def sumOver (f : Nat → Int) (l : List Nat) : Int := l.foldl (fun acc s => acc + f s) 0

@[simp] theorem sumOver_nil (f : Nat → Int) : sumOver f [] = 0 := rfl

theorem sumOver_eq_sum (f : Nat → Int) (l : List Nat) : sumOver f l = (l.map f).sum := by
  rw [List.sum_eq_foldl, List.foldl_map]; rfl

theorem sumOver_cons (f : Nat → Int) (x : Nat) (l : List Nat) : sumOver f (x :: l) = f x + sumOver f l := by
  rw [sumOver_eq_sum, sumOver_eq_sum, List.map_cons, List.sum_cons]

theorem sumOver_perm (f : Nat → Int) {l1 l2 : List Nat} (h : l1.Perm l2) : sumOver f l1 = sumOver f l2 := by
  unfold sumOver
  apply h.foldl_eq'
  intro x _ y _ z; omega

theorem sumOver_map (f : Nat → Int) (g : Nat → Nat) (l : List Nat) :
    sumOver f (l.map g) = sumOver (fun s => f (g s)) l := by
  rw [sumOver_eq_sum, sumOver_eq_sum, List.map_map]; rfl

theorem sumOver_congr {f g : Nat → Int} {l : List Nat} (h : ∀ s ∈ l, f s = g s) : sumOver f l = sumOver g l := by
  rw [sumOver_eq_sum, sumOver_eq_sum, List.map_congr_left h]

/-- The fold over the men is a fold over the squares that skips the empty ones. -/
theorem material_eq_sum (p : Pos) : material p = sumOver (fun s => cellValue p.turn (p.at s)) allSquares := by
  unfold material men sumOver
  rw [List.foldl_filterMap]
  congr 1
  funext acc s
  show _ = acc + cellValue p.turn (p.at s)
  cases p.at s with
  | none => exact (Int.add_zero acc).symm
  | some v =>
    obtain ⟨c, k⟩ := v
    show (if c = p.turn then acc + kindValue k else acc - kindValue k) =
      acc + (if c = p.turn then kindValue k else - kindValue k)
    split
    · rfl
    · exact Int.sub_eq_add_neg

theorem perm_map_of_mem_iff {α : Type} {f : α → α} (hf : ∀ a, f (f a) = a) {l₁ l₂ : List α}
    (h₁ : l₁.Nodup) (h₂ : l₂.Nodup) (h : ∀ a, a ∈ l₁ ↔ f a ∈ l₂) : l₁.Perm (l₂.map f) := by
  have hinj : ∀ a b, a ≠ b → f a ≠ f b := fun a b hab e => hab (by rw [← hf a, e, hf])
  rw [List.perm_ext_iff_of_nodup h₁ (List.Pairwise.map f hinj h₂)]
  intro a
  rw [h, List.mem_map]
  exact ⟨fun ha => ⟨f a, ha, hf a⟩, fun ⟨b, hb, e⟩ => by rw [← e, hf]; exact hb⟩

theorem allSquares_mirror_perm : (allSquares.map mirrorSq).Perm allSquares :=
  (perm_map_of_mem_iff mirrorSq_mirrorSq List.nodup_range List.nodup_range fun a => by
    rw [List.mem_range, List.mem_range, mirrorSq_lt_iff]).symm

theorem material_mirror (p : Pos) : material (mirror p) = material p := by
  rw [material_eq_sum, material_eq_sum, ← sumOver_perm _ allSquares_mirror_perm, sumOver_map]
  apply sumOver_congr
  intro s hs
  have hs' : s < 64 := by simpa [allSquares] using hs
  show cellValue (mirror p).turn ((mirror p).at (mirrorSq s)) = _
  rw [mirror_at_mirrorSq hs', mirror_turn, cellValue_mirror]

theorem material_congr {p q : Pos} (hat : ∀ s, s < 64 → p.at s = q.at s) (ht : p.turn = q.turn) :
    material p = material q := by
  rw [material_eq_sum, material_eq_sum, ht]
  apply sumOver_congr
  intro s hs
  rw [hat s (by simpa [allSquares] using hs)]

end Morlock.Spec
