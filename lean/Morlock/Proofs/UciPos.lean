import Morlock.Proofs.UciPosText
/-!
# Engine-level lemmas for C10: `extend` is `playSkip`; the new-position path on the words of a well-formed command
-/
namespace Morlock.Proofs.UciPos
open Morlock.Model Morlock.Model.UciSeq Morlock.Model.UciPos Morlock.Proofs.UciPosText

variable {E : Type}

/-- Play the words that are not the literal `moves` (what `extend` does), as an `Option`. -/
def playSkip (eng : Eng E) (e : E) (ws : List (List Char)) : Option E :=
  play eng e (ws.filter (· ≠ kwMoves))

theorem play_append (eng : Eng E) (e : E) (a b : List (List Char)) :
    play eng e (a ++ b) = (play eng e a).bind fun e' => play eng e' b := by
  induction a generalizing e with
  | nil => simp [play]
  | cons m a ih =>
    simp only [List.cons_append, play]
    cases eng.move e m with
    | none => simp
    | some e' => simp [ih]

theorem play_isSome_of_append (eng : Eng E) (e : E) (a b : List (List Char)) (h : (play eng e (a ++ b)).isSome) :
    (play eng e a).isSome := by
  rw [play_append] at h
  cases hp : play eng e a with
  | none => simp [hp] at h
  | some _ => rfl

theorem playSkip_append (eng : Eng E) (e : E) (a b : List (List Char)) :
    playSkip eng e (a ++ b) = (playSkip eng e a).bind fun e' => playSkip eng e' b := by
  simp [playSkip, List.filter_append, play_append]

theorem playSkip_moves_cons (eng : Eng E) (e : E) (ws : List (List Char)) :
    playSkip eng e (kwMoves :: ws) = playSkip eng e ws := by
  simp [playSkip]

theorem playSkip_cons (eng : Eng E) (e : E) (w : List Char) (ws : List (List Char)) (hw : w ≠ kwMoves) :
    playSkip eng e (w :: ws) = (eng.move e w).bind fun e1 => playSkip eng e1 ws := by
  simp [playSkip, hw, play]

theorem playSkip_eq_extend (eng : Eng E) (e : E) (ws : List (List Char)) :
    playSkip eng e ws = if (extend eng e ws).2 then some (extend eng e ws).1 else none := by
  induction ws generalizing e with
  | nil => rfl
  | cons w ws ih =>
    by_cases hw : w = kwMoves
    · subst hw; rw [playSkip_moves_cons, ih]; simp [extend]
    · rw [playSkip_cons eng e w ws hw]
      simp only [extend, hw, if_false]
      cases eng.move e w with
      | none => rfl
      | some e1 => exact ih e1

theorem extend_ok_iff (eng : Eng E) (e e' : E) (ws : List (List Char)) :
    extend eng e ws = (e', true) ↔ playSkip eng e ws = some e' := by
  rw [playSkip_eq_extend]
  cases extend eng e ws with
  | mk a b => cases b <;> simp

theorem extend_fail_iff (eng : Eng E) (e : E) (ws : List (List Char)) :
    (extend eng e ws).2 = false ↔ playSkip eng e ws = none := by
  rw [playSkip_eq_extend]
  cases (extend eng e ws).2 <;> simp

def fenStr (c : Cmd) : List Char :=
  match c.fen with
  | none => initialFen
  | some fs => joinSp fs

def denoteC (eng : Eng E) (c : Cmd) : Option E := (eng.reset (fenStr c)).bind fun e => play eng e c.moves

theorem denoteC_isSome_of_append (eng : Eng E) (f : Option (List (List Char))) (a b : List (List Char))
    (h : (denoteC eng ⟨f, a ++ b⟩).isSome) : (denoteC eng ⟨f, a⟩).isSome := by
  have hf : fenStr ⟨f, a ++ b⟩ = fenStr ⟨f, a⟩ := rfl
  unfold denoteC at *
  rw [hf] at h
  cases hr : eng.reset (fenStr ⟨f, a⟩) with
  | none => rw [hr] at h; exact h
  | some e => rw [hr] at h; exact play_isSome_of_append eng e a b h

instance (w : List Char) : Decidable (Word w) := by unfold Word; infer_instance

instance (c : Cmd) : Decidable c.Ok := by
  unfold Cmd.Ok
  exact inferInstanceAs (Decidable ((∀ fs ∈ c.fen, fs.length = 6 ∧ ∀ f ∈ fs, Word f ∧ f ≠ kwMoves) ∧ _))

theorem header_word (c : Cmd) (hc : c.Ok) : ∀ w ∈ c.header, Word w ∧ w ≠ kwMoves := by
  intro w hw
  unfold Cmd.header at hw
  cases hf : c.fen with
  | none => rw [hf] at hw; simp at hw; subst hw; decide
  | some fs =>
    rw [hf] at hw
    simp at hw
    rcases hw with rfl | h
    · decide
    · exact (hc.1 fs hf).2 w h

theorem header_no_moves (c : Cmd) (hc : c.Ok) : ∀ w ∈ c.header, w ≠ kwMoves :=
  fun w hw => (header_word c hc w hw).2

theorem words_word (c : Cmd) (hc : c.Ok) : ∀ w ∈ c.words, Word w := by
  intro w hw
  simp only [Cmd.words, List.mem_cons, List.mem_append] at hw
  rcases hw with rfl | h | h
  · decide
  · exact (header_word c hc w h).1
  · unfold Cmd.tail at h
    split at h
    · simp at h
    · simp at h
      rcases h with rfl | h
      · decide
      · exact (hc.2 w h).1

/-- The first word tells how long the header is. -/
theorem header_inj (c1 c2 : Cmd) (h1 : c1.Ok) (h2 : c2.Ok) (x y : List (List Char))
    (h : c1.header ++ x = c2.header ++ y) : c1.header = c2.header := by
  unfold Cmd.header at *
  cases hf1 : c1.fen <;> cases hf2 : c2.fen <;> simp only [hf1, hf2] at h ⊢
  · exact absurd (List.cons.inj h).1 (by decide)
  · exact absurd (List.cons.inj h).1 (by decide)
  · rename_i fs1 fs2
    have := List.append_inj (List.cons.inj h).2 (by rw [(h1.1 fs1 hf1).1, (h2.1 fs2 hf2).1])
    rw [this.1]

theorem splitSpaces_render (c : Cmd) (hc : c.Ok) : Fen.splitSpaces c.render = c.words :=
  splitSpaces_joinSp c.words (by simp [Cmd.words]) (fun w hw => Word.no_space (words_word c hc w hw))

theorem trimSpace_render (c : Cmd) (hc : c.Ok) : Fen.trimSpace c.render = c.render :=
  trimSpace_joinSp c.words (by simp [Cmd.words]) (words_word c hc)

theorem argsOf_render (c : Cmd) (hc : c.Ok) : argsOf c.render = c.header ++ c.tail := by
  simp [argsOf, trimSpace_render c hc, splitSpaces_render c hc, Cmd.words]

theorem fenOf_header (c : Cmd) (hc : c.Ok) (x : List (List Char)) : fenOf (c.header ++ x) = fenStr c := by
  unfold fenOf Cmd.header fenStr
  cases hf : c.fen with
  | none =>
    have : (kwStartpos = kwFen) = False := by decide
    simp [this]
  | some fs =>
    have hl := (hc.1 fs hf).1
    simp [hl, List.take_append_of_le_length (Nat.le_of_eq hl.symm), List.take_of_length_le (Nat.le_of_eq hl)]

theorem afterMoves_of_no_moves (h x : List (List Char)) (hh : ∀ w ∈ h, w ≠ kwMoves) :
    afterMoves (h ++ x) = afterMoves x := by
  unfold afterMoves
  congr 1
  induction h with
  | nil => rfl
  | cons w h ih =>
    have hw : w ≠ kwMoves := hh w (by simp)
    simp only [List.cons_append, List.dropWhile_cons]
    simp only [hw, ne_eq, not_false_eq_true, decide_true, if_true]
    exact ih (fun v hv => hh v (by simp [hv]))

theorem afterMoves_moves_cons (x : List (List Char)) : afterMoves (kwMoves :: x) = x := by
  simp [afterMoves]

theorem afterMoves_nil : afterMoves [] = [] := rfl

theorem playSkip_tail (eng : Eng E) (e : E) (c : Cmd) (hc : c.Ok) : playSkip eng e c.tail = play eng e c.moves := by
  unfold Cmd.tail
  split
  · rename_i h; simp [h, playSkip, play]
  · rw [playSkip_moves_cons, playSkip, List.filter_eq_self.2 fun w hw => by simpa using (hc.2 w hw).2]

theorem denoteFrom_tail (eng : Eng E) (fen : List Char) (c : Cmd) :
    denoteFrom eng fen c.tail = (eng.reset fen).bind fun e => play eng e c.moves := by
  unfold denoteFrom Cmd.tail
  by_cases hm : c.moves = [] <;> simp [hm, play]

theorem denote_render (eng : Eng E) (c : Cmd) (hc : c.Ok) : denote eng c.render = denoteC eng c := by
  unfold denote
  rw [splitSpaces_render c hc]
  unfold Cmd.words Cmd.header denoteC fenStr
  cases hf : c.fen with
  | none => simp [denoteFrom_tail]
  | some fs =>
    have hl := (hc.1 fs hf).1
    have h1 : (kwFen = kwStartpos) = False := by decide
    have h3 : (fs ++ c.tail).drop 6 = c.tail := by rw [← hl]; simp
    simp [h1, hl, h3, List.take_append_of_le_length (Nat.le_of_eq hl.symm), List.take_of_length_le (Nat.le_of_eq hl),
      denoteFrom_tail]

theorem denote_of_cmd (eng : Eng E) {line : List Char} {c : Cmd} (h : c.Ok ∧ line = c.render) :
    denote eng line = denoteC eng c := h.2 ▸ denote_render eng c h.1

/-- What the new-position path makes of the argument words: reset, then play what follows the first `moves`. -/
def scratch (eng : Eng E) (args : List (List Char)) : Option E :=
  (eng.reset (fenOf args)).bind fun e => playSkip eng e (afterMoves args)

theorem fresh_spec (eng : Eng E) (e : E) (line : List Char) :
    (∀ d, scratch eng (argsOf line) = some d → fresh eng e line = (d, line)) ∧
    (scratch eng (argsOf line) = none → (fresh eng e line).2 = []) := by
  unfold scratch fresh
  dsimp only
  cases eng.reset (fenOf (argsOf line)) with
  | none => simp
  | some e' =>
    simp only [Option.bind_some, playSkip_eq_extend]
    cases extend eng e' (afterMoves (argsOf line)) with
    | mk a b => cases b <;> simp

/-- **Setting up the header and the first words of the tail of a well-formed command from scratch, then playing the
    rest of the tail, is the command's meaning.** -/
theorem scratch_bind_rest (eng : Eng E) (c : Cmd) (hc : c.Ok) (as rest : List (List Char)) (h : c.tail = as ++ rest) :
    (scratch eng (c.header ++ as)).bind (fun e => playSkip eng e rest) = denoteC eng c := by
  unfold scratch denoteC
  rw [fenOf_header c hc, afterMoves_of_no_moves _ _ (header_no_moves c hc), Option.bind_assoc]
  congr; funext e
  rw [← playSkip_tail eng e c hc, h, playSkip_append]
  -- `as` is empty or begins with `moves`, which both loops skip
  cases as with
  | nil => rfl
  | cons a as' =>
    unfold Cmd.tail at h
    split at h
    · simp at h
    · obtain rfl : a = kwMoves := (List.cons.inj h).1.symm
      rw [afterMoves_moves_cons, playSkip_moves_cons]

theorem scratch_render (eng : Eng E) (c : Cmd) (hc : c.Ok) : scratch eng (argsOf c.render) = denoteC eng c := by
  have := scratch_bind_rest eng c hc c.tail [] (List.append_nil _).symm
  rw [argsOf_render c hc, ← this]
  cases scratch eng (c.header ++ c.tail) <;> rfl

theorem position_cases (eng : Eng E) (st : E × List Char) (line : List Char) :
    (∃ e1, position eng st line = fresh eng e1 line) ∨
    ∃ rest e', continuation st.2 line = some rest ∧ extend eng st.1 rest = (e', true) ∧
      position eng st line = (e', line) := by
  unfold position
  cases hcont : continuation st.2 line with
  | none => exact Or.inl ⟨_, rfl⟩
  | some rest =>
    cases hx : extend eng st.1 rest with
    | mk e' ok =>
      cases ok with
      | false => exact Or.inl ⟨e', by simp [hx]⟩
      | true => exact Or.inr ⟨rest, e', rfl, hx, by simp [hx]⟩

end Morlock.Proofs.UciPos
