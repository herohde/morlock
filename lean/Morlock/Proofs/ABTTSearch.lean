import Morlock.Proofs.ABTTNode
/-!
# Whole searches with a sound table: full window, `alphaBetaSearch`, sequences of searches (C11 / C12)
-/
namespace Morlock.Proofs.AB
open Morlock Morlock.Model Morlock.Model.Score Morlock.Spec
open Morlock.Props.C09
variable {P : Type}

/-- With a legal move, an empty PV means alpha was never raised - at a node where `abEnter` lets every search
    proceed that is not cancelled (the root ply, where no table cut is taken; without a table, any node that is not
    adjudicated drawn). -/
theorem alphabeta_nil_pv {g : Game P} (hev : EvalOk g) {ex : P → Explore} {le : LeafEval P} {rootPly : Int}
    {R : Nat → P → Prop} {Inv : TTState → Prop} (hcl : Closed g ex R) (T : TableOK g ex le rootPly R Inv)
    (K : Nat) (hK : leafGrade le ≤ K) (d : Nat) (hKd : K + d + 1 ≤ 127) (p : P) (hp : R (d + 1) p) (a b : Score)
    (st : SState) (hs : Inv st.tt) (ha : okN (K + d + 1) a) (hb : okN (K + d + 1) b)
    (hdraw : (!(g.ply p == rootPly) && g.isDraw p) = false)
    (hpass : cancelled st = false → ∃ best, abEnter g rootPly (d + 1) p st = .inr (best, tick st))
    (hl : legalAny g p (g.moves p) = true)
    (hlive : Live (alphabeta g ex le rootPly (d + 1) p a b st).2.2)
    (hnil : (alphabeta g ex le rootPly (d + 1) p a b st).2.1 = []) :
    (alphabeta g ex le rootPly (d + 1) p a b st).1 = a := by
  have IH := alphabeta_node hev hcl T K hK d (by omega)
  by_cases hc : cancelled st = true
  · exfalso
    have : alphabeta g ex le rootPly (d + 1) p a b st = (invalidScore, [], tick st) := by
      rw [alphabeta_succ_eq, abEnter_cancelled _ _ hc]
    rw [this] at hlive
    exact not_live_of_cancelled hc hlive
  · obtain ⟨best, hbest⟩ := hpass (by simpa using hc)
    rw [alphabeta_succ_eq, hbest] at hlive hnil ⊢
    dsimp only at hlive hnil ⊢
    generalize hr : abBody g ex le rootPly d p a b best (tick st) = r at hlive hnil ⊢
    exact (abBody_tt hev hcl T K hK d hKd IH p hp a b best (tick st) hs ha hb hdraw r hr).2 hlive hl hnil

/-- Full window, sound table, any cancellation: the table stays sound; a search that is live at its end returns
    exactly `V` with a principal variation, which at the root ply (where no table cut is taken) is non-empty whenever
    some move is legal and the value is not `negInf`. -/
theorem alphabeta_tt_full {g : Game P} (hev : EvalOk g) (ex : P → Explore) (le : LeafEval P) {rootPly : Int}
    {R U : Nat → P → Prop} (hcl : Closed g ex R) (hRU : ∀ n q, R n q → U n q)
    (hrf : RootFreeOn g R rootPly) (hh : HashOKOn g ex le U) (d : Nat) (hd : leafGrade le + d ≤ 127)
    (p : P) (hp : R d p) (st : SState) (hs : SoundOn g ex le U st.tt) :
    let r := alphabeta g ex le rootPly d p negInfScore infScore st
    Mono st r.2.2 ∧ SoundOn g ex le U r.2.2.tt ∧
    (Live r.2.2 → r.1 = V g ex le rootPly d p ∧ Principal g ex le rootPly d p r.2.1 ∧
      (∀ d', d = d' + 1 → g.ply p = rootPly → legalAny g p (g.moves p) = true →
        V g ex le rootPly d p ≠ negInfScore → r.2.1 ≠ [])) := by
  have ha : okN (leafGrade le + d) negInfScore := okN_mono okN_negInf (by omega)
  have hb : okN (leafGrade le + d) infScore := okN_mono okN_inf (by omega)
  have T := tableOK_soundOn hcl hRU hrf hh
  obtain ⟨h1, h2, h3⟩ := (alphabeta_node hev hcl T (leafGrade le) (Nat.le_refl _) d hd).node p
    negInfScore infScore st hp hs (fun _ => ⟨ha, hb⟩)
  refine ⟨h1, h2, fun hl => ?_⟩
  obtain ⟨q1, _, q3, q4⟩ := h3 hl
  have hex := eq_of_clip_full hd (V_ok hev ex le rootPly (leafGrade le) (Nat.le_refl _) d p hd) q1 (q3 (by decide))
  refine ⟨hex, q4.2 hex, ?_⟩
  rintro d' rfl hroot hlegal hne hnil
  exact hne (hex ▸ alphabeta_nil_pv hev hcl T (leafGrade le) (Nat.le_refl _) d' hd p hp negInfScore infScore st hs ha hb
    (by simp [hroot]) (abEnter_root (d' + 1) p st hroot) hlegal hl hnil)

/-- `AlphaBeta.Search` without a window in the context: the full-window search from the state with the node counter
    reset, then one more poll. -/
theorem alphaBetaSearch_eq (g : Game P) (ex : P → Explore) (le : LeafEval P) (p : P) (d : Nat) (st : SState) :
    alphaBetaSearch g ex le p d invalidScore invalidScore st =
      (let r := alphabeta g ex le (g.ply p) d p negInfScore infScore { st with nodes := 0 }
       if cancelled r.2.2 then (none, tick r.2.2) else (some ⟨(tick r.2.2).nodes, r.1, r.2.1⟩, tick r.2.2)) := by
  simp only [alphaBetaSearch, isInvalid, invalidScore, decide_true, if_true, poll_eq]

theorem alphaBetaSearch_tt {g : Game P} (hev : EvalOk g) (ex : P → Explore) (le : LeafEval P)
    {R U : Nat → P → Prop} (hcl : Closed g ex R) (hRU : ∀ n q, R n q → U n q)
    (hh : HashOKOn g ex le U) (p : P) (hrf : RootFreeOn g R (g.ply p)) (d : Nat) (hd : leafGrade le + d ≤ 127)
    (hp : R d p) (st : SState) (hs : SoundOn g ex le U st.tt) :
    let r := alphaBetaSearch g ex le p d invalidScore invalidScore st
    Mono st r.2 ∧ SoundOn g ex le U r.2.tt ∧ (r.1 = none ↔ ¬ Live r.2) ∧
    (Live r.2 →
      ∃ n pv, r.1 = some ⟨n, V g ex le (g.ply p) d p, pv⟩ ∧
        Principal g ex le (g.ply p) d p pv ∧
        (∀ d', d = d' + 1 → legalAny g p (g.moves p) = true →
          V g ex le (g.ply p) d p ≠ negInfScore → pv ≠ [])) := by
  have hs0 : SoundOn g ex le U ({ st with nodes := 0 } : SState).tt := hs
  obtain ⟨h1, h2, h3⟩ := alphabeta_tt_full hev ex le hcl hRU hrf hh d hd p hp { st with nodes := 0 } hs0
  rw [alphaBetaSearch_eq]
  generalize alphabeta g ex le (g.ply p) d p negInfScore infScore { st with nodes := 0 } = r at h1 h2 h3 ⊢
  dsimp only
  have hm : Mono st (tick r.2.2) := Mono.trans (s2 := r.2.2) ⟨h1.1, h1.2⟩ (mono_tick _)
  by_cases hc : cancelled r.2.2 = true
  · rw [if_pos hc]
    have := not_live_of_cancelled hc
    exact ⟨hm, h2, ⟨fun _ => this, fun _ => rfl⟩, fun hl => absurd hl this⟩
  · have hc' : cancelled r.2.2 = false := by simpa using hc
    have hlive : Live (tick r.2.2) := (cancelled_false_iff _).1 hc'
    rw [if_neg hc]
    refine ⟨hm, h2, ⟨fun h => (by cases h), fun h => absurd hlive h⟩, fun _ => ?_⟩
    obtain ⟨e1, e2, e3⟩ := h3 ((mono_tick _).live hlive)
    exact ⟨_, _, by rw [e1], e2, fun d' hdd hl hne => e3 d' hdd rfl hl hne⟩

theorem alphaBetaSearch_tt_none {g : Game P} (hev : EvalOk g) (ex : P → Explore) (le : LeafEval P)
    {U : Nat → P → Prop} (hh : HashOKOn g ex le U) (p : P) (d : Nat) (hd : leafGrade le + d ≤ 127)
    (hpU : ∀ n x, Tree g ex p d n x → U n x) (hrf : RootFreeOn g (Tree g ex p d) (g.ply p))
    (st : SState) (hs : SoundOn g ex le U st.tt) (hc : st.cancelAt = none) :
    ∃ n pv, (alphaBetaSearch g ex le p d invalidScore invalidScore st).1 = some ⟨n, V g ex le (g.ply p) d p, pv⟩ ∧
      Principal g ex le (g.ply p) d p pv ∧
      (∀ d', d = d' + 1 → legalAny g p (g.moves p) = true → V g ex le (g.ply p) d p ≠ negInfScore → pv ≠ []) :=
  let ⟨m, _, _, f⟩ := alphaBetaSearch_tt hev ex le (tree_closed g ex p d) hpU hh p hrf d hd (tree_root g ex p d) st hs
  f (live_of_none (m.1.trans hc))

theorem alphaBetaSearch_state (g : Game P) (ex : P → Explore) (le : LeafEval P) (p : P) (d : Nat) (st : SState) :
    (alphaBetaSearch g ex le p d invalidScore invalidScore st).2 =
      tick (alphabeta g ex le (g.ply p) d p negInfScore infScore { st with nodes := 0 }).2.2 := by
  rw [alphaBetaSearch_eq]
  dsimp only
  split <;> rfl

/-- A sequence of searches (root position and depth vary) threading the state, hence the table. -/
def searchSeq (g : Game P) (ex : P → Explore) (le : LeafEval P) :
    List (P × Nat) → SState → List (Option SearchResult) × SState
  | [], st => ([], st)
  | (p, d) :: rest, st =>
    let r := alphaBetaSearch g ex le p d invalidScore invalidScore st
    let rs := searchSeq g ex le rest r.2
    (r.1 :: rs.1, rs.2)

/-- A sequence of searches over one table: `U` is the region the table is sound on (it contains the tree of
    every search of the sequence); the root-ply condition is needed on each search's own tree only. -/
theorem searchSeq_tt {g : Game P} (hev : EvalOk g) (ex : P → Explore) (le : LeafEval P) {U : Nat → P → Prop}
    (hh : HashOKOn g ex le U) :
    ∀ (l : List (P × Nat)) (st : SState), SoundOn g ex le U st.tt → st.cancelAt = none →
      (∀ pd ∈ l, (∀ n q, Tree g ex pd.1 pd.2 n q → U n q) ∧
        RootFreeOn g (Tree g ex pd.1 pd.2) (g.ply pd.1) ∧ leafGrade le + pd.2 ≤ 127) →
      (searchSeq g ex le l st).1.map (fun o => o.map (·.score)) =
        l.map (fun pd => some (V g ex le (g.ply pd.1) pd.2 pd.1)) ∧
      SoundOn g ex le U (searchSeq g ex le l st).2.tt ∧ (searchSeq g ex le l st).2.cancelAt = none := by
  intro l
  induction l with
  | nil => intro st hs hc _; exact ⟨rfl, hs, hc⟩
  | cons pd rest ih =>
    intro st hs hc hall
    obtain ⟨p, d⟩ := pd
    obtain ⟨hsub, hrf, hd⟩ := hall (p, d) List.mem_cons_self
    obtain ⟨h1, h2, _, h4⟩ := alphaBetaSearch_tt hev ex le (tree_closed g ex p d) hsub hh p hrf d hd
      (tree_root g ex p d) st hs
    have hc' : (alphaBetaSearch g ex le p d invalidScore invalidScore st).2.cancelAt = none := by
      rw [h1.1]; exact hc
    obtain ⟨n, pv, e, _⟩ := h4 (live_of_none hc')
    obtain ⟨i1, i2, i3⟩ := ih _ h2 hc' (fun pd hpd => hall pd (List.mem_cons_of_mem _ hpd))
    simp only [searchSeq, List.map_cons]
    refine ⟨?_, i2, i3⟩
    rw [i1, e]
    rfl

end Morlock.Proofs.AB
