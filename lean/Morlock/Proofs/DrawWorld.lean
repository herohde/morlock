import Morlock.Proofs.DrawLine
/-!
# C05, arena level: the ancestor line of a board and the properties of it the draw logic relies on

The properties are stated on the arena and, for the board operations, on the `view` of the board.
-/
namespace Morlock.Proofs.Draw
open Morlock Morlock.Model Morlock.Model.World Morlock.Proofs.Arena

/-- The ancestor line of board `b`: its current node first, then following `prev` to the start node. -/
def line (w : World) (b : Nat) : List Node := w.cur b :: anc w (w.cur b).prev

/-- The line with the links (`next`, `prev`) erased. -/
def lineK (w : World) (b : Nat) : List Node := (line w b).map key

def linePositions (w : World) (b : Nat) : List Position := (line w b).map (·.pos)

def lineSides (w : World) (b : Nat) : List Color := (sided (w.board b).turn (line w b)).map Prod.snd

def vlineK (v : View) : List Node :=
  { pos := v.pos, hash := v.hash, noprogress := v.noprogress } :: v.past.map key

theorem lineK_view (w : World) (b : Nat) : lineK w b = vlineK (view w b) := by
  simp only [lineK, line, vlineK, view, List.map_cons, List.map_map]
  rfl

theorem lineK_of_view {w w' : World} {a a' : Nat} (hv : view w' a' = view w a) : lineK w' a' = lineK w a := by
  rw [lineK_view, hv, ← lineK_view]

theorem turn_of_view {w w' : World} {a a' : Nat} (hv : view w' a' = view w a) :
    (w'.board a').turn = (w.board a).turn := congrArg View.turn hv

theorem clock_of_view {w w' : World} {a a' : Nat} (hv : view w' a' = view w a) :
    (w'.cur a').noprogress = (w.cur a).noprogress := congrArg View.noprogress hv

theorem lineK_head (w : World) (b : Nat) : lineK w b = key (w.cur b) :: (anc w (w.cur b).prev).map key := rfl

/-- How often the current position, with the current side to move, occurs on the whole line (current and start node
included). -/
def occurrences (w : World) (b : Nat) : Nat :=
  occOf (w.cur b).pos (w.board b).turn (w.board b).turn (lineK w b)

theorem occurrences_line (w : World) (b : Nat) :
    occurrences w b = occOf (w.cur b).pos (w.board b).turn (w.board b).turn (line w b) :=
  occOf_map_key _ _ _ _

theorem occurrences_tail (w : World) (b : Nat) :
    occurrences w b = 1 + occOf (w.cur b).pos (w.board b).turn (w.board b).turn.opp (lineK w b).tail := by
  unfold occurrences
  rw [lineK_head, occOf_cons, List.tail_cons, key_pos, if_pos ⟨rfl, rfl⟩, Nat.add_comm]

theorem occurrences_pos (w : World) (b : Nat) : 1 ≤ occurrences w b := by
  rw [occurrences_tail]
  exact Nat.le_add_right _ _

def RepMapOK (w : World) (b : Nat) : Prop :=
  ∀ h, repGet (w.board b).repetitions h = (hashCount h (lineK w b) : Nat)

/-- What C07 `move_eq_hash` gives for accurate moves by the side to move. -/
def HashFaithful (z : ZTable) (w : World) (b : Nat) : Prop :=
  ∀ e ∈ sided (w.board b).turn (lineK w b), e.1.hash = z.hash e.1.pos e.2

/-- No node before the last clock reset - or, with a set-up clock, before the start of the clock - has the current
position with the current side to move. -/
def Irreversible (w : World) (b : Nat) : Prop :=
  ∀ e ∈ (sided (w.board b).turn (lineK w b)).drop ((w.cur b).noprogress.toNat + 1),
    samePos (w.cur b).pos (w.board b).turn e = false

def ClockOK (w : World) (b : Nat) : Prop := ClockChain (w.cur b).noprogress (anc w (w.cur b).prev)

instance (z : ZTable) (w : World) (b : Nat) : Decidable (HashFaithful z w b) := by
  unfold HashFaithful; infer_instance
instance (w : World) (b : Nat) : Decidable (Irreversible w b) := by
  unfold Irreversible; infer_instance

theorem cur_mem_sided (w : World) (b : Nat) :
    (key (w.cur b), (w.board b).turn) ∈ sided (w.board b).turn (lineK w b) := by
  rw [lineK_head, sided_cons]; exact List.mem_cons_self

theorem HashFaithful.cur {z : ZTable} {w : World} {b : Nat} (hf : HashFaithful z w b) :
    (w.cur b).hash = z.hash (w.cur b).pos (w.board b).turn :=
  hf _ (cur_mem_sided w b)

theorem HashFaithful.same {z : ZTable} {w : World} {b : Nat} (hf : HashFaithful z w b) {e : Node × Color}
    (he : e ∈ sided (w.board b).turn (lineK w b)) (hs : samePos (w.cur b).pos (w.board b).turn e = true) :
    e.1.hash = (w.cur b).hash := by
  rw [samePos_iff] at hs
  rw [hf e he, hf.cur, hs.1, hs.2]

theorem repMapOK_view (w : World) (b : Nat) :
    RepMapOK w b ↔ ∀ h, (view w b).reps h = (hashCount h (vlineK (view w b)) : Nat) := by
  unfold RepMapOK
  rw [lineK_view]
  rfl

theorem hashFaithful_view (z : ZTable) (w : World) (b : Nat) :
    HashFaithful z w b ↔ ∀ e ∈ sided (view w b).turn (vlineK (view w b)), e.1.hash = z.hash e.1.pos e.2 := by
  unfold HashFaithful
  rw [lineK_view]
  rfl

theorem clockOK_view (w : World) (b : Nat) : ClockOK w b ↔ ClockChain (view w b).noprogress (view w b).past :=
  (clockChain_erase _ _).symm

theorem ipc_cur {w : World} (hw : WFWorld w) (b : Nat) (turn t0 : Color) (limit : Int) :
    w.identicalPositionCount (w.cur b) turn t0 limit =
      ipcList (w.cur b).hash (w.cur b).pos turn limit ((lineK w b).tail) 1 t0 1 := by
  rw [ipc_eq hw _ _ _ _ (bound_cur_prev_le_size hw b), lineK_head, List.tail_cons, ipcList_map_key]

theorem vlineK_push {z : ZTable} {v v' : View} {m : Move} (h : viewPush z v m = some v') :
    vlineK v' = { pos := v'.pos, hash := v'.hash, noprogress := v'.noprogress } :: vlineK v ∧
    v'.turn = v.turn.opp ∧ v'.hash = z.move v.hash v.pos m ∧ v.pos.move m = some v'.pos ∧
    v'.noprogress = updateNoProgress v.noprogress m ∧
    (∀ h, v'.reps h = if h = v'.hash then v.reps v'.hash + 1 else v.reps h) ∧
    v'.past = { pos := v.pos, hash := v.hash, noprogress := v.noprogress, next := m, prev := none } :: v.past := by
  obtain ⟨_, next, hn, rfl⟩ := viewPush_eq_some h
  exact ⟨rfl, rfl, rfl, hn, rfl, fun _ => rfl, rfl⟩

theorem vresult_push {z : ZTable} {v v' : View} {m : Move} (h : viewPush z v m = some v') :
    v'.result = pushResult (v'.reps v'.hash) (ipcList v'.hash v'.pos v'.turn v'.noprogress v'.past 1 v'.turn.opp 1)
      v'.noprogress v'.pos m := by
  obtain ⟨_, next, hn, rfl⟩ := viewPush_eq_some h
  simp only [View.pushed, if_true]

theorem viewPop_some {v v' : View} {m : Move} (h : viewPop v = some (v', m)) :
    ∃ p r, v.past = p :: r ∧ m = p.next ∧ v' = v.popped p r := by
  cases hp : v.past with
  | nil => rw [viewPop_of_nil hp] at h; cases h
  | cons p r =>
    rw [viewPop_of_past hp] at h
    cases h
    exact ⟨p, r, rfl, rfl, rfl⟩

theorem vlineK_pop {v v' : View} {m : Move} (h : viewPop v = some (v', m)) :
    vlineK v = { pos := v.pos, hash := v.hash, noprogress := v.noprogress } :: vlineK v' ∧
    v'.turn = v.turn.opp ∧
    (∀ h, v'.reps h = if h = v.hash then v.reps v.hash - 1 else v.reps h) ∧
    (∃ p, v.past = p :: v'.past ∧ v'.noprogress = p.noprogress ∧ m = p.next) := by
  obtain ⟨p, r, hp, hm, rfl⟩ := viewPop_some h
  refine ⟨?_, rfl, fun _ => rfl, p, hp, rfl, hm⟩
  simp only [vlineK, hp, List.map_cons]
  rfl

end Morlock.Proofs.Draw
