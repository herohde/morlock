import Morlock.Model.UciConc
import Morlock.Proofs.ConcList
/-!
# The UCI driver model (`Model/UciConc.lean`): its transitions and the safety invariants

The enabled transitions of the driver form a relation; `step` takes one of them or does nothing. Each invariant is
proved by induction on the transitions, one section of this file and of the `ConcUci*` files after it per invariant.
-/
namespace Morlock.Model.UciConc

def FPc.live : FPc → Bool
  | .finished => false
  | _ => true

def LPc.exiting : LPc → Bool
  | .closeOut | .closeDriver | .finished => true
  | _ => false

def LPc.afterClose : LPc → Bool
  | .closeDriver | .finished => true
  | _ => false

def Ev.isSendClosed : Ev → Bool
  | .sendClosed _ => true
  | _ => false

/-- loop states in which `d.active` must be 0: between `ensureInactive`'s store and the next
`d.active.Store(id)`, and on the exit path -/
def LPc.zeroRegion : LPc → Bool
  | .haltLock (.ensure _) | .haltAwait (.ensure _) _ | .haltQuit (.ensure _) _ | .haltRead (.ensure _) _
  | .haltUnlock (.ensure _) _ => true
  | .goStart _ | .bookStore _ | .analyze _ _ | .goStore _ _ _ => true
  | .waitFwd | .closeOut | .closeDriver | .finished => true
  | _ => false

/-- the id the loop has assigned to the current `go` and not yet stored into `d.active` -/
def LPc.pendingId : LPc → Option Nat
  | .bookStore id | .analyze _ id | .goStore _ id _ => some id
  | _ => none

def commits : List Ev → List (Nat × Nat)
  | [] => []
  | .commit id l :: es => (id, l) :: commits es
  | _ :: es => commits es

def Line.bestFor (id : Nat) : Line → Bool
  | .bestmove i _ => i == id
  | _ => false

def Ev.bestFor (id : Nat) : Ev → Bool
  | .send l => l.bestFor id
  | .sendClosed l => l.bestFor id
  | _ => false

def Ev.commitFor (id : Nat) : Ev → Bool
  | .commit i _ => i == id
  | _ => false

/-- the number of `bestmove` lines for go number `id` put on `out` (open or closed) -/
def bestCount (id : Nat) (log : List Ev) : Nat := log.countP (Ev.bestFor id)
/-- the number of successful `searchCompleted(id, _)` CASes -/
def commitCount (id : Nat) (log : List Ev) : Nat := log.countP (Ev.commitFor id)

/-- the loop has won the CAS for `id` and not yet sent the `bestmove` -/
def LPc.owes (id : Nat) : LPc → Bool
  | .sendInfo i _ => i == id
  | .sendBest i _ => i == id
  | _ => false

def FPc.sending : FPc → Bool
  | .sendInfo | .sendBest => true
  | _ => false

def Fwd.owes (id : Nat) (f : Fwd) : Bool := f.id == id && f.pc.sending

/-- the event logged by `d.out <- l` -/
def Ev.out (closed : Bool) (l : Line) : Ev := if closed then .sendClosed l else .send l

/-- The enabled transitions of the repaired driver (`Cfg.repaired`), indexed by the loop's program counter before the
step: one constructor per branch of `stepLoop`, `stepFwd`, the timer and the searcher steps. -/
inductive Step (s : State) : LPc → State → Prop
  | recvCmd {cmd rest} (hc : s.cmds = cmd :: rest) :
    Step s .select { s with cmds := rest, log := .consume cmd :: s.log, loop := dispatch cmd }
  | recvPonder {pv rest} (hp : s.ponder = pv :: rest) :
    Step s .select { s with ponder := rest, loop := .ponderChk pv }
  | recvTimeout {id} (ht : s.timeouts = some id) :
    Step s .select { s with timeouts := none, loop := .stopChk id }
  | ready : Step s .ready { s with loop := .select, log := .out s.outClosed .readyok :: s.log }
  | ponderOn {pv} (ha : s.active ≠ 0) : Step s (.ponderChk pv) { s with loop := .ponderSend pv }
  | ponderOff {pv} (ha : ¬ s.active ≠ 0) : Step s (.ponderChk pv) { s with loop := .select }
  | ponderSend {pv} :
    Step s (.ponderSend pv) { s with loop := .select, log := .out s.outClosed (.info pv) :: s.log }
  | ensureStore {a} : Step s (.ensureStore a) { s with active := 0, loop := .haltLock (.ensure a) }
  | lockIdle {k} (hm : ¬ s.emu = true) (he : s.eactive = none) :
    Step s (.haltLock k) { s with emu := true, loop := .haltUnlock k none }
  | lockBusy {k j} (hm : ¬ s.emu = true) (he : s.eactive = some j) :
    Step s (.haltLock k) { s with emu := true, loop := .haltAwait k j }
  | haltAwait {k j} (hi : (searchAt s j).init = true) :
    Step s (.haltAwait k j) { s with loop := .haltQuit k j }
  | haltQuit {k j} :
    Step s (.haltQuit k j) { s with srch := s.srch.set j { searchAt s j with quit := true }, loop := .haltRead k j }
  | haltRead {k j} : Step s (.haltRead k j) { s with loop := .haltUnlock k (some (searchAt s j).latest) }
  | haltUnlock {k res} :
    Step s (.haltUnlock k res) { s with emu := false, eactive := none, loop := afterHalt .repaired k res }
  | bookErr {g} (hb : g.book = .err) :
    Step s (.goStart g) { s with searches := s.searches + 1, loop := .select }
  | bookHit {g} (hb : g.book = .hit) :
    Step s (.goStart g) { s with searches := s.searches + 1, loop := .bookStore (s.searches + 1) }
  | bookMiss {g} (hb : g.book = .miss) :
    Step s (.goStart g) { s with searches := s.searches + 1, loop := .analyze g (s.searches + 1) }
  | bookStore {id} : Step s (.bookStore id) { s with active := id, loop := .complete id 1 }
  | analyzeBusy {g id j} (hm : ¬ s.emu = true) (he : s.eactive = some j) :
    Step s (.analyze g id) { s with loop := .select }
  | analyze {g id} (hm : ¬ s.emu = true) (he : s.eactive = none) :
    Step s (.analyze g id) { s with srch := s.srch ++ [{}], eactive := some s.srch.length, loop := .goStore g id s.srch.length }
  | goStore {g id j} : Step s (.goStore g id j) { s with active := id, loop := .goSpawn g id j }
  | goSpawn {g id j} :
    Step s (.goSpawn g id j)
      { s with wg := s.wg + 1, fwds := s.fwds ++ [{ id := id, sidx := j, infinite := g.infinite }],
               loop := if g.movetime then .goTimer id else .select }
  | goTimer {id} : Step s (.goTimer id) { s with timers := s.timers ++ [{ id := id }], loop := .select }
  | stopLoad : Step s .stopLoad { s with loop := .stopChk s.active }
  | stopSkip {id} (h : id = 0 ∨ s.active ≠ id) : Step s (.stopChk id) { s with loop := .select }
  | stopHalt {id} (h0 : ¬ id = 0) (ha : ¬ s.active ≠ id) :
    Step s (.stopChk id) { s with loop := .haltLock (.stop id) }
  | commit {id pv} (hcas : id ≠ 0 ∧ s.active = id) :
    Step s (.complete id pv)
      { s with active := 0, log := .commit id s.searches :: s.log,
               loop := if pv ≠ 0 then .sendInfo id pv else .sendBest id pv }
  | casLost {id pv} (hcas : ¬ (id ≠ 0 ∧ s.active = id)) :
    Step s (.complete id pv) { s with loop := .select }
  | sendInfo {id pv} :
    Step s (.sendInfo id pv) { s with loop := .sendBest id pv, log := .out s.outClosed (.info pv) :: s.log }
  | sendBest {id pv} :
    Step s (.sendBest id pv) { s with loop := .select, log := .out s.outClosed (.bestmove id pv) :: s.log }
  | waitFwd (hw : s.wg = 0) : Step s .waitFwd { s with loop := .closeOut }
  | closeOut : Step s .closeOut { s with outClosed := true, loop := .closeDriver }
  | closeDriver : Step s .closeDriver { s with closed := true, loop := .finished }
  | fRecv {j f pv} (hj : s.fwds[j]? = some f) (hpc : f.pc = .recv) (hb : (searchAt s f.sidx).buf = some pv) :
    Step s s.loop
      { s with srch := s.srch.set f.sidx { searchAt s f.sidx with buf := none },
               fwds := s.fwds.set j { f with last := pv, pc := .pond pv } }
  | fEnd {j f} (hj : s.fwds[j]? = some f) (hpc : f.pc = .recv) (hb : (searchAt s f.sidx).buf = none)
      (hd : (searchAt s f.sidx).done = true) :
    Step s s.loop { s with fwds := s.fwds.set j { f with pc := if f.infinite then .wgDone else .complete } }
  | fPond {j f pv} (hj : s.fwds[j]? = some f) (hpc : f.pc = .pond pv) :
    Step s s.loop
      { s with ponder := if s.ponder.length < s.pcap then s.ponder ++ [pv] else s.ponder,
               fwds := s.fwds.set j { f with pc := .recv } }
  | fCommit {j f} (hj : s.fwds[j]? = some f) (hpc : f.pc = .complete) (hcas : f.id ≠ 0 ∧ s.active = f.id) :
    Step s s.loop
      { s with active := 0, log := .commit f.id s.searches :: s.log,
               fwds := s.fwds.set j { f with pc := if f.last ≠ 0 then .sendInfo else .sendBest } }
  | fCasLost {j f} (hj : s.fwds[j]? = some f) (hpc : f.pc = .complete) (hcas : ¬ (f.id ≠ 0 ∧ s.active = f.id)) :
    Step s s.loop { s with fwds := s.fwds.set j { f with pc := .wgDone } }
  | fSendInfo {j f} (hj : s.fwds[j]? = some f) (hpc : f.pc = .sendInfo) :
    Step s s.loop { s with log := .out s.outClosed (.info f.last) :: s.log, fwds := s.fwds.set j { f with pc := .sendBest } }
  | fSendBest {j f} (hj : s.fwds[j]? = some f) (hpc : f.pc = .sendBest) :
    Step s s.loop
      { s with log := .out s.outClosed (.bestmove f.id f.last) :: s.log,
               fwds := s.fwds.set j { f with pc := .wgDone } }
  | fDone {j f} (hj : s.fwds[j]? = some f) (hpc : f.pc = .wgDone) :
    Step s s.loop { s with wg := s.wg - 1, fwds := s.fwds.set j { f with pc := .finished } }
  | timerSend {j t} (hj : s.timers[j]? = some t) (hf : ¬ t.fired = true) (ht : s.timeouts.isNone = true) :
    Step s s.loop { s with timeouts := some t.id, timers := s.timers.set j { t with fired := true } }
  | timerDrop {j t} (hj : s.timers[j]? = some t) (hf : ¬ t.fired = true) (hc : s.closed = true) :
    Step s s.loop { s with timers := s.timers.set j { t with fired := true } }
  | searchIter {j x} (hj : s.srch[j]? = some x) (hd : ¬ x.done = true) :
    Step s s.loop { s with srch := s.srch.set j { x with latest := x.latest + 1, buf := some (x.latest + 1), init := true } }
  | searchExit {j x} (hj : s.srch[j]? = some x) (hd : ¬ x.done = true) :
    Step s s.loop { s with srch := s.srch.set j { x with done := true, init := true } }

end Morlock.Model.UciConc

namespace Morlock.Proofs.ConcUci
open Morlock.Model.UciConc

theorem run_nil (s : State) : run s [] = s := rfl
theorem run_cons (s : State) (a : Act) (as : List Act) : run s (a :: as) = run (step s a) as := rfl
theorem run_append (s : State) (a b : List Act) : run s (a ++ b) = run (run s a) b := by
  simp [run, List.foldl_append]

@[simp] theorem av_repaired (id : Nat) : av .repaired id = id := rfl

theorem sendOut_eq (s : State) (l : Line) : sendOut s l = { s with log := .out s.outClosed l :: s.log } := by
  unfold sendOut Ev.out; split <;> simp [*]

section sendOut
variable (s : State) (l : Line)
@[simp] theorem sendOut_cmds : (sendOut s l).cmds = s.cmds := by rw [sendOut_eq]
@[simp] theorem sendOut_ponder : (sendOut s l).ponder = s.ponder := by rw [sendOut_eq]
@[simp] theorem sendOut_pcap : (sendOut s l).pcap = s.pcap := by rw [sendOut_eq]
end sendOut

/-- why a step of the loop is a no-op: it has returned, or it waits - on an empty channel at `select`, for `e.mu`,
for `init` to be closed, for the forwarders -/
def LoopBlocked (s : State) (c : Sel) : Prop :=
  match s.loop with
  | .select =>
    match c with
    | .cmd => s.cmds = []
    | .ponder => s.ponder = []
    | .timeout => s.timeouts = none
  | .haltLock _ | .analyze _ _ => s.emu = true
  | .haltAwait _ j => ¬ (searchAt s j).init = true
  | .waitFwd => ¬ s.wg = 0
  | .finished => True
  | _ => False

theorem stepLoop_cases (s : State) (c : Sel) :
    stepLoop .repaired s c = s ∧ LoopBlocked s c ∨ Step s s.loop (stepLoop .repaired s c) := by
  unfold stepLoop LoopBlocked
  simp only [sendOut_eq]
  cases hpc : s.loop with
  | select =>
    cases c <;> simp only <;> split
    · exact .inl ⟨rfl, ‹_›⟩
    · exact .inr (.recvCmd ‹_›)
    · exact .inl ⟨rfl, ‹_›⟩
    · exact .inr (.recvPonder ‹_›)
    · exact .inl ⟨rfl, ‹_›⟩
    · exact .inr (.recvTimeout ‹_›)
  | ready => exact .inr .ready
  | ponderChk pv => simp only; split; exact .inr (.ponderOn ‹_›); exact .inr (.ponderOff ‹_›)
  | ponderSend pv => exact .inr .ponderSend
  | ensureStore a => exact .inr .ensureStore
  | haltLock k =>
    simp only; split
    · exact .inl ⟨rfl, ‹_›⟩
    · split
      · exact .inr (.lockIdle ‹_› ‹_›)
      · exact .inr (.lockBusy ‹_› ‹_›)
  | haltAwait k j => simp only; split; exact .inr (.haltAwait ‹_›); exact .inl ⟨rfl, ‹_›⟩
  | haltQuit k j => exact .inr .haltQuit
  | haltRead k j => exact .inr .haltRead
  | haltUnlock k res => exact .inr .haltUnlock
  | goStart g =>
    simp only; split
    · exact .inr (.bookErr ‹_›)
    · exact .inr (.bookHit ‹_›)
    · exact .inr (.bookMiss ‹_›)
  | bookStore id => exact .inr .bookStore
  | analyze g id =>
    simp only; split
    · exact .inl ⟨rfl, ‹_›⟩
    · split
      · exact .inr (.analyzeBusy ‹_› ‹_›)
      · exact .inr (.analyze ‹_› ‹_›)
  | goStore g id j => exact .inr .goStore
  | goSpawn g id j => exact .inr .goSpawn
  | goTimer id => exact .inr .goTimer
  | stopLoad => exact .inr .stopLoad
  | stopChk id =>
    simp only; split
    · exact .inr (.stopSkip (.inl ‹_›))
    · by_cases ha : s.active ≠ av .repaired id
      · rw [if_pos ha]; exact .inr (.stopSkip (.inr ha))
      · rw [if_neg ha]; exact .inr (.stopHalt ‹_› ha)
  | complete id pv =>
    simp only
    by_cases hcas : id ≠ 0 ∧ s.active = av .repaired id
    · rw [if_pos hcas]; exact .inr (.commit hcas)
    · rw [if_neg hcas]; exact .inr (.casLost hcas)
  | sendInfo id pv => exact .inr .sendInfo
  | sendBest id pv => exact .inr .sendBest
  | waitFwd => simp only; split; exact .inr (.waitFwd ‹_›); exact .inl ⟨rfl, ‹_›⟩
  | closeOut => exact .inr .closeOut
  | closeDriver => exact .inr .closeDriver
  | finished => exact .inl ⟨rfl, trivial⟩

/-- why a step of forwarder `j` is a no-op: there is no such thread, it has finished, or it waits for its search -/
def FwdBlocked (s : State) (j : Nat) : Prop :=
  ∀ f, s.fwds[j]? = some f →
    f.pc = .finished ∨ f.pc = .recv ∧ (searchAt s f.sidx).buf = none ∧ ¬ (searchAt s f.sidx).done = true

theorem stepFwd_cases (s : State) (j : Nat) :
    stepFwd .repaired s j = s ∧ FwdBlocked s j ∨ Step s s.loop (stepFwd .repaired s j) := by
  unfold stepFwd FwdBlocked
  simp only [sendOut_eq]
  cases hj : s.fwds[j]? with
  | none => exact .inl ⟨rfl, nofun⟩
  | some f =>
    simp only
    cases hpc : f.pc with
    | recv =>
      simp only; split
      · exact .inr (.fRecv hj hpc ‹_›)
      · split
        · exact .inr (.fEnd hj hpc ‹_› ‹_›)
        · exact .inl ⟨rfl, fun _ e => Option.some.inj e ▸ .inr ⟨hpc, ‹_›, ‹_›⟩⟩
    | pond pv => exact .inr (.fPond hj hpc)
    | complete =>
      simp only
      by_cases hcas : f.id ≠ 0 ∧ s.active = av .repaired f.id
      · rw [if_pos hcas]; exact .inr (.fCommit hj hpc hcas)
      · rw [if_neg hcas]; exact .inr (.fCasLost hj hpc hcas)
    | sendInfo => exact .inr (.fSendInfo hj hpc)
    | sendBest => exact .inr (.fSendBest hj hpc)
    | wgDone => exact .inr (.fDone hj hpc)
    | finished => exact .inl ⟨rfl, fun _ e => Option.some.inj e ▸ .inl hpc⟩

theorem step_cases (s : State) (a : Act) : step s a = s ∨ Step s s.loop (step s a) := by
  cases a with
  | loop c => exact (stepLoop_cases s c).imp_left (·.1)
  | fwd j => exact (stepFwd_cases s j).imp_left (·.1)
  | timerSend j =>
    simp only [step, stepWith, stepTimerSend]
    repeat' split
    all_goals first | exact .inl rfl | exact .inr (.timerSend ‹_› ‹_› ‹_›)
  | timerDrop j =>
    simp only [step, stepWith, stepTimerDrop]
    repeat' split
    all_goals first | exact .inl rfl | exact .inr (.timerDrop ‹_› ‹_› ‹_›)
  | searchIter j =>
    simp only [step, stepWith, stepIter]
    repeat' split
    all_goals first | exact .inl rfl | exact .inr (.searchIter ‹_› ‹_›)
  | searchExit j =>
    simp only [step, stepWith, stepExit]
    repeat' split
    all_goals first | exact .inl rfl | exact .inr (.searchExit ‹_› ‹_›)

theorem inv_step {I : State → Prop} (hstep : ∀ {s pc s'}, Step s pc s' → s.loop = pc → I s → I s') (s : State)
    (a : Act) (h : I s) : I (step s a) := by
  rcases step_cases s a with e | st
  · rw [e]; exact h
  · exact hstep st rfl h

theorem inv_run {I : State → Prop} (hstep : ∀ {s pc s'}, Step s pc s' → s.loop = pc → I s → I s')
    (sched : List Act) (s : State) (h : I s) : I (run s sched) :=
  List.foldlRecOn sched step h fun s hs a _ => inv_step hstep s a hs

/-! ## `out` is closed only after every forwarder is done, and nobody sends after that -/

structure CloseInv (s : State) : Prop where
  wg : s.wg = s.fwds.countP (fun f => f.pc.live)
  closed : s.outClosed = true → s.loop.afterClose = true
  exiting : s.loop.exiting = true → s.wg = 0
  nosend : ∀ ev ∈ s.log, ev.isSendClosed = false

theorem closeInv_init (cmds : List Cmd) (pcap : Nat) : CloseInv (init cmds pcap) := by
  refine ⟨rfl, ?_, ?_, ?_⟩ <;> simp [init, LPc.exiting]

@[simp] theorem dispatch_exiting (c : Cmd) : (dispatch c).exiting = false := by cases c <;> rfl
@[simp] theorem dispatch_afterClose (c : Cmd) : (dispatch c).afterClose = false := by cases c <;> rfl
@[simp] theorem afterHalt_exiting (k : HaltK) (res : Option Nat) : (afterHalt .repaired k res).exiting = false := by
  cases k with
  | ensure a => cases a <;> rfl
  | stop id => cases res <;> rfl
@[simp] theorem afterHalt_afterClose (k : HaltK) (res : Option Nat) :
    (afterHalt .repaired k res).afterClose = false := by
  cases k with
  | ensure a => cases a <;> rfl
  | stop id => cases res <;> rfl

@[simp] theorem live_recv : FPc.recv.live = true := rfl
@[simp] theorem live_pond (pv : Nat) : (FPc.pond pv).live = true := rfl
@[simp] theorem live_complete : FPc.complete.live = true := rfl
@[simp] theorem live_sendInfo : FPc.sendInfo.live = true := rfl
@[simp] theorem live_sendBest : FPc.sendBest.live = true := rfl
@[simp] theorem live_wgDone : FPc.wgDone.live = true := rfl
@[simp] theorem live_finished : FPc.finished.live = false := rfl

theorem afterClose_exiting {pc : LPc} (h : pc.afterClose = true) : pc.exiting = true := by
  cases pc <;> simp_all [LPc.afterClose, LPc.exiting]

theorem CloseInv.open_of_loop {s : State} (h : CloseInv s) (hc : s.loop.afterClose = false) : s.outClosed = false := by
  cases ho : s.outClosed with
  | false => rfl
  | true => rw [h.closed ho] at hc; cases hc

theorem CloseInv.open_of_live {s : State} (h : CloseInv s) {j : Nat} {f : Fwd} (hj : s.fwds[j]? = some f)
    (hl : f.pc.live = true) : s.outClosed = false := by
  refine h.open_of_loop ?_
  cases hc : s.loop.afterClose with
  | false => rfl
  | true =>
    have := h.exiting (afterClose_exiting hc)
    have := countP_pos_of_getElem? (fun f : Fwd => f.pc.live) hj hl
    have := h.wg; omega

theorem CloseInv.frame {s s' : State} (h : CloseInv s) (hw : s'.wg = s'.fwds.countP (fun f => f.pc.live))
    (ho : s'.outClosed = s.outClosed) (hc : s.loop.afterClose = true → s'.loop.afterClose = true)
    (hx : s'.loop.exiting = true → s.loop.exiting = true ∧ s'.wg ≤ s.wg)
    (hl : s'.log = s.log ∨ ∃ e, s'.log = e :: s.log ∧ e.isSendClosed = false) : CloseInv s' := by
  refine ⟨hw, fun hh => hc (h.closed (ho ▸ hh)), fun hh => ?_, ?_⟩
  · have := h.exiting (hx hh).1; have := (hx hh).2; omega
  · rcases hl with e | ⟨e, he, hs⟩
    · rw [e]; exact h.nosend
    · rw [he]; exact List.forall_mem_cons.2 ⟨hs, h.nosend⟩

theorem CloseInv.move {s s' : State} {pc : LPc} (h : CloseInv s) (hpc : s.loop = pc) (hc : pc.afterClose = false)
    (hx : s'.loop.exiting = false) (hw : s'.wg = s'.fwds.countP (fun f => f.pc.live))
    (ho : s'.outClosed = s.outClosed)
    (hl : s'.log = s.log ∨ ∃ e, s'.log = e :: s.log ∧ e.isSendClosed = false) : CloseInv s' := by
  refine h.frame hw ho (fun hh => ?_) (fun hh => ?_) hl
  · rw [hpc, hc] at hh; cases hh
  · rw [hx] at hh; cases hh

theorem CloseInv.fwd {s : State} {j : Nat} {f f' : Fwd} (h : CloseInv s) (hj : s.fwds[j]? = some f)
    (hp : f.pc.live = true) (hp' : f'.pc.live = true) {lg sr pd ac}
    (hl : lg = s.log ∨ ∃ e, lg = e :: s.log ∧ e.isSendClosed = false) :
    CloseInv { s with fwds := s.fwds.set j f', log := lg, srch := sr, ponder := pd, active := ac } := by
  refine h.frame ?_ rfl id (fun hh => ⟨hh, Nat.le_refl _⟩) hl
  have := countP_set' (fun f : Fwd => f.pc.live) f' hj
  rw [hp, hp'] at this; show s.wg = _; rw [h.wg]; exact (Nat.add_right_cancel this).symm

theorem isSendClosed_out {c : Bool} (hc : c = false) (l : Line) : (Ev.out c l).isSendClosed = false := by
  subst hc; rfl

theorem closeInv_step {s s' : State} {pc : LPc} (st : Step s pc s')
    (hpc : s.loop = pc) (h : CloseInv s) : CloseInv s' := by
  have hcnt := fun {j f} (hj : s.fwds[j]? = some f) b => countP_set' (fun f : Fwd => f.pc.live) b hj
  have hwg := h.wg
  induction st
  case recvCmd _ => exact h.move hpc rfl (dispatch_exiting _) hwg rfl (.inr ⟨_, rfl, rfl⟩)
  case haltUnlock => exact h.move hpc rfl (afterHalt_exiting _ _) hwg rfl (.inl rfl)
  case commit _ => exact h.move hpc rfl (by split <;> rfl) hwg rfl (.inr ⟨_, rfl, rfl⟩)
  case ready | ponderSend | sendInfo | sendBest =>
    exact h.move hpc rfl rfl hwg rfl (.inr ⟨_, rfl, isSendClosed_out (h.open_of_loop (hpc ▸ rfl)) _⟩)
  case goSpawn =>
    refine h.move hpc rfl (by split <;> rfl) ?_ rfl (.inl rfl)
    simp [hwg]
  case waitFwd hw =>
    exact ⟨hwg, fun ho => (by rw [h.open_of_loop (hpc ▸ rfl)] at ho; cases ho), fun _ => hw, h.nosend⟩
  case closeOut => exact ⟨hwg, fun _ => rfl, fun _ => h.exiting (hpc ▸ rfl), h.nosend⟩
  case closeDriver => exact h.frame hwg rfl (fun _ => rfl) (fun _ => ⟨hpc ▸ rfl, Nat.le_refl _⟩) (.inl rfl)
  case timerSend | timerDrop | searchIter | searchExit =>
    exact h.frame hwg rfl id (fun hh => ⟨hh, Nat.le_refl _⟩) (.inl rfl)
  case fRecv hj hp _ | fPond hj hp | fCasLost hj hp _ => exact h.fwd hj (hp ▸ rfl) rfl (.inl rfl)
  case fEnd hj hp _ _ => exact h.fwd hj (hp ▸ rfl) (by dsimp only; split <;> rfl) (.inl rfl)
  case fCommit hj hp _ =>
    exact h.fwd hj (hp ▸ rfl) (by dsimp only; split <;> rfl) (.inr ⟨_, rfl, rfl⟩)
  case fSendInfo hj hp | fSendBest hj hp =>
    exact h.fwd hj (hp ▸ rfl) rfl (.inr ⟨_, rfl, isSendClosed_out (h.open_of_live hj (hp ▸ rfl)) _⟩)
  case fDone j f hj hp =>
    have := hcnt hj { f with pc := .finished }
    rw [hp] at this
    exact h.frame (by simp at this ⊢; omega) rfl id (fun hh => ⟨hh, Nat.sub_le _ _⟩) (.inl rfl)
  all_goals exact h.move hpc rfl rfl hwg rfl (.inl rfl)

/-! ## `active` is 0 or the id of the latest go; each id is committed at most once -/

@[simp] theorem commits_consume (c : Cmd) (es : List Ev) : commits (.consume c :: es) = commits es := rfl
@[simp] theorem commits_send (l : Line) (es : List Ev) : commits (.send l :: es) = commits es := rfl
@[simp] theorem commits_sendClosed (l : Line) (es : List Ev) : commits (.sendClosed l :: es) = commits es := rfl
@[simp] theorem commits_commit (id l : Nat) (es : List Ev) : commits (.commit id l :: es) = (id, l) :: commits es := rfl

structure ActiveInv (s : State) : Prop where
  act : s.active = 0 ∨ s.active = s.searches
  zero : s.loop.zeroRegion = true → s.active = 0
  pend : ∀ id, s.loop.pendingId = some id → id = s.searches
  bound : ∀ c ∈ commits s.log, c.1 ≤ s.searches ∧ c.2 = c.1 ∧ c.1 ≠ 0
  fresh : (s.active ≠ 0 ∨ s.loop.pendingId.isSome = true) → ∀ c ∈ commits s.log, c.1 < s.searches
  once : ((commits s.log).map (·.1)).Nodup

theorem activeInv_init (cmds : List Cmd) (pcap : Nat) : ActiveInv (init cmds pcap) := by
  refine ⟨?_, ?_, ?_, ?_, ?_, ?_⟩ <;> simp [init, commits, LPc.pendingId]

@[simp] theorem dispatch_zero (c : Cmd) : (dispatch c).zeroRegion = false := by cases c <;> rfl
@[simp] theorem dispatch_pending (c : Cmd) : (dispatch c).pendingId = none := by cases c <;> rfl
@[simp] theorem afterHalt_pending (k : HaltK) (res : Option Nat) : (afterHalt .repaired k res).pendingId = none := by
  cases k with
  | ensure a => cases a <;> rfl
  | stop id => cases res <;> rfl

theorem afterHalt_zero (k : HaltK) (res : Option Nat) (h : (afterHalt .repaired k res).zeroRegion = true) :
    (LPc.haltUnlock k res).zeroRegion = true := by
  cases k with
  | ensure a => rfl
  | stop id => cases res <;> simp [afterHalt, LPc.zeroRegion] at h

theorem activeInv_frame {s s' : State} (h : ActiveInv s) (ha : s'.active = s.active)
    (hn : s'.searches = s.searches) (hc : commits s'.log = commits s.log)
    (hz : s'.loop.zeroRegion = true → s.loop.zeroRegion = true)
    (hp : ∀ id, s'.loop.pendingId = some id → s.loop.pendingId = some id) : ActiveInv s' := by
  obtain ⟨h1, h2, h3, h4, h5, h6⟩ := h
  refine ⟨by rw [ha, hn]; exact h1, fun hz' => by rw [ha]; exact h2 (hz hz'),
    fun id hid => by rw [hn]; exact h3 id (hp id hid), by rw [hc, hn]; exact h4, ?_, by rw [hc]; exact h6⟩
  rw [ha, hc, hn]
  intro hor
  apply h5
  rcases hor with hor | hor
  · exact .inl hor
  · right
    cases hpi : s'.loop.pendingId with
    | none => rw [hpi] at hor; cases hor
    | some id => rw [hp id hpi]; rfl

/-- `d.active.Store(0)` -/
theorem activeInv_store0 {s s' : State} (h : ActiveInv s) (ha : s'.active = 0)
    (hn : s'.searches = s.searches) (hc : commits s'.log = commits s.log)
    (hp : s'.loop.pendingId = none) : ActiveInv s' := by
  obtain ⟨h1, h2, h3, h4, h5, h6⟩ := h
  refine ⟨.inl ha, fun _ => ha, by simp [hp], by rw [hc, hn]; exact h4, ?_, by rw [hc]; exact h6⟩
  simp [ha, hp]

/-- a successful `CAS(active, id, 0)` with its commit event -/
theorem activeInv_commit {s s' : State} (h : ActiveInv s) (hid : s.active ≠ 0) (ha : s'.active = 0)
    (hn : s'.searches = s.searches) (hc : commits s'.log = (s.active, s.searches) :: commits s.log)
    (hp : s'.loop.pendingId = none) : ActiveInv s' := by
  obtain ⟨h1, h2, h3, h4, h5, h6⟩ := h
  have hact : s.active = s.searches := by
    rcases h1 with h1 | h1
    · exact absurd h1 hid
    · exact h1
  have hlt := h5 (.inl hid)
  refine ⟨.inl ha, fun _ => ha, by simp [hp], ?_, ?_, ?_⟩
  · rw [hc, hn]; intro c hc'
    rcases List.mem_cons.1 hc' with rfl | hc'
    · exact ⟨by simp [hact], by simp [hact], hid⟩
    · exact h4 c hc'
  · simp [ha, hp]
  · rw [hc]; simp only [List.map_cons, List.nodup_cons]
    refine ⟨?_, h6⟩
    intro hm
    obtain ⟨c, hc', hc2⟩ := List.mem_map.1 hm
    have := hlt c hc'
    omega

/-- `d.searches++` in the zero region -/
theorem activeInv_incr {s s' : State} (h : ActiveInv s) (hz : s.loop.zeroRegion = true)
    (ha : s'.active = s.active) (hn : s'.searches = s.searches + 1) (hc : commits s'.log = commits s.log)
    (hp : ∀ id, s'.loop.pendingId = some id → id = s.searches + 1) : ActiveInv s' := by
  obtain ⟨h1, h2, h3, h4, h5, h6⟩ := h
  have h0 : s'.active = 0 := by rw [ha]; exact h2 hz
  refine ⟨.inl h0, fun _ => h0, fun id hid => by rw [hn]; exact hp id hid, ?_, ?_, by rw [hc]; exact h6⟩
  · rw [hc, hn]; intro c hc'; have := h4 c hc'; exact ⟨by omega, this.2⟩
  · rw [hc, hn]; intro _ c hc'; have := h4 c hc'; omega

/-- `d.active.Store(id)` for the pending id -/
theorem activeInv_store {s s' : State} (h : ActiveInv s) {id : Nat} (hpend : s.loop.pendingId = some id)
    (ha : s'.active = id) (hn : s'.searches = s.searches) (hc : commits s'.log = commits s.log)
    (hz : s'.loop.zeroRegion = false) (hp : s'.loop.pendingId = none) : ActiveInv s' := by
  obtain ⟨h1, h2, h3, h4, h5, h6⟩ := h
  have hid := h3 id hpend
  refine ⟨.inr (by rw [ha, hn, hid]), by simp [hz], by simp [hp], by rw [hc, hn]; exact h4, ?_,
    by rw [hc]; exact h6⟩
  rw [hc, hn]; intro _
  exact h5 (.inr (by rw [hpend]; rfl))

theorem pending_zero {pc : LPc} (h : pc.pendingId.isSome = true) : pc.zeroRegion = true := by
  cases pc <;> simp_all [LPc.pendingId, LPc.zeroRegion]

theorem commits_out (c : Bool) (l : Line) (es : List Ev) : commits (.out c l :: es) = commits es := by cases c <;> rfl

theorem activeInv_step {s s' : State} {pc : LPc} (st : Step s pc s')
    (hpc : s.loop = pc) (h : ActiveInv s) : ActiveInv s' := by
  induction st
  case recvPonder | recvTimeout | ponderOn | ponderOff | goTimer | stopLoad | stopSkip | stopHalt | casLost
      | analyzeBusy =>
    exact activeInv_frame h rfl rfl rfl nofun nofun
  case analyze | waitFwd | closeOut | closeDriver =>
    exact activeInv_frame h rfl rfl rfl (hpc ▸ id) (hpc ▸ fun _ => id)
  case lockIdle | lockBusy | haltAwait | haltQuit | haltRead =>
    cases ‹HaltK› <;> exact activeInv_frame h rfl rfl rfl (hpc ▸ id) nofun
  case fRecv | fEnd | fPond | fCasLost | fDone | timerSend | timerDrop | searchIter | searchExit =>
    exact activeInv_frame h rfl rfl rfl id fun _ => id
  case recvCmd => exact activeInv_frame h rfl rfl rfl (by simp) (by simp)
  case ready | ponderSend | sendInfo | sendBest => exact activeInv_frame h rfl rfl (commits_out ..) nofun nofun
  case fSendInfo | fSendBest => exact activeInv_frame h rfl rfl (commits_out ..) id fun _ => id
  case haltUnlock => exact activeInv_frame h rfl rfl rfl (hpc ▸ afterHalt_zero _ _) (by simp)
  case goSpawn => exact activeInv_frame h rfl rfl rfl (by dsimp only; split <;> nofun) (by dsimp only; split <;> nofun)
  case ensureStore => exact activeInv_store0 h rfl rfl rfl rfl
  case bookErr _ | bookHit _ | bookMiss _ => exact activeInv_incr h (hpc ▸ rfl) rfl rfl rfl (by simp [LPc.pendingId])
  case bookStore | goStore => exact activeInv_store h (hpc ▸ rfl) rfl rfl rfl rfl rfl
  case commit hcas =>
    exact activeInv_commit h (hcas.2 ▸ hcas.1) rfl rfl (hcas.2 ▸ rfl) (by dsimp only; split <;> rfl)
  case fCommit hcas =>
    -- the loop is not between numbering a go and storing its id: there `active = 0`
    have hp : s.loop.pendingId = none := by
      cases hp : s.loop.pendingId with
      | none => rfl
      | some id => exact absurd (h.zero (pending_zero (by rw [hp]; rfl))) (hcas.2 ▸ hcas.1)
    exact activeInv_commit h (hcas.2 ▸ hcas.1) rfl rfl (hcas.2 ▸ rfl) hp

theorem activeInv_run (sched : List Act) (s : State) (h : ActiveInv s) : ActiveInv (run s sched) :=
  inv_run activeInv_step sched s h

theorem closeInv_run (sched : List Act) (s : State) (h : CloseInv s) : CloseInv (run s sched) :=
  inv_run closeInv_step sched s h

/-! ## every commit is followed by exactly one `bestmove` send, by the thread that won the CAS -/

def OweInv (s : State) : Prop :=
  ∀ id, bestCount id s.log + (if s.loop.owes id then 1 else 0) + s.fwds.countP (Fwd.owes id) = commitCount id s.log

@[simp] theorem bestCount_nil (id : Nat) : bestCount id [] = 0 := rfl
@[simp] theorem bestCount_consume (id : Nat) (c : Cmd) (es : List Ev) :
    bestCount id (.consume c :: es) = bestCount id es := by simp [bestCount, Ev.bestFor]
@[simp] theorem bestCount_commit (id i l : Nat) (es : List Ev) :
    bestCount id (.commit i l :: es) = bestCount id es := by simp [bestCount, Ev.bestFor]
@[simp] theorem bestCount_send (id : Nat) (l : Line) (es : List Ev) :
    bestCount id (.send l :: es) = bestCount id es + (if l.bestFor id then 1 else 0) := by
  unfold bestCount; rw [List.countP_cons]; rfl
@[simp] theorem bestCount_sendClosed (id : Nat) (l : Line) (es : List Ev) :
    bestCount id (.sendClosed l :: es) = bestCount id es + (if l.bestFor id then 1 else 0) := by
  unfold bestCount; rw [List.countP_cons]; rfl
@[simp] theorem commitCount_nil (id : Nat) : commitCount id [] = 0 := rfl
@[simp] theorem commitCount_consume (id : Nat) (c : Cmd) (es : List Ev) :
    commitCount id (.consume c :: es) = commitCount id es := by simp [commitCount, Ev.commitFor]
@[simp] theorem commitCount_send (id : Nat) (l : Line) (es : List Ev) :
    commitCount id (.send l :: es) = commitCount id es := by simp [commitCount, Ev.commitFor]
@[simp] theorem commitCount_sendClosed (id : Nat) (l : Line) (es : List Ev) :
    commitCount id (.sendClosed l :: es) = commitCount id es := by simp [commitCount, Ev.commitFor]
@[simp] theorem commitCount_commit (id i l : Nat) (es : List Ev) :
    commitCount id (.commit i l :: es) = commitCount id es + (if i == id then 1 else 0) := by
  simp [commitCount, Ev.commitFor, List.countP_cons]
@[simp] theorem bestFor_readyok (id : Nat) : Line.readyok.bestFor id = false := rfl
@[simp] theorem bestFor_info (id pv : Nat) : (Line.info pv).bestFor id = false := rfl
@[simp] theorem bestFor_bestmove (id i pv : Nat) : (Line.bestmove i pv).bestFor id = (i == id) := rfl
@[simp] theorem dispatch_owes (id : Nat) (c : Cmd) : (dispatch c).owes id = false := by cases c <;> rfl
@[simp] theorem afterHalt_owes (id : Nat) (k : HaltK) (res : Option Nat) :
    (afterHalt .repaired k res).owes id = false := by
  cases k with
  | ensure a => cases a <;> rfl
  | stop i => cases res <;> rfl

theorem oweInv_init (cmds : List Cmd) (pcap : Nat) : OweInv (init cmds pcap) := by
  intro id; simp [init, LPc.owes]

theorem bestCount_out (id : Nat) (c : Bool) (l : Line) (es : List Ev) :
    bestCount id (.out c l :: es) = bestCount id es + (if l.bestFor id then 1 else 0) := by
  cases c <;> simp [Ev.out]
theorem commitCount_out (id : Nat) (c : Bool) (l : Line) (es : List Ev) :
    commitCount id (.out c l :: es) = commitCount id es := by cases c <;> simp [Ev.out]

theorem OweInv.frame {s s' : State} {pc : LPc} (h : OweInv s) (hpc : s.loop = pc)
    (ho : ∀ id, pc.owes id = false) (ho' : ∀ id, s'.loop.owes id = false)
    (hf : ∀ id, s'.fwds.countP (Fwd.owes id) = s.fwds.countP (Fwd.owes id))
    (hb : ∀ id, bestCount id s'.log = bestCount id s.log)
    (hc : ∀ id, commitCount id s'.log = commitCount id s.log) : OweInv s' := by
  intro id; rw [ho', hf, hb, hc, ← ho id, ← hpc]; exact h id

theorem OweInv.fwd {s s' : State} {j : Nat} {f f' : Fwd} (h : OweInv s) (hj : s.fwds[j]? = some f)
    (hf : s'.fwds = s.fwds.set j f') (hl : s'.loop = s.loop)
    (hd : ∀ id, bestCount id s'.log + (if f'.owes id then 1 else 0) + commitCount id s.log =
      bestCount id s.log + (if f.owes id then 1 else 0) + commitCount id s'.log) : OweInv s' := by
  intro id
  have := h id; have := countP_set' (Fwd.owes id) f' hj; have := hd id
  rw [hf, hl]; omega

theorem sending_send (c : Prop) [Decidable c] : (if c then FPc.sendInfo else FPc.sendBest).sending = true := by
  split <;> rfl

theorem owes_send (c : Prop) [Decidable c] (i pv id : Nat) :
    (if c then LPc.sendInfo i pv else LPc.sendBest i pv).owes id = (i == id) := by split <;> rfl

theorem oweInv_step {s s' : State} {pc : LPc} (st : Step s pc s') (hpc : s.loop = pc) (h : OweInv s) : OweInv s' := by
  induction st
  case timerSend | timerDrop | searchIter | searchExit => exact h
  case recvCmd _ =>
    exact h.frame hpc (fun _ => rfl) (dispatch_owes · _) (fun _ => rfl) (bestCount_consume · _ _) (commitCount_consume · _ _)
  case haltUnlock => exact h.frame hpc (fun _ => rfl) (afterHalt_owes · _ _) (fun _ => rfl) (fun _ => rfl) (fun _ => rfl)
  case goSpawn =>
    refine h.frame hpc (fun _ => rfl) (fun _ => by dsimp only; split <;> rfl) (fun _ => ?_) (fun _ => rfl) (fun _ => rfl)
    simp [Fwd.owes, FPc.sending]
  case commit hcas =>
    intro id; have := h id; rw [hpc] at this
    simp only [owes_send, commitCount_commit, bestCount_commit]
    simp only [LPc.owes, Bool.false_eq_true, ↓reduceIte] at this; omega
  case ready | ponderSend | sendInfo | sendBest =>
    -- what the loop owes and what the line counts for cancel, by computation
    intro id; have := h id; rw [hpc] at this
    dsimp only; rw [bestCount_out, commitCount_out]; exact this
  case fRecv hj hp _ | fPond hj hp | fCasLost hj hp _ | fDone hj hp =>
    exact h.fwd hj rfl rfl fun id => by simp [Fwd.owes, FPc.sending, hp]
  case fEnd hj hp _ _ => exact h.fwd hj rfl rfl fun id => by simp only [Fwd.owes, hp]; split <;> simp [FPc.sending]
  case fCommit f hj hp _ =>
    exact h.fwd hj rfl rfl fun id => by
      cases hb : f.id == id <;> simp only [Fwd.owes, sending_send, hp, hb, bestCount_commit, commitCount_commit] <;>
        simp [FPc.sending] <;> omega
  case fSendInfo hj hp | fSendBest hj hp =>
    exact h.fwd hj rfl rfl fun id => by simp [Fwd.owes, FPc.sending, hp, bestCount_out, commitCount_out]
  all_goals exact h.frame hpc (fun _ => rfl) (fun _ => rfl) (fun _ => rfl) (fun _ => rfl) (fun _ => rfl)

theorem oweInv_run (sched : List Act) (s : State) (h : OweInv s) : OweInv (run s sched) :=
  inv_run oweInv_step sched s h

theorem mem_commits {id l : Nat} {log : List Ev} : (id, l) ∈ commits log ↔ Ev.commit id l ∈ log := by
  induction log with
  | nil => simp [commits]
  | cons e es ih =>
    cases e <;> simp [commits, ih]

theorem commitCount_eq (id : Nat) (log : List Ev) :
    commitCount id log = ((commits log).map (·.1)).count id := by
  induction log with
  | nil => rfl
  | cons e es ih =>
    cases e <;> simp [commits, ih, List.count_cons]

theorem commitCount_le_one {s : State} (h : ActiveInv s) (id : Nat) : commitCount id s.log ≤ 1 := by
  rw [commitCount_eq]; exact List.nodup_iff_count.1 h.once id

theorem bestCount_le_commitCount {s : State} (h : OweInv s) (id : Nat) :
    bestCount id s.log ≤ commitCount id s.log := by
  have := h id; omega

end Morlock.Proofs.ConcUci
