import Morlock.Proofs.RepBits
import Morlock.Proofs.AttackPawns
/-!
# Stage A of C01: `toSquares` enumerates exactly the set bits, and generic bitboard facts

`toSquares b` (Go `Bitboard.ToSquares`) pops the least significant set bit 64 times. For `b < 2^64`
it lists exactly the squares `sq` with `b.testBit sq`, each once, in increasing order.
-/
namespace Morlock.Proofs.Gen
open Morlock Morlock.Model

/-- `tzAux` finds the least set bit of a non-zero `b < 2^fuel`. -/
theorem tzAux_spec : ∀ (fuel b n : Nat), b ≠ 0 → b < 2 ^ fuel →
    ∃ k, tzAux fuel b n = n + k ∧ k < fuel ∧ b.testBit k = true ∧ ∀ j, j < k → b.testBit j = false := by
  intro fuel
  induction fuel with
  | zero => intro b n h0 hlt; simp at hlt; exact absurd hlt h0
  | succ fuel ih =>
    intro b n h0 hlt
    unfold tzAux
    by_cases hodd : b % 2 = 1
    · rw [if_pos hodd]
      exact ⟨0, rfl, Nat.succ_pos fuel, by simp [hodd], fun j hj => absurd hj (Nat.not_lt_zero j)⟩
    · rw [if_neg hodd]
      have h1 : b / 2 ≠ 0 := by omega
      have h2 : b / 2 < 2 ^ fuel := by rw [Nat.pow_succ] at hlt; omega
      obtain ⟨k, hk, hkf, hbit, hlow⟩ := ih (b / 2) (n + 1) h1 h2
      refine ⟨k + 1, by rw [hk]; omega, Nat.succ_lt_succ hkf, by rw [Nat.testBit_add_one]; exact hbit, ?_⟩
      intro j hj
      cases j with
      | zero => simp [hodd]
      | succ j => rw [Nat.testBit_add_one]; exact hlow j (Nat.lt_of_succ_lt_succ hj)

/-- `lastPopSquare` of a non-zero 64-bit board is its least set bit. -/
theorem lastPopSquare_spec {b : Nat} (h0 : b ≠ 0) (hlt : b < 2 ^ 64) :
    lastPopSquare b < 64 ∧ b.testBit (lastPopSquare b) = true ∧
      ∀ j, j < lastPopSquare b → b.testBit j = false := by
  unfold lastPopSquare
  rw [if_neg h0]
  obtain ⟨k, hk, hkf, hbit, hlow⟩ := tzAux_spec 64 b 0 h0 hlt
  rw [hk, Nat.zero_add]
  exact ⟨hkf, hbit, hlow⟩

theorem lt_of_testBit {x i : Nat} (hx : x < 2 ^ 64) (h : x.testBit i = true) : i < 64 := by
  apply Classical.byContradiction
  intro hn
  rw [testBit_high hx (Nat.le_of_not_lt hn)] at h
  cases h

theorem eq_zero_of_no_bits {x : Nat} (h : ∀ i, x.testBit i = false) : x = 0 := by
  apply Nat.eq_of_testBit_eq
  intro i; rw [h i, Nat.zero_testBit]

theorem toSquaresAux_spec : ∀ (fuel lo b : Nat), b < 2 ^ 64 → (∀ j, j < lo → b.testBit j = false) →
    64 ≤ fuel + lo →
    (∀ sq, sq ∈ toSquaresAux fuel b ↔ b.testBit sq = true) ∧
    (toSquaresAux fuel b).Pairwise (· < ·) ∧ (∀ sq ∈ toSquaresAux fuel b, lo ≤ sq) := by
  intro fuel
  induction fuel with
  | zero =>
    intro lo b hlt hlow hf
    have hb : b = 0 := by
      apply eq_zero_of_no_bits
      intro i
      by_cases hi : i < 64
      · exact hlow i (by omega)
      · exact testBit_high hlt (Nat.le_of_not_lt hi)
    subst hb
    simp [toSquaresAux]
  | succ fuel ih =>
    intro lo b hlt hlow hf
    unfold toSquaresAux
    by_cases h0 : b = 0
    · subst h0; simp
    · rw [if_neg h0]
      obtain ⟨hk64, hbit, hleast⟩ := lastPopSquare_spec h0 hlt
      generalize lastPopSquare b = k at hk64 hbit hleast
      have hlok : lo ≤ k := by
        apply Classical.byContradiction; intro hn
        rw [hlow k (Nat.lt_of_not_le hn)] at hbit; cases hbit
      have hlt' : b ^^^ bitMask k < 2 ^ 64 := xor_bitMask_lt hlt k
      have hlow' : ∀ j, j < k + 1 → (b ^^^ bitMask k).testBit j = false := by
        intro j hj
        rw [testBit_xor_bitMask _ hk64]
        by_cases e : j = k
        · subst e; simp [hbit]
        · simp [e, hleast j (Nat.lt_of_le_of_ne (Nat.le_of_lt_succ hj) e)]
      obtain ⟨hmem, hpw, hge⟩ := ih (k + 1) (b ^^^ bitMask k) hlt' hlow' (by omega)
      refine ⟨?_, ?_, ?_⟩
      · intro sq
        simp only [List.mem_cons, hmem, testBit_xor_bitMask _ hk64]
        by_cases e : sq = k
        · subst e; simp [hbit]
        · simp [e]
      · simp only [List.pairwise_cons]
        exact ⟨hge, hpw⟩
      · intro sq hsq
        simp only [List.mem_cons] at hsq
        rcases hsq with rfl | hsq
        · exact hlok
        · exact Nat.le_trans hlok (Nat.le_of_succ_le (hge sq hsq))

theorem mem_toSquares {b : Nat} (hb : b < 2 ^ 64) (sq : Nat) : sq ∈ toSquares b ↔ b.testBit sq = true :=
  (toSquaresAux_spec 64 0 b hb (fun j hj => absurd hj (Nat.not_lt_zero j)) (Nat.le_refl 64)).1 sq

theorem toSquares_sorted {b : Nat} (hb : b < 2 ^ 64) : (toSquares b).Pairwise (· < ·) :=
  (toSquaresAux_spec 64 0 b hb (fun j hj => absurd hj (Nat.not_lt_zero j)) (Nat.le_refl 64)).2.1

theorem toSquares_nodup {b : Nat} (hb : b < 2 ^ 64) : (toSquares b).Nodup :=
  (toSquares_sorted hb).imp (fun h => Nat.ne_of_lt h)

theorem toSquares_lt {b : Nat} (hb : b < 2 ^ 64) {sq : Nat} (h : sq ∈ toSquares b) : sq < 64 :=
  lt_of_testBit hb ((mem_toSquares hb sq).mp h)

theorem and_lt_left {x : Nat} (y : Nat) (hx : x < 2 ^ 64) : x &&& y < 2 ^ 64 :=
  Nat.lt_of_le_of_lt Nat.and_le_left hx

theorem and_lt_right (x : Nat) {y : Nat} (hy : y < 2 ^ 64) : x &&& y < 2 ^ 64 :=
  Nat.lt_of_le_of_lt Nat.and_le_right hy

theorem andNot_lt {x : Nat} (y : Nat) (hx : x < 2 ^ 64) : andNot x y < 2 ^ 64 := by
  apply Nat.lt_pow_two_of_testBit
  intro i hi
  rw [Attack.andNot_testBit, testBit_high hx hi]; rfl

theorem not64_testBit (x i : Nat) : (not64 x).testBit i = (decide (i < 64) && !x.testBit i) := by
  unfold not64 allOnes u64
  rw [Nat.testBit_xor, M64_eq, Nat.testBit_two_pow_sub_one, Nat.testBit_mod_two_pow]
  by_cases h : i < 64 <;> simp [h]

theorem not64_lt (x : Nat) : not64 x < 2 ^ 64 := by
  apply Nat.lt_pow_two_of_testBit
  intro i hi
  rw [not64_testBit]
  have : ¬ i < 64 := by omega
  simp [this]

theorem shl64_lt (x n : Nat) : shl64 x n < 2 ^ 64 := by
  unfold shl64 u64; rw [M64_eq]; exact Nat.mod_lt _ (by decide)

theorem shiftRight_lt {x : Nat} (n : Nat) (hx : x < 2 ^ 64) : x >>> n < 2 ^ 64 :=
  Nat.lt_of_le_of_lt (Nat.shiftRight_le x n) hx

theorem bitMask_testBit {k : Nat} (hk : k < 64) (i : Nat) : (bitMask k).testBit i = decide (i = k) := by
  rw [bitMask_lt hk, Nat.testBit_two_pow]
  by_cases e : k = i <;> simp [e, eq_comm]

theorem bitMask_testBit' (k i : Nat) : (bitMask k).testBit i = (decide (k < 64) && decide (i = k)) := by
  by_cases hk : k < 64
  · rw [bitMask_testBit hk]; simp [hk]
  · rw [bitMask_ge (by omega)]; simp [hk]

theorem and_ne_zero_iff (x y : Nat) : ((x &&& y) != 0) = true ↔ ∃ t, x.testBit t = true ∧ y.testBit t = true := by
  rw [bne_iff_ne]
  constructor
  · intro h
    obtain ⟨i, hi⟩ := Nat.exists_testBit_of_ne_zero h
    rw [Nat.testBit_and, Bool.and_eq_true] at hi
    exact ⟨i, hi⟩
  · rintro ⟨t, h1, h2⟩ e
    have := congrArg (fun z => z.testBit t) e
    simp [h1, h2] at this

theorem bitRank_testBit {r : Nat} (hr : r < 8) (i : Nat) :
    (bitRank r).testBit i = decide (i / 8 = r) := by
  unfold bitRank
  rw [Attack.shl64_testBit]
  have e : (r <<< 3) % 256 = 8 * r := by rw [Nat.shiftLeft_eq]; omega
  rw [e]
  have h255 : (255 : Nat) = 2 ^ 8 - 1 := by decide
  rw [h255, Nat.testBit_two_pow_sub_one, Bool.eq_iff_iff]
  simp only [Bool.and_eq_true, decide_eq_true_eq]
  omega

end Morlock.Proofs.Gen
