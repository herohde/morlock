import Morlock.Proofs.RepBits
import Morlock.Proofs.TurochampFlags
import Morlock.Proofs.FltDyadic
/-!
# TUROCHAMP `material`: exact value, positivity, bounds — for every position

All values that occur in `material` are half-integers `k/2` with `k ≤ 2880`. These are float32 numbers (`rnd_half`, from
the dyadic lemmas of `Proofs/FltDyadic.lean`), and the rational operations of `Model.Flt` are computed symbolically on the
canonical representation `half k`.
-/
namespace Morlock.Proofs.Turochamp
open Morlock Morlock.Model Morlock.Model.Flt Morlock.Model.Turochamp

def allBelow : Nat → (Nat → Bool) → Bool
  | 0, _ => true
  | n + 1, p => p n && allBelow n p

theorem allBelow_spec {n : Nat} {p : Nat → Bool} (h : allBelow n p = true) : ∀ i, i < n → p i = true := by
  induction n with
  | zero => intro i hi; omega
  | succ n ih =>
    simp only [allBelow, Bool.and_eq_true] at h
    intro i hi
    by_cases e : i = n
    · subst e; exact h.1
    · exact ih h.2 i (by omega)

/-- the canonical (lowest terms) representation of `k/2` -/
def half (k : Nat) : Q := if k % 2 = 0 then ⟨((k / 2 : Nat) : Int), 1⟩ else ⟨((k : Nat) : Int), 2⟩

theorem gcd_two (k : Nat) : Nat.gcd k 2 = if k % 2 = 0 then 2 else 1 := by
  rw [Nat.gcd_comm, Nat.gcd_rec]
  have := Nat.mod_two_eq_zero_or_one k
  rcases this with h | h <;> simp [h]

theorem norm_two (k : Nat) : Q.norm ⟨(k : Int), 2⟩ = half k := by
  unfold Q.norm half
  simp only [Int.natAbs_natCast, gcd_two]
  by_cases h : k % 2 = 0
  · simp only [h, if_true]
    have : ¬ (2 ≤ 1) := by omega
    simp only [this, if_false]
    congr 1
  · simp [h]

theorem norm_one (k : Int) : Q.norm ⟨k, 1⟩ = ⟨k, 1⟩ := by
  unfold Q.norm
  simp

theorem gcd_four (k : Nat) (hk : k % 2 = 0) : Nat.gcd k 4 = if k % 4 = 0 then 4 else 2 := by
  rw [Nat.gcd_comm, Nat.gcd_rec]
  have : k % 4 = 0 ∨ k % 4 = 2 := by omega
  rcases this with h | h <;> simp [h]

theorem norm_four (k : Nat) (hk : k % 2 = 0) : Q.norm ⟨(k : Int), 4⟩ = half (k / 2) := by
  unfold Q.norm half
  simp only [Int.natAbs_natCast, gcd_four k hk]
  by_cases h : k % 4 = 0
  · have h2 : k / 2 % 2 = 0 := by omega
    simp only [h, if_true, h2]
    have : ¬ (4 ≤ 1) := by omega
    simp only [this, if_false]
    have e : k / 2 / 2 = k / 4 := by omega
    rw [e]
    congr 1
  · have h2 : ¬ (k / 2 % 2 = 0) := by omega
    simp only [h, if_false, h2]
    have : ¬ (2 ≤ 1) := by omega
    simp only [this, if_false]
    congr 1

theorem add_mk (a b : Int) (c d : Nat) : Q.add ⟨a, c⟩ ⟨b, d⟩ = Q.norm ⟨a * d + b * c, c * d⟩ := rfl

theorem half_even {a : Nat} (ha : a % 2 = 0) : half a = ⟨((a / 2 : Nat) : Int), 1⟩ := by simp [half, ha]
theorem half_odd {a : Nat} (ha : ¬ a % 2 = 0) : half a = ⟨((a : Nat) : Int), 2⟩ := by simp [half, ha]

theorem rnd_half {k : Nat} (hk : k ≤ 2 ^ 24) : rnd f32 (half k) = some (half k) := by
  by_cases h : k % 2 = 0
  · rw [half_even h]
    exact rnd32_int _ (by omega)
  · have := rnd32_half k (by omega)
    rwa [Q.halves, norm_two, ← half_odd h] at this

theorem add_half (a b : Nat) : Q.add (half a) (half b) = half (a + b) := by
  by_cases ha : a % 2 = 0 <;> by_cases hb : b % 2 = 0
  · rw [half_even ha, half_even hb, add_mk]
    have h1 : ((a / 2 : Nat) : Int) * ((1 : Nat) : Int) + ((b / 2 : Nat) : Int) * ((1 : Nat) : Int) = (((a + b) / 2 : Nat) : Int) := by omega
    rw [h1, show (1 * 1 : Nat) = 1 from rfl, norm_one, half_even (by omega)]
  · rw [half_even ha, half_odd hb, add_mk]
    have h1 : ((a / 2 : Nat) : Int) * ((2 : Nat) : Int) + ((b : Nat) : Int) * ((1 : Nat) : Int) = ((a + b : Nat) : Int) := by omega
    rw [h1, show (1 * 2 : Nat) = 2 from rfl, norm_two]
  · rw [half_odd ha, half_even hb, add_mk]
    have h1 : ((a : Nat) : Int) * ((1 : Nat) : Int) + ((b / 2 : Nat) : Int) * ((2 : Nat) : Int) = ((a + b : Nat) : Int) := by omega
    rw [h1, show (2 * 1 : Nat) = 2 from rfl, norm_two]
  · rw [half_odd ha, half_odd hb, add_mk]
    have h1 : ((a : Nat) : Int) * ((2 : Nat) : Int) + ((b : Nat) : Int) * ((2 : Nat) : Int) = ((2 * (a + b) : Nat) : Int) := by omega
    rw [h1, show (2 * 2 : Nat) = 4 from rfl, norm_four _ (by omega)]
    congr 1
    omega

/-- twice `pieceValue` -/
def value2 : Piece → Nat
  | .king => 200 | .queen => 20 | .rook => 10 | .bishop => 7 | .knight => 6 | .pawn => 2 | .none => 0

theorem mul_mk (a b : Int) (c d : Nat) : Q.mul ⟨a, c⟩ ⟨b, d⟩ = Q.norm ⟨a * b, c * d⟩ := rfl

theorem half_two_mul (n : Nat) : half (2 * n) = ⟨(n : Int), 1⟩ := by
  rw [half_even (by omega)]
  congr 1
  omega

theorem mul_int_half (c n : Nat) : Q.mul (Q.ofInt (c : Int)) (half (2 * n)) = half (2 * c * n) := by
  rw [half_two_mul, Q.ofInt, mul_mk, show (1 * 1 : Nat) = 1 from rfl, norm_one,
    show 2 * c * n = 2 * (c * n) by rw [Nat.mul_assoc], half_two_mul, Int.natCast_mul]

theorem mul_pieceValue {k : Piece} (hk : k ≠ .none) (n : Nat) :
    ∃ v, pieceValue k = some v ∧ Q.mul v (half (2 * n)) = half (value2 k * n) := by
  cases k with
  | none => exact absurd rfl hk
  | bishop =>
    refine ⟨_, rfl, ?_⟩
    rw [half_two_mul, Q.halves, mul_mk, show (2 * 1 : Nat) = 2 from rfl]
    have : (7 : Int) * (n : Int) = ((7 * n : Nat) : Int) := by omega
    rw [this, norm_two]
    rfl
  | pawn => exact ⟨_, rfl, mul_int_half 1 n⟩
  | knight => exact ⟨_, rfl, mul_int_half 3 n⟩
  | rook => exact ⟨_, rfl, mul_int_half 5 n⟩
  | queen => exact ⟨_, rfl, mul_int_half 10 n⟩
  | king => exact ⟨_, rfl, mul_int_half 100 n⟩

theorem ofInt_half (c : Nat) : Q.ofInt ((c : Nat) : Int) = half (2 * c) := by
  rw [half_two_mul]; rfl

theorem materialStep_half (pos : Position) (turn : Color) (s : Nat) {piece : Piece} (hk : piece ≠ .none)
    (hs : s + value2 piece * popCount (pos.pieces turn piece) ≤ 2 ^ 24) :
    materialStep pos turn (half s) piece = some (half (s + value2 piece * popCount (pos.pieces turn piece))) := by
  have hc := popCount_le (pos.pieces turn piece)
  obtain ⟨v, hv1, hv2⟩ := mul_pieceValue hk (popCount (pos.pieces turn piece))
  have hcnt : pawnsOfInt (popCount (pos.pieces turn piece)) = some (half (2 * popCount (pos.pieces turn piece))) := by
    unfold pawnsOfInt
    rw [ofInt_half]
    exact rnd_half (by omega)
  have h1 : mul f32 v (half (2 * popCount (pos.pieces turn piece))) =
      some (half (value2 piece * popCount (pos.pieces turn piece))) := by
    unfold mul
    rw [hv2]
    exact rnd_half (by omega)
  have h2 : add f32 (half s) (half (value2 piece * popCount (pos.pieces turn piece))) =
      some (half (s + value2 piece * popCount (pos.pieces turn piece))) := by
    unfold add
    rw [add_half]
    exact rnd_half hs
  unfold materialStep
  rw [hv1, hcnt, Option.bind_some, Option.bind_some, h1, Option.bind_some, h2]

/-- twice the sum the loop adds for a list of pieces -/
def msum (pos : Position) (turn : Color) : List Piece → Nat
  | [] => 0
  | k :: l => value2 k * popCount (pos.pieces turn k) + msum pos turn l

theorem materialLoop_half (pos : Position) (turn : Color) : ∀ (l : List Piece) (s : Nat), (∀ k ∈ l, k ≠ .none) →
    s + 12800 * l.length ≤ 2 ^ 24 → materialLoop pos turn l (half s) = some (half (s + msum pos turn l))
  | [], s, _, _ => rfl
  | k :: l, s, h, hb => by
    have h1 : value2 k * popCount (pos.pieces turn k) ≤ 200 * 64 :=
      Nat.mul_le_mul (by cases k <;> decide) (popCount_le _)
    simp only [List.length_cons] at hb
    rw [materialLoop, materialStep_half pos turn s (h k (List.mem_cons_self ..)) (by omega), Option.bind_some,
      materialLoop_half pos turn l _ (fun x hx => h x (List.mem_cons_of_mem _ hx)) (by omega), msum, Nat.add_assoc]

/-- twice the sum that `material` computes -/
def material2 (pos : Position) (turn : Color) : Nat :=
  20 * popCount (pos.pieces turn .queen) + 10 * popCount (pos.pieces turn .rook) +
  6 * popCount (pos.pieces turn .knight) + 7 * popCount (pos.pieces turn .bishop) +
  2 * popCount (pos.pieces turn .pawn)

theorem material2_le (pos : Position) (turn : Color) : material2 pos turn ≤ 2880 := by
  unfold material2
  have := popCount_le (pos.pieces turn .queen)
  have := popCount_le (pos.pieces turn .rook)
  have := popCount_le (pos.pieces turn .knight)
  have := popCount_le (pos.pieces turn .bishop)
  have := popCount_le (pos.pieces turn .pawn)
  omega

theorem materialLoop_eq (pos : Position) (turn : Color) :
    materialLoop pos turn qrnbp q0 = some (half (material2 pos turn)) := by
  have el : qrnbp = [.queen, .rook, .knight, .bishop, .pawn] := by decide
  rw [show q0 = half 0 from rfl, el, materialLoop_half pos turn _ 0 (by decide) (by decide)]
  simp only [msum, value2, material2, Nat.zero_add, Nat.add_zero, Nat.add_assoc]

/-- twice the value of `material`: the sum, or 1 (half a pawn) for a bare king -/
def mat2 (pos : Position) (turn : Color) : Nat := if material2 pos turn = 0 then 1 else material2 pos turn

theorem half_beq_zero (k : Nat) : (half k).beq q0 = decide (k = 0) := by
  unfold half Q.beq q0
  by_cases h : k % 2 = 0
  · simp only [h, if_true]
    by_cases hk : k = 0
    · subst hk; simp
    · have : k / 2 ≠ 0 := by omega
      simp [hk]; omega
  · have hk : k ≠ 0 := by omega
    simp [h, hk]

theorem material_eq (pos : Position) (turn : Color) : material pos turn = some (half (mat2 pos turn)) := by
  unfold material mat2
  rw [materialLoop_eq]
  simp only [Option.map_some, half_beq_zero]
  by_cases h : material2 pos turn = 0
  · simp only [h, decide_true, if_true]; rfl
  · simp [h]

theorem mat2_pos (pos : Position) (turn : Color) : 1 ≤ mat2 pos turn := by
  unfold mat2; split <;> omega

theorem mat2_le (pos : Position) (turn : Color) : mat2 pos turn ≤ 2880 := by
  have := material2_le pos turn
  unfold mat2; split <;> omega

theorem half_den_pos (k : Nat) : 0 < (half k).den := by unfold half; split <;> simp

theorem half_value (k : Nat) : (half k).num * 2 = (k : Int) * ((half k).den : Int) := by
  unfold half
  split
  · show ((k / 2 : Nat) : Int) * 2 = (k : Int) * ((1 : Nat) : Int); omega
  · show ((k : Nat) : Int) * 2 = (k : Int) * ((2 : Nat) : Int); omega

end Morlock.Proofs.Turochamp
