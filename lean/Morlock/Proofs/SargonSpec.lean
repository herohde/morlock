import Morlock.Proofs.SargonSound
import Morlock.Spec.Pins
/-!
# SARGON: `FindPins` and the fronts of `FindAttackers` are the executable references of `Spec/Pins.lean`
-/
namespace Morlock.Proofs.Sargon
open Morlock Morlock.Model Morlock.Model.Sargon Morlock.Proofs.Attack Morlock.Proofs.Gen

theorem without_eq_lifted (o : Nat → Bool) (f : Nat) : without o f = Spec.lifted o f := rfl

theorem firstPiece_eq_some {o : Nat → Bool} {sq s : Nat} {df dr : Int} :
    Spec.firstPiece o sq df dr = some s ↔ (∃ pre, Spec.ray o sq df dr 8 = pre ++ [s]) ∧ o s = true := by
  unfold Spec.firstPiece
  cases h : (Spec.ray o sq df dr 8).getLast? with
  | none =>
    simp only [reduceCtorEq, false_iff, not_and]
    rintro ⟨pre, hp⟩
    rw [hp] at h; simp at h
  | some x =>
    obtain ⟨ys, hys⟩ := List.getLast?_eq_some_iff.mp h
    simp only []
    constructor
    · intro hx
      split at hx
      · cases hx; exact ⟨⟨ys, hys⟩, by assumption⟩
      · cases hx
    · rintro ⟨⟨pre, hp⟩, hos⟩
      have : x = s := by
        have := hys.symm.trans hp
        have := congrArg List.getLast? this
        simpa using this
      subst this
      simp [hos]

/-- **`PinLine` is "first man, then — with it lifted — first man again".** -/
theorem pinLine_iff_firstPiece {o : Nat → Bool} {t : Nat} {d : Int × Int} (hd : d ∈ Spec.rookDirs ++ Spec.bishopDirs)
    {f a : Nat} :
    PinLine o t d f a ↔
      Spec.firstPiece o t d.1 d.2 = some f ∧ Spec.firstPiece (Spec.lifted o f) t d.1 d.2 = some a := by
  rw [firstPiece_eq_some, firstPiece_eq_some, ← without_eq_lifted]
  have hnd := ray_nodup (without o f) hd 8 t
  constructor
  · rintro ⟨pre, mid, h1, h2, _, _, hof, hoa⟩
    refine ⟨⟨⟨pre, h2⟩, hof⟩, ⟨pre ++ f :: mid, by rw [h1]; simp⟩, ?_⟩
    rw [h1] at hnd
    have hne : a ≠ f := by
      intro c
      have h3 := (List.nodup_cons.mp (List.nodup_append.mp hnd).2.1).1
      exact h3 (by rw [c]; simp)
    simp [without, hoa, hne]
  · rintro ⟨⟨⟨pre0, h2⟩, hof⟩, ⟨ys, hL⟩, hoa'⟩
    have hoa : o a = true ∧ a ≠ f := by simpa [without] using hoa'
    have hndE := ray_nodup noOcc hd 8 t
    rw [ray_eq_takeThrough] at h2 hL
    obtain ⟨pre, S, hE, hpre⟩ := takeThrough_mem_occ o _ f (by rw [h2]; simp) hof
    rw [hE] at hL hndE
    rw [takeThrough_lift hndE hpre] at hL
    have haT : a ∈ takeThrough o S := by
      have : a ∈ pre ++ f :: takeThrough o S := by rw [hL]; simp
      rcases List.mem_append.mp this with h | h
      · have := hpre a h; rw [hoa.1] at this; cases this
      · rcases List.mem_cons.mp h with h | h
        · exact absurd h hoa.2
        · exact h
    obtain ⟨mid, rest, hS, hmid⟩ := takeThrough_mem_occ o S a haT hoa.1
    exact (pinLine_iff hd).mpr ⟨pre, mid, rest, by rw [hE, hS], hpre, hmid, hof, hoa.1⟩

theorem pinOnRay_eq_some {q : Spec.Pos} {side : Spec.Color} {slider : Spec.Kind} {t : Nat} {d : Int × Int} {a f t' : Nat} :
    Spec.pinOnRay q side slider t d = some (a, f, t') ↔
      t' = t ∧ Spec.firstPiece q.occ t d.1 d.2 = some f ∧ (∃ k, q.at f = some (side, k)) ∧
      Spec.firstPiece (Spec.lifted q.occ f) t d.1 d.2 = some a ∧
      (q.at a = some (side.opp, .queen) ∨ q.at a = some (side.opp, slider)) := by
  constructor
  · intro h
    unfold Spec.pinOnRay at h
    split at h
    · cases h
    · rename_i f0 h1
      split at h
      · rename_i c k0 h2
        split at h
        · rename_i hc
          subst hc
          split at h
          · cases h
          · rename_i a0 h3
            split at h
            · rename_i c' k' h4
              split at h
              · rename_i hcond
                cases h
                refine ⟨rfl, h1, ⟨k0, h2⟩, h3, ?_⟩
                rw [h4, hcond.1]
                rcases hcond.2 with e | e <;> rw [e] <;> simp
              · cases h
            · cases h
        · cases h
      · cases h
  · rintro ⟨rfl, h1, ⟨k, hk⟩, h2, hqa⟩
    unfold Spec.pinOnRay
    simp only [h1, hk, if_true, h2]
    rcases hqa with e | e <;> simp [e]

theorem kindOf_sliderOf {line : Spec.Kind} (h : IsLine line) : kindOf (sliderOf line) = line := by
  rcases h with rfl | rfl <;> rfl

theorem kindPiece_line {line : Spec.Kind} (h : IsLine line) : kindPiece line = sliderOf line := by
  rcases h with rfl | rfl <;> rfl

/-- **`findPins_eq_specPins`.** On every represented position `FindPins(pos, side, piece)` returns exactly the pins of the
    reference: the same set of `(attacker, pinned, target)` triples. -/
theorem findPins_eq_specPins {p : Position} {b : Board} (hrep : Rep p b) (turn side : Color) {piece : Piece} (hk : piece ≠ .none)
    (a f t : Nat) :
    ({ attacker := a, pinned := f, target := t } : Pin) ∈ findPins p side piece ↔
      (a, f, t) ∈ Spec.specPins (abs p turn) (absColor side) (kindOf piece) := by
  have hocc : (abs p turn).occ = occB b := hrep.abs_occ turn
  have hat : ∀ s c K, (abs p turn).at s = some (absColor c, K) ↔ b s = some (c, kindPiece K) := hrep.abs_at_iff turn
  have hspec : (a, f, t) ∈ Spec.specPins (abs p turn) (absColor side) (kindOf piece) ↔
      t < 64 ∧ b t = some (side, piece) ∧ ∃ line, IsLine line ∧ ∃ d ∈ dirsOf line,
        Spec.pinOnRay (abs p turn) (absColor side) line t d = some (a, f, t) := by
    unfold Spec.specPins
    simp only [List.mem_flatMap, Spec.allSquares, List.mem_range]
    constructor
    · rintro ⟨t0, ht0, hmem⟩
      split at hmem
      · rename_i htk
        have hbt := (hat t0 side (kindOf piece)).mp htk
        rw [kindPiece_kindOf hk] at hbt
        rcases List.mem_append.mp hmem with h | h
        · obtain ⟨d, hd, hp⟩ := List.mem_filterMap.mp h
          have : t = t0 := (pinOnRay_eq_some.mp hp).1
          subst this
          exact ⟨ht0, hbt, .rook, Or.inl rfl, d, hd, hp⟩
        · obtain ⟨d, hd, hp⟩ := List.mem_filterMap.mp h
          have : t = t0 := (pinOnRay_eq_some.mp hp).1
          subst this
          exact ⟨ht0, hbt, .bishop, Or.inr rfl, d, hd, hp⟩
      · cases hmem
    · rintro ⟨ht, hbt, line, hline, d, hd, hp⟩
      refine ⟨t, ht, ?_⟩
      have htk : (abs p turn).at t = some (absColor side, kindOf piece) := (hat t side _).mpr (by rw [kindPiece_kindOf hk]; exact hbt)
      rw [if_pos htk]
      rcases hline with rfl | rfl
      · exact List.mem_append_left _ (List.mem_filterMap.mpr ⟨d, hd, hp⟩)
      · exact List.mem_append_right _ (List.mem_filterMap.mpr ⟨d, hd, hp⟩)
  rw [hspec]
  constructor
  · intro hpin
    obtain ⟨hbt, ⟨kp, hbp⟩, line, hline, hba, d, hd, hpl⟩ := findPins_sound hrep side hk hpin
    have ht : t < 64 := hrep.lt_of_some hbt
    refine ⟨ht, hbt, line, hline, d, hd, ?_⟩
    obtain ⟨h1, h2⟩ := (pinLine_iff_firstPiece (dirsOf_sub hline hd)).mp hpl
    rw [pinOnRay_eq_some, hocc]
    refine ⟨rfl, h1, ⟨kindOf kp, (hat f side _).mpr (by rw [kindPiece_kindOf (hrep.ne_none_of_some hbp)]; exact hbp)⟩, h2, ?_⟩
    rw [← Mirror.absColor_opp']
    rcases hba with h | h
    · left; exact (hat a side.opp .queen).mpr h
    · right; exact (hat a side.opp line).mpr (by rw [kindPiece_line hline]; exact h)
  · rintro ⟨ht, hbt, line, hline, d, hd, hp⟩
    rw [pinOnRay_eq_some, hocc] at hp
    obtain ⟨_, h1, ⟨kf, hkf⟩, h2, hqa⟩ := hp
    have hbp := (hat f side kf).mp hkf
    have hpl := (pinLine_iff_firstPiece (dirsOf_sub hline hd)).mpr ⟨h1, h2⟩
    rw [← Mirror.absColor_opp'] at hqa
    have hba : b a = some (side.opp, .queen) ∨ b a = some (side.opp, sliderOf line) := by
      rcases hqa with h | h
      · left; exact (hat a side.opp .queen).mp h
      · right; have := (hat a side.opp line).mp h; rw [kindPiece_line hline] at this; exact this
    exact findPins_complete hrep side hk hbt hbp hline hba hd hpl

/-- **`findAttackers_fronts_eq_specDirect`.** The squares heading the stacks of `FindAttackers(pos, pins, t, side)` are exactly
    the reference's direct attackers of `t`: the men of `side` attacking `t` by the rules and not pinned away from `t`. -/
theorem findAttackers_fronts_eq_specDirect {p : Position} {b : Board} (hrep : Rep p b) (turn : Color) (pins : Pins) {t : Nat}
    (ht : t < 64) (side : Color) {l : List Attacker} (hl : findAttackers p pins t side = .ok l) (s : Nat) :
    (∃ a ∈ l, a.front.square = s) ↔
      s ∈ Spec.specDirect (abs p turn) (fun s => isPinnedFor pins s t) t (absColor side) := by
  have hocc : (abs p turn).occ = occB b := hrep.abs_occ turn
  obtain ⟨hsound, hcomplete⟩ := findAttackers_sound hrep pins ht side hl
  unfold Spec.specDirect
  simp only [List.mem_filter, Spec.allSquares, List.mem_range]
  constructor
  · rintro ⟨a, ha, rfl⟩
    obtain ⟨hcol, hb, hatt, hpin, _⟩ := hsound a ha
    have hs := hrep.lt_of_some hb
    have hne := hrep.ne_none_of_some hb
    have hcell : (abs p turn).at a.front.square = some (absColor side, kindOf a.front.piece) :=
      (hrep.abs_at_iff turn _ side _).mpr (by rw [kindPiece_kindOf hne]; exact hb)
    refine ⟨hs, ?_⟩
    rw [hcell]
    simp only [decide_true, Bool.true_and, hpin, Bool.not_false]
    unfold Spec.attacksSq
    rcases hatt with ⟨hp, hin⟩ | ⟨hp, _, hin⟩
    · rw [hp]; simp [kindOf, hin]
    · have : kindOf a.front.piece ≠ .pawn := kindOf_ne_pawn hne hp
      rw [if_neg this, hocc]; simpa using hin
  · rintro ⟨hs, hcond⟩
    cases hcell : (abs p turn).at s with
    | none => rw [hcell] at hcond; cases hcond
    | some ck =>
      obtain ⟨c, K⟩ := ck
      rw [hcell] at hcond
      simp only [Bool.and_eq_true, decide_eq_true_eq, Bool.not_eq_true'] at hcond
      obtain ⟨⟨hc, hpin⟩, hatt⟩ := hcond
      subst hc
      have hb := (hrep.abs_at_iff turn s side K).mp hcell
      apply hcomplete s (kindPiece K) hb _ hpin
      unfold Spec.attacksSq at hatt
      by_cases hK : K = .pawn
      · subst hK
        left; exact ⟨rfl, by simpa using hatt⟩
      · right
        rw [if_neg hK, hocc] at hatt
        refine ⟨?_, ?_, ?_⟩
        · intro c; apply hK; rw [← kindOf_kindPiece K, c]; rfl
        · cases K <;> simp [kindPiece]
        · rw [kindOf_kindPiece]; simpa using hatt

end Morlock.Proofs.Sargon
