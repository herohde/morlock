import Morlock.Proofs.FenSquare
/-!
# `fen.Decode` field by field

`decode s = some d` holds exactly when the trimmed line splits into
six fields each of which its reader accepts, the placement cursor ends on `-1`, both clocks are
non-negative and `NewPosition` accepts the placements. Plus the ranges of the values the field
readers can return.
-/
namespace Morlock.Proofs.Fen
open Morlock Morlock.Model Morlock.Model.Fen

/-- The two branches of the target field continue alike. -/
theorem ite_bind {α β : Type} (c : Prop) [Decidable c] (a b : Option α) (f : α → Option β) :
    (if c then a.bind f else b.bind f) = (if c then a else b).bind f := by
  split <;> rfl

theorem decode_eq_some_iff {s : List Char} {d : Decoded} :
    decode s = some d ↔
    ∃ p0 p1 p2 p3 p4 p5 pl cr ep,
      splitSpaces (trimSpace s) = [p0, p1, p2, p3, p4, p5] ∧
      placements p0 63 [] = some (-1, pl) ∧
      parseColor p1 = some d.turn ∧
      parseCastling p2 = some cr ∧
      (if p3 = ['-'] then some 0 else parseSquareStr p3) = some ep ∧
      atoi p4 = some d.noprogress ∧ 0 ≤ d.noprogress ∧
      atoi p5 = some d.fullmoves ∧ 0 ≤ d.fullmoves ∧
      Position.newPosition pl cr ep = some d.pos := by
  unfold decode
  split
  · rename_i p0 p1 p2 p3 p4 p5 hs
    simp only [Option.bind_eq_bind, Option.bind_none, ite_bind, Option.bind_eq_some_iff,
      Option.ite_none_left_eq_some, Option.pure_def, Option.some.injEq, hs, List.cons.injEq, and_true]
    constructor
    · rintro ⟨⟨sq, pl⟩, h0, hsq, c, h1, cr, h2, ep, h3, np, h4, hnp, fm, h5, hfm, pos, h6, rfl⟩
      have hsq' : sq = -1 := by simp only [ne_eq, Decidable.not_not] at hsq; omega
      subst hsq'
      exact ⟨p0, p1, p2, p3, p4, p5, pl, cr, ep, ⟨rfl, rfl, rfl, rfl, rfl, rfl⟩, h0, h1, h2, h3, h4, Int.not_lt.mp hnp, h5, Int.not_lt.mp hfm, h6⟩
    · rintro ⟨_, _, _, _, _, _, pl, cr, ep, ⟨rfl, rfl, rfl, rfl, rfl, rfl⟩, h0, h1, h2, h3, h4, hnp, h5, hfm, h6⟩
      exact ⟨_, h0, by simp, _, h1, cr, h2, ep, h3, _, h4, Int.not_lt.mpr hnp, _, h5, Int.not_lt.mpr hfm, _, h6, rfl⟩
  · rename_i hne
    constructor
    · intro h; cases h
    · rintro ⟨p0, p1, p2, p3, p4, p5, _, _, _, hs, _⟩
      exact absurd hs (hne p0 p1 p2 p3 p4 p5)

theorem decode_of_fields {s p0 p1 p2 p3 p4 p5 : List Char} {pl c cr ep np fm pos}
    (hs : splitSpaces (trimSpace s) = [p0, p1, p2, p3, p4, p5])
    (h0 : placements p0 63 [] = some (-1, pl))
    (h1 : parseColor p1 = some c)
    (h2 : parseCastling p2 = some cr)
    (h3 : (if p3 = ['-'] then some 0 else parseSquareStr p3) = some ep)
    (h4 : atoi p4 = some np) (h4' : 0 ≤ np)
    (h5 : atoi p5 = some fm) (h5' : 0 ≤ fm)
    (h6 : Position.newPosition pl cr ep = some pos) :
    decode s = some ⟨pos, c, np, fm⟩ :=
  decode_eq_some_iff.mpr ⟨p0, p1, p2, p3, p4, p5, pl, cr, ep, hs, h0, h1, h2, h3, h4, h4', h5, h5', h6⟩

theorem atoi_range {p : List Char} {v : Int} (h : atoi p = some v) :
    -9223372036854775808 ≤ v ∧ v ≤ 9223372036854775807 := by
  unfold atoi at h
  split at h
  rename_i x neg ds heq
  split at h
  · cases h
  · simp only at h
    split at h
    · split at h
      · cases h; omega
      · cases h
    · split at h
      · cases h; omega
      · cases h

theorem parseCastling_lt {s : List Char} {r : Nat} (h : parseCastling s = some r) : r < 16 := by
  unfold parseCastling at h
  split at h
  · cases h; decide
  · rename_i hne; clear hne
    have h0 : (0 : Nat) < 16 := by decide
    revert h h0
    generalize (0 : Nat) = acc
    intro h hacc
    induction s generalizing acc with
    | nil => simp only [List.foldlM_nil] at h; cases h; exact hacc
    | cons c cs ih =>
      simp only [List.foldlM_cons, Option.bind_eq_bind, Option.bind_eq_some_iff] at h
      obtain ⟨a, ha, h⟩ := h
      refine ih a h ?_
      -- each step ors one of the four bits in, or fails
      have h16 : ∀ x, x < 16 → acc ||| x < 16 := fun x hx => Nat.or_lt_two_pow (n := 4) hacc hx
      split at ha <;> first | (cases ha; exact h16 _ (by decide)) | cases ha

theorem parseSquareStr_lt {s : List Char} {sq : Nat} (h : parseSquareStr s = some sq) : sq < 64 := by
  unfold parseSquareStr at h
  split at h
  · unfold parseSquare at h
    simp only [Option.bind_eq_bind, Option.bind_eq_some_iff] at h
    obtain ⟨f, _, r, _, h⟩ := h
    cases h
    exact newSquare_lt f r
  · cases h

theorem epField_lt {p3 : List Char} {ep : Nat}
    (h : (if p3 = ['-'] then some 0 else parseSquareStr p3) = some ep) : ep < 64 := by
  split at h
  · cases h; decide
  · exact parseSquareStr_lt h

end Morlock.Proofs.Fen
