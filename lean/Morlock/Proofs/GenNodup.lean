import Morlock.Proofs.GenMeta
/-!
# Stage E of C01 (continued): the generator emits no move twice, and distinct generated moves stay
distinct under `absMove`
-/
namespace Morlock.Proofs.Gen
open Morlock Morlock.Model Morlock.Proofs.Attack

variable {p : Position} {b : Board} {turn : Color} {m : Move} {castling ep fr sq : Nat}

theorem nodup_flatMap_of_key {α β : Type} {l : List α} {f : α → List β} (key : β → α) (hl : l.Nodup)
    (hf : ∀ a ∈ l, (f a).Nodup) (hk : ∀ a ∈ l, ∀ x ∈ f a, key x = a) : (l.flatMap f).Nodup := by
  rw [List.nodup_iff_pairwise_ne, List.pairwise_flatMap]
  refine ⟨hf, ?_⟩
  refine List.Pairwise.imp_of_mem ?_ hl
  intro a a' ha ha' hne x hx y hy e
  exact hne (by rw [← hk a ha x hx, ← hk a' ha' y hy, e])

theorem nodup_map_of_inj {α β : Type} {l : List α} {f : α → β} (hl : l.Nodup)
    (hf : ∀ a ∈ l, ∀ a' ∈ l, f a = f a' → a = a') : (l.map f).Nodup := by
  rw [List.nodup_iff_pairwise_ne, List.pairwise_map]
  refine List.Pairwise.imp_of_mem ?_ hl
  intro a a' ha ha' hne e
  exact hne (hf a ha a' ha' e)

theorem nodup_filterMap_of_key {α β : Type} {l : List α} {f : α → Option β} (key : β → α) (hl : l.Nodup)
    (hk : ∀ a ∈ l, ∀ x, f a = some x → key x = a) : (l.filterMap f).Nodup := by
  rw [List.nodup_iff_pairwise_ne, List.pairwise_filterMap]
  refine List.Pairwise.imp_of_mem ?_ hl
  intro a a' ha ha' hne x hx y hy e
  exact hne (by rw [← hk a ha x hx, ← hk a' ha' y hy, e])

/-- Appending a duplicate-free block whose elements all carry the key `k`, new among the keys `ks` seen so far. -/
theorem nodup_append_key {α β : Type} (key : α → β) {l1 l2 : List α} {ks : List β} {k : β}
    (h1 : l1.Nodup ∧ ∀ x ∈ l1, key x ∈ ks) (h2 : l2.Nodup) (hk2 : ∀ x ∈ l2, key x = k) (hne : k ∉ ks) :
    (l1 ++ l2).Nodup ∧ ∀ x ∈ l1 ++ l2, key x ∈ k :: ks := by
  refine ⟨List.nodup_append.mpr ⟨h1.1, h2, fun a ha b hb e => hne ?_⟩, fun x hx => ?_⟩
  · rw [← hk2 b hb, ← e]; exact h1.2 a ha
  · rcases List.mem_append.mp hx with hx | hx
    · exact List.mem_cons_of_mem _ (h1.2 x hx)
    · rw [hk2 x hx]; exact List.mem_cons_self

theorem nodup_key_single {α β : Type} (key : α → β) {l : List α} {k : β} (h : l.Nodup) (hk : ∀ x ∈ l, key x = k) :
    l.Nodup ∧ ∀ x ∈ l, key x ∈ [k] :=
  ⟨h, fun x hx => List.mem_singleton.mpr (hk x hx)⟩

theorem emitMove_nodup (p : Position) (turn : Color) (t : MoveType) (piece : Piece) (fr : Nat) {ab : Nat}
    (hab : ab < 2 ^ 64) : (p.emitMove turn t piece fr ab).Nodup := by
  unfold Position.emitMove
  apply nodup_map_of_inj (toSquares_nodup hab)
  intro a _ a' _ e
  exact congrArg Move.to e

theorem emitPromo_nodup (p : Position) (turn : Color) (t : MoveType) (piece : Piece) (fr : Nat) {ab : Nat}
    (hab : ab < 2 ^ 64) : (p.emitPromo turn t piece fr ab).Nodup := by
  unfold Position.emitPromo
  apply nodup_flatMap_of_key Move.to (toSquares_nodup hab)
  · intro to _
    apply nodup_map_of_inj (by rw [promoPieces_eq]; decide)
    intro a _ a' _ e
    exact congrArg Move.promotion e
  · intro to _ x hx
    simp only [List.mem_map] at hx
    obtain ⟨pc, _, rfl⟩ := hx
    rfl

theorem ty_of_mem_emitMove {t : MoveType} {piece : Piece} {fr ab : Nat}
    (h : m ∈ p.emitMove turn t piece fr ab) : m.ty = t ∧ m.from = fr ∧ m.piece = piece := by
  unfold Position.emitMove at h
  simp only [List.mem_map] at h
  obtain ⟨to, _, rfl⟩ := h
  exact ⟨rfl, rfl, rfl⟩

theorem ty_of_mem_emitPromo {t : MoveType} {piece : Piece} {fr ab : Nat}
    (h : m ∈ p.emitPromo turn t piece fr ab) : m.ty = t ∧ m.from = fr ∧ m.piece = piece := by
  unfold Position.emitPromo at h
  simp only [List.mem_flatMap, List.mem_map] at h
  obtain ⟨to, _, pc, _, rfl⟩ := h
  exact ⟨rfl, rfl, rfl⟩

theorem genSteps_nodup (p : Position) (turn : Color) (piece : Piece) (fr : Nat) :
    (genSteps p turn piece fr).Nodup := by
  unfold genSteps
  have hab : ((attackboard p.rotated fr piece).getD 0) &&& not64 (p.pieces turn .none) < 2 ^ 64 :=
    and_lt_right _ (not64_lt _)
  exact (nodup_append_key Move.ty
    (nodup_key_single Move.ty (emitMove_nodup _ _ _ _ _ (and_lt_left _ hab)) fun x hx => (ty_of_mem_emitMove hx).1)
    (emitMove_nodup _ _ _ _ _ (and_lt_left _ hab)) (fun x hx => (ty_of_mem_emitMove hx).1) (by decide)).1

theorem from_of_mem_genSteps {piece : Piece}
    (h : m ∈ genSteps p turn piece fr) :
    m.from = fr ∧ m.piece = piece ∧ (m.ty = .normal ∨ m.ty = .capture) := by
  unfold genSteps at h
  rw [List.mem_append] at h
  rcases h with h | h
  · obtain ⟨a, b, c⟩ := ty_of_mem_emitMove h; exact ⟨b, c, Or.inl a⟩
  · obtain ⟨a, b, c⟩ := ty_of_mem_emitMove h; exact ⟨b, c, Or.inr a⟩

theorem genOfficers_nodup (h : Rep p b) (turn : Color) :
    (genOfficers p turn).Nodup := by
  unfold genOfficers
  apply nodup_flatMap_of_key Move.piece (by rw [promoPieces_eq]; decide)
  · intro piece _
    apply nodup_flatMap_of_key Move.from (toSquares_nodup (h.piecesLt turn piece))
    · intro fr _; exact genSteps_nodup p turn piece fr
    · intro fr _ x hx; exact (from_of_mem_genSteps hx).1
  · intro piece _ x hx
    simp only [List.mem_flatMap] at hx
    obtain ⟨fr, _, hx⟩ := hx
    exact (from_of_mem_genSteps hx).2.1

theorem genPawn_nodup (p : Position) (turn : Color) (fr : Nat) : (genPawn p turn fr).Nodup := by
  have hcb := pawnCaptureboard_lt turn fr
  have hpb := pawnMoveboard_lt p.rotated.rot turn (bitMask fr)
  have tm := fun {t ab} x (hx : x ∈ p.emitMove turn t .pawn fr ab) => (ty_of_mem_emitMove hx).1
  have tp := fun {t ab} x (hx : x ∈ p.emitPromo turn t .pawn fr ab) => (ty_of_mem_emitPromo hx).1
  unfold genPawn
  -- six blocks, told apart by the move type; each board is cut from a 64-bit one
  refine And.left (nodup_append_key Move.ty (nodup_append_key Move.ty (nodup_append_key Move.ty
    (nodup_append_key Move.ty (nodup_append_key Move.ty
      (nodup_key_single Move.ty (emitMove_nodup _ _ _ _ _ (andNot_lt _ (and_lt_left _ (and_lt_left _ hcb)))) tm)
      (emitMove_nodup _ _ _ _ _ (andNot_lt _ hpb)) tm (by decide))
      (emitMove_nodup _ _ _ _ _ (and_lt_left _ (pawnMoveboard_lt _ _ _))) tm (by decide))
      (emitPromo_nodup _ _ _ _ _ (and_lt_left _ (and_lt_left _ (and_lt_left _ hcb)))) tp (by decide))
      (emitPromo_nodup _ _ _ _ _ (and_lt_left _ hpb)) tp (by decide)) ?_ ?_ (k := .enPassant) (by decide))
  · split
    · exact emitMove_nodup _ _ _ _ _ (and_lt_left _ (and_lt_left _ hcb))
    · exact List.nodup_nil
  · intro x hx
    split at hx
    · exact tm x hx
    · cases hx

theorem from_of_mem_genPawn
    (h : m ∈ genPawn p turn fr) : m.from = fr ∧ m.piece = .pawn := by
  unfold genPawn at h
  simp only [List.mem_append] at h
  rcases h with ((((h | h) | h) | h) | h) | h
  · exact (ty_of_mem_emitMove h).2
  · exact (ty_of_mem_emitMove h).2
  · exact (ty_of_mem_emitMove h).2
  · exact (ty_of_mem_emitPromo h).2
  · exact (ty_of_mem_emitPromo h).2
  · split at h
    · exact (ty_of_mem_emitMove h).2
    · cases h

theorem genPawns_nodup (h : Rep p b) (turn : Color) :
    (genPawns p turn).Nodup := by
  unfold genPawns
  apply nodup_flatMap_of_key Move.from (toSquares_nodup (h.piecesLt turn .pawn))
  · intro fr _; exact genPawn_nodup p turn fr
  · intro fr _ x hx; exact (from_of_mem_genPawn hx).1

theorem genCastle_nodup (p : Position) (turn : Color) (fr right : Nat) (cmask : List Nat) (rookSq : Nat)
    (t : MoveType) (to : Nat) : (genCastle p turn fr right cmask rookSq t to).Nodup := by
  unfold genCastle
  split
  · exact emitMove_nodup _ _ _ _ _ (bitMask_lt_M64 to)
  · exact List.nodup_nil

theorem ty_of_mem_genCastle {fr right : Nat} {cmask : List Nat} {rookSq : Nat}
    {t : MoveType} {to : Nat} (h : m ∈ genCastle p turn fr right cmask rookSq t to) :
    m.ty = t ∧ m.piece = .king := by
  unfold genCastle at h
  split at h
  · exact ⟨(ty_of_mem_emitMove h).1, (ty_of_mem_emitMove h).2.2⟩
  · cases h

theorem genCastles_nodup (p : Position) (turn : Color) (fr : Nat) : (genCastles p turn fr).Nodup := by
  cases turn <;> simp only [genCastles]
  all_goals
    exact (nodup_append_key Move.ty
      (nodup_key_single Move.ty (genCastle_nodup ..) fun x hx => (ty_of_mem_genCastle hx).1)
      (genCastle_nodup ..) (fun x hx => (ty_of_mem_genCastle hx).1) (by decide)).1

theorem ty_of_mem_genCastles
    (h : m ∈ genCastles p turn fr) :
    (m.ty = .kingSideCastle ∨ m.ty = .queenSideCastle) ∧ m.piece = .king := by
  cases turn <;> simp only [genCastles, List.mem_append] at h
  all_goals
    rcases h with h | h
    · exact ⟨Or.inl (ty_of_mem_genCastle h).1, (ty_of_mem_genCastle h).2⟩
    · exact ⟨Or.inr (ty_of_mem_genCastle h).1, (ty_of_mem_genCastle h).2⟩

theorem genKing_nodup (p : Position) (turn : Color) : (genKing p turn).Nodup := by
  unfold genKing
  split
  · exact List.nodup_nil
  · rw [List.nodup_append]
    refine ⟨genSteps_nodup .., genCastles_nodup .., ?_⟩
    intro a ha b hb e
    have h1 := (from_of_mem_genSteps ha).2.2
    have h2 := (ty_of_mem_genCastles hb).1
    subst e
    rcases h1 with h1 | h1 <;> rcases h2 with h2 | h2 <;> rw [h1] at h2 <;> cases h2

theorem piece_of_mem_genKing (h : m ∈ genKing p turn) :
    m.piece = .king := by
  unfold genKing at h
  split at h
  · cases h
  · rw [List.mem_append] at h
    rcases h with h | h
    · exact (from_of_mem_genSteps h).2.1
    · exact (ty_of_mem_genCastles h).2

theorem piece_of_mem_genOfficers (h : m ∈ genOfficers p turn) :
    m.piece ∈ Position.promoPieces := by
  unfold genOfficers at h
  simp only [List.mem_flatMap] at h
  obtain ⟨pc, hpc, fr, _, hx⟩ := h
  rw [(from_of_mem_genSteps hx).2.1]; exact hpc

theorem piece_of_mem_genPawns (h : m ∈ genPawns p turn) :
    m.piece = .pawn := by
  unfold genPawns at h
  simp only [List.mem_flatMap] at h
  obtain ⟨fr, _, hx⟩ := h
  exact (from_of_mem_genPawn hx).2

theorem pseudoLegalMoves_nodup (h : Rep p b) (turn : Color) :
    (p.pseudoLegalMoves turn).Nodup := by
  rw [pseudoLegalMoves_eq, List.nodup_append, List.nodup_append]
  refine ⟨⟨genOfficers_nodup h turn, genPawns_nodup h turn, ?_⟩, genKing_nodup p turn, ?_⟩
  · intro a ha b hb e
    have h1 := piece_of_mem_genOfficers ha
    have h2 := piece_of_mem_genPawns hb
    rw [e, h2, mem_promoPieces] at h1
    simp at h1
  · intro a ha b hb e
    have h2 := piece_of_mem_genKing hb
    rw [List.mem_append] at ha
    rcases ha with ha | ha
    · have h1 := piece_of_mem_genOfficers ha
      rw [e, h2, mem_promoPieces] at h1
      simp at h1
    · have h1 := piece_of_mem_genPawns ha
      rw [e, h2] at h1; cases h1

/-- The move type as a function of the board and `(from, to, promotion)`. -/
def tyOf (b : Board) (m : Move) : MoveType :=
  match b m.from with
  | some (_, .pawn) =>
    if m.from % 8 = m.to % 8 then
      (if m.from / 8 + 2 = m.to / 8 ∨ m.to / 8 + 2 = m.from / 8 then .jump
       else if m.promotion = .none then .push else .promotion)
    else if (b m.to).isNone then .enPassant
    else if m.promotion = .none then .capture else .capturePromotion
  | some (_, .king) =>
    if m.from % 8 = 3 ∧ m.to % 8 = 1 then .kingSideCastle
    else if m.from % 8 = 3 ∧ m.to % 8 = 5 then .queenSideCastle
    else if (b m.to).isNone then .normal else .capture
  | _ => if (b m.to).isNone then .normal else .capture

theorem StepMove.features {pc : Piece} (hpw : pc ≠ .pawn)
    (hm : StepMove b turn pc m) :
    b m.from = some (turn, m.piece) ∧ m.capture = capAt b m.to turn ∧ m.ty = tyOf b m := by
  obtain ⟨hsq, hpc, hpr, ht, hd⟩ := hm
  refine ⟨by rw [hpc]; exact hsq, ?_, ?_⟩
  · rcases hd with ⟨hn, _, hc⟩ | ⟨k, hk, _, hc⟩
    · rw [hc, capAt_empty hn]
    · rw [hc, capAt_enemy hk]
  · have hbase : m.ty = if (b m.to).isNone then .normal else .capture := by
      rcases hd with ⟨hn, hty, _⟩ | ⟨k, hk, hty, _⟩
      · rw [hty, hn]; rfl
      · rw [hty, hk]; rfl
    unfold tyOf
    rw [hsq]
    cases pc
    case pawn => exact absurd rfl hpw
    case king =>
      simp only
      rw [if_neg (fun e => (king_target_file ht e.1).1 e.2), if_neg (fun e => (king_target_file ht e.1).2 e.2)]
      exact hbase
    all_goals exact hbase

/-- Of the en-passant target the features of a pawn move need only this: no enemy piece stands on it. -/
theorem PawnMove.features_of_ep {ep : Nat}
    (hep : ep ≠ 0 → ∀ k, b ep ≠ some (turn.opp, k)) (hm : PawnMove b ep turn m) :
    b m.from = some (turn, m.piece) ∧ m.capture = capAt b m.to turn ∧ m.ty = tyOf b m := by
  obtain ⟨hsq, hpc, hk⟩ := hm
  refine ⟨by rw [hpc]; exact hsq, ?_⟩
  unfold tyOf
  rw [hsq]
  simp only
  rcases hk with ⟨hst, hb, hcap, hr⟩ | ⟨t1, hst1, hst2, hstart, hb1, hb2, hty, hpr, hcap⟩ |
    ⟨ht, k, hk, hcap, hr⟩ | ⟨he, hto, ht, hown, hty, hpr, hcap⟩
  · obtain ⟨hf, hr1, hr2⟩ := push_geo hst
    have hr12 : ¬ (m.from / 8 + 2 = m.to / 8 ∨ m.to / 8 + 2 = m.from / 8) := not_or.mpr ⟨hr1, hr2⟩
    refine ⟨by rw [hcap, capAt_empty hb], ?_⟩
    rw [if_pos hf, if_neg hr12]
    rcases hr with ⟨_, hty, hpr⟩ | ⟨_, hty, hpr⟩
    · rw [if_pos hpr, hty]
    · rw [if_neg (ne_none_of_mem_promoPieces hpr), hty]
  · obtain ⟨hf, hdbl, _⟩ := jump_geo hst1 hst2
    refine ⟨by rw [hcap, capAt_empty hb2], ?_⟩
    rw [if_pos hf, if_pos hdbl, hty]
  · have hf : ¬ (m.from % 8 = m.to % 8) := (pawnTarget_geo ht).1
    refine ⟨by rw [hcap, capAt_enemy hk], ?_⟩
    rw [if_neg hf, hk]
    simp only [Option.isNone_some, Bool.false_eq_true, if_false]
    rcases hr with ⟨_, hty, hpr⟩ | ⟨_, hty, hpr⟩
    · rw [if_pos hpr, hty]
    · rw [if_neg (ne_none_of_mem_promoPieces hpr), hty]
  · have hopp : colAt b m.to turn.opp = false := by
      cases hc : colAt b m.to turn.opp with
      | false => rfl
      | true =>
        obtain ⟨k, hk⟩ := colAt_enemy_iff.mp hc
        exact absurd (hto ▸ hk) (hep he k)
    have hempty := colAt_none_iff.mp ⟨hown, hopp⟩
    have hf : ¬ (m.from % 8 = m.to % 8) := (pawnTarget_geo ht).1
    refine ⟨by rw [hcap, capAt_empty hempty], ?_⟩
    rw [if_neg hf, hempty]
    simp only [Option.isNone_none, if_true]
    exact hty

theorem PawnMove.features (hw : WFb b castling ep turn)
    (hm : PawnMove b ep turn m) :
    b m.from = some (turn, m.piece) ∧ m.capture = capAt b m.to turn ∧ m.ty = tyOf b m :=
  hm.features_of_ep fun he k h => by rw [(hw.ep_ok he).2.1] at h; cases h

/-- The features of a castle need the king on its home square, wherever that fact comes from. -/
theorem CastleMove.features_of_king {castling : Nat}
    (hk : b m.from = some (turn, .king)) (hfr : m.from = kingHomeSq turn) (hm : CastleMove b castling turn m) :
    b m.from = some (turn, m.piece) ∧ m.capture = capAt b m.to turn ∧ m.ty = tyOf b m := by
  obtain ⟨cs, hcs, hr, hempty, hrook, hty, hpc, hto, hpr, hcap⟩ := hm
  obtain ⟨_, htoM, _, _, _, hkind, he3, _⟩ := castleParams_spec turn cs hcs
  have hbto : b m.to = none := by rw [hto]; exact hempty _ htoM
  refine ⟨by rw [hpc]; exact hk, by rw [hcap, capAt_empty hbto], ?_⟩
  unfold tyOf
  rw [hk]
  simp only
  rw [hfr, hty, hto]
  rcases hkind with ⟨e, f⟩ | ⟨e, f⟩
  · rw [if_pos ⟨he3, f⟩, e]
  · rw [if_neg (fun g => by rw [f] at g; cases g.2), if_pos ⟨he3, f⟩, e]

theorem CastleMove.features {turn t : Color} (hw : WFb b castling ep t)
    (hm : CastleMove b castling turn m) (hfr : m.from = kingHomeSq turn) :
    b m.from = some (turn, m.piece) ∧ m.capture = capAt b m.to turn ∧ m.ty = tyOf b m :=
  hm.features_of_king (by rw [hfr]; exact hm.kingHome hw) hfr

/-- Every generated move: the moving piece, the captured piece and the type are functions of the
    board and `(from, to, promotion)`. -/
theorem PseudoMove.features (hw : WFb b castling ep turn)
    (hm : PseudoMove b castling ep turn m) :
    b m.from = some (turn, m.piece) ∧ m.capture = capAt b m.to turn ∧ m.ty = tyOf b m :=
  hm.elim (fun _ hpw hs => hs.features hpw) (fun hp => hp.features hw) (fun hf hc => hc.features hw hf)

theorem absKind_inj {a b : Piece} (h : absKind a = absKind b) : a = b := by
  cases a <;> cases b <;> simp [absKind] at h ⊢

theorem absMove_inj_of_features {m1 m2 : Move}
    (h1 : b m1.from = some (turn, m1.piece) ∧ m1.capture = capAt b m1.to turn ∧ m1.ty = tyOf b m1)
    (h2 : b m2.from = some (turn, m2.piece) ∧ m2.capture = capAt b m2.to turn ∧ m2.ty = tyOf b m2)
    (e : absMove m1 = absMove m2) : m1 = m2 := by
  obtain ⟨a1, b1, c1⟩ := h1
  obtain ⟨a2, b2, c2⟩ := h2
  simp only [absMove, Spec.SMove.mk.injEq] at e
  obtain ⟨ef, et, ep'⟩ := e
  have epr := absKind_inj ep'
  have epc : m1.piece = m2.piece := by
    rw [ef, a2] at a1
    exact ((Prod.mk.inj (Option.some.inj a1)).2).symm
  have ecap : m1.capture = m2.capture := by rw [b1, b2, et]
  have ety : m1.ty = m2.ty := by
    rw [c1, c2]; unfold tyOf; rw [ef, et, epr]
  cases m1; cases m2
  simp only at ef et epr epc ecap ety
  subst ef et epr epc ecap ety
  rfl

theorem PseudoMove.absMove_inj (hw : WFb b castling ep turn)
    {m1 m2 : Move} (h1 : PseudoMove b castling ep turn m1) (h2 : PseudoMove b castling ep turn m2)
    (e : absMove m1 = absMove m2) : m1 = m2 :=
  absMove_inj_of_features (h1.features hw) (h2.features hw) e

theorem pseudo_nodup_aux (h : Rep p b)
    (hw : WFb b p.castling p.enpassant turn) : ((p.pseudoLegalMoves turn).map absMove).Nodup := by
  apply nodup_map_of_inj (pseudoLegalMoves_nodup h turn)
  intro a ha a' ha' e
  exact PseudoMove.absMove_inj hw ((mem_pseudoLegalMoves h hw a).mp ha) ((mem_pseudoLegalMoves h hw a').mp ha') e

end Morlock.Proofs.Gen
