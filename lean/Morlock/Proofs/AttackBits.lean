import Morlock.Proofs.RepBits
import Morlock.Spec.Chess
/-!
# Bit-level helper lemmas for property C06 (attack tables = ray geometry)

`toBB` turns a list of squares into a bitboard. The lemmas about `bitMask` and `isSet` are in `RepBits`;
`bitMask_eq`, `bitMask_lt` restate two of them with the argument order of the `Attack*` files.
-/
namespace Morlock.Proofs.Attack
open Morlock Morlock.Model

/-- The bitboard with exactly the listed squares set. -/
def toBB (l : List Nat) : Nat := l.foldl (fun acc s => acc ||| (1 <<< s)) 0

theorem bitMask_eq {sq : Nat} (h : sq < 64) : bitMask sq = 2 ^ sq := Proofs.bitMask_lt h

theorem bitMask_eq' {sq : Nat} (h : sq < 64) : bitMask sq = 1 <<< sq := by
  rw [bitMask_eq h, Nat.one_shiftLeft]

theorem bitMask_and_ne_zero {b : Nat} (x : Nat) (h : b < 64) : (bitMask b &&& x != 0) = x.testBit b := by
  rw [bitMask_eq h, Nat.and_comm, and_two_pow_ne_zero]

theorem bitMask_lt {sq : Nat} (_ : sq < 64) : bitMask sq < 2 ^ 64 := bitMask_lt_M64 sq

theorem lineState_testBit (x off mask i : Nat) :
    ((x >>> off) &&& mask).testBit i = (x.testBit (off + i) && mask.testBit i) := by
  rw [Nat.testBit_and, Nat.testBit_shiftRight]

theorem foldl_toBB (l : List Nat) (acc : Nat) :
    l.foldl (fun acc s => acc ||| (1 <<< s)) acc = acc ||| toBB l := by
  unfold toBB
  induction l generalizing acc with
  | nil => simp
  | cons s l ih =>
    simp only [List.foldl_cons]
    rw [ih (acc ||| 1 <<< s), ih (0 ||| 1 <<< s)]
    simp [Nat.or_assoc]

@[simp] theorem toBB_nil : toBB [] = 0 := rfl

theorem toBB_cons (s : Nat) (l : List Nat) : toBB (s :: l) = (1 <<< s) ||| toBB l := by
  show List.foldl _ _ _ = _
  rw [List.foldl_cons, foldl_toBB]; simp

theorem toBB_singleton (s : Nat) : toBB [s] = 1 <<< s := by
  rw [toBB_cons]; simp

theorem toBB_append (a b : List Nat) : toBB (a ++ b) = toBB a ||| toBB b := by
  induction a with
  | nil => simp
  | cons s a ih => simp [toBB_cons, ih, Nat.or_assoc]

theorem testBit_toBB (l : List Nat) (t : Nat) : (toBB l).testBit t = true ↔ t ∈ l := by
  induction l with
  | nil => simp
  | cons s l ih =>
    rw [toBB_cons, Nat.testBit_or, Nat.one_shiftLeft, Nat.testBit_two_pow, Bool.or_eq_true, ih]
    simp [eq_comm]

theorem toBB_lt (l : List Nat) (h : ∀ s ∈ l, s < 64) : toBB l < 2 ^ 64 := by
  induction l with
  | nil => simp
  | cons s l ih =>
    rw [toBB_cons, Nat.one_shiftLeft]
    apply Nat.or_lt_two_pow
    · exact Nat.pow_lt_pow_right (by decide) (h s (by simp))
    · exact ih fun x hx => h x (by simp [hx])

/-- `p 0 && p 1 && … && p (n-1)`, by structural recursion (cheap for `decide +kernel`). -/
def allBelow : Nat → (Nat → Bool) → Bool
  | 0, _ => true
  | n + 1, p => p n && allBelow n p

theorem allBelow_spec {n : Nat} {p : Nat → Bool} (h : allBelow n p = true) : ∀ i, i < n → p i = true := by
  induction n with
  | zero => intro i hi; omega
  | succ n ih =>
    simp only [allBelow, Bool.and_eq_true] at h
    intro i hi
    by_cases e : i = n
    · subst e; exact h.1
    · exact ih h.2 i (by omega)

end Morlock.Proofs.Attack
