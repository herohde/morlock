import Morlock.Proofs.RepBits
import Morlock.Proofs.AttackTables
/-!
# The views invariant `Rep`

`Rep p b`: the bitboard position `p` (occupancy, per-colour sets, per-piece sets, three rotated
occupancies) represents the mailbox board `b`. All redundant views of `p` are determined by `b`.
-/
namespace Morlock.Proofs
open Morlock Morlock.Model

/-- A mailbox board: content of every square (squares ≥ 64 are always empty under `Rep`). -/
abbrev Board := Nat → Option (Color × Piece)

def upd (b : Board) (sq : Nat) (v : Option (Color × Piece)) : Board :=
  fun s => if s = sq then v else b s

@[simp] theorem upd_same (b : Board) (sq : Nat) (v) : upd b sq v sq = v := by simp [upd]
theorem upd_other (b : Board) {sq s : Nat} (v) (h : s ≠ sq) : upd b sq v s = b s := by simp [upd, h]

theorem upd_comm (b : Board) {s1 s2 : Nat} (v1 v2) (h : s1 ≠ s2) :
    upd (upd b s1 v1) s2 v2 = upd (upd b s2 v2) s1 v1 := by
  funext s; simp only [upd]
  by_cases e1 : s = s1
  · subst e1; simp [h]
  · by_cases e2 : s = s2
    · subst e2; simp [e1]
    · simp [e1, e2]

/-- Is the square occupied by a piece of colour `c`? -/
def colAt (b : Board) (sq : Nat) (c : Color) : Bool :=
  match b sq with
  | some (c', _) => c' == c
  | none => false

def emptyBoard : Board := fun _ => none

/-- `Rep p b`: every view stored in `p` agrees with the mailbox board `b`. -/
structure Rep (p : Position) (b : Board) : Prop where
  /-- occupancy bit -/
  rot : ∀ sq, sq < 64 → p.rotated.rot.testBit sq = (b sq).isSome
  /-- per-colour bit -/
  all : ∀ c sq, sq < 64 → (p.pieces c .none).testBit sq = colAt b sq c
  /-- per-piece bits -/
  one : ∀ c k sq, k ≠ .none → sq < 64 → (p.pieces c k).testBit sq = decide (b sq = some (c, k))
  /-- the board never holds `NoPiece` -/
  wf : ∀ sq c, b sq ≠ some (c, .none)
  /-- nothing outside the 64 squares -/
  out : ∀ sq, 64 ≤ sq → b sq = none
  /-- no bits ≥ 64 anywhere -/
  piecesLt : ∀ c k, p.pieces c k < 2 ^ 64
  rotLt : p.rotated.rot < 2 ^ 64
  rot90Lt : p.rotated.rot90 < 2 ^ 64
  rot45LLt : p.rotated.rot45L < 2 ^ 64
  rot45RLt : p.rotated.rot45R < 2 ^ 64
  /-- the rotated occupancies are the table permutations of `rot` -/
  r90 : ∀ sq, sq < 64 → p.rotated.rot90.testBit (Gen.rot90[sq]!) = p.rotated.rot.testBit sq
  r45L : ∀ sq, sq < 64 → p.rotated.rot45L.testBit (Gen.rot45L[sq]!) = p.rotated.rot.testBit sq
  r45R : ∀ sq, sq < 64 → p.rotated.rot45R.testBit (Gen.rot45R[sq]!) = p.rotated.rot.testBit sq

theorem Side.get_set (s : Side) (k k' : Piece) (v : Nat) :
    (s.set k v).get k' = if k' = k then v else s.get k' := by
  cases k <;> cases k' <;> rfl

theorem side_setSide (p : Position) (c c' : Color) (s : Side) :
    (p.setSide c s).side c' = if c' = c then s else p.side c' := by
  cases c <;> cases c' <;> rfl

theorem pieces_xor (p : Position) (sq : Nat) (c : Color) (k : Piece) (hk : k ≠ .none)
    (c' : Color) (k' : Piece) :
    (p.xor sq c k).pieces c' k' =
      if c' = c ∧ (k' = .none ∨ k' = k) then p.pieces c' k' ^^^ bitMask sq else p.pieces c' k' := by
  have hs : ∀ c, ({ p with rotated := p.rotated.xor sq } : Position).side c = p.side c := fun c => by
    cases c <;> rfl
  simp only [Position.xor, Position.pieces, side_setSide, hs]
  by_cases hc : c' = c
  · subst hc
    simp only [if_true, Side.get_set, if_neg hk, true_and]
    by_cases h1 : k' = k
    · simp [h1]
    · by_cases h2 : k' = .none
      · subst h2; simp [Ne.symm hk]
      · simp [h1, h2]
  · simp [hc]

@[simp] theorem rotated_xor (p : Position) (sq : Nat) (c : Color) (k : Piece) :
    (p.xor sq c k).rotated = p.rotated.xor sq := by
  cases c <;> simp [Position.xor, Position.setSide]

@[simp] theorem castling_xor (p : Position) (sq : Nat) (c : Color) (k : Piece) :
    (p.xor sq c k).castling = p.castling := by
  cases c <;> simp [Position.xor, Position.setSide]

@[simp] theorem enpassant_xor (p : Position) (sq : Nat) (c : Color) (k : Piece) :
    (p.xor sq c k).enpassant = p.enpassant := by
  cases c <;> simp [Position.xor, Position.setSide]

theorem testBit_ite_xor (c : Prop) [Decidable c] (P : Nat) {sq : Nat} (hsq : sq < 64) (s : Nat) :
    (if c then P ^^^ bitMask sq else P).testBit s = (P.testBit s != (decide c && decide (s = sq))) := by
  split <;> simp [testBit_xor_bitMask _ hsq, *]

/-- Core step: toggling `(c, k)` at `sq`, when `sq` is empty or holds exactly `(c, k)`. -/
theorem Rep.xor_toggle {p : Position} {b : Board} (h : Rep p b) {sq : Nat} (hsq : sq < 64)
    (c : Color) {k : Piece} (hk : k ≠ .none) (v' : Option (Color × Piece))
    (hv : (b sq = none ∧ v' = some (c, k)) ∨ (b sq = some (c, k) ∧ v' = none)) :
    Rep (p.xor sq c k) (upd b sq v') where
  rot := by
    intro s hs
    simp only [rotated_xor, Rotated.xor, testBit_xor_bitMask _ hsq, h.rot s hs, upd]
    by_cases e : s = sq
    · subst e; rcases hv with ⟨h1, h2⟩ | ⟨h1, h2⟩ <;> simp [h1, h2]
    · simp [e]
  all := by
    intro c' s hs
    rw [pieces_xor _ _ _ _ hk, testBit_ite_xor _ _ hsq, h.all _ _ hs, colAt, colAt, upd]
    by_cases e : s = sq
    · subst e
      rcases hv with ⟨h1, h2⟩ | ⟨h1, h2⟩ <;> simp [h1, h2] <;> cases c <;> cases c' <;> rfl
    · simp [e]
  one := by
    intro c' k' s hk' hs
    rw [pieces_xor _ _ _ _ hk, testBit_ite_xor _ _ hsq, h.one _ _ _ hk' hs, upd]
    by_cases e : s = sq
    · subst e
      rcases hv with ⟨h1, h2⟩ | ⟨h1, h2⟩ <;> simp [h1, h2, hk', eq_comm]
    · simp [e]
  wf := by
    intro s c'
    simp only [upd]
    by_cases e : s = sq
    · subst e
      rcases hv with ⟨_, h2⟩ | ⟨_, h2⟩ <;> simp [h2]
      intro _; exact hk
    · simp [e]; exact h.wf s c'
  out := by
    intro s hs
    have e : s ≠ sq := by omega
    rw [upd_other b v' e]; exact h.out s hs
  piecesLt := by
    intro c' k'
    rw [pieces_xor _ _ _ _ hk]
    split
    · exact xor_bitMask_lt (h.piecesLt _ _) _
    · exact h.piecesLt _ _
  rotLt := by simp only [rotated_xor, Rotated.xor]; exact xor_bitMask_lt h.rotLt _
  rot90Lt := by simp only [rotated_xor, Rotated.xor]; exact xor_bitMask_lt h.rot90Lt _
  rot45LLt := by simp only [rotated_xor, Rotated.xor]; exact xor_bitMask_lt h.rot45LLt _
  rot45RLt := by simp only [rotated_xor, Rotated.xor]; exact xor_bitMask_lt h.rot45RLt _
  r90 := by
    simp only [rotated_xor, Rotated.xor]
    exact Attack.perm_rot90.view_xor hsq h.r90
  r45L := by
    simp only [rotated_xor, Rotated.xor]
    exact Attack.perm_rot45L.view_xor hsq h.r45L
  r45R := by
    simp only [rotated_xor, Rotated.xor]
    exact Attack.perm_rot45R.view_xor hsq h.r45R

theorem Rep.lt_of_some {p : Position} {b : Board} (h : Rep p b) {sq : Nat} {x} (hb : b sq = some x) :
    sq < 64 := by
  apply Classical.byContradiction; intro hn
  have := h.out sq (by omega); rw [hb] at this; cases this

theorem Rep.ne_none_of_some {p : Position} {b : Board} (h : Rep p b) {sq : Nat} {c k}
    (hb : b sq = some (c, k)) : k ≠ .none := fun e => h.wf sq c (e ▸ hb)

theorem Rep.xor_place {p : Position} {b : Board} (h : Rep p b) {sq : Nat} (hsq : sq < 64)
    (c : Color) {k : Piece} (hk : k ≠ .none) (hempty : b sq = none) :
    Rep (p.xor sq c k) (upd b sq (some (c, k))) :=
  h.xor_toggle hsq c hk _ (Or.inl ⟨hempty, rfl⟩)

theorem Rep.xor_remove {p : Position} {b : Board} (h : Rep p b) {sq : Nat} {c : Color} {k : Piece}
    (hfull : b sq = some (c, k)) : Rep (p.xor sq c k) (upd b sq none) :=
  h.xor_toggle (h.lt_of_some hfull) c (h.ne_none_of_some hfull) _ (Or.inr ⟨hfull, rfl⟩)

theorem Rep.isEmpty_eq {p : Position} {b : Board} (h : Rep p b) (sq : Nat) :
    p.isEmpty sq = (b sq).isNone := by
  unfold Position.isEmpty
  by_cases hsq : sq < 64
  · rw [isSet_lt _ hsq, h.rot sq hsq]; cases b sq <;> rfl
  · rw [isSet_ge _ (by omega), h.out sq (by omega)]; rfl

theorem Rep.isSet_pieces {p : Position} {b : Board} (h : Rep p b) (c : Color) {k : Piece}
    (hk : k ≠ .none) (sq : Nat) : isSet (p.pieces c k) sq = decide (b sq = some (c, k)) := by
  by_cases hsq : sq < 64
  · rw [isSet_lt _ hsq, h.one c k sq hk hsq]
  · rw [isSet_ge _ (by omega), h.out sq (by omega)]; simp

theorem Rep.isSet_all {p : Position} {b : Board} (h : Rep p b) (c : Color) (sq : Nat) :
    isSet (p.pieces c .none) sq = colAt b sq c := by
  by_cases hsq : sq < 64
  · rw [isSet_lt _ hsq, h.all c sq hsq]
  · rw [isSet_ge _ (by omega)]; simp [colAt, h.out sq (by omega)]

theorem Rep.square_eq {p : Position} {b : Board} (h : Rep p b) (sq : Nat) : p.square sq = b sq := by
  unfold Position.square
  rw [h.isEmpty_eq]
  cases hb : b sq with
  | none => rfl
  | some x =>
    obtain ⟨c, k⟩ := x
    have hk := h.ne_none_of_some hb
    -- every membership test becomes a comparison with `(c, k)`
    simp only [Position.piecesInOrder, List.find?, h.isSet_all, colAt, hb, h.isSet_pieces _ (k := .pawn) nofun,
      h.isSet_pieces _ (k := .bishop) nofun, h.isSet_pieces _ (k := .knight) nofun,
      h.isSet_pieces _ (k := .rook) nofun, h.isSet_pieces _ (k := .queen) nofun,
      h.isSet_pieces _ (k := .king) nofun]
    cases c <;> cases k <;> first | rfl | exact absurd rfl hk

theorem Rep.board_eq {p : Position} {b : Board} (h : Rep p b) : b = p.square :=
  funext fun sq => (h.square_eq sq).symm

theorem Rep.unique {p : Position} {b b' : Board} (h : Rep p b) (h' : Rep p b') : b = b' :=
  h.board_eq.trans h'.board_eq.symm

/-- The board described by a placement list (later entries win; irrelevant when duplicate-free). -/
def placeAll (b : Board) : List (Nat × Color × Piece) → Board
  | [] => b
  | (sq, c, k) :: rest => placeAll (upd b sq (some (c, k))) rest

def ValidPlacements (pl : List (Nat × Color × Piece)) : Prop :=
  ∀ x ∈ pl, x.1 < 64 ∧ x.2.2 ≠ Piece.none

theorem rep_empty (castling ep : Nat) :
    Rep { castling := castling, enpassant := ep } emptyBoard := by
  have hp : ∀ c k, ({ castling := castling, enpassant := ep } : Position).pieces c k = 0 :=
    fun c k => by cases c <;> cases k <;> rfl
  exact
  { rot := fun _ _ => Nat.zero_testBit _, all := fun c sq _ => by rw [hp]; simp [colAt, emptyBoard],
    one := fun c k sq _ _ => by rw [hp]; simp [emptyBoard], wf := nofun, out := fun _ _ => rfl,
    piecesLt := fun c k => by rw [hp]; decide,
    rotLt := Nat.two_pow_pos 64, rot90Lt := Nat.two_pow_pos 64, rot45LLt := Nat.two_pow_pos 64,
    rot45RLt := Nat.two_pow_pos 64,
    r90 := fun _ _ => by simp, r45L := fun _ _ => by simp, r45R := fun _ _ => by simp }

theorem placementsXor_rep {pl : List (Nat × Color × Piece)} :
    ∀ {p p' : Position} {b : Board}, Rep p b → ValidPlacements pl →
      Position.placementsXor p pl = some p' →
      Rep p' (placeAll b pl) ∧ p'.castling = p.castling ∧ p'.enpassant = p.enpassant := by
  induction pl with
  | nil => intro p p' b h _ hp; simp [Position.placementsXor] at hp; subst hp; exact ⟨h, rfl, rfl⟩
  | cons x rest ih =>
    intro p p' b h hv hp
    obtain ⟨sq, c, k⟩ := x
    have hx := hv (sq, c, k) (List.mem_cons_self ..)
    simp only [Position.placementsXor, h.isEmpty_eq] at hp
    cases hb : b sq with
    | some y => simp [hb] at hp
    | none =>
      simp only [hb, Option.isNone_none, Bool.not_true, Bool.false_eq_true, if_false] at hp
      simpa [placeAll] using
        ih (h.xor_place hx.1 c hx.2 hb) (fun y hy => hv y (List.mem_cons_of_mem _ hy)) hp

theorem newPosition_rep {pl : List (Nat × Color × Piece)} {castling ep : Nat} {p : Position}
    (hv : ValidPlacements pl) (hp : Position.newPosition pl castling ep = some p) :
    Rep p (placeAll emptyBoard pl) ∧ p.castling = castling ∧ p.enpassant = ep :=
  placementsXor_rep (rep_empty castling ep) hv hp

theorem placeAll_not_mem {pl : List (Nat × Color × Piece)} :
    ∀ {b : Board} {sq : Nat}, sq ∉ pl.map (·.1) → placeAll b pl sq = b sq := by
  induction pl with
  | nil => intros; rfl
  | cons x rest ih =>
    intro b sq hn
    obtain ⟨s, c, k⟩ := x
    simp only [List.map_cons, List.mem_cons, not_or] at hn
    rw [placeAll, ih hn.2, upd_other _ _ hn.1]

theorem placeAll_mem {pl : List (Nat × Color × Piece)} :
    ∀ {b : Board} {sq : Nat} {c k}, (pl.map (·.1)).Nodup → (sq, c, k) ∈ pl →
      placeAll b pl sq = some (c, k) := by
  induction pl with
  | nil => intro _ _ _ _ _ hm; cases hm
  | cons x rest ih =>
    intro b sq c k hnd hm
    obtain ⟨s, c', k'⟩ := x
    simp only [List.map_cons, List.nodup_cons] at hnd
    rcases List.mem_cons.mp hm with e | hm'
    · cases e
      rw [placeAll, placeAll_not_mem hnd.1, upd_same]
    · rw [placeAll]; exact ih hnd.2 hm'

theorem placementsXor_isSome {pl : List (Nat × Color × Piece)} :
    ∀ {p : Position} {b : Board}, Rep p b → ValidPlacements pl →
      ((Position.placementsXor p pl).isSome ↔
        ((∀ x ∈ pl, b x.1 = none) ∧ (pl.map (·.1)).Nodup)) := by
  induction pl with
  | nil => intro p b _ _; simp [Position.placementsXor]
  | cons x rest ih =>
    intro p b h hv
    obtain ⟨sq, c, k⟩ := x
    have hx := hv (sq, c, k) (List.mem_cons_self ..)
    have hv' : ValidPlacements rest := fun y hy => hv y (List.mem_cons_of_mem _ hy)
    simp only [Position.placementsXor, h.isEmpty_eq]
    cases hb : b sq with
    | some y => simp [hb]
    | none =>
      have h1 := h.xor_place hx.1 c hx.2 hb
      simp only [Option.isNone_none, Bool.not_true, Bool.false_eq_true, if_false, ih h1 hv']
      simp only [List.mem_cons, forall_eq_or_imp, hb, true_and, List.map_cons, List.nodup_cons]
      constructor
      · intro ⟨ha, hn⟩
        have hns : sq ∉ rest.map (·.1) := by
          intro hm
          obtain ⟨y, hy, e⟩ := List.mem_map.mp hm
          have := ha y hy
          rw [e, upd_same] at this; cases this
        refine ⟨fun y hy => ?_, hns, hn⟩
        have := ha y hy
        have hne : y.1 ≠ sq := fun e => hns (List.mem_map.mpr ⟨y, hy, e⟩)
        rwa [upd_other _ _ hne] at this
      · intro ⟨ha, hns, hn⟩
        refine ⟨fun y hy => ?_, hn⟩
        have hne : y.1 ≠ sq := fun e => hns (List.mem_map.mpr ⟨y, hy, e⟩)
        rw [upd_other _ _ hne]; exact ha y hy

theorem newPosition_isSome_iff {pl : List (Nat × Color × Piece)} (castling ep : Nat)
    (hv : ValidPlacements pl) :
    (Position.newPosition pl castling ep).isSome ↔ (pl.map (·.1)).Nodup := by
  unfold Position.newPosition
  rw [placementsXor_isSome (rep_empty castling ep) hv]
  simp [emptyBoard]

theorem eq_of_low_bits {x y : Nat} (hx : x < 2 ^ 64) (hy : y < 2 ^ 64)
    (h : ∀ i, i < 64 → x.testBit i = y.testBit i) : x = y := by
  apply Nat.eq_of_testBit_eq
  intro i
  by_cases hi : i < 64
  · exact h i hi
  · rw [testBit_high hx (by omega), testBit_high hy (by omega)]

theorem Side.ext_get {s t : Side} (h : ∀ k, s.get k = t.get k) : s = t := by
  cases s; cases t
  rw [Side.mk.injEq]
  exact ⟨h .none, h .pawn, h .bishop, h .knight, h .rook, h .queen, h .king⟩

/-- Two positions representing the same board can differ only in castling rights and en-passant target. -/
theorem Rep.views_eq {p q : Position} {b : Board} (hp : Rep p b) (hq : Rep q b) :
    p.white = q.white ∧ p.black = q.black ∧ p.rotated = q.rotated := by
  have hpieces : ∀ c k, p.pieces c k = q.pieces c k := by
    intro c k
    apply eq_of_low_bits (hp.piecesLt c k) (hq.piecesLt c k)
    intro i hi
    by_cases hk : k = .none
    · subst hk; rw [hp.all c i hi, hq.all c i hi]
    · rw [hp.one c k i hk hi, hq.one c k i hk hi]
  have hrot : p.rotated.rot = q.rotated.rot :=
    eq_of_low_bits hp.rotLt hq.rotLt fun i hi => by rw [hp.rot i hi, hq.rot i hi]
  refine ⟨Side.ext_get (hpieces .white), Side.ext_get (hpieces .black), ?_⟩
  have view : ∀ {tbl : Array Nat} {x y : Nat}, Attack.PermTable tbl → x < 2 ^ 64 → y < 2 ^ 64 →
      (∀ sq, sq < 64 → x.testBit (tbl[sq]!) = p.rotated.rot.testBit sq) →
      (∀ sq, sq < 64 → y.testBit (tbl[sq]!) = q.rotated.rot.testBit sq) → x = y :=
    fun ht hx hy h1 h2 => eq_of_low_bits hx hy fun i hi => by
      obtain ⟨sq, hsq, e⟩ := ht.surj hi
      rw [← e, h1 sq hsq, h2 sq hsq, hrot]
  have h90 := view Attack.perm_rot90 hp.rot90Lt hq.rot90Lt hp.r90 hq.r90
  have h45L := view Attack.perm_rot45L hp.rot45LLt hq.rot45LLt hp.r45L hq.r45L
  have h45R := view Attack.perm_rot45R hp.rot45RLt hq.rot45RLt hp.r45R hq.r45R
  show Rotated.mk _ _ _ _ = Rotated.mk _ _ _ _
  rw [hrot, h90, h45L, h45R]

end Morlock.Proofs
