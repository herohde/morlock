import Morlock.Proofs.SargonSpec
import Morlock.Spec.Xray
/-!
# SARGON: the stack behind an attacker is exactly the x-ray chain of the reference (`Spec.specStack`)

The stack is **complete and in order**: `addAttackerStack` returns the men that the step-by-step walk of `Spec/Xray.lean`
collects, no more, no fewer, nearest first. A ray on any board is the empty-board ray cut after the first occupied square, so
everything is list surgery on the one fixed, duplicate-free list `ray ∅ target d 8 = pre ++ f :: S`: the squares that *become*
visible from the target when `f` is lifted are those of `S` up to its first man, the only occupied one among them is that man,
and the recursion goes on behind it.
-/
namespace Morlock.Proofs.Sargon
open Morlock Morlock.Model Morlock.Model.Sargon Morlock.Proofs.Attack Morlock.Proofs.Gen

/-- the reference walk over the squares `S` behind an attacker, on the mailbox board of `Rep` -/
def walkL (b : Board) (pinned : Nat → Bool) (side : Color) (k : Spec.Kind) : List Nat → List Placement
  | [] => []
  | s :: rest =>
    match b s with
    | none => walkL b pinned side k rest
    | some (c, q) =>
      if c = side ∧ (q = .queen ∨ q = sliderOf k) ∧ pinned s = false then
        { piece := q, color := side, square := s } :: walkL b pinned side k rest
      else []

theorem walkL_skip (b : Board) (pinned : Nat → Bool) (side : Color) (k : Spec.Kind) (L : List Nat) :
    ∀ mid : List Nat, (∀ x ∈ mid, b x = none) → walkL b pinned side k (mid ++ L) = walkL b pinned side k L := by
  intro mid
  induction mid with
  | nil => intro _; rfl
  | cons s mid ih =>
    intro h
    simp only [List.cons_append, walkL, h s (List.mem_cons_self ..)]
    exact ih (fun x hx => h x (List.mem_cons_of_mem _ hx))

theorem walkL_all_empty (b : Board) (pinned : Nat → Bool) (side : Color) (k : Spec.Kind) (S : List Nat)
    (h : ∀ x ∈ S, b x = none) : walkL b pinned side k S = [] := by
  have := walkL_skip b pinned side k [] S h
  rwa [List.append_nil] at this

/-- **The recursion returns the walk** over the squares `S` behind the attacker. -/
theorem addAttackerStack_behind {p : Position} {b : Board} (hrep : Rep p b) (pins : Pins) (side : Color) {t : Nat} {k : Spec.Kind}
    {d : Int × Int} :
    ∀ fuel occ r piece f pre S a, piece ≠ .king → RayInv b t occ r f k d pre S →
      addAttackerStack p pins side t fuel r piece f = .ok (some a) →
      a.behind = walkL b (fun s => isPinnedFor pins s t) side k S := by
  intro fuel
  induction fuel with
  | zero => intro occ r piece f pre S a _ _ h; cases h
  | succ n ih =>
    intro occ r piece f pre S a hking hinv h
    rw [addAttackerStack_succ] at h
    split at h
    · cases h
    · by_cases hz : stackBB p side t r f = 0
      · rw [hz] at h
        cases h
        symm
        rcases hinv.alone hrep side hz with hall | ⟨mid, s, S', c, q, rfl, hmid, hbs, hno⟩
        · exact walkL_all_empty _ _ _ _ S (fun x hx => occB_false (hall x hx))
        · rw [walkL_skip _ _ _ _ _ mid (fun x hx => occB_false (hmid x hx))]
          simp only [walkL, hbs]
          rw [if_neg (fun c3 => hno ⟨c3.1, c3.2.1⟩)]
      · have hb1 : (stackBB p side t r f != 0) = true := by simpa using hz
        rw [hb1] at h
        simp only [if_true] at h
        obtain ⟨mid, S', q, rfl, hmid, hbq, hq, hinv'⟩ := hinv.step hrep side hz
        generalize lastPopSquare (stackBB p side t r f) = F at *
        have hqk : q ≠ .king := by
          rcases hq with rfl | rfl
          · decide
          · rcases hinv.line with rfl | rfl <;> decide
        rw [pieceAt_eq hrep hbq] at h
        rw [walkL_skip _ _ _ _ _ mid (fun x hx => occB_false (hmid x hx))]
        cases hrec : addAttackerStack p pins side t n (r.xor f) q F with
        | error e => rw [hrec] at h; cases h
        | ok res =>
          rw [hrec] at h
          cases res with
          | none =>
            cases h
            have hpin := addAttackerStack_none _ _ _ _ _ _ _ _ hrec
            simp [walkL, hbq, hpin]
          | some a' =>
            cases h
            obtain ⟨hfront, hpin⟩ := addAttackerStack_some _ _ _ _ _ _ _ _ _ hrec
            have hrest := ih _ _ _ _ _ _ _ hqk hinv' hrec
            simp only [walkL, hbq, hq, hpin, and_self, if_true]
            rw [hfront, hrest]

def walkS (q : Spec.Pos) (pinned : Nat → Bool) (side : Spec.Color) (slider : Spec.Kind) : List Nat → List (Nat × Spec.Kind)
  | [] => []
  | s :: rest =>
    match q.at s with
    | none => walkS q pinned side slider rest
    | some (c, k) =>
      if c = side ∧ (k = .queen ∨ k = slider) ∧ pinned s = false then (s, k) :: walkS q pinned side slider rest else []

theorem xrayWalk_eq_walkS (q : Spec.Pos) (pinned : Nat → Bool) (side : Spec.Color) (slider : Spec.Kind) (df dr : Int) :
    ∀ (n s : Nat), Spec.xrayWalk q pinned side slider df dr n s = walkS q pinned side slider (Spec.ray noOcc s df dr n) := by
  intro n
  induction n with
  | zero => intro s; rfl
  | succ n ih =>
    intro s
    simp only [ray_succ, Spec.xrayWalk]
    cases hs : Spec.step s df dr with
    | none => rfl
    | some s' =>
      have e : (if noOcc s' = true then [s'] else s' :: Spec.ray noOcc s' df dr n) = s' :: Spec.ray noOcc s' df dr n := rfl
      simp only [e, walkS, ih s']
      cases q.at s' with
      | none => rfl
      | some ck => rfl

def toPl (side : Color) (e : Nat × Spec.Kind) : Placement := { piece := kindPiece e.2, color := side, square := e.1 }

theorem kindOf_eq_queen {q : Piece} (h : q ≠ .none) : kindOf q = .queen ↔ q = .queen := by
  cases q <;> simp [kindOf] at h ⊢

theorem kindOf_eq_line {q : Piece} (h : q ≠ .none) {k : Spec.Kind} (hk : IsLine k) : kindOf q = k ↔ q = sliderOf k := by
  rcases hk with rfl | rfl <;> cases q <;> simp [kindOf, sliderOf] at h ⊢

theorem walkL_eq_walkS {p : Position} {b : Board} (hrep : Rep p b) (turn : Color) (pinned : Nat → Bool) (side : Color)
    {k : Spec.Kind} (hk : IsLine k) :
    ∀ S : List Nat, walkL b pinned side k S = (walkS (abs p turn) pinned (absColor side) k S).map (toPl side) := by
  intro S
  induction S with
  | nil => rfl
  | cons s S ih =>
    cases hb : b s with
    | none =>
      have : (abs p turn).at s = none := (hrep.abs_at_none_iff turn s).mpr hb
      simp only [walkL, walkS, hb, this, ih]
    | some cq =>
      obtain ⟨c, q⟩ := cq
      have hq := hrep.ne_none_of_some hb
      have hat : (abs p turn).at s = some (absColor c, kindOf q) := by rw [hrep.abs_at, hb, absCellB_some _ hq]
      simp only [walkL, walkS, hb, hat]
      have hiff : (absColor c = absColor side ∧ (kindOf q = .queen ∨ kindOf q = k) ∧ pinned s = false) ↔
          (c = side ∧ (q = .queen ∨ q = sliderOf k) ∧ pinned s = false) := by
        rw [kindOf_eq_queen hq, kindOf_eq_line hq hk]
        constructor
        · rintro ⟨h1, h2⟩; exact ⟨absColor_inj h1, h2⟩
        · rintro ⟨h1, h2⟩; exact ⟨by rw [h1], h2⟩
      by_cases hc : c = side ∧ (q = .queen ∨ q = sliderOf k) ∧ pinned s = false
      · rw [if_pos hc, if_pos (hiff.mpr hc), List.map_cons, ih]
        simp only [toPl, kindPiece_kindOf hq]
      · rw [if_neg hc, if_neg (fun c' => hc (hiff.mp c'))]
        rfl

theorem specStack_of_not_king (q : Spec.Pos) (pinned : Nat → Bool) (t : Nat) (side : Spec.Color) (f : Nat)
    (h : ∀ c, q.at f ≠ some (c, .king)) :
    Spec.specStack q pinned t side f =
      match Spec.lineDir t f with
      | none => []
      | some (slider, df, dr) => Spec.xrayWalk q pinned side slider df dr 8 f := by
  unfold Spec.specStack
  split
  · rename_i c hc; exact absurd hc (h c)
  · rfl

theorem stack_top {p : Position} {b : Board} (hrep : Rep p b) (turn : Color) (pins : Pins) (side : Color) {t : Nat} (ht : t < 64)
    {piece : Piece} {f : Nat} {a : Attacker} (hb : b f = some (side, piece)) (hatt : Attacks b side piece f t)
    (hres : addAttackerStack p pins side t stackFuel p.rotated piece f = .ok (some a)) :
    a.behind = (Spec.specStack (abs p turn) (fun s => isPinnedFor pins s t) t (absColor side) f).map (toPl side) := by
  have hne := hrep.ne_none_of_some hb
  have hat : (abs p turn).at f = some (absColor side, kindOf piece) := by rw [hrep.abs_at, hb, absCellB_some _ hne]
  by_cases hK : piece = .king
  · subst hK
    have hs : Spec.specStack (abs p turn) (fun s => isPinnedFor pins s t) t (absColor side) f = [] := by
      unfold Spec.specStack; rw [hat]; rfl
    rw [hs, addAttackerStack_alone (Or.inl rfl) hres]; rfl
  have hnk : ∀ c, (abs p turn).at f ≠ some (c, .king) := by
    intro c hc
    rw [hat] at hc
    simp only [Option.some.injEq, Prod.mk.injEq] at hc
    exact hK (by rw [← kindPiece_kindOf hne, hc.2]; rfl)
  rw [specStack_of_not_king _ _ _ _ _ hnk]
  rcases top_cases hrep ht hb hatt with h | ⟨hz, h3⟩ | ⟨k, d, pre, S, hinv⟩
  · exact absurd h hK
  · rw [h3, addAttackerStack_alone (Or.inr hz) hres]; rfl
  · -- on a line: the code's stack is the walk over `S`, and so is the reference's, `S` being the ray from `f` onwards
    rw [addAttackerStack_behind hrep pins side _ _ _ _ _ _ _ _ hK hinv hres, walkL_eq_walkS hrep turn _ side hinv.line,
      lineDir_of_mem_ray hinv.line hinv.dir (by rw [hinv.ray]; simp)]
    show _ = List.map (toPl side) (Spec.xrayWalk (abs p turn) (fun s => isPinnedFor pins s t) (absColor side) k d.1 d.2 8 f)
    rw [xrayWalk_eq_walkS, ray_suffix ht (dirsOf_sub hinv.line hinv.dir) hinv.ray]

theorem findAttackers_stacks_eq_spec {p : Position} {b : Board} (hrep : Rep p b) (turn : Color) (pins : Pins) {t : Nat} (ht : t < 64)
    (side : Color) {l : List Attacker} (hl : findAttackers p pins t side = .ok l) :
    ∀ a ∈ l, a.behind =
      (Spec.specStack (abs p turn) (fun s => isPinnedFor pins s t) t (absColor side) a.front.square).map (toPl side) := by
  intro a ha
  obtain ⟨g, hg, hbit, hres⟩ := (findAttackers_origin hrep pins ht side hl).1 a ha
  obtain ⟨hb, hatt⟩ := ((groups_spec hrep ht side hg).2.2 _).mp hbit
  exact stack_top hrep turn pins side ht hb hatt hres

end Morlock.Proofs.Sargon
