import Morlock.Proofs.RepMove
import Morlock.Proofs.DrawLine
/-!
# C05: a measure on mailbox boards that no move increases and every pawn move or capture decreases

`mu b` sums a weight over the 64 squares: an officer or king weighs 1, a white pawn on rank `r` (0-based) weighs
`8 - r`, a black pawn `1 + r`. This is why a position before the last pawn move or capture cannot recur
(`Irreversible`). The bookkeeping is done for any weight (`sumW`); the number of kings is another one.
-/
namespace Morlock.Proofs.Draw
open Morlock Morlock.Model Morlock.Proofs

def sumTo : Nat → (Nat → Nat) → Nat
  | 0, _ => 0
  | n + 1, f => sumTo n f + f n

theorem sumTo_congr {n : Nat} {f g : Nat → Nat} (h : ∀ i, i < n → f i = g i) : sumTo n f = sumTo n g := by
  induction n with
  | zero => rfl
  | succ n ih =>
    simp only [sumTo]
    rw [ih (fun i hi => h i (by omega)), h n (by omega)]

theorem sumTo_update {n : Nat} {f g : Nat → Nat} {sq : Nat} (hsq : sq < n) (h : ∀ i, i ≠ sq → g i = f i) :
    sumTo n g + f sq = sumTo n f + g sq := by
  induction n with
  | zero => omega
  | succ n ih =>
    simp only [sumTo]
    by_cases e : sq = n
    · subst e
      rw [sumTo_congr (f := g) (g := f) (fun i hi => h i (by omega))]
      omega
    · rw [h n (fun c => e c.symm)]
      have := ih (by omega)
      omega

theorem countP_range_sumTo (f : Nat → Bool) : ∀ n, (List.range n).countP f = sumTo n (fun i => if f i then 1 else 0)
  | 0 => rfl
  | n + 1 => by
    rw [List.range_succ, List.countP_append, countP_range_sumTo f n]
    simp [sumTo]

def sumW (W : Option (Color × Piece) → Nat → Nat) (b : Proofs.Board) : Nat := sumTo 64 (fun sq => W (b sq) sq)

theorem sumW_upd (W : Option (Color × Piece) → Nat → Nat) (b : Proofs.Board) {sq : Nat} (hsq : sq < 64)
    (v : Option (Color × Piece)) : sumW W (upd b sq v) + W (b sq) sq = sumW W b + W v sq := by
  unfold sumW
  have := sumTo_update (n := 64) (f := fun s => W (b s) s) (g := fun s => W (upd b sq v s) s) hsq
    (fun i hi => by simp only [upd_other b v hi])
  simpa using this

theorem metaOKb_to {b : Proofs.Board} {m : Move} {turn : Color} {pc : Piece} (hok : MetaOKb b m = true)
    (hsq : b m.from = some (turn, pc)) :
    m.to < 64 ∧ (b m.to = none ∨ b m.to = some (turn.opp, m.capture)) ∧ (m.isPromotion = true → promoOK m = true) ∧
    (b m.to).isSome = m.isCapture := by
  have hf := metaOKb_shape hok hsq
  rcases hf.dest with ⟨hc, hb⟩ | ⟨hc, hb⟩
  · exact ⟨hf.to_lt, Or.inr hb, hf.promo, by rw [hb, hc]; rfl⟩
  · exact ⟨hf.to_lt, Or.inl hb, hf.promo, by rw [hb, hc]; rfl⟩

/-- The balance of any weight that is zero on empty squares across `boardAfter`. -/
theorem sumW_boardAfter (W : Option (Color × Piece) → Nat → Nat) (hW : ∀ sq, W none sq = 0)
    {b : Proofs.Board} {m : Move} {turn : Color} {pc : Piece} (hout : ∀ sq, 64 ≤ sq → b sq = none)
    (hok : MetaOKb b m = true) (hsq : b m.from = some (turn, pc)) :
    sumW W (boardAfter b m) + W (some (turn, pc)) m.from + W (b m.to) m.to +
        (if m.ty = .enPassant then W (some (turn.opp, Piece.pawn)) m.enPassantCapture else 0) +
        (if m.isCastle = true then W (some (turn, Piece.rook)) m.castlingRookMove.1 else 0) =
      sumW W b + W (some (turn, movedPiece m pc)) m.to +
        (if m.isCastle = true then W (some (turn, Piece.rook)) m.castlingRookMove.2 else 0) := by
  have hin : ∀ {sq : Nat} {x : Color × Piece}, b sq = some x → sq < 64 := fun h => by
    apply Classical.byContradiction; intro hn
    rw [hout _ (by omega)] at h; cases h
  have hf := metaOKb_shape hok hsq
  have hne : m.to ≠ m.from := by
    rcases hf.dest with ⟨_, hh⟩ | ⟨_, hh⟩
    · exact ne_of_content hh hsq (some_opp_ne _ _ _)
    · exact ne_of_content hh hsq nofun
  -- the common part: lift the piece, put it down on `to`
  have hc : sumW W (upd (upd b m.from none) m.to (some (turn, movedPiece m pc))) + W (b m.to) m.to +
      W (some (turn, pc)) m.from = sumW W b + W (some (turn, movedPiece m pc)) m.to := by
    have h1 := sumW_upd W b (hin hsq) none
    have h2 := sumW_upd W (upd b m.from none) hf.to_lt (some (turn, movedPiece m pc))
    rw [upd_other _ _ hne] at h2
    rw [hsq, hW] at h1
    omega
  have hsp := hf.special
  have hep := moveShape_ep_iff m
  have hcs := moveShape_castle_iff m
  rw [boardAfter_eq hsq]
  cases hshape : moveShape m <;> rw [hshape] at hsp hep hcs <;> simp only at hsp ⊢
  · rw [if_neg (fun e => nomatch hep.mpr e), if_neg (fun e => nomatch hcs.mpr e),
      if_neg (fun e => nomatch hcs.mpr e)]
    omega
  · have h3 := sumW_upd W (upd (upd b m.from none) m.to (some (turn, movedPiece m pc))) (hin hsp.victim) none
    rw [upd_other _ _ hsp.ne_to, upd_other _ _ hsp.ne_from, hsp.victim, hW] at h3
    rw [if_pos (hep.mp rfl), if_neg (fun e => nomatch hcs.mpr e), if_neg (fun e => nomatch hcs.mpr e)]
    omega
  · have h3 := sumW_upd W (upd (upd b m.from none) m.to (some (turn, movedPiece m pc))) hsp.r1_lt none
    rw [upd_other _ _ hsp.r1_ne_to, upd_other _ _ hsp.r1_ne_from, hsp.rook, hW] at h3
    have h4 := sumW_upd W (upd (upd (upd b m.from none) m.to (some (turn, movedPiece m pc))) m.castlingRookMove.1 none)
      hsp.r2_lt (some (turn, Piece.rook))
    rw [upd_other _ _ hsp.r1_ne_r2.symm, upd_other _ _ hsp.r2_ne_to, upd_other _ _ hsp.r2_ne_from, hsp.dest, hW] at h4
    rw [if_neg (fun e => nomatch hep.mpr e), if_pos (hcs.mp rfl), if_pos (hcs.mp rfl)]
    omega

def wt (v : Option (Color × Piece)) (sq : Nat) : Nat :=
  match v with
  | none => 0
  | some (c, k) => if k = .pawn then (match c with | .white => 8 - sq / 8 | .black => 1 + sq / 8) else 1

def mu (b : Proofs.Board) : Nat := sumTo 64 (fun sq => wt (b sq) sq)

theorem wt_officer {c : Color} {k : Piece} (hk : k ≠ .pawn) (sq : Nat) : wt (some (c, k)) sq = 1 := by
  simp [wt, hk]

theorem wt_pos (c : Color) (k : Piece) {sq : Nat} (hsq : sq < 64) : 1 ≤ wt (some (c, k)) sq := by
  unfold wt
  by_cases hk : k = .pawn
  · cases c <;> simp [hk] <;> omega
  · simp [hk]

/-- A pawn of colour `t` moves towards its promotion rank. -/
def forward (t : Color) (fr to : Nat) : Bool :=
  match t with
  | .white => decide (fr / 8 < to / 8)
  | .black => decide (to / 8 < fr / 8)

/-- The move type resets the clock (`isReset`) exactly when a pawn moves or the destination is occupied, a pawn moves
towards its promotion rank, and only a pawn move carries a promotion type. Chess guarantees all three;
`Position.move` checks none of them. -/
def MoveSound (b : Proofs.Board) (m : Move) : Bool :=
  match b m.from with
  | none => false
  | some (t, pc) =>
    (isReset m == (pc == .pawn || (b m.to).isSome)) && (pc != .pawn || forward t m.from m.to) &&
      (!m.isPromotion || pc == .pawn)

theorem moveSound_spec {b : Proofs.Board} {m : Move} {t : Color} {pc : Piece} (hsq : b m.from = some (t, pc))
    (hs : MoveSound b m = true) :
    isReset m = (pc == .pawn || (b m.to).isSome) ∧ (pc = .pawn → forward t m.from m.to = true) ∧
      (m.isPromotion = true → pc = .pawn) := by
  unfold MoveSound at hs
  rw [hsq] at hs
  simp only [Bool.and_eq_true, beq_iff_eq, Bool.or_eq_true, bne_iff_ne, ne_eq, Bool.not_eq_true'] at hs
  obtain ⟨⟨h1, h2⟩, h3⟩ := hs
  exact ⟨h1, fun hp => h2.resolve_left (fun hn => hn hp), fun hp => h3.resolve_left (by simp [hp])⟩

theorem wt_pawn_forward {t : Color} {fr to : Nat} (hto : to < 64) (h : forward t fr to = true) :
    wt (some (t, .pawn)) to < wt (some (t, .pawn)) fr := by
  cases t <;> simp [wt, forward] at h ⊢ <;> omega

/-- What stands on the destination - the pawn or the officer it promotes to - weighs at most what the pawn weighs there. -/
theorem wt_moved {t : Color} {pc : Piece} {m : Move} (hto : m.to < 64)
    (hpromo : m.isPromotion = true → m.promotion ≠ .pawn)
    (hfw : pc = .pawn → forward t m.from m.to = true) :
    wt (some (t, movedPiece m pc)) m.to ≤ wt (some (t, pc)) m.from ∧
    (pc = .pawn → wt (some (t, movedPiece m pc)) m.to < wt (some (t, pc)) m.from) := by
  have hle : wt (some (t, movedPiece m pc)) m.to ≤ wt (some (t, pc)) m.to := by
    unfold movedPiece
    split
    · rename_i hp; rw [wt_officer (hpromo hp)]; exact wt_pos t pc hto
    · exact Nat.le_refl _
  by_cases hp : pc = .pawn
  · subst hp
    have := wt_pawn_forward hto (hfw rfl)
    exact ⟨by omega, fun _ => by omega⟩
  · rw [wt_officer hp] at hle
    rw [wt_officer hp]
    exact ⟨hle, fun h => absurd h hp⟩

theorem promoOK_ne_pawn {m : Move} (h : promoOK m = true) : m.promotion ≠ .pawn := by
  unfold promoOK at h; intro e; rw [e] at h; simp at h

/-- The moved piece does not gain weight, the castling rook keeps its weight, whatever stood on the destination or was
taken en passant is gone; a resetting move moves a pawn (which loses weight) or lands on an occupied square. -/
theorem mu_boardAfter {b : Proofs.Board} {m : Move} (hout : ∀ sq, 64 ≤ sq → b sq = none)
    (hok : MetaOKb b m = true) (hs : MoveSound b m = true) :
    mu (boardAfter b m) ≤ mu b ∧ (isReset m = true → mu (boardAfter b m) < mu b) := by
  obtain ⟨turn, pc, hsq⟩ := metaOKb_from hok
  have hsum := sumW_boardAfter wt (fun _ => rfl) hout hok hsq
  simp only [wt_officer (c := turn) (k := .rook) (by decide)] at hsum
  obtain ⟨hto, _, hpromo, _⟩ := metaOKb_to hok hsq
  obtain ⟨hreset, hfw, _⟩ := moveSound_spec hsq hs
  have hm := wt_moved (t := turn) (pc := pc) hto (fun hp => promoOK_ne_pawn (hpromo hp)) hfw
  refine ⟨by unfold mu; unfold sumW at hsum; omega, fun hr => ?_⟩
  have hcause : pc = .pawn ∨ (b m.to).isSome = true := by
    simpa only [hr, Bool.or_eq_true, beq_iff_eq, eq_comm (a := true)] using hreset
  have hlt : wt (some (turn, movedPiece m pc)) m.to < wt (some (turn, pc)) m.from + wt (b m.to) m.to := by
    rcases hcause with hp | hocc
    · have := hm.2 hp; omega
    · cases hb : b m.to with
      | none => rw [hb] at hocc; cases hocc
      | some v => obtain ⟨c, k⟩ := v; have := wt_pos c k hto; have := hm.1; omega
  unfold mu; unfold sumW at hsum; omega

end Morlock.Proofs.Draw
