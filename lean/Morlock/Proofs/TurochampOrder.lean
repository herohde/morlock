import Morlock.Proofs.TurochampNear
import Morlock.Proofs.TurochampTotal
/-!
# `PositionPlay` is within `2^-10` of an exact multiple of 1/10 that does not depend on the order of summation

`idealPlay` is the exact sum in tenths. Every float32 step of `PositionPlay` is followed with `Near`; with at most 16 keys
in the mobility map, at most 15 officers and pawns, and pawns advanced at most 5 ranks, all partial sums stay below 255 and
the accumulated error below `2^30` units of `2^-40`.
-/
namespace Morlock.Proofs.Turochamp
open Morlock Morlock.Model Morlock.Model.Flt Morlock.Model.Turochamp

def isum : List Int → Int
  | [] => 0
  | a :: l => a + isum l

theorem isum_perm {l1 l2 : List Int} (h : l1.Perm l2) : isum l1 = isum l2 := by
  induction h with
  | nil => rfl
  | cons a _ ih => simp only [isum, ih]
  | swap a b l => simp only [isum]; omega
  | trans _ _ ih1 ih2 => exact ih1.trans ih2

def b10 (c : Bool) (v : Int) : Int := if c then v else 0

def pre10 (pos : Position) (castled : Bool) (turn : Color) : Int :=
  b10 (pos.castling &&& castlingRights turn != 0) 10 + b10 castled 10 + b10 (pos.isChecked turn.opp) 5 +
  b10 (mayCheckMate pos turn) 10 + b10 (mayCastle pos turn) 10

def mob10 (l : List (Nat × Nat)) : Int := isum (l.map fun e => ideal e.2)

def def10 (d : Nat) : Int := b10 (decide (d > 0)) 10 + b10 (decide (d > 1)) 5

def defSum (pos : Position) (turn : Color) (l : List Nat) : Int :=
  isum (l.map fun sq => def10 ((defenders pos turn sq).getD 0))

def pawn10 (pos : Position) (turn : Color) (sq : Nat) : Int :=
  2 * (pawnRanks turn sq : Int) + b10 ((officerDefended pos turn sq kqrnb).getD false) 3

def pawnSum (pos : Position) (turn : Color) (l : List Nat) : Int := isum (l.map (pawn10 pos turn))

def safety10 (pos : Position) (turn : Color) : Int :=
  if pos.pieces turn .king != 0 then ideal (safety pos turn) else 0

/-- **the exact value of `PositionPlay` in tenths** (no rounding anywhere; independent of any order) -/
def idealPlay (pos : Position) (castled : Bool) (turn : Color) : Int :=
  pre10 pos castled turn + mob10 (mobility pos turn) + defSum pos turn (toSquares (middle pos turn)) -
    safety10 pos turn + pawnSum pos turn (toSquares (pos.pieces turn .pawn))

/-- `idealPlay` with the flags and the mobility map of loop (1) given (cf. `playWith`) -/
def idealWith (pos : Position) (castled : Bool) (turn : Color) (mate castle : Bool) (mob : List (Nat × Nat)) : Int :=
  b10 (pos.castling &&& castlingRights turn != 0) 10 + b10 castled 10 + b10 (pos.isChecked turn.opp) 5 +
  b10 mate 10 + b10 castle 10 + mob10 mob + defSum pos turn (toSquares (middle pos turn)) -
    safety10 pos turn + pawnSum pos turn (toSquares (pos.pieces turn .pawn))

theorem idealPlay_eq (pos : Position) (castled : Bool) (turn : Color) :
    idealPlay pos castled turn =
      idealWith pos castled turn (mayCheckMate pos turn) (mayCastle pos turn) (mobility pos turn) := rfl

theorem mob10_perm {l1 l2 : List (Nat × Nat)} (h : l1.Perm l2) : mob10 l1 = mob10 l2 :=
  isum_perm (h.map _)

def constOkN (c : Option Q) (s : Int) (E : Nat) : Bool :=
  match c with
  | some t => nearB t s E
  | none => false

theorem const_near {c : Option Q} {s : Int} {E : Nat} (h : constOkN c s E = true) : ∃ t, c = some t ∧ Near t s E := by
  unfold constOkN at h
  cases c with
  | none => cases h
  | some t => exact ⟨t, rfl, nearB_spec h⟩

theorem near_q0 : Near q0 0 0 := nearB_spec (by decide)
theorem near_q1 : Near q1 10 0 := nearB_spec (by decide)
theorem near_qHalf : Near qHalf 5 0 := nearB_spec (by decide)

theorem b10_bounds (c : Bool) {v : Int} (hv : 0 ≤ v) : 0 ≤ b10 c v ∧ b10 c v ≤ v := by unfold b10; split <;> omega

/-- `addIf32N` with the added tenths written as `b10` -/
theorem addIfN {x y : Q} {s t : Int} {E F : Nat} (c : Bool) (hx : Near x s E) (hy : Near y t F)
    (hs : (s + t).natAbs ≤ 2540) (hE : E + F ≤ 2 ^ 40) :
    ∃ v, addIf c y x = some v ∧ Near v (s + b10 c t) (E + F + 16777216) := addIf32N c hx hy hs hE

theorem prePlayN (pos : Position) (castled : Bool) (turn : Color) :
    ∃ v, prePlay pos castled turn = some v ∧ Near v (pre10 pos castled turn) 83886080 ∧
      0 ≤ pre10 pos castled turn ∧ pre10 pos castled turn ≤ 45 := by
  have u1 := b10_bounds (pos.castling &&& castlingRights turn != 0) (v := 10) (by decide)
  have u2 := b10_bounds castled (v := 10) (by decide)
  have u3 := b10_bounds (pos.isChecked turn.opp) (v := 5) (by decide)
  have u4 := b10_bounds (mayCheckMate pos turn) (v := 10) (by decide)
  have u5 := b10_bounds (mayCastle pos turn) (v := 10) (by decide)
  unfold prePlay
  obtain ⟨s1, h1, b1⟩ := addIfN (pos.castling &&& castlingRights turn != 0) near_q0 near_q1 (by decide) (by decide)
  rw [h1, Option.bind_some]
  obtain ⟨s2, h2, b2⟩ := addIfN castled b1 near_q1 (by omega) (by decide)
  rw [h2, Option.bind_some]
  obtain ⟨s3, h3, b3⟩ := addIfN (pos.isChecked turn.opp) b2 near_qHalf (by omega) (by decide)
  rw [h3, Option.bind_some]
  obtain ⟨s4, h4, b4⟩ := addIfN (mayCheckMate pos turn) b3 near_q1 (by omega) (by decide)
  rw [h4, Option.bind_some]
  obtain ⟨s5, h5, b5⟩ := addIfN (mayCastle pos turn) b4 near_q1 (by omega) (by decide)
  refine ⟨s5, h5, ?_, by unfold pre10; omega, by unfold pre10; omega⟩
  rw [Int.zero_add] at b5
  exact b5.mono (by decide)

/-- a loop whose steps stay near the exact sum: each adds a term between 0 and `c` tenths and `e` units of error -/
theorem stepLoop_near {α : Type} {step : α → Q → Option Q} {P : α → Prop} {f : α → Int} {c : Int} {e : Nat} (hc : 0 ≤ c)
    (hstep : ∀ a x s E, P a → Near x s E → -2540 ≤ s → s + c ≤ 2540 → E + e ≤ 2 ^ 40 →
      ∃ v, step a x = some v ∧ Near v (s + f a) (E + e) ∧ 0 ≤ f a ∧ f a ≤ c) :
    ∀ (l : List α) (x : Q) (s : Int) (E : Nat), Near x s E → (∀ a ∈ l, P a) → -2540 ≤ s →
      s + c * (l.length : Int) ≤ 2540 → E + e * l.length ≤ 2 ^ 40 →
      ∃ v, stepLoop step l x = some v ∧ Near v (s + isum (l.map f)) (E + e * l.length) ∧
        s ≤ s + isum (l.map f) ∧ s + isum (l.map f) ≤ s + c * (l.length : Int)
  | [], x, s, E, hx, _, _, _, _ => ⟨x, rfl, by simpa [isum] using hx, by simp [isum], by simp [isum]⟩
  | a :: l, x, s, E, hx, hall, hlo, hhi, hE => by
    have ih := stepLoop_near hc hstep l
    have e1 : (((a :: l).length : Nat) : Int) = (l.length : Int) + 1 := by simp
    have e2 : isum ((a :: l).map f) = f a + isum (l.map f) := rfl
    have hcn : 0 ≤ c * (l.length : Int) := Int.mul_nonneg hc (Int.natCast_nonneg _)
    rw [e1, Int.mul_add, Int.mul_one] at hhi ⊢
    rw [List.length_cons, Nat.mul_succ] at hE ⊢
    rw [e2]
    generalize c * (l.length : Int) = X at hhi hcn ih ⊢
    generalize e * l.length = Y at hE ih ⊢
    obtain ⟨x1, h1, b1, f0, f1⟩ := hstep a x s E (hall a (List.mem_cons_self ..)) hx hlo (by omega) (by omega)
    obtain ⟨v, hv, bv, lo, hi⟩ := ih x1 (s + f a) (E + e) b1 (fun y hy => hall y (List.mem_cons_of_mem _ hy)) (by omega)
      (by omega) (by omega)
    refine ⟨v, by rw [stepLoop, h1, Option.bind_some]; exact hv, ?_, by omega, by omega⟩
    rw [← Int.add_assoc]
    exact bv.mono (by omega)

theorem mobSumN (l : List (Nat × Nat)) (score : Q) (s : Int) (E : Nat) (hs : Near score s E)
    (hall : ∀ e ∈ l, e.2 ≤ 128) (hlo : -2540 ≤ s) (hhi : s + 114 * (l.length : Int) ≤ 2540)
    (hE : E + 17825792 * l.length ≤ 2 ^ 40) :
    ∃ v, mobSum l score = some v ∧ Near v (s + mob10 l) (E + 17825792 * l.length) ∧
      s ≤ s + mob10 l ∧ s + mob10 l ≤ s + 114 * (l.length : Int) := by
  rw [mobSum_eq]
  refine stepLoop_near (step := mobTerm) (P := fun e => e.2 ≤ 128) (f := fun e => ideal e.2) (c := 114) (e := 17825792)
    (by decide) (fun e x s E hn hx hlo hhi hE => ?_) l score s E hs hall hlo hhi hE
  obtain ⟨t, ht, nt, t0, t1⟩ := sqrtTerm_near hn
  obtain ⟨s1, h1, b1⟩ := add32N hx nt (by omega) (by omega)
  exact ⟨s1, by rw [mobTerm, ht, Option.bind_some]; exact h1, b1.mono (by omega), t0, t1⟩

theorem def10_bounds (d : Nat) : 0 ≤ def10 d ∧ def10 d ≤ 15 := by
  unfold def10 b10; constructor <;> (split <;> split <;> omega)

theorem defenceN (pos : Position) (turn : Color) (l : List Nat) (score : Q) (s : Int) (E : Nat) (hs : Near score s E)
    (hlo : -2540 ≤ s) (hhi : s + 15 * (l.length : Int) ≤ 2540) (hE : E + 33554432 * l.length ≤ 2 ^ 40) :
    ∃ v, defenceLoop pos turn l score = some v ∧ Near v (s + defSum pos turn l) (E + 33554432 * l.length) ∧
      s ≤ s + defSum pos turn l ∧ s + defSum pos turn l ≤ s + 15 * (l.length : Int) := by
  rw [defenceLoop_eq]
  refine stepLoop_near (step := defenceStep pos turn) (P := fun _ => True)
    (f := fun sq => def10 ((defenders pos turn sq).getD 0)) (c := 15) (e := 33554432) (by decide)
    (fun sq x s E _ hx hlo hhi hE => ?_) l score s E hs (fun _ _ => trivial) hlo hhi hE
  obtain ⟨d, hd⟩ := defenders_isSome pos turn sq
  have hb := def10_bounds d
  obtain ⟨s1, h1, b1⟩ := addIfN (decide (d > 0)) hx near_q1 (by omega) (by omega)
  have hb0 := b10_bounds (decide (d > 0)) (v := 10) (by decide)
  obtain ⟨s2, h2, b2⟩ := addIfN (decide (d > 1)) b1 near_qHalf (by omega) (by omega)
  simp only [hd, Option.getD_some]
  refine ⟨s2, by rw [defenceStep, hd, Option.bind_some, h1, Option.bind_some]; exact h2, ?_, hb.1, hb.2⟩
  rw [def10, ← Int.add_assoc]
  exact b2.mono (by omega)

theorem safetyN (pos : Position) (turn : Color) (score : Q) (s : Int) (E : Nat) (hs : Near score s E)
    (hlo : -2400 ≤ s) (hhi : s ≤ 2540) (hE : E + 17825792 ≤ 2 ^ 40) :
    ∃ v, kingSafety pos turn score = some v ∧ Near v (s - safety10 pos turn) (E + 17825792) ∧
      0 ≤ safety10 pos turn ∧ safety10 pos turn ≤ 114 := by
  unfold kingSafety safety10
  split
  · have hsafe : safety pos turn ≤ 128 := by
      unfold safety
      exact Nat.le_trans (popCount_le _) (by decide)
    obtain ⟨t, ht, nt, t0, t1⟩ := sqrtTerm_near hsafe
    rw [ht, Option.bind_some]
    obtain ⟨v, hv, bv⟩ := sub32N hs nt (by omega) (by omega)
    exact ⟨v, hv, bv.mono (by omega), t0, t1⟩
  · exact ⟨score, rfl, by simpa using hs.mono (by omega), by omega, by omega⟩

theorem pawnTermN {r : Nat} (hr : r ≤ 5) :
    ∃ k02 rr t, c02 = some k02 ∧ pawnsOfInt (r : Int) = some rr ∧ mul f32 k02 rr = some t ∧
      Near t (2 * (r : Int)) 1048576 := by
  obtain ⟨k02, hk, nk⟩ := const_near (c := c02) (s := 2) (E := 8192) (by decide +kernel)
  have hrr : pawnsOfInt (r : Int) = some (Q.ofInt (r : Int)) := by
    unfold pawnsOfInt
    exact rnd32_int _ (by omega)
  have hr' : 8192 * r ≤ 8192 * 5 := Nat.mul_le_mul_left _ hr
  obtain ⟨t, ht, h1⟩ := rnd32N 1 (nk.mul_nat r) (by omega) (by omega) (by decide)
  exact ⟨k02, _, t, hk, hrr, ht, h1.mono (by omega)⟩

theorem pawnN (pos : Position) (turn : Color) (l : List Nat) (score : Q) (s : Int) (E : Nat) (hs : Near score s E)
    (hall : ∀ sq ∈ l, pawnRanks turn sq ≤ 5) (hlo : -2540 ≤ s) (hhi : s + 13 * (l.length : Int) ≤ 2540)
    (hE : E + 35651584 * l.length ≤ 2 ^ 40) :
    ∃ v, pawnLoop pos turn l score = some v ∧ Near v (s + pawnSum pos turn l) (E + 35651584 * l.length) ∧
      s ≤ s + pawnSum pos turn l ∧ s + pawnSum pos turn l ≤ s + 13 * (l.length : Int) := by
  rw [pawnLoop_eq]
  refine stepLoop_near (step := pawnStep pos turn) (P := fun sq => pawnRanks turn sq ≤ 5) (f := pawn10 pos turn) (c := 13)
    (e := 35651584) (by decide) (fun sq x s E hr hx hlo hhi hE => ?_) l score s E hs hall hlo hhi hE
  obtain ⟨k02, rr, t, hk02, hrr, ht, nt⟩ := pawnTermN hr
  obtain ⟨k03, hk03, n03⟩ := const_near (c := c03) (s := 3) (E := 16384) (by decide +kernel)
  obtain ⟨d, hd⟩ := officerDefended_isSome pos turn sq kqrnb (fun _ h => h)
  obtain ⟨s1, h1, b1⟩ := add32N hx nt (by omega) (by omega)
  have hb0 := b10_bounds d (v := 3) (by decide)
  obtain ⟨s2, h2, b2⟩ := addIfN d b1 n03 (by omega) (by omega)
  have hp : pawn10 pos turn sq = 2 * (pawnRanks turn sq : Int) + b10 d 3 := by rw [pawn10, hd]; rfl
  refine ⟨s2, ?_, ?_, by omega, by omega⟩
  · rw [pawnStep, hk02, Option.bind_some, hrr, Option.bind_some, ht, Option.bind_some, h1, Option.bind_some, hd,
      Option.bind_some, hk03, Option.bind_some]
    exact h2
  · rw [hp, ← Int.add_assoc]
    exact b2.mono (by omega)

/-- what the error analysis needs of a position and a colour: small mobility map, at most 15 officers and pawns on the
loops of parts (2) and (4), pawns advanced at most 5 ranks -/
structure Small (pos : Position) (turn : Color) : Prop where
  keys : (mobility pos turn).length ≤ 16
  counts : ∀ e ∈ mobility pos turn, e.2 ≤ 128
  officers : (toSquares (middle pos turn)).length + (toSquares (pos.pieces turn .pawn)).length ≤ 15
  ranks : ∀ sq ∈ toSquares (pos.pieces turn .pawn), pawnRanks turn sq ≤ 5

/-- **`PositionPlay`, summed in any order, is within `2^-10` of `idealPlay / 10`.** -/
theorem positionPlayOrdN {pos : Position} {turn : Color} (hS : Small pos turn) (castled : Bool)
    (order : List (Nat × Nat) → List (Nat × Nat)) (hperm : ∀ l, (order l).Perm l) :
    ∃ v, positionPlayOrd order pos castled turn = some v ∧ Near v (idealPlay pos castled turn) 1073741824 ∧
      (idealPlay pos castled turn).natAbs ≤ 2540 := by
  have hk := hS.keys
  have ho := hS.officers
  have hlen : (order (mobility pos turn)).length = (mobility pos turn).length := (hperm _).length_eq
  obtain ⟨s1, h1, b1, p0, p1⟩ := prePlayN pos castled turn
  obtain ⟨s2, h2, b2, m0, m1⟩ := mobSumN (order (mobility pos turn)) s1 _ _ b1
    (fun e he => hS.counts e ((hperm _).mem_iff.mp he)) (by omega) (by rw [hlen]; omega) (by rw [hlen]; omega)
  rw [mob10_perm (hperm _)] at b2 m0 m1
  rw [hlen] at b2 m1
  obtain ⟨s3, h3, b3, d0, d1⟩ := defenceN pos turn (toSquares (middle pos turn)) s2 _ _ b2 (by omega) (by omega) (by omega)
  obtain ⟨s4, h4, b4, k0, k1⟩ := safetyN pos turn s3 _ _ b3 (by omega) (by omega) (by omega)
  obtain ⟨s5, h5, b5, q0', q1'⟩ := pawnN pos turn (toSquares (pos.pieces turn .pawn)) s4 _ _ b4 hS.ranks
    (by omega) (by omega) (by omega)
  refine ⟨s5, ?_, ?_, ?_⟩
  · unfold positionPlayOrd postPlay
    rw [h1, Option.bind_some, h2, Option.bind_some, h3, Option.bind_some, h4, Option.bind_some]
    exact h5
  · unfold idealPlay
    exact b5.mono (by omega)
  · unfold idealPlay
    omega

end Morlock.Proofs.Turochamp
