import Morlock.Proofs.MirrorGeom
import Morlock.Proofs.PromoRules
/-!
# C20: attacks and checks are symmetric under the colour-swapping mirror

`Mir p q` says that `q` is a colour-swapped mirror image of `p` as far as the rules can see (the 64
cells, the side to move, the rights, the en-passant target). It is symmetric, and `Mir p (mirror p)`
holds for every `p`; so every implication proved from `Mir p q` gives the converse for free.
-/
namespace Morlock.Spec
open Morlock.Proofs.Attack

structure Mir (p q : Pos) : Prop where
  cell : ∀ s, s < 64 → q.at (mirrorSq s) = mirrorCell (p.at s)
  turn : q.turn = p.turn.opp
  right : ∀ c ks, q.right c.opp ks = p.right c ks
  ep : q.ep = p.ep.map mirrorSq

theorem Mir.of_mirror (p : Pos) : Mir p (mirror p) :=
  ⟨fun _ hs => mirror_at_mirrorSq hs, rfl, mirror_right p, rfl⟩

theorem Mir.symm {p q : Pos} (h : Mir p q) : Mir q p where
  cell := by
    intro s hs
    have := h.cell (mirrorSq s) (mirrorSq_lt hs)
    rw [mirrorSq_mirrorSq] at this
    rw [this, mirrorCell_mirrorCell]
  turn := by rw [h.turn, Color.opp_opp]
  right := by
    intro c ks
    have := h.right c.opp ks
    rw [Color.opp_opp] at this
    exact this.symm
  ep := by
    rw [h.ep]
    cases p.ep <;> simp

theorem Mir.cell' {p q : Pos} (h : Mir p q) {s : Nat} (hs : s < 64) : q.at s = mirrorCell (p.at (mirrorSq s)) := by
  have := h.cell (mirrorSq s) (mirrorSq_lt hs)
  rwa [mirrorSq_mirrorSq] at this

theorem Mir.occ {p q : Pos} (h : Mir p q) : ∀ t, t < 64 → q.occ (mirrorSq t) = p.occ t := by
  intro t ht
  unfold Pos.occ
  rw [h.cell t ht, mirrorCell_isSome]

theorem Mir.at_some {p q : Pos} (h : Mir p q) {s : Nat} (hs : s < 64) {c : Color} {k : Kind}
    (hat : p.at s = some (c, k)) : q.at (mirrorSq s) = some (c.opp, k) := by
  rw [h.cell s hs, hat]; rfl

theorem Mir.at_none {p q : Pos} (h : Mir p q) {s : Nat} (hs : s < 64)
    (hat : p.at s = none) : q.at (mirrorSq s) = none := by
  rw [h.cell s hs, hat]; rfl

theorem attackedBy_mir_imp {p q : Pos} (h : Mir p q) (c : Color) (t : Nat)
    (ha : attackedBy p c t = true) : attackedBy q c.opp (mirrorSq t) = true := by
  obtain ⟨s, hs, k, hat, ht⟩ := attackedBy_iff.mp ha
  refine attackedBy_iff.mpr ⟨mirrorSq s, mirrorSq_lt hs, k, h.at_some hs hat, ?_⟩
  by_cases hk : k = .pawn
  · rw [if_pos hk] at ht ⊢
    exact mem_pawnTargets_mirror c hs ht
  · rw [if_neg hk] at ht ⊢
    exact mem_officerTargets_mirror h.occ k hs ht

def OneKing (p : Pos) (c : Color) : Prop :=
  ∀ s1 s2, s1 < 64 → s2 < 64 → p.at s1 = some (c, .king) → p.at s2 = some (c, .king) → s1 = s2

theorem kingSquare_some {p : Pos} {c : Color} {s : Nat} (h : kingSquare? p c = some s) :
    s < 64 ∧ p.at s = some (c, .king) := by
  unfold kingSquare? at h
  have h1 := List.mem_of_find?_eq_some h
  have h2 := List.find?_some h
  exact ⟨by simpa [allSquares] using h1, by simpa using h2⟩

theorem kingSquare_eq_none_iff {p : Pos} {c : Color} :
    kingSquare? p c = none ↔ ∀ s, s < 64 → p.at s ≠ some (c, .king) := by
  unfold kingSquare? allSquares
  simp only [List.find?_eq_none, List.mem_range, decide_eq_true_eq]

theorem kingSquare_eq_some {p : Pos} {c : Color} (hu : OneKing p c) {s : Nat} (hs : s < 64)
    (hat : p.at s = some (c, .king)) : kingSquare? p c = some s := by
  cases hk : kingSquare? p c with
  | none => exact absurd hat (kingSquare_eq_none_iff.mp hk s hs)
  | some s' =>
    obtain ⟨h1, h2⟩ := kingSquare_some hk
    rw [hu s' s h1 hs h2 hat]

theorem OneKing.mir {p q : Pos} (h : Mir p q) {c : Color} (hu : OneKing p c) : OneKing q c.opp := by
  intro s1 s2 h1 h2 a1 a2
  rw [h.cell' h1, mirrorCell_eq_some, Color.opp_opp] at a1
  rw [h.cell' h2, mirrorCell_eq_some, Color.opp_opp] at a2
  exact mirrorSq_inj (hu _ _ (mirrorSq_lt h1) (mirrorSq_lt h2) a1 a2)

theorem kingSquare_mir {p q : Pos} (h : Mir p q) {c : Color} (hu : OneKing p c) :
    kingSquare? q c.opp = (kingSquare? p c).map mirrorSq := by
  cases hk : kingSquare? p c with
  | none =>
    refine kingSquare_eq_none_iff.mpr fun s hs hat => ?_
    rw [h.cell' hs, mirrorCell_eq_some, Color.opp_opp] at hat
    exact kingSquare_eq_none_iff.mp hk _ (mirrorSq_lt hs) hat
  | some s =>
    obtain ⟨h1, h2⟩ := kingSquare_some hk
    exact kingSquare_eq_some (hu.mir h) (mirrorSq_lt h1) (h.at_some h1 h2)

theorem attackedBy_mirror (p : Pos) (c : Color) (t : Nat) :
    attackedBy (mirror p) c.opp (mirrorSq t) = attackedBy p c t := by
  have h := Mir.of_mirror p
  rw [Bool.eq_iff_iff]
  constructor
  · intro ha
    have := attackedBy_mir_imp h.symm c.opp (mirrorSq t) ha
    rwa [Color.opp_opp, mirrorSq_mirrorSq] at this
  · exact attackedBy_mir_imp h c t

theorem inCheck_mirror {p : Pos} {c : Color} (hu : OneKing p c) :
    inCheck (mirror p) c.opp = inCheck p c := by
  unfold inCheck
  rw [kingSquare_mir (Mir.of_mirror p) hu]
  cases kingSquare? p c with
  | none => rfl
  | some s => exact attackedBy_mirror p c.opp s

end Morlock.Spec
