import Morlock.Proofs.ABRef
/-!
# Enough fuel: when the fuel cut-off of the quiescence search is immaterial (helper for C13)

`QDone fuel p`: every line of explored legal moves from `p` reaches a drawn position or a position
without explored legal moves in fewer than `fuel` plies. Then the reference value `Q` does not depend on
the fuel, and `Model.quiesce` never reports `fuelOut`.
-/
namespace Morlock.Proofs.AB
open Morlock Morlock.Model Morlock.Model.Score Morlock.Spec
variable {P : Type}

/-- The explored quiescence tree below `p` is exhausted with `fuel` plies of fuel. -/
def QDone (g : Game P) (ex : P → Explore) : Nat → P → Prop
  | 0, _ => False
  | fuel + 1, p =>
    g.isDraw p = true ∨ ∀ m c, m ∈ g.moves p → (ex p).pick m = true → g.push p m = some c → QDone g ex fuel c

theorem QDone_mono (g : Game P) (ex : P → Explore) :
    ∀ fuel fuel' p, fuel ≤ fuel' → QDone g ex fuel p → QDone g ex fuel' p := by
  intro fuel
  induction fuel with
  | zero => intro fuel' p _ h; simp [QDone] at h
  | succ fuel ih =>
    intro fuel' p hle h
    obtain ⟨f', rfl⟩ : ∃ f', fuel' = f' + 1 := ⟨fuel' - 1, by omega⟩
    simp only [QDone] at h ⊢
    rcases h with h | h
    · exact Or.inl h
    · exact Or.inr fun m c hm hp hpush => ih f' c (by omega) (h m c hm hp hpush)

/-- **A measure bounds the fuel.** If along every explored legal move from a position of `I` the measure `μ` drops, or
    the child is exhausted within `j` plies (`j = 0`: never), then `μ p + j + 1` plies exhaust the tree below `p`. -/
theorem qdone_of_measure {g : Game P} {ex : P → Explore} (I : P → Prop) (μ : P → Nat) (j : Nat)
    (hstep : ∀ p m c, I p → m ∈ g.moves p → (ex p).pick m = true → g.push p m = some c →
      I c ∧ (μ c < μ p ∨ QDone g ex j c)) :
    ∀ k p, I p → μ p ≤ k → QDone g ex (k + j + 1) p := by
  intro k
  induction k with
  | zero =>
    intro p hI hk
    refine Or.inr fun m c hm hp hpush => ?_
    rcases (hstep p m c hI hm hp hpush).2 with h | h
    · omega
    · exact QDone_mono g ex j _ c (by omega) h
  | succ k ih =>
    intro p hI hk
    refine Or.inr fun m c hm hp hpush => ?_
    obtain ⟨hc, h | h⟩ := hstep p m c hI hm hp hpush
    · rw [Nat.add_right_comm]; exact ih c hc (by omega)
    · exact QDone_mono g ex j _ c (by omega) h

theorem mem_kids {g : Game P} {ex : P → Explore} {p : P} {l : List Move} {c : P} (h : c ∈ kids g ex p l) :
    ∃ m, m ∈ l ∧ (ex p).pick m = true ∧ g.push p m = some c := by
  unfold kids at h
  simp only [List.mem_filterMap] at h
  obtain ⟨m, hm, e⟩ := h
  by_cases hp : (ex p).pick m = true
  · simp only [hp, if_true] at e; exact ⟨m, hm, hp, e⟩
  · simp [hp] at e

theorem Q_stable (g : Game P) (ex : P → Explore) :
    ∀ fuel p, QDone g ex fuel p → ∀ fuel', fuel ≤ fuel' → Q g ex fuel' p = Q g ex fuel p := by
  intro fuel
  induction fuel with
  | zero => intro p h; simp [QDone] at h
  | succ fuel ih =>
    intro p h fuel' hle
    obtain ⟨f', rfl⟩ : ∃ f', fuel' = f' + 1 := ⟨fuel' - 1, by omega⟩
    simp only [QDone] at h
    simp only [Q]
    rcases h with h | h
    · simp [h]
    · have : ((kids g ex p (g.moves p)).map fun c => lift (Q g ex f' c)) =
          ((kids g ex p (g.moves p)).map fun c => lift (Q g ex fuel c)) := by
        apply List.map_congr_left
        intro c hc
        obtain ⟨m, hm, hp, hpush⟩ := mem_kids hc
        rw [ih c (h m c hm hp hpush) f' (by omega)]
      rw [this]

/-- **The fuel of quiescence leaves is immaterial for the main search** on a set of positions that is closed under the
    explored moves of the main search and on which `f0` plies exhaust the quiescence tree. -/
theorem V_fuel_irrelevant_of_qdone {g : Game P} {ex qx : P → Explore} (I : P → Prop)
    (hI : ∀ p c, I p → c ∈ kids g ex p (g.moves p) → I c) (f0 : Nat) (hq : ∀ p, I p → QDone g qx f0 p)
    (rootPly : Int) (fuel : Nat) (hf : f0 ≤ fuel) :
    ∀ d p, I p → V g ex (.quiescence qx fuel) rootPly d p = V g ex (.quiescence qx f0) rootPly d p := by
  intro d
  induction d with
  | zero =>
    intro p hp
    simp only [V, leafV]
    rw [Q_stable g qx f0 p (hq p hp) fuel hf]
  | succ d ih =>
    intro p hp
    simp only [V]
    rw [List.map_congr_left fun c hc => by rw [ih c (hI p c hp hc)]]

theorem quiesce_fuelOut (g : Game P) (ex : P → Explore) :
    ∀ fuel p, QDone g ex fuel p → ∀ a b st, (quiesce g ex fuel p a b st).2.fuelOut = st.fuelOut := by
  intro fuel
  induction fuel with
  | zero => intro p h; simp [QDone] at h
  | succ fuel ih =>
    intro p h a b st
    simp only [QDone] at h
    rw [quiesce_succ_eq]
    by_cases hc : cancelled st = true
    · rw [if_pos hc]; rfl
    · rw [if_neg hc]
      by_cases hnd : g.isDraw p = true
      · rw [if_pos hnd]; rfl
      · rw [if_neg hnd]
        have hkids : ∀ m c, m ∈ heapOrder (g.moves p) (ex p).prio → (ex p).pick m = true → g.push p m = some c →
            ∀ a b st, (quiesce g ex fuel c a b st).2.fuelOut = st.fuelOut := by
          intro m c hm hp hpush
          rcases h with h | h
          · exact absurd h hnd
          · exact ih c (h m c ((ABHeap.heapOrder_perm _ _).mem_iff.1 hm) hp hpush)
        have := quiesceLoop_frame (b := b) (fun s s' => s'.fuelOut = s.fuelOut) (fun _ => rfl)
          (fun h1 h2 => h2.trans h1) _ hkids (Score.max a (heuristicScore (g.eval p))) false
          { tick st with nodes := (tick st).nodes + 1 }
        dsimp only
        split <;> exact this

end Morlock.Proofs.AB
