import Morlock.Proofs.TurochampBound
import Morlock.Proofs.FltOps
/-!
# `FltFacts` holds: the two facts about `Flt.rnd` from the floating-point lemmas (`Proofs/FltOps.lean`)

The totality proofs (`Proofs/TurochampTotal.lean`) take `FltFacts` as a hypothesis; here it is proved, from
`rnd_isSome_of_absLe`, `rnd_absLe`, `rnd_canon`, `f32_wf`, `f64_wf`.
-/
namespace Morlock.Proofs.Turochamp
open Morlock.Model.Flt

set_option exponentiation.threshold 2048 in
theorem fltFacts : FltFacts where
  abs_le32 := by
    intro x B hB ⟨hd, hb⟩
    have hsome := rnd_isSome_of_absLe f32 f32_wf (by decide) hd hb
      (Nat.le_trans hB (Nat.pow_le_pow_right (by decide) (by decide)))
    obtain ⟨v, hv⟩ := Option.isSome_iff_exists.mp hsome
    exact ⟨v, hv, (rnd_canon f32 hv).1, rnd_absLe f32 f32_wf (by decide) (by decide) hd hb hB hv⟩
  abs_le64 := by
    intro x B hB ⟨hd, hb⟩
    have hsome := rnd_isSome_of_absLe f64 f64_wf (by decide) hd hb
      (Nat.le_trans hB (Nat.pow_le_pow_right (by decide) (by decide)))
    obtain ⟨v, hv⟩ := Option.isSome_iff_exists.mp hsome
    exact ⟨v, hv, (rnd_canon f64 hv).1, rnd_absLe f64 f64_wf (by decide) (by decide) hd hb hB hv⟩

end Morlock.Proofs.Turochamp
