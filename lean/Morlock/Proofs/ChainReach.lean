import Morlock.Proofs.ChainWF
/-!
# Chain: every position reachable from a `WFplay` start position by generated moves

* `GenReach p t q t'` — `q` (with `t'` to move) is reached from `p` (with `t` to move) by generated moves
  (`m ∈ pseudoLegalMoves`) accepted by `Position.move`, colours alternating;
* `GenPlay p t ms` — the moves `ms`, played in turn from `p`, are each generated in the position where they
  are played (as far as `Position.move` accepts them); `playMoves` plays them.

`WFplay` holds at every reachable position, and a generated play refines the reference game (`Spec.apply`).
-/
namespace Morlock.Proofs.Chain
open Morlock Morlock.Model Morlock.Proofs Morlock.Proofs.Gen

variable {p : Position} {b : Board} {turn : Color} {m : Move}

/-- The moves `ms`, played in turn from `p` with `t` to move, are generated moves: each one is in the
generator output of the position where it is played. -/
def GenPlay : Position → Color → List Move → Prop
  | _, _, [] => True
  | p, t, m :: ms => m ∈ p.pseudoLegalMoves t ∧ ∀ q, p.move m = some q → GenPlay q t.opp ms

/-- A decidable form of `GenPlay` (for examples). -/
def genPlayCheck : Position → Color → List Move → Bool
  | _, _, [] => true
  | p, t, m :: ms => decide (m ∈ p.pseudoLegalMoves t) &&
      (match p.move m with | some q => genPlayCheck q t.opp ms | none => true)

theorem genPlay_of_check : ∀ (ms : List Move) (p : Position) (t : Color), genPlayCheck p t ms = true → GenPlay p t ms
  | [], _, _, _ => trivial
  | m :: ms, p, t, h => by
    simp only [genPlayCheck, Bool.and_eq_true, decide_eq_true_eq] at h
    refine ⟨h.1, fun q hq => ?_⟩
    have h2 := h.2
    rw [hq] at h2
    exact genPlay_of_check ms q t.opp h2

theorem genPlay_prefix : ∀ (ms rest : List Move) (p : Position) (t : Color), GenPlay p t (ms ++ rest) → GenPlay p t ms
  | [], _, _, _, _ => trivial
  | _ :: ms, rest, _, t, h => ⟨h.1, fun q hq => genPlay_prefix ms rest q t.opp (h.2 q hq)⟩
theorem mem_pseudo_of_legal {p : Position} {t : Color} {m : Move} (h : m ∈ p.legalMoves t) :
    m ∈ p.pseudoLegalMoves t := by
  unfold Position.legalMoves at h
  exact (List.mem_filter.mp h).1

inductive GenReach : Position → Color → Position → Color → Prop
  | refl (p : Position) (t : Color) : GenReach p t p t
  | step {p q r : Position} {t t' : Color} {m : Move} :
      GenReach p t q t' → m ∈ q.pseudoLegalMoves t' → q.move m = some r → GenReach p t r t'.opp

theorem reach_wfplay {p q : Position} {t t' : Color} (hw : WFplay p t) (hr : GenReach p t q t') : WFplay q t' := by
  induction hr with
  | refl => exact hw
  | step _ hm hq ih => exact wf_preserved (ih hw) hm hq

def playMoves (p : Position) (t : Color) : List Move → Option (Position × Color)
  | [] => some (p, t)
  | m :: ms =>
    match p.move m with
    | some q => playMoves q t.opp ms
    | none => none

theorem genReach_of_play : ∀ (ms : List Move) {p0 : Position} {t0 : Color} (p : Position) (t : Color),
    GenReach p0 t0 p t → GenPlay p t ms → ∀ q t', playMoves p t ms = some (q, t') → GenReach p0 t0 q t'
  | [], _, _, p, t, hr, _, q, t', h => by
    simp only [playMoves, Option.some.injEq, Prod.mk.injEq] at h
    obtain ⟨rfl, rfl⟩ := h
    exact hr
  | m :: ms, _, _, p, t, hr, hg, q, t', h => by
    simp only [playMoves] at h
    cases hm : p.move m with
    | none => rw [hm] at h; cases h
    | some r =>
      rw [hm] at h
      exact genReach_of_play ms r t.opp (GenReach.step hr hg.1 hm) (hg.2 r hm) q t' h

/-- **One generated move refines the reference** (C02 `move_refines_spec` with all hypotheses discharged):
the abstraction of the new position is `Spec.apply` of the abstraction of the old one. -/
theorem step_refines {p q : Position} {t : Color} (hw : WFplay p t) (hm : m ∈ p.pseudoLegalMoves t)
    (hq : p.move m = some q) : abs q t.opp = Spec.apply (abs p t) (absMove m) := by
  have hps := (mem_pseudoLegalMoves hw.1.rep hw.1.wfb m).mp hm
  obtain ⟨hok, hcl⟩ := hps.metaOK_classOK hw.1.rep hw.1.wfb
  exact abs_move hw.1.rep hok (pseudo_mover hw.1 m hm) hcl
    (landOK_of_kingHome hw.1.rep hok (kingHome_of_wf hw.1) (pseudo_noKingCapture hw m hm) t) hq

theorem play_refines_gen : ∀ (ms : List Move) {p q : Position} {t t' : Color}, WFplay p t → GenPlay p t ms →
    playMoves p t ms = some (q, t') →
    WFplay q t' ∧ abs q t' = ms.foldl (fun s m => Spec.apply s (absMove m)) (abs p t)
  | [], p, q, t, t', hw, _, h => by
    simp only [playMoves, Option.some.injEq, Prod.mk.injEq] at h
    obtain ⟨rfl, rfl⟩ := h
    exact ⟨hw, rfl⟩
  | m :: ms, p, q, t, t', hw, hg, h => by
    simp only [playMoves] at h
    cases hm : p.move m with
    | none => rw [hm] at h; cases h
    | some r =>
      rw [hm] at h
      obtain ⟨g1, g2⟩ := play_refines_gen ms (wf_preserved hw hg.1 hm) (hg.2 r hm) h
      refine ⟨g1, ?_⟩
      rw [g2, step_refines hw hg.1 hm]
      rfl

end Morlock.Proofs.Chain
