import Morlock.Proofs.SargonExchange
import Morlock.Proofs.SargonFlt
/-!
# SARGON: `Material`, `Mobility`, `Development`, `Points.Evaluate` are total, with bounds
-/
namespace Morlock.Proofs.Sargon
open Morlock Morlock.Model Morlock.Model.Sargon Morlock.Proofs.Attack Morlock.Proofs.Gen
open Morlock.Model.Flt (Q f32)

/-- bound on `|Exchange|` -/
def exchMax : Int := 200 * (sideMax : Int)
theorem exchMax_eq : exchMax = 2457600 := by decide
theorem sideMax_eq : sideMax = 12288 := by decide

theorem materialPawns_bound (pos : Position) (turn : Color) : -7744 ≤ materialPawns pos turn ∧ materialPawns pos turn ≤ 7744 := by
  unfold materialPawns
  simp only [Position.piecesInOrder, List.foldl, Proofs.Mirror.nominalValue_pawn, Proofs.Mirror.nominalValue_bishop,
    Proofs.Mirror.nominalValue_knight, Proofs.Mirror.nominalValue_rook, Proofs.Mirror.nominalValue_queen,
    Proofs.Mirror.nominalValue_king]
  have h := fun k => And.intro (popCount_le (pos.pieces turn k)) (popCount_le (pos.pieces turn.opp k))
  have h1 := h .pawn
  have h2 := h .bishop
  have h3 := h .knight
  have h4 := h .rook
  have h5 := h .queen
  have h6 := h .king
  omega

def MInv (s : MState) : Prop :=
  -exchMax ≤ s.ptsl ∧ s.ptsl ≤ 0 ∧ 0 ≤ s.ptsw1 ∧ s.ptsw1 ≤ exchMax ∧ 0 ≤ s.ptsw2 ∧ s.ptsw2 ≤ exchMax

theorem materialStep_inv (last : Option Move) (sq : Nat) (v : Int) (s : MState) (hv1 : -exchMax ≤ v) (hv2 : v ≤ exchMax)
    (h : MInv s) : MInv (materialStep last sq v s) := by
  obtain ⟨a, b, c, d, e, f⟩ := h
  unfold materialStep MInv
  split
  · dsimp only; omega
  · split
    · dsimp only; omega
    · split
      · dsimp only; omega
      · omega

theorem materialLoop_ok {p : Position} {b : Board} (hrep : Rep p b) {srt : List Attacker → List Attacker} (hs : SortOK srt)
    (v : BView) (hv : v.pos = p) (pins : Pins) :
    ∀ (l : List Nat) (s : MState), (∀ sq ∈ l, sq < 64) → MInv s → ∃ s', materialLoop srt v pins l s = .ok s' ∧ MInv s' := by
  intro l
  induction l with
  | nil => intro s _ hi; exact ⟨s, rfl, hi⟩
  | cons sq rest ih =>
    intro s hl hi
    obtain ⟨x, hx, hx1, hx2⟩ := exchangeW_ok hrep hs pins v.turn.opp (hl sq (List.mem_cons_self ..))
    obtain ⟨s', hs', hi'⟩ := ih (materialStep v.last sq x s) (fun y hy => hl y (List.mem_cons_of_mem _ hy))
      (materialStep_inv _ _ _ _ hx1 hx2 hi)
    refine ⟨s', ?_, hi'⟩
    simp only [materialLoop, hv, hx, hs']

/-- bound on `|2·mtrl|` -/
def mtrl2Max : Int := 15490 + 6 * exchMax

theorem materialW_ok {p : Position} {b : Board} (hrep : Rep p b) {srt : List Attacker → List Attacker} (hs : SortOK srt)
    (v : BView) (hv : v.pos = p) (pins : Pins) :
    ∃ m chk, materialW srt v pins = .ok (m, chk) ∧ -mtrl2Max ≤ m ∧ m ≤ mtrl2Max := by
  unfold materialW
  have hl : ∀ sq ∈ toSquares v.pos.all, sq < 64 := by
    intro sq hsq
    rw [hv] at hsq
    exact toSquares_lt hrep.rotLt hsq
  obtain ⟨s, hs', a, b', c, d, e, f⟩ := materialLoop_ok hrep hs v hv pins (toSquares v.pos.all) {} hl
    (by unfold MInv exchMax sideMax stackFuel; simp)
  have hm := materialPawns_bound v.pos v.turn
  simp only [hs']
  refine ⟨_, _, rfl, ?_⟩
  have hw : 0 ≤ (if s.ptschk = true then 0 else s.ptsw2) ∧ (if s.ptschk = true then 0 else s.ptsw2) ≤ exchMax := by
    split <;> omega
  generalize (if s.ptschk = true then 0 else s.ptsw2) = w at hw ⊢
  have hloss : 2 * -exchMax ≤ (if s.ptsl < 0 then 2 * s.ptsl + 1 else s.ptsl) ∧ (if s.ptsl < 0 then 2 * s.ptsl + 1 else s.ptsl) ≤ 0 := by
    split <;> omega
  generalize (if s.ptsl < 0 then 2 * s.ptsl + 1 else s.ptsl) = loss at hloss ⊢
  have hwin : 0 ≤ (if w > 0 then 2 * w - 1 else 2 * w) ∧ (if w > 0 then 2 * w - 1 else 2 * w) ≤ 2 * exchMax := by
    split <;> omega
  generalize (if w > 0 then 2 * w - 1 else 2 * w) = win at hwin ⊢
  unfold mtrl2Max
  omega

theorem mobilityLoop_ok {p : Position} {b : Board} (hrep : Rep p b) (v : BView) (hv : v.pos = p) (pins : Pins) :
    ∀ (l : List Nat) (acc : Int) (A : Int), (∀ sq ∈ l, sq < 64) → -A ≤ acc → acc ≤ A →
      ∃ r, mobilityLoop v pins l acc = .ok r ∧ -(A + (l.length : Int) * sideMax) ≤ r ∧ r ≤ A + (l.length : Int) * sideMax := by
  intro l
  induction l with
  | nil => intro acc A _ h1 h2; exact ⟨acc, rfl, by simp; omega, by simp; omega⟩
  | cons sq rest ih =>
    intro acc A hl h1 h2
    have hsq := hl sq (List.mem_cons_self ..)
    obtain ⟨att, hatt, natt, datt⟩ := findAttackers_ok hrep pins hsq v.turn
    obtain ⟨opp, hopp, nopp, dopp⟩ := findAttackers_ok hrep pins hsq v.turn.opp
    have ha := numAttackers_le natt datt
    have ho := numAttackers_le nopp dopp
    have hsm : (sideMax : Int) = 384 * (stackFuel : Int) := by unfold sideMax; simp
    obtain ⟨r, hr, hr1, hr2⟩ := ih (acc + ((numAttackers att : Int) - (numAttackers opp : Int))) (A + sideMax)
      (fun y hy => hl y (List.mem_cons_of_mem _ hy)) (by omega) (by omega)
    have e : (((sq :: rest).length : Nat) : Int) * sideMax = (rest.length : Int) * sideMax + sideMax := by
      rw [List.length_cons, Int.natCast_add, Int.add_mul, Int.natCast_one, Int.one_mul]
    rw [e]
    exact ⟨r, by simp only [mobilityLoop, hv, hatt, hopp, hr], by omega, by omega⟩

/-- bound on `|Mobility|` -/
def mobMax : Int := 64 * (sideMax : Int)

theorem mobility_ok {p : Position} {b : Board} (hrep : Rep p b) (v : BView) (hv : v.pos = p) (pins : Pins) :
    ∃ r, mobility v pins = .ok r ∧ -mobMax ≤ r ∧ r ≤ mobMax := by
  obtain ⟨r, hr, h1, h2⟩ := mobilityLoop_ok hrep v hv pins (List.range 64) 0 0 (fun sq hsq => List.mem_range.mp hsq)
    (by omega) (by omega)
  refine ⟨r, hr, ?_, ?_⟩
  · unfold mobMax; simp only [List.length_range] at h1; omega
  · unfold mobMax; simp only [List.length_range] at h2; omega

theorem kingDev_range (c m : Bool) : -2 ≤ kingDev c m ∧ kingDev c m ≤ 6 := by
  unfold kingDev; cases c <;> cases m <;> simp

theorem development_bound (v : BView) : -532 ≤ development v ∧ development v ≤ 532 := by
  unfold development
  simp only []
  have k1 := kingDev_range (v.hasCastled v.turn) ((v.pos.pieces v.turn .king &&& v.moved) != 0)
  have k2 := kingDev_range (v.hasCastled v.turn.opp) ((v.pos.pieces v.turn.opp .king &&& v.moved) != 0)
  have a1 := popCount_le (andNot (v.pos.pieces v.turn .knight) v.moved)
  have a2 := popCount_le (andNot (v.pos.pieces v.turn.opp .knight) v.moved)
  have a3 := popCount_le (andNot (v.pos.pieces v.turn .bishop) v.moved)
  have a4 := popCount_le (andNot (v.pos.pieces v.turn.opp .bishop) v.moved)
  have a5 := popCount_le (v.pos.pieces v.turn .rook &&& v.moved)
  have a6 := popCount_le (v.pos.pieces v.turn.opp .rook &&& v.moved)
  have a7 := popCount_le (v.pos.pieces v.turn .queen &&& v.moved)
  have a8 := popCount_le (v.pos.pieces v.turn.opp .queen &&& v.moved)
  simp only [if_true, Bool.false_eq_true, if_false]
  split <;> omega

/-- bound on `|BoardControl|` -/
def brdcMax : Int := 532 + mobMax

theorem boardControl_ok {p : Position} {b : Board} (hrep : Rep p b) (v : BView) (hv : v.pos = p) (pins : Pins) :
    ∃ r, boardControl v pins = .ok r ∧ -brdcMax ≤ r ∧ r ≤ brdcMax := by
  obtain ⟨m, hm, h1, h2⟩ := mobility_ok hrep v hv pins
  have hd := development_bound v
  refine ⟨development v + m, ?_, ?_, ?_⟩
  · simp only [boardControl, hm]
  · unfold brdcMax; omega
  · unfold brdcMax; omega

theorem reset_ok {p : Position} {b : Board} (hrep : Rep p b) (v : BView) (hv : v.pos = p) :
    ∃ pts, reset v = .ok pts ∧ pts.side0 = v.turn ∧ -brdcMax ≤ pts.brdc0 ∧ pts.brdc0 ≤ brdcMax := by
  obtain ⟨r, hr, h1, h2⟩ := boardControl_ok hrep v hv (findKingQueenPins v.pos)
  exact ⟨{ side0 := v.turn, brdc0 := r }, by simp only [reset, hr], rfl, h1, h2⟩

theorem absLe_ofInt {i : Int} {B : Nat} (h : i.natAbs ≤ B) : AbsLe (Q.ofInt i) B := by
  unfold AbsLe Q.ofInt; simpa using h

theorem absLe_halves {i : Int} {B : Nat} (h : i.natAbs ≤ B) : AbsLe (Q.halves i) B := by
  unfold AbsLe Q.halves; simp only []; omega

theorem limit_range (x : Int) : -6 ≤ limit x 6 ∧ limit x 6 ≤ 6 := by
  unfold limit; split
  · omega
  · split <;> omega

theorem mtrl2Max_eq : mtrl2Max = 14761090 := by decide
theorem brdcMax_eq : brdcMax = 786964 := by decide

/-- **`Points.Evaluate` is total and bounded** on every represented position, for every sorter, every root state. -/
theorem evaluatePartsW_ok {p : Position} {b : Board} (hrep : Rep p b) {srt : List Attacker → List Attacker}
    (hs : SortOK srt) (pts : Points) (v : BView) (hv : v.pos = p) :
    ∃ r, evaluatePartsW srt pts v = .ok r ∧ 0 < r.points.den ∧ AbsLe r.points (2 ^ 28) ∧
      -brdcMax ≤ r.brdc ∧ r.brdc ≤ brdcMax ∧ -mtrl2Max ≤ r.mtrl2 ∧ r.mtrl2 ≤ mtrl2Max := by
  obtain ⟨brdc, hbrdc, hb1, hb2⟩ := boardControl_ok hrep v hv (findKingQueenPins v.pos)
  obtain ⟨m2, chk, hmat, hm1, hm2⟩ := materialW_ok hrep hs v hv (findKingQueenPins v.pos)
  have e1 := mtrl2Max_eq
  have e2 := brdcMax_eq
  obtain ⟨m4, hm4, dm4, am4⟩ := mul_ok (x := Q.halves m2) (y := Q.ofInt 4) (A := 14761090) (B := 4) (k := 26) (by simp [Q.halves]) (by simp [Q.ofInt])
    (absLe_halves (by omega)) (absLe_ofInt (by decide)) (by decide) (by decide)
  obtain ⟨q, hq, dq, aq⟩ := div_ok (x := Q.ofInt brdc) (d := 100) (A := 786964) (k := 20) (by simp [Q.ofInt]) (by decide)
    (absLe_ofInt (by omega)) (by decide) (by decide)
  have hlim := limit_range (brdc - pts.brdc0)
  unfold evaluatePartsW
  simp only [hbrdc, hmat, hm4, hq, ofOpt]
  by_cases hchk : chk = true
  · obtain ⟨r, hr, dr, ar⟩ := add_ok (A := 2 ^ 26) (B := 2 ^ 20) (k := 28) dm4 dq am4 aq (by decide) (by decide)
    simp only [hchk, if_true, hr]
    exact ⟨_, rfl, dr, ar, hb1, hb2, hm1, hm2⟩
  · obtain ⟨s, hs', ds, as⟩ := add_ok (y := Q.ofInt (limit (brdc - pts.brdc0) 6)) (A := 2 ^ 26) (B := 6) (k := 27) dm4 (by simp [Q.ofInt]) am4
      (absLe_ofInt (by omega)) (by decide) (by decide)
    obtain ⟨r, hr, dr, ar⟩ := add_ok (A := 2 ^ 27) (B := 2 ^ 20) (k := 28) ds dq as aq (by decide) (by decide)
    have hchk' : chk = false := by simpa using hchk
    simp only [hchk', Bool.false_eq_true, if_false, hs', hr]
    exact ⟨_, rfl, dr, ar, hb1, hb2, hm1, hm2⟩

end Morlock.Proofs.Sargon
