import Morlock.Proofs.FltRhe
/-! # The exponent chosen by `rndPos`; `carry` and the overflow test, the two steps that end both `rndPos` and `sqrtPos` -/
namespace Morlock.Model.Flt

/-- the formats for which the lemmas hold: at least one bit of precision, and the smallest normal binade is finite -/
structure Fmt.WF (f : Fmt) : Prop where
  p_pos : 1 ≤ f.p
  range : f.emin + ((f.p : Int) - 1) ≤ f.emax

theorem f32_wf : f32.WF := ⟨by decide, by decide⟩
theorem f64_wf : f64.WF := ⟨by decide, by decide⟩

/-- the exponent (of the last place) chosen by `rndPos` -/
def expo (f : Fmt) (a b : Nat) : Int :=
  let e0 : Int := (Nat.log2 a : Int) - (Nat.log2 b : Int) - ((f.p : Int) - 1)
  let s0 := scaled a b e0
  let e1 : Int := if s0.1 < s0.2 * 2 ^ (f.p - 1) then e0 - 1 else e0
  if e1 < f.emin then f.emin else e1

/-- renormalisation after rounding up to `2^p` -/
def carry (f : Fmt) (m : Nat) (e : Int) : Nat × Int :=
  if m == 2 ^ f.p then (2 ^ (f.p - 1), e + 1) else (m, e)

theorem rndPos_eq (f : Fmt) (a b : Nat) :
    rndPos f a b =
      (let me := carry f (roundHalfEven (a * pd (expo f a b)) (b * pn (expo f a b))) (expo f a b)
       if me.2 + ((f.p : Int) - 1) > f.emax then none else some me) := by
  simp only [rndPos, expo, carry, scaled_eq]

theorem two_pow_pred {p : Nat} (hp : 1 ≤ p) : 2 * 2 ^ (p - 1) = 2 ^ p := by
  obtain ⟨k, rfl⟩ : ∃ k, p = k + 1 := ⟨p - 1, by omega⟩
  simp [Nat.pow_succ, Nat.mul_comm]

theorem two_le_two_pow {k : Nat} (hk : 1 ≤ k) : 2 ≤ 2 ^ k :=
  Nat.pow_le_pow_right (n := 2) (by decide) hk

theorem two_pow_pred_lt {p : Nat} (hp : 1 ≤ p) : 2 ^ (p - 1) < 2 ^ p := by
  have := two_pow_pred hp
  have := Nat.two_pow_pos (p - 1)
  omega

theorem carry_of_ne {f : Fmt} {m : Nat} (h : m ≠ 2 ^ f.p) (e : Int) : carry f m e = (m, e) := by
  simp [carry, h]

theorem carry_pow (f : Fmt) (e : Int) : carry f (2 ^ f.p) e = (2 ^ (f.p - 1), e + 1) := by
  simp [carry]

theorem carry_val (f : Fmt) (hp : 1 ≤ f.p) (m : Nat) (e : Int) :
    (carry f m e).1 * pn (carry f m e).2 * pd e = m * pn e * pd (carry f m e).2 := by
  by_cases h : m = 2 ^ f.p
  · subst h
    rw [carry_pow, Nat.mul_assoc, pn_pd_shift (show e + 1 = e + (1 : Nat) by omega), Nat.pow_one,
      ← two_pow_pred hp]
    ac_rfl
  · rw [carry_of_ne h]

theorem carry_normal (f : Fmt) (hp : 1 ≤ f.p) {m : Nat} {e : Int} (hm : m ≤ 2 ^ f.p) (he : f.emin ≤ e)
    (hn : 2 ^ (f.p - 1) ≤ m ∨ e = f.emin) :
    (carry f m e).1 < 2 ^ f.p ∧ f.emin ≤ (carry f m e).2 ∧
      (2 ^ (f.p - 1) ≤ (carry f m e).1 ∨ (carry f m e).2 = f.emin) ∧ (carry f m e).2 ≤ e + 1 := by
  by_cases h : m = 2 ^ f.p
  · subst h
    rw [carry_pow]
    exact ⟨two_pow_pred_lt hp, by omega, Or.inl (Nat.le_refl _), Int.le_refl _⟩
  · rw [carry_of_ne h]
    exact ⟨Nat.lt_of_le_of_ne hm h, he, hn, by omega⟩

/-- `fin_…`: the overflow test `if e + (p−1) > emax then none else some (m, e)` that ends `rndPos` and `sqrtPos` -/
theorem fin_eq_some {f : Fmt} {c me : Nat × Int}
    (h : (if c.2 + ((f.p : Int) - 1) > f.emax then none else some c) = some me) :
    c = me ∧ me.2 + ((f.p : Int) - 1) ≤ f.emax := by
  split at h
  · exact absurd h (by simp)
  · obtain rfl : c = me := by simpa using h
    exact ⟨rfl, by omega⟩

/-- what `rndPos` and `sqrtPos` return, from what holds of `(m0, e0)` before renormalisation -/
theorem fin_spec (f : Fmt) (hp : 1 ≤ f.p) {P : Nat → Int → Prop} {m0 m : Nat} {e0 e : Int} (hm0 : m0 ≤ 2 ^ f.p)
    (he0 : f.emin ≤ e0) (hn0 : 2 ^ (f.p - 1) ≤ m0 ∨ e0 = f.emin) (hP : P m0 e0)
    (hcarry : m0 = 2 ^ f.p → P (2 ^ (f.p - 1)) (e0 + 1))
    (h : (if (carry f m0 e0).2 + ((f.p : Int) - 1) > f.emax then none else some (carry f m0 e0)) = some (m, e)) :
    m < 2 ^ f.p ∧ f.emin ≤ e ∧ e + ((f.p : Int) - 1) ≤ f.emax ∧ (2 ^ (f.p - 1) ≤ m ∨ e = f.emin) ∧ P m e := by
  obtain ⟨hme, hov⟩ := fin_eq_some h
  obtain ⟨n1, n2, n3, _⟩ := carry_normal f hp hm0 he0 hn0
  rw [hme] at n1 n2 n3
  refine ⟨n1, n2, hov, n3, ?_⟩
  by_cases hc : m0 = 2 ^ f.p
  · rw [hc, carry_pow] at hme
    obtain ⟨rfl, rfl⟩ := Prod.mk.inj hme
    exact hcarry hc
  · rw [carry_of_ne hc] at hme
    obtain ⟨rfl, rfl⟩ := Prod.mk.inj hme
    exact hP

theorem fin_isSome_iff {f : Fmt} {c : Nat × Int} :
    (if c.2 + ((f.p : Int) - 1) > f.emax then none else some c).isSome ↔ c.2 + ((f.p : Int) - 1) ≤ f.emax := by
  split <;> simp <;> omega

theorem log2_bounds {a : Nat} (ha : 0 < a) : 2 ^ Nat.log2 a ≤ a ∧ a < 2 ^ (Nat.log2 a + 1) :=
  ⟨Nat.log2_self_le (by omega), Nat.lt_log2_self⟩

theorem log_upper {a b : Nat} (ha : 0 < a) (hb : 0 < b) (e : Int) (p : Nat)
    (he : e + p = (Nat.log2 a : Int) - (Nat.log2 b : Int) + 1) : a * pd e < 2 ^ p * b * pn e := by
  have ⟨_, ha2⟩ := log2_bounds ha
  have ⟨hb1, _⟩ := log2_bounds hb
  have hte := Int.toNat_sub_toNat_neg e  -- makes the comparison of exponents below linear
  calc a * pd e < 2 ^ (Nat.log2 a + 1) * pd e := (Nat.mul_lt_mul_right (pd_pos _)).mpr ha2
    _ = 2 ^ (Nat.log2 a + 1 + (-e).toNat) := by unfold pd; rw [Nat.pow_add 2 (Nat.log2 a + 1)]
    _ ≤ 2 ^ (p + Nat.log2 b + e.toNat) := Nat.pow_le_pow_right (by decide) (by omega)
    _ = 2 ^ p * 2 ^ Nat.log2 b * pn e := by unfold pn; rw [Nat.pow_add, Nat.pow_add]
    _ ≤ 2 ^ p * b * pn e := Nat.mul_le_mul_right _ (Nat.mul_le_mul_left _ hb1)

theorem log_lower {a b : Nat} (ha : 0 < a) (hb : 0 < b) (e : Int) (p : Nat)
    (he : e + p = (Nat.log2 a : Int) - (Nat.log2 b : Int) - 1) : 2 ^ p * b * pn e ≤ a * pd e := by
  have ⟨ha1, _⟩ := log2_bounds ha
  have ⟨_, hb2⟩ := log2_bounds hb
  have hte := Int.toNat_sub_toNat_neg e
  calc 2 ^ p * b * pn e ≤ 2 ^ p * 2 ^ (Nat.log2 b + 1) * pn e :=
        Nat.mul_le_mul_right _ (Nat.mul_le_mul_left _ (Nat.le_of_lt hb2))
    _ = 2 ^ (p + (Nat.log2 b + 1) + e.toNat) := by unfold pn; rw [Nat.pow_add 2 (p + (Nat.log2 b + 1)), Nat.pow_add 2 p]
    _ ≤ 2 ^ (Nat.log2 a + (-e).toNat) := Nat.pow_le_pow_right (by decide) (by omega)
    _ = 2 ^ Nat.log2 a * pd e := by unfold pd; rw [Nat.pow_add]
    _ ≤ a * pd e := Nat.mul_le_mul_right _ ha1

/-- what characterises the exponent `e` of the rounding grid for `a / b`:
`a/b < 2^(e+p)`, and `e` is the smallest exponent of the format or `2^(e+p-1) ≤ a/b` -/
structure IsExpo (f : Fmt) (a b : Nat) (e : Int) : Prop where
  ge : f.emin ≤ e
  upper : a * pd e < 2 ^ f.p * b * pn e
  lower : e = f.emin ∨ 2 ^ (f.p - 1) * b * pn e ≤ a * pd e

theorem expo_spec (f : Fmt) (hp : 1 ≤ f.p) {a b : Nat} (ha : 0 < a) (hb : 0 < b) : IsExpo f a b (expo f a b) := by
  simp only [expo, scaled_eq]
  generalize he0 : (Nat.log2 a : Int) - (Nat.log2 b : Int) - ((f.p : Int) - 1) = e0
  -- the exponent before clamping to `emin`: `2^(p-1) ≤ a/b/2^e1 < 2^p`
  obtain ⟨e1, h1, hu, hl⟩ : ∃ e1, (if a * pd e0 < b * pn e0 * 2 ^ (f.p - 1) then e0 - 1 else e0) = e1 ∧
      a * pd e1 < 2 ^ f.p * b * pn e1 ∧ 2 ^ (f.p - 1) * b * pn e1 ≤ a * pd e1 := by
    have hc (e : Int) : 2 ^ (f.p - 1) * b * pn e = b * pn e * 2 ^ (f.p - 1) := by
      rw [Nat.mul_comm (2 ^ (f.p - 1)) b, Nat.mul_right_comm]
    split
    · rename_i hlt
      refine ⟨_, rfl, ?_, log_lower ha hb (e0 - 1) (f.p - 1) (by omega)⟩
      have := (lt_shift (show e0 = e0 - 1 + (1 : Nat) by omega) a (2 ^ (f.p - 1) * b)).mpr (hc e0 ▸ hlt)
      rwa [← Nat.mul_assoc, Nat.pow_one, two_pow_pred hp] at this
    · rename_i hnlt
      exact ⟨_, rfl, log_upper ha hb e0 f.p (by omega), hc e0 ▸ Nat.not_lt.mp hnlt⟩
  rw [h1]
  split
  · rename_i hlt
    exact ⟨Int.le_refl _, lt_mono_exp (Int.le_of_lt hlt) hu, Or.inl rfl⟩
  · exact ⟨by omega, hu, Or.inr hl⟩

theorem isExpo_le {f : Fmt} (hp : 1 ≤ f.p) {a b : Nat} {e e' : Int}
    (h : IsExpo f a b e) (hge : f.emin ≤ e') (hup : a * pd e' < 2 ^ f.p * b * pn e') : e ≤ e' := by
  rcases h.lower with h0 | h0
  · omega
  · have := exp_lt_of_le_of_lt h0 hup
    omega

theorem isExpo_le_of_ratio_le {f : Fmt} (hp : 1 ≤ f.p) {a b a' b' : Nat} {e e' : Int} (hb : 0 < b)
    (h : IsExpo f a b e) (h' : IsExpo f a' b' e') (hr : a * b' ≤ a' * b) : e ≤ e' :=
  isExpo_le hp h h'.ge (lt_of_ratio_le hb hr h'.upper)

theorem isExpo_unique {f : Fmt} (hp : 1 ≤ f.p) {a b a' b' : Nat} {e e' : Int} (hb : 0 < b) (hb' : 0 < b')
    (h : IsExpo f a b e) (h' : IsExpo f a' b' e') (hr : a * b' = a' * b) : e = e' :=
  Int.le_antisymm (isExpo_le_of_ratio_le hp hb h h' (Nat.le_of_eq hr))
    (isExpo_le_of_ratio_le hp hb' h' h (Nat.le_of_eq hr.symm))

theorem expo_mono {f : Fmt} (hp : 1 ≤ f.p) {a b a' b' : Nat} (ha : 0 < a) (hb : 0 < b) (ha' : 0 < a') (hb' : 0 < b')
    (hr : a * b' ≤ a' * b) : expo f a b ≤ expo f a' b' :=
  isExpo_le_of_ratio_le hp hb (expo_spec f hp ha hb) (expo_spec f hp ha' hb') hr

theorem expo_congr {f : Fmt} (hp : 1 ≤ f.p) {a b a' b' : Nat} (ha : 0 < a) (hb : 0 < b) (ha' : 0 < a') (hb' : 0 < b')
    (hr : a * b' = a' * b) : expo f a b = expo f a' b' :=
  isExpo_unique hp hb hb' (expo_spec f hp ha hb) (expo_spec f hp ha' hb') hr

end Morlock.Model.Flt
