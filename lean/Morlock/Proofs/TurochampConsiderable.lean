import Morlock.Model.Turochamp
import Morlock.Proofs.GenNodup
import Morlock.Proofs.Arena
import Morlock.Proofs.GenPseudo
/-!
# TUROCHAMP: the considerable-moves filter selects legal moves, in generator order, each once
-/
namespace Morlock.Proofs.Turochamp
open Morlock Morlock.Model Morlock.Model.Turochamp Morlock.Proofs.Arena Morlock.Proofs.Gen

theorem pushMove_some_move {w : World} {z : ZTable} {b : Nat} {m : Move} {w' : World}
    (h : w.pushMove z b m = some w') : ((w.cur b).pos.move m).isSome = true := by
  obtain ⟨_, next, hn, _⟩ := pushMove_some h
  rw [hn]; rfl

/-- the test the loop applies to a generated move -/
def considerableTest (z : ZTable) (w : World) (b : Nat) (m : Move) : Bool :=
  match w.pushMove z b m with
  | some w' => isConsiderableMove m w' b == some true
  | none => false

theorem considerableLoop_eq_filter (z : ZTable) (w : World) (b : Nat) :
    ∀ (ms l : List Move), considerableLoop z w b ms = some l → l = ms.filter (considerableTest z w b)
  | [], l, h => by
    simp only [considerableLoop, Option.some.injEq] at h
    subst h; rfl
  | m :: rest, l, h => by
    unfold considerableLoop at h
    rw [List.filter_cons]
    cases hp : w.pushMove z b m with
    | none =>
      rw [hp] at h
      have ht : considerableTest z w b m = false := by unfold considerableTest; rw [hp]
      rw [ht]
      exact considerableLoop_eq_filter z w b rest l h
    | some w' =>
      rw [hp] at h
      cases hc : considerablePick b w' m with
      | none => simp [hc] at h
      | some c =>
        cases hr : considerableLoop z w b rest with
        | none => simp [hc, hr] at h
        | some l' =>
          have ih := considerableLoop_eq_filter z w b rest l' hr
          simp only [hc, hr, Option.bind_some, Option.map_some, Option.some.injEq] at h
          subst h
          have ht : considerableTest z w b m = c := by
            unfold considerableTest
            rw [hp]
            have : isConsiderableMove m w' b = some c := hc
            show (isConsiderableMove m w' b == some true) = c
            rw [this]
            cases c <;> rfl
          rw [ht, ih]

theorem filter_sublist_of_imp {α : Type} {p q : α → Bool} (h : ∀ a, p a = true → q a = true) :
    ∀ l : List α, (l.filter p).Sublist (l.filter q)
  | [] => List.Sublist.refl _
  | a :: l => by
    rw [List.filter_cons, List.filter_cons]
    by_cases hp : p a = true
    · rw [if_pos hp, if_pos (h a hp)]; exact (filter_sublist_of_imp h l).cons_cons a
    · rw [if_neg hp]
      split
      · exact (filter_sublist_of_imp h l).cons a
      · exact filter_sublist_of_imp h l

theorem considerableLoop_sublist (z : ZTable) (w : World) (b : Nat) (ms l : List Move)
    (h : considerableLoop z w b ms = some l) : l.Sublist (ms.filter fun m => ((w.cur b).pos.move m).isSome) := by
  rw [considerableLoop_eq_filter z w b ms l h]
  apply filter_sublist_of_imp
  intro m hm
  unfold considerableTest at hm
  cases hp : w.pushMove z b m with
  | none => rw [hp] at hm; cases hm
  | some w' => exact pushMove_some_move hp

theorem considerableLoop_mem (z : ZTable) (w : World) (b : Nat) (ms l : List Move)
    (h : considerableLoop z w b ms = some l) :
    ∀ m ∈ l, ∃ w', w.pushMove z b m = some w' ∧ isConsiderableMove m w' b = some true := by
  intro m hm
  rw [considerableLoop_eq_filter z w b ms l h] at hm
  have ht := (List.mem_filter.mp hm).2
  unfold considerableTest at ht
  cases hp : w.pushMove z b m with
  | none => rw [hp] at ht; cases ht
  | some w' => rw [hp] at ht; exact ⟨w', rfl, eq_of_beq ht⟩

theorem pieceValue_isSome {k : Piece} (hk : k ≠ .none) : (pieceValue k).isSome = true := by
  cases k <;> simp [pieceValue] at hk ⊢

theorem isConsiderableCore_isSome (m : Move) (pos : Position) (turn : Color) (s : Option Move)
    (hp : m.piece ≠ .none) (hc : m.isCapture = true → m.capture ≠ .none) :
    (isConsiderableCore m pos turn s).isSome = true := by
  unfold isConsiderableCore
  by_cases hcap : m.isCapture = true
  · obtain ⟨a, ha⟩ := Option.isSome_iff_exists.mp (pieceValue_isSome hp)
    obtain ⟨c, hc'⟩ := Option.isSome_iff_exists.mp (pieceValue_isSome (hc hcap))
    simp [hcap, ha, hc']
  · simp [hcap]

theorem pseudo_piece_capture_ok {p : Position} {turn t : Color} (hw : WF p t) {m : Move}
    (hm : m ∈ p.pseudoLegalMoves turn) : m.piece ≠ .none ∧ (m.isCapture = true → m.capture ≠ .none) := by
  have h := hw.rep
  have hstep : ∀ pc, StepMove p.square turn pc m → m.piece ≠ .none ∧ (m.isCapture = true → m.capture ≠ .none) := by
    intro pc ⟨hfr, hpc, _, _, hcase⟩
    refine ⟨by rw [hpc]; exact h.ne_none_of_some hfr, fun hcap => ?_⟩
    rcases hcase with ⟨_, hty, _⟩ | ⟨k, hk, _, hc⟩
    · simp [Move.isCapture, hty] at hcap
    · rw [hc]; exact h.ne_none_of_some hk
  rcases (mem_pseudoLegalMoves h hw.wfb m).mp hm with ⟨pc, _, hs⟩ | hp | hs | ⟨_, hc⟩
  · exact hstep pc hs
  · obtain ⟨_, hpc, hcase⟩ := hp
    refine ⟨by rw [hpc]; simp, fun hcap => ?_⟩
    rcases hcase with ⟨_, _, _, h4⟩ | ⟨_, _, _, _, _, _, hty, _⟩ | ⟨_, k, hk, hc, _⟩ | ⟨_, _, _, _, hty, _⟩
    · rcases h4 with ⟨_, hty, _⟩ | ⟨_, hty, _⟩ <;> simp [Move.isCapture, hty] at hcap
    · simp [Move.isCapture, hty] at hcap
    · rw [hc]; exact h.ne_none_of_some hk
    · simp [Move.isCapture, hty] at hcap
  · exact hstep .king hs
  · obtain ⟨cs, hcs, _, _, _, hty, hpc, _⟩ := hc
    refine ⟨by rw [hpc]; simp, fun hcap => ?_⟩
    cases turn <;> simp [castleParams] at hcs <;> rcases hcs with rfl | rfl <;> simp [Move.isCapture, hty] at hcap

theorem considerableLoop_isSome (z : ZTable) (w : World) (b : Nat) :
    ∀ ms : List Move, (∀ m ∈ ms, m.piece ≠ .none ∧ (m.isCapture = true → m.capture ≠ .none)) →
      (considerableLoop z w b ms).isSome = true
  | [], _ => rfl
  | m :: rest, hall => by
    have ih := considerableLoop_isSome z w b rest (fun x hx => hall x (List.mem_cons_of_mem _ hx))
    unfold considerableLoop
    cases hp : w.pushMove z b m with
    | none => exact ih
    | some w' =>
      obtain ⟨l, hl⟩ := Option.isSome_iff_exists.mp ih
      have hm := hall m (List.mem_cons_self ..)
      obtain ⟨c, hc⟩ := Option.isSome_iff_exists.mp
        (isConsiderableCore_isSome m (w'.cur b).pos (w'.board b).turn (w'.secondToLastMove b) hm.1 hm.2)
      simp [considerablePick, isConsiderableMove, hc, hl]

end Morlock.Proofs.Turochamp
