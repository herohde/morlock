import Morlock.Proofs.Rep
/-!
# `Position.move` preserves `Rep` (helpers for C02)
-/
namespace Morlock.Proofs
open Morlock Morlock.Model

def promoOK (m : Move) : Bool :=
  m.promotion == .queen || m.promotion == .rook || m.promotion == .knight || m.promotion == .bishop

/-- Accuracy of the move metadata, stated on a mailbox board. -/
def MetaOKb (b : Board) (m : Move) : Bool :=
  match b m.from with
  | none => false
  | some (turn, pc) =>
    pc == m.piece && decide (m.to < 64) &&
    (match m.ty with
     | .invalid | .normal | .push | .jump => b m.to == none
     | .capture => b m.to == some (turn.opp, m.capture)
     | .promotion => b m.to == none && promoOK m
     | .capturePromotion => b m.to == some (turn.opp, m.capture) && promoOK m
     | .enPassant => b m.to == none && b m.enPassantCapture == some (turn.opp, .pawn)
     | .kingSideCastle | .queenSideCastle =>
       b m.to == none && b m.castlingRookMove.1 == some (turn, .rook) &&
       b m.castlingRookMove.2 == none && m.castlingRookMove.2 != m.to)

/-- `MetaOK p m`: the metadata carried by `m` is accurate in `p` (decidable: a `Bool`).
    * `from` holds a piece (of some colour `turn`) and it is `m.piece`; `to` is a real square;
    * capture types: `to` holds an enemy `m.capture`; all other types: `to` is empty (the zero
      type `invalid` is treated by `move` and `ZobristTable.Move` like a quiet move, and so here);
    * en passant: the victim pawn stands on `m.enPassantCapture`;
    * castling: own rook on the rook's home square, rook destination empty and distinct from `to`;
    * promotion types: `m.promotion ∈ {Q, R, N, B}`. -/
def MetaOK (p : Position) (m : Move) : Bool := MetaOKb p.square m

def movedPiece (m : Move) (pc : Piece) : Piece := if m.isPromotion then m.promotion else pc

/-- The board the rules prescribe after `m`: origin emptied, destination holds the moved or
    promoted piece, en-passant victim removed, castling rook hopped. -/
def boardAfter (b : Board) (m : Move) : Board :=
  match b m.from with
  | none => b
  | some (turn, pc) =>
    let b1 := upd (upd b m.from none) m.to (some (turn, movedPiece m pc))
    match m.ty with
    | .enPassant => upd b1 m.enPassantCapture none
    | .kingSideCastle | .queenSideCastle =>
      upd (upd b1 m.castlingRookMove.1 none) m.castlingRookMove.2 (some (turn, .rook))
    | _ => b1

/-- `Position.move` without the two legality tests (castling through check, own king in check). -/
def moveRaw (p : Position) (turn : Color) (pc : Piece) (m : Move) : Position :=
  let ret := p.xor m.from turn pc
  let ret := if m.isCapture then ret.xor m.to turn.opp m.capture else ret
  let ret := ret.xor m.to turn (movedPiece m pc)
  let ret := match m.ty with
    | .enPassant => ret.xor m.enPassantCapture turn.opp .pawn
    | .kingSideCastle | .queenSideCastle =>
      (ret.xor m.castlingRookMove.1 turn .rook).xor m.castlingRookMove.2 turn .rook
    | _ => ret
  { ret with enpassant := m.enPassantTarget, castling := andNot ret.castling m.castlingRightsLost }

theorem eq_of_ite_none_some {α} {c : Prop} [Decidable c] {x y : α}
    (h : (if c then none else some x) = some y) : y = x := by
  split at h <;> cases h; rfl

theorem move_eq_some {p p' : Position} {m : Move} {turn : Color} {pc : Piece}
    (hsq : p.square m.from = some (turn, pc)) (hm : p.move m = some p') :
    p' = moveRaw p turn pc m := by
  unfold Position.move at hm
  rw [hsq] at hm
  simp only at hm
  unfold moveRaw movedPiece
  simp only
  -- steps (1)–(3) are common to all move types: name their result before splitting on the type
  generalize Position.xor (if m.isCapture then _ else _) m.to turn _ = ret at hm ⊢
  generalize m.ty = ty at hm ⊢
  cases ty <;> simp only at hm ⊢
  case kingSideCastle | queenSideCastle =>
    split at hm
    · cases hm
    · rename_i r hr
      cases eq_of_ite_none_some hr
      exact eq_of_ite_none_some hm
  all_goals exact eq_of_ite_none_some hm

theorem upd_upd_same (b : Board) (s : Nat) (v1 v2) : upd (upd b s v1) s v2 = upd b s v2 := by
  funext x; simp only [upd]; split <;> rfl

theorem Rep.with_meta {p : Position} {b : Board} (h : Rep p b) (e c : Nat) :
    Rep { p with enpassant := e, castling := c } b := by
  have hp : ∀ c' k, ({ p with enpassant := e, castling := c } : Position).pieces c' k = p.pieces c' k := by
    intro c' k; cases c' <;> rfl
  exact { h with all := by simpa only [hp] using h.all, one := by simpa only [hp] using h.one,
                 piecesLt := by simpa only [hp] using h.piecesLt }

theorem castlingRookMove_cases (m : Move) :
    (m.from = E1 ∧ (m.castlingRookMove = (H1, F1) ∨ m.castlingRookMove = (A1, D1))) ∨
    (m.from = E8 ∧ (m.castlingRookMove = (H8, F8) ∨ m.castlingRookMove = (A8, D8))) ∨
    m.castlingRookMove = (0, 0) := by
  unfold Move.castlingRookMove
  split
  · rename_i h; simp at h; exact Or.inl ⟨h.2, Or.inl rfl⟩
  · split
    · rename_i h; simp at h; exact Or.inl ⟨h.2, Or.inr rfl⟩
    · split
      · rename_i h; simp at h; exact Or.inr (Or.inl ⟨h.2, Or.inl rfl⟩)
      · split
        · rename_i h; simp at h; exact Or.inr (Or.inl ⟨h.2, Or.inr rfl⟩)
        · exact Or.inr (Or.inr rfl)

theorem castlingRookMove_facts (m : Move) (hne : m.castlingRookMove.1 ≠ m.castlingRookMove.2) :
    m.castlingRookMove.1 ≠ m.from ∧ m.castlingRookMove.2 ≠ m.from ∧
    m.castlingRookMove.1 < 64 ∧ m.castlingRookMove.2 < 64 := by
  rcases castlingRookMove_cases m with ⟨h1, h2 | h2⟩ | ⟨h1, h2 | h2⟩ | h2 <;>
    simp_all [E1, H1, F1, A1, D1, E8, H8, F8, A8, D8]

theorem Color.opp_ne (c : Color) : c.opp ≠ c := by cases c <;> simp [Color.opp]

theorem ne_of_content {b : Board} {s t : Nat} {x y : Option (Color × Piece)}
    (hs : b s = x) (ht : b t = y) (h : x ≠ y) : s ≠ t := fun e => h (by rw [← hs, ← ht, e])

theorem some_opp_ne (turn : Color) (k k' : Piece) :
    (some (turn.opp, k) : Option (Color × Piece)) ≠ some (turn, k') :=
  fun e => Color.opp_ne turn (Prod.mk.inj (Option.some.inj e)).1

/-- The destination of a move of colour `turn`: holds an enemy `cap` if `isCap`, is empty otherwise. -/
def DestOK (b : Board) (to : Nat) (turn : Color) (cap : Piece) (isCap : Bool) : Prop :=
  (isCap = true ∧ b to = some (turn.opp, cap)) ∨ (isCap = false ∧ b to = none)

/-- Steps (1)–(3) of `move`: lift the piece, remove a captured piece, put the piece down. -/
theorem rep_steps123 {p : Position} {b : Board} (h : Rep p b) {fr to : Nat} {turn : Color}
    {pc mp cap : Piece} (hsq : b fr = some (turn, pc)) (hto : to < 64) (hmp : mp ≠ .none)
    (isCap : Bool) (hdest : DestOK b to turn cap isCap) :
    Rep ((if isCap then (p.xor fr turn pc).xor to turn.opp cap else p.xor fr turn pc).xor to turn mp)
      (upd (upd b fr none) to (some (turn, mp))) := by
  have h1 := h.xor_remove hsq
  rcases hdest with ⟨rfl, hb⟩ | ⟨rfl, hb⟩
  · have h2 := h1.xor_remove (c := turn.opp) (k := cap)
      (by rw [upd_other _ _ (ne_of_content hb hsq (some_opp_ne _ _ _)), hb])
    simpa only [if_true, upd_upd_same] using h2.xor_place hto turn hmp (upd_same ..)
  · simpa using h1.xor_place hto turn hmp
      (show upd b fr none to = none by rw [upd_other _ _ (ne_of_content hb hsq nofun), hb])

theorem promoOK_ne {m : Move} (h : promoOK m = true) : m.promotion ≠ .none := by
  unfold promoOK at h; intro e; rw [e] at h; simp at h

/-- The three shapes of a move that `boardAfter`, `moveRaw` and `ZobristTable.Move` distinguish
    after the steps common to all moves. -/
inductive MoveShape | plain | ep | castle

def moveShape (m : Move) : MoveShape :=
  match m.ty with
  | .enPassant => .ep
  | .kingSideCastle | .queenSideCastle => .castle
  | _ => .plain

theorem moveShape_ep_iff (m : Move) : moveShape m = .ep ↔ m.ty = .enPassant := by
  unfold moveShape; cases m.ty <;> simp

theorem moveShape_castle_iff (m : Move) : moveShape m = .castle ↔ m.isCastle = true := by
  unfold moveShape Move.isCastle; cases m.ty <;> simp

theorem boardAfter_eq {b : Board} {m : Move} {turn : Color} {pc : Piece}
    (hsq : b m.from = some (turn, pc)) :
    boardAfter b m =
      match moveShape m with
      | .plain => upd (upd b m.from none) m.to (some (turn, movedPiece m pc))
      | .ep => upd (upd (upd b m.from none) m.to (some (turn, movedPiece m pc))) m.enPassantCapture none
      | .castle => upd (upd (upd (upd b m.from none) m.to (some (turn, movedPiece m pc)))
          m.castlingRookMove.1 none) m.castlingRookMove.2 (some (turn, .rook)) := by
  unfold boardAfter moveShape; rw [hsq]; cases m.ty <;> rfl

theorem metaOKb_from {b : Board} {m : Move} (hok : MetaOKb b m = true) :
    ∃ turn pc, b m.from = some (turn, pc) := by
  unfold MetaOKb at hok
  cases hsq : b m.from with
  | none => rw [hsq] at hok; cases hok
  | some x => exact ⟨x.1, x.2, rfl⟩

structure EpFacts (b : Board) (m : Move) (turn : Color) : Prop where
  victim : b m.enPassantCapture = some (turn.opp, .pawn)
  ne_to : m.enPassantCapture ≠ m.to
  ne_from : m.enPassantCapture ≠ m.from

/-- What accurate metadata says about a castling move (`r1`, `r2`: the rook's origin and destination). -/
structure CastleFacts (b : Board) (m : Move) (turn : Color) : Prop where
  rook : b m.castlingRookMove.1 = some (turn, .rook)
  dest : b m.castlingRookMove.2 = none
  r2_ne_to : m.castlingRookMove.2 ≠ m.to
  r1_ne_to : m.castlingRookMove.1 ≠ m.to
  r1_ne_r2 : m.castlingRookMove.1 ≠ m.castlingRookMove.2
  r1_ne_from : m.castlingRookMove.1 ≠ m.from
  r2_ne_from : m.castlingRookMove.2 ≠ m.from
  r1_lt : m.castlingRookMove.1 < 64
  r2_lt : m.castlingRookMove.2 < 64

structure MoveFacts (b : Board) (m : Move) (turn : Color) (pc : Piece) : Prop where
  piece : pc = m.piece
  to_lt : m.to < 64
  promo : m.isPromotion = true → promoOK m = true
  dest : DestOK b m.to turn m.capture m.isCapture
  special : match moveShape m with
    | .plain => True
    | .ep => EpFacts b m turn
    | .castle => CastleFacts b m turn

/-- `MetaOKb` spelled out by shape: the one place where its ten type cases are gone through. -/
theorem metaOKb_shape {b : Board} {m : Move} {turn : Color} {pc : Piece}
    (hok : MetaOKb b m = true) (hsq : b m.from = some (turn, pc)) : MoveFacts b m turn pc := by
  unfold MetaOKb at hok; rw [hsq] at hok
  simp only [Bool.and_eq_true, beq_iff_eq, decide_eq_true_eq] at hok
  obtain ⟨⟨hpc, hto⟩, hty⟩ := hok
  suffices h : (m.isPromotion = true → promoOK m = true) ∧
      DestOK b m.to turn m.capture m.isCapture ∧
      match moveShape m with
      | .plain => True
      | .ep => EpFacts b m turn
      | .castle => CastleFacts b m turn from ⟨hpc, hto, h.1, h.2.1, h.2.2⟩
  unfold DestOK moveShape Move.isPromotion Move.isCapture
  cases ety : m.ty <;> rw [ety] at hty <;>
    simp only [Bool.and_eq_true, beq_iff_eq, bne_iff_ne, ne_eq] at hty <;>
    simp only [reduceCtorEq, decide_false, decide_true, Bool.or_false, Bool.or_true, Bool.false_eq_true,
      false_imp_iff, true_and, false_and, or_false, false_or, true_imp_iff, and_true]
  case promotion => exact ⟨hty.2, hty.1⟩
  case capturePromotion => exact ⟨hty.2, hty.1⟩
  case enPassant =>
    exact ⟨hty.1, hty.2, ne_of_content hty.2 hty.1 nofun, ne_of_content hty.2 hsq (some_opp_ne _ _ _)⟩
  case kingSideCastle | queenSideCastle =>
    obtain ⟨⟨⟨hto0, hrf⟩, hrt⟩, hne⟩ := hty
    have hrr := ne_of_content hrf hrt nofun
    obtain ⟨f1, f2, f3, f4⟩ := castlingRookMove_facts m hrr
    exact ⟨hto0, hrf, hrt, hne, ne_of_content hrf hto0 nofun, hrr, f1, f2, f3, f4⟩
  all_goals exact hty

theorem moveRaw_rep {p : Position} {b : Board} {m : Move} {turn : Color} {pc : Piece}
    (h : Rep p b) (hok : MetaOKb b m = true) (hsq : b m.from = some (turn, pc)) :
    Rep (moveRaw p turn pc m) (boardAfter b m) := by
  have hf := metaOKb_shape hok hsq
  have hmp : movedPiece m pc ≠ .none := by
    unfold movedPiece; split
    · exact promoOK_ne (hf.promo ‹_›)
    · exact h.ne_none_of_some hsq
  have h123 := rep_steps123 (cap := m.capture) h hsq hf.to_lt hmp m.isCapture hf.dest
  have hsp := hf.special
  rw [boardAfter_eq hsq]
  unfold moveRaw
  apply Rep.with_meta
  unfold moveShape at hsp ⊢
  cases ety : m.ty <;> simp only [ety] at hsp ⊢
  case enPassant =>
    refine h123.xor_remove ?_
    rw [upd_other _ _ hsp.ne_to, upd_other _ _ hsp.ne_from, hsp.victim]
  case kingSideCastle | queenSideCastle =>
    have h4 := h123.xor_remove (c := turn) (k := .rook)
      (by rw [upd_other _ _ hsp.r1_ne_to, upd_other _ _ hsp.r1_ne_from, hsp.rook])
    refine h4.xor_place hsp.r2_lt turn (by simp) ?_
    rw [upd_other _ _ (Ne.symm hsp.r1_ne_r2), upd_other _ _ hsp.r2_ne_to, upd_other _ _ hsp.r2_ne_from, hsp.dest]
  all_goals exact h123

theorem Rep.metaOK_iff {p : Position} {b : Board} (h : Rep p b) (m : Move) :
    MetaOK p m = MetaOKb b m := by unfold MetaOK; rw [← h.board_eq]

@[simp] theorem moveRaw_castling (p : Position) (turn : Color) (pc : Piece) (m : Move) :
    (moveRaw p turn pc m).castling = andNot p.castling m.castlingRightsLost := by
  unfold moveRaw
  cases m.ty <;> simp <;> split <;> simp

@[simp] theorem moveRaw_enpassant (p : Position) (turn : Color) (pc : Piece) (m : Move) :
    (moveRaw p turn pc m).enpassant = m.enPassantTarget := rfl

theorem move_rep {p p' : Position} {b : Board} {m : Move} (h : Rep p b) (hok : MetaOK p m = true)
    (hm : p.move m = some p') :
    Rep p' (boardAfter b m) ∧ p'.castling = andNot p.castling m.castlingRightsLost ∧
      p'.enpassant = m.enPassantTarget := by
  rw [h.metaOK_iff] at hok
  obtain ⟨turn, pc, hsq⟩ := metaOKb_from hok
  cases move_eq_some (by rw [h.square_eq]; exact hsq) hm
  exact ⟨moveRaw_rep h hok hsq, moveRaw_castling .., rfl⟩

def touches (m : Move) (sq : Nat) : Bool := decide (m.from = sq) || decide (m.to = sq)

/-- Bit `i` of `CastlingRightsLost` (the rights are the bits 0..3: `wK`, `wQ`, `bK`, `bQ`). -/
theorem lost_testBit (m : Move) (i : Nat) :
    m.castlingRightsLost.testBit i =
      ((decide (m.from = E1) && (decide (0 = i) || decide (1 = i))) ||
       ((decide (m.from = A1) || decide (m.to = A1)) && decide (1 = i)) ||
       ((decide (m.from = H1) || decide (m.to = H1)) && decide (0 = i)) ||
       (decide (m.from = E8) && (decide (2 = i) || decide (3 = i))) ||
       ((decide (m.from = A8) || decide (m.to = A8)) && decide (3 = i)) ||
       ((decide (m.from = H8) || decide (m.to = H8)) && decide (2 = i))) := by
  unfold Move.castlingRightsLost
  have ite_testBit : ∀ (c : Prop) [Decidable c] (v : Nat),
      (if c then v else 0).testBit i = (decide c && v.testBit i) :=
    fun c _ v => by by_cases h : c <;> simp [h]
  simp only [Nat.testBit_or, ite_testBit, Bool.or_eq_true, Bool.decide_or, decide_eq_true_eq,
    show wK = 2 ^ 0 from rfl, show wQ = 2 ^ 1 from rfl, show bK = 2 ^ 2 from rfl, show bQ = 2 ^ 3 from rfl,
    Nat.testBit_two_pow]

theorem right_bit (c : Nat) (m : Move) (i : Nat) :
    ((andNot c m.castlingRightsLost &&& 2 ^ i) != 0) =
      (((c &&& 2 ^ i) != 0) && !m.castlingRightsLost.testBit i) := by
  rw [and_two_pow_ne_zero, and_two_pow_ne_zero, testBit_andNot]

theorem right_wK (c : Nat) (m : Move) :
    ((andNot c m.castlingRightsLost &&& wK) != 0) =
      (((c &&& wK) != 0) && !decide (m.from = E1) && !(touches m H1)) := by
  rw [show wK = 2 ^ 0 from rfl, right_bit, lost_testBit]
  simp [touches, Bool.and_assoc]

theorem right_wQ (c : Nat) (m : Move) :
    ((andNot c m.castlingRightsLost &&& wQ) != 0) =
      (((c &&& wQ) != 0) && !decide (m.from = E1) && !(touches m A1)) := by
  rw [show wQ = 2 ^ 1 from rfl, right_bit, lost_testBit]
  simp [touches, Bool.and_assoc]

theorem right_bK (c : Nat) (m : Move) :
    ((andNot c m.castlingRightsLost &&& bK) != 0) =
      (((c &&& bK) != 0) && !decide (m.from = E8) && !(touches m H8)) := by
  rw [show bK = 2 ^ 2 from rfl, right_bit, lost_testBit]
  simp [touches, Bool.and_assoc]

theorem right_bQ (c : Nat) (m : Move) :
    ((andNot c m.castlingRightsLost &&& bQ) != 0) =
      (((c &&& bQ) != 0) && !decide (m.from = E8) && !(touches m A8)) := by
  rw [show bQ = 2 ^ 3 from rfl, right_bit, lost_testBit]
  simp [touches, Bool.and_assoc]

/-- `Reach p q`: `q` is obtained from `p` by a sequence of successful `move`s whose metadata is
    accurate at the time they are played. -/
inductive Reach : Position → Position → Prop
  | refl (p : Position) : Reach p p
  | step {p q r : Position} {m : Move} : Reach p q → MetaOK q m = true → q.move m = some r → Reach p r

theorem Rep.self {p : Position} {b : Board} (h : Rep p b) : Rep p p.square := h.board_eq ▸ h

theorem reach_rep {p q : Position} {b : Board} (h : Rep p b) (hr : Reach p q) : Rep q q.square := by
  induction hr with
  | refl => exact h.self
  | step _ hok hm ih => exact (move_rep ih hok hm).1.self

def playAll (p : Position) : List Move → Option Position
  | [] => some p
  | m :: ms => if MetaOK p m then (p.move m).bind (fun q => playAll q ms) else none

theorem playAll_reach {ms : List Move} : ∀ {p q : Position}, playAll p ms = some q → Reach p q := by
  induction ms with
  | nil => intro p q h; simp [playAll] at h; subst h; exact Reach.refl p
  | cons m ms ih =>
    intro p q h
    simp only [playAll] at h
    split at h
    · rename_i hok
      cases hm : p.move m with
      | none => rw [hm] at h; cases h
      | some r =>
        rw [hm] at h
        have hr : Reach r q := ih h
        have h1 : Reach p r := Reach.step (Reach.refl p) hok hm
        clear h ih
        induction hr with
        | refl => exact h1
        | step _ hok' hm' ih' => exact Reach.step ih' hok' hm'
    · cases h

theorem and7 (x : Nat) : x &&& 7 = x % 8 := Nat.and_two_pow_sub_one_eq_mod x 3

theorem newSquare_eq (f r : Nat) : newSquare f r = 8 * (r % 8) + f % 8 := by
  unfold newSquare
  have hf := Nat.mod_lt f (by decide : 8 > 0)
  have hr := Nat.mod_lt r (by decide : 8 > 0)
  rw [and7, and7, ← Nat.shiftLeft_add_eq_or_of_lt hf, Nat.shiftLeft_eq, Nat.mul_comm]
  generalize f % 8 = a at *; generalize r % 8 = b at *
  omega

theorem sqRank_eq (sq : Nat) : sqRank sq = sq / 8 % 8 := by
  unfold sqRank; rw [and7, Nat.shiftRight_eq_div_pow]

theorem sqFile_eq (sq : Nat) : sqFile sq = sq % 8 := and7 sq

theorem enPassantTarget_skipped (m : Move) (hty : m.ty = .jump) (hto : m.to < 64)
    (hg : (m.to = m.from + 16 ∧ sqRank m.to = 3) ∨ (m.from = m.to + 16 ∧ sqRank m.to = 4)) :
    m.enPassantTarget = (m.from + m.to) / 2 := by
  unfold Move.enPassantTarget
  simp only [hty, bne_self_eq_false, Bool.false_eq_true, if_false]
  simp only [newSquare_eq, sqRank_eq, sqFile_eq, Nat.mod_mod] at hg ⊢
  -- `to = 8 q + r` with `q, r < 8`: what is left for `omega` is linear
  have hdm := Nat.div_add_mod m.to 8
  have hr := Nat.mod_lt m.to (by decide : 8 > 0)
  have hq : m.to / 8 < 8 := by omega
  rw [Nat.mod_eq_of_lt hq] at hg ⊢
  generalize m.to / 8 = q at *
  generalize m.to % 8 = r at *
  rcases hg with ⟨e, rfl⟩ | ⟨e, rfl⟩
  · rw [if_pos rfl]; omega
  · rw [if_neg (by decide)]; omega

theorem boardAfter_spec {b : Board} {m : Move} {turn : Color} {pc : Piece}
    (hok : MetaOKb b m = true) (hsq : b m.from = some (turn, pc)) :
    boardAfter b m m.from = none ∧
    boardAfter b m m.to = some (turn, movedPiece m pc) ∧
    (m.ty = .enPassant → boardAfter b m m.enPassantCapture = none) ∧
    (m.isCastle = true → boardAfter b m m.castlingRookMove.1 = none ∧
      boardAfter b m m.castlingRookMove.2 = some (turn, Piece.rook)) ∧
    (∀ sq, sq ≠ m.from → sq ≠ m.to → (m.ty = .enPassant → sq ≠ m.enPassantCapture) →
      (m.isCastle = true → sq ≠ m.castlingRookMove.1 ∧ sq ≠ m.castlingRookMove.2) →
      boardAfter b m sq = b sq) := by
  have hf := metaOKb_shape hok hsq
  have hft : m.from ≠ m.to := by
    rcases hf.dest with ⟨_, h⟩ | ⟨_, h⟩
    · exact ne_of_content hsq h (Ne.symm (some_opp_ne _ _ _))
    · exact ne_of_content hsq h nofun
  have hsp := hf.special
  rw [boardAfter_eq hsq, ← moveShape_ep_iff, ← moveShape_castle_iff]
  cases hs : moveShape m <;> simp only [hs, reduceCtorEq, false_imp_iff, true_imp_iff, true_and, upd_same] at hsp ⊢
  case plain =>
    exact ⟨by rw [upd_other _ _ hft, upd_same], fun sq a b => by rw [upd_other _ _ b, upd_other _ _ a]⟩
  case ep =>
    refine ⟨by rw [upd_other _ _ (Ne.symm hsp.ne_from), upd_other _ _ hft, upd_same],
      by rw [upd_other _ _ (Ne.symm hsp.ne_to), upd_same], fun sq a b c => ?_⟩
    rw [upd_other _ _ c, upd_other _ _ b, upd_other _ _ a]
  case castle =>
    refine ⟨?_, ?_, ?_, fun sq a b c => ?_⟩
    · rw [upd_other _ _ (Ne.symm hsp.r2_ne_from), upd_other _ _ (Ne.symm hsp.r1_ne_from), upd_other _ _ hft, upd_same]
    · rw [upd_other _ _ (Ne.symm hsp.r2_ne_to), upd_other _ _ (Ne.symm hsp.r1_ne_to), upd_same]
    · rw [upd_other _ _ hsp.r1_ne_r2, upd_same]; exact ⟨rfl, trivial⟩
    · rw [upd_other _ _ c.2, upd_other _ _ c.1, upd_other _ _ b, upd_other _ _ a]

end Morlock.Proofs
