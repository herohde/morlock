import Morlock.Proofs.RepBits
import Morlock.Model.Bernstein
/-!
# List lemmas for the Bernstein model: the stable sort is a permutation, `truncate` is a prefix,
`search.Selection` picks exactly the listed moves, length bounds for `flatMap`.
-/
namespace Morlock.Proofs.Bernstein
open Morlock Morlock.Model Morlock.Model.Bernstein

theorem stableInsert_perm {α : Type} (less : α → α → Bool) (x : α) :
    ∀ l : List α, (stableInsert less x l).Perm (x :: l)
  | [] => List.Perm.refl _
  | y :: ys => by
    unfold stableInsert
    split
    · exact ((stableInsert_perm less x ys).cons y).trans (List.Perm.swap x y ys)
    · exact List.Perm.refl _

theorem stableSort_perm {α : Type} (less : α → α → Bool) :
    ∀ l : List α, (stableSort less l).Perm l
  | [] => List.Perm.refl _
  | x :: xs => by
    unfold stableSort
    exact (stableInsert_perm less x _).trans ((stableSort_perm less xs).cons x)

theorem mem_stableSort {α : Type} (less : α → α → Bool) (l : List α) (x : α) :
    x ∈ stableSort less l ↔ x ∈ l := (stableSort_perm less l).mem_iff

theorem stableSort_length {α : Type} (less : α → α → Bool) (l : List α) :
    (stableSort less l).length = l.length := (stableSort_perm less l).length_eq

theorem stableSort_nodup {α : Type} (less : α → α → Bool) {l : List α} (h : l.Nodup) :
    (stableSort less l).Nodup := (stableSort_perm less l).nodup_iff.mpr h

theorem stableSort_ne_nil {α : Type} (less : α → α → Bool) {l : List α} (h : l ≠ []) :
    stableSort less l ≠ [] := by
  intro e
  have := stableSort_length less l
  rw [e] at this
  exact h (List.length_eq_zero_iff.mp this.symm)

section Key
variable {α : Type} (less : α → α → Bool) (k : α → Int) (hkey : ∀ a b, less a b = decide (k a < k b))
include hkey

theorem stableInsert_sorted (x : α) : ∀ l : List α, l.Pairwise (fun a b => k a ≤ k b) →
    (stableInsert less x l).Pairwise (fun a b => k a ≤ k b)
  | [], _ => by simp [stableInsert]
  | y :: ys, h => by
    unfold stableInsert
    have hy := List.pairwise_cons.mp h
    rw [hkey y x]
    by_cases hyx : k y < k x
    · rw [decide_eq_true hyx, if_pos rfl]
      refine List.pairwise_cons.mpr ⟨?_, stableInsert_sorted x ys hy.2⟩
      intro z hz
      rcases List.mem_cons.mp ((stableInsert_perm less x ys).mem_iff.mp hz) with rfl | hz
      · omega
      · exact hy.1 z hz
    · rw [decide_eq_false hyx, if_neg (by simp)]
      refine List.pairwise_cons.mpr ⟨?_, h⟩
      intro z hz
      rcases List.mem_cons.mp hz with rfl | hz
      · omega
      · have := hy.1 z hz; omega

theorem stableSort_sorted : ∀ l : List α, (stableSort less l).Pairwise (fun a b => k a ≤ k b)
  | [] => by simp [stableSort]
  | x :: xs => by
    unfold stableSort
    exact stableInsert_sorted less k hkey x _ (stableSort_sorted xs)

theorem stableInsert_filter_key (x : α) (v : Int) : ∀ l : List α,
    (stableInsert less x l).filter (fun y => decide (k y = v)) = (x :: l).filter (fun y => decide (k y = v))
  | [] => by simp [stableInsert]
  | y :: ys => by
    unfold stableInsert
    rw [hkey y x]
    by_cases hyx : k y < k x
    · rw [decide_eq_true hyx, if_pos rfl, List.filter_cons, stableInsert_filter_key x v ys]
      by_cases hy : k y = v
      · have hx : ¬ k x = v := by omega
        simp [hy, hx]
      · simp [List.filter_cons, hy]
    · rw [decide_eq_false hyx, if_neg (by simp)]

theorem stableSort_filter_key (v : Int) : ∀ l : List α,
    (stableSort less l).filter (fun y => decide (k y = v)) = l.filter (fun y => decide (k y = v))
  | [] => by simp [stableSort]
  | x :: xs => by
    unfold stableSort
    rw [stableInsert_filter_key less k hkey x v, List.filter_cons, List.filter_cons, stableSort_filter_key v xs]

end Key

/-- The contract of `sort.SliceStable` determines the result. -/
theorem sorted_stable_unique {α : Type} (k : α → Int) : ∀ (l1 l2 : List α),
    l1.Pairwise (fun a b => k a ≤ k b) → l2.Pairwise (fun a b => k a ≤ k b) →
    (∀ v, l1.filter (fun y => decide (k y = v)) = l2.filter (fun y => decide (k y = v))) → l1 = l2
  | [], l2, _, _, h => by
    cases l2 with
    | nil => rfl
    | cons y ys =>
      have := h (k y)
      simp at this
  | x :: xs, [], _, _, h => by
    have := h (k x)
    simp at this
  | x :: xs, y :: ys, h1, h2, h => by
    have hx1 := List.pairwise_cons.mp h1
    have hy2 := List.pairwise_cons.mp h2
    have hxy : x = y := by
      by_cases hk : k y = k x
      · have := h (k x)
        simp only [List.filter_cons, decide_true, if_true, hk] at this
        exact (List.cons.inj this).1
      · exfalso
        -- `x` occurs in `l2` after `y`, and `y` occurs in `l1` after `x`
        have hxin : x ∈ (y :: ys).filter (fun z => decide (k z = k x)) := by
          rw [← h (k x)]; simp
        have hxys : x ∈ ys := by
          rcases List.mem_cons.mp (List.mem_filter.mp hxin).1 with e | e
          · exact absurd (by rw [e]) hk
          · exact e
        have hyin : y ∈ (x :: xs).filter (fun z => decide (k z = k y)) := by
          rw [h (k y)]; simp
        have hyxs : y ∈ xs := by
          rcases List.mem_cons.mp (List.mem_filter.mp hyin).1 with e | e
          · exact absurd (by rw [e]) hk
          · exact e
        have a := hx1.1 y hyxs
        have b := hy2.1 x hxys
        omega
    subst hxy
    congr 1
    apply sorted_stable_unique k xs ys hx1.2 hy2.2
    intro v
    have := h v
    simp only [List.filter_cons] at this
    by_cases hv : k x = v
    · simp only [hv, decide_true, if_true] at this
      exact (List.cons.inj this).2
    · simpa [hv] using this

theorem stableSort_unique {α : Type} (less : α → α → Bool) (k : α → Int) (hkey : ∀ a b, less a b = decide (k a < k b))
    (l l' : List α) (hs : l'.Pairwise (fun a b => k a ≤ k b))
    (hst : ∀ v, l'.filter (fun y => decide (k y = v)) = l.filter (fun y => decide (k y = v))) : l' = stableSort less l :=
  sorted_stable_unique k l' _ hs (stableSort_sorted less k hkey l)
    (fun v => by rw [hst v, stableSort_filter_key less k hkey v l])

theorem sortByPriority_sorted (fn : Move → Int) (l : List Move) :
    (sortByPriority l fn).Pairwise (fun a b => fn a ≥ fn b) := by
  have h := stableSort_sorted (fun a b => decide (fn a > fn b)) (fun m => - fn m)
    (fun a b => by apply decide_eq_decide.mpr; omega) l
  exact h.imp (fun {a b} hab => by omega)

theorem sortByPriority_stable (fn : Move → Int) (l : List Move) (v : Int) :
    (sortByPriority l fn).filter (fun m => decide (fn m = v)) = l.filter (fun m => decide (fn m = v)) := by
  have h := stableSort_filter_key (fun a b => decide (fn a > fn b)) (fun m => - fn m)
    (fun a b => by apply decide_eq_decide.mpr; omega) (-v) l
  have e : (fun m : Move => decide (-fn m = -v)) = (fun m => decide (fn m = v)) := by
    funext m; apply decide_eq_decide.mpr; omega
  rw [e] at h
  exact h

theorem sortByPriority_perm (fn : Move → Int) (l : List Move) : (sortByPriority l fn).Perm l :=
  stableSort_perm _ l

/-- `nominalValue` is a lookup by name in the generated table: it is made a variable first, or the unifier starts comparing
    strings. -/
theorem sortByNominalValue_sorted (l : List Placement) :
    (sortByNominalValue l).Pairwise (fun a b => nominalValue a.piece ≤ nominalValue b.piece) := by
  unfold sortByNominalValue
  generalize nominalValue = v
  exact stableSort_sorted _ (fun pl => v pl.piece) (fun _ _ => rfl) l

theorem sortByNominalValue_stable (l : List Placement) (v : Int) :
    (sortByNominalValue l).filter (fun pl => decide (nominalValue pl.piece = v)) =
      l.filter (fun pl => decide (nominalValue pl.piece = v)) := by
  unfold sortByNominalValue
  generalize nominalValue = val
  exact stableSort_filter_key _ (fun pl => val pl.piece) (fun _ _ => rfl) v l

theorem sortByNominalValue_perm (l : List Placement) : (sortByNominalValue l).Perm l :=
  stableSort_perm _ l

theorem truncate_prefix {α : Type} (l : List α) (limit : Int) : truncate l limit <+: l := by
  unfold truncate
  split
  · exact List.take_prefix _ _
  · exact List.prefix_refl _

theorem truncate_length_le {α : Type} (l : List α) {limit : Int} (h : 0 < limit) :
    ((truncate l limit).length : Int) ≤ limit := by
  unfold truncate
  split
  · rw [List.length_take]; omega
  · rename_i hc
    simp only [Bool.and_eq_true, decide_eq_true_eq, not_and] at hc
    have := hc h
    omega

theorem truncate_ne_nil {α : Type} {l : List α} (hl : l ≠ []) (limit : Int) : truncate l limit ≠ [] := by
  unfold truncate
  split
  · rename_i hc
    simp only [Bool.and_eq_true, decide_eq_true_eq] at hc
    intro e
    have hlen := congrArg List.length e
    rw [List.length_take] at hlen
    have : 0 < l.length := List.length_pos_iff.mpr hl
    simp only [List.length_nil] at hlen
    omega
  · exact hl

theorem truncate_of_nonpos {α : Type} (l : List α) {limit : Int} (h : limit ≤ 0) : truncate l limit = l := by
  unfold truncate
  rw [if_neg]
  simp only [Bool.and_eq_true, decide_eq_true_eq, not_and]
  intro h'; omega

theorem selection_pick_iff (list : List Move) (m : Move) : (selection list).2 m = true ↔ m ∈ list := by
  unfold selection
  -- the keys bound by the loop are the moves of the list
  have keys : ∀ (n : Int) (l : List (Move × Nat)) (r : RankMap),
      (l.foldl (fun (r : RankMap) (mi : Move × Nat) => r.set mi.1 (n - (mi.2 : Int))) r).map (·.1) =
        (l.map (·.1)).reverse ++ r.map (·.1) := by
    intro n l
    induction l with
    | nil => intro r; rfl
    | cons x xs ih => intro r; rw [List.foldl_cons, ih]; simp [RankMap.set]
  have hmem : ∀ r : RankMap, r.has m = true ↔ m ∈ r.map (·.1) := by
    intro r
    simp only [RankMap.has, List.lookup_isSome_iff, beq_iff_eq, List.mem_map]
    exact ⟨fun ⟨p, hp, e⟩ => ⟨p, hp, e.symm⟩, fun ⟨p, hp, e⟩ => ⟨p, hp, e.symm⟩⟩
  simp only
  rw [hmem, keys, List.map_nil, List.append_nil, List.mem_reverse, List.zipIdx_map_fst]
theorem length_flatMap_le {α β : Type} (f : α → List β) (k : Nat) :
    ∀ l : List α, (∀ x ∈ l, (f x).length ≤ k) → (l.flatMap f).length ≤ l.length * k
  | [], _ => by simp
  | x :: xs, h => by
    rw [List.flatMap_cons, List.length_append, List.length_cons, Nat.add_mul, Nat.one_mul]
    have h1 := h x (List.mem_cons_self ..)
    have h2 := length_flatMap_le f k xs (fun y hy => h y (List.mem_cons_of_mem _ hy))
    omega

end Morlock.Proofs.Bernstein
