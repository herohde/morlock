import Morlock.Proofs.FltRndPos
/-! # `sqrtPos`: the correctly rounded square root -/
namespace Morlock.Model.Flt

/-- `floor (sqrt (a / b / 4^e))` as computed by `sqrtPos` -/
def sfl (a b : Nat) (e : Int) : Nat := Nat.sqrt ((scaled a b (2 * e)).1 / (scaled a b (2 * e)).2)

/-- the local `adj` of `sqrtPos`: one step of the exponent towards `2^(p-1) ≤ sfl a b e < 2^p` -/
def sadj (f : Fmt) (a b : Nat) (e : Int) : Int :=
  if sfl a b e ≥ 2 ^ f.p then e + 1 else if sfl a b e < 2 ^ (f.p - 1) then e - 1 else e

/-- the local `guess` of `sqrtPos`: the first exponent, from the bit lengths of `a` and `b` -/
def sguess (f : Fmt) (a b : Nat) : Int := ((Nat.log2 a : Int) - (Nat.log2 b : Int)) / 2 - ((f.p : Int) - 1)

/-- the exponent used by `sqrtPos` -/
def sexpo (f : Fmt) (a b : Nat) : Int :=
  if sadj f a b (sadj f a b (sadj f a b (sguess f a b))) < f.emin then f.emin
  else sadj f a b (sadj f a b (sadj f a b (sguess f a b)))

/-- the significand before renormalisation: `floor` or `floor + 1`, by comparison with the midpoint -/
def ssig (a b : Nat) (e : Int) : Nat :=
  let m0 := sfl a b e
  let lhs := (2 * m0 + 1) ^ 2 * (b * pn (2 * e))
  let rhs := 4 * (a * pd (2 * e))
  if lhs < rhs then m0 + 1 else if lhs > rhs then m0 else if m0 % 2 == 0 then m0 else m0 + 1

theorem sqrtPos_eq (f : Fmt) (a b : Nat) :
    sqrtPos f a b =
      if (carry f (ssig a b (sexpo f a b)) (sexpo f a b)).2 + ((f.p : Int) - 1) > f.emax then none
      else some (carry f (ssig a b (sexpo f a b)) (sexpo f a b)) := by
  simp only [sqrtPos, sexpo, sadj, sfl, ssig, sguess, carry, scaled_eq]

theorem sq_mul_le {x y : Nat} (h : x ≤ y) (s : Nat) : x ^ 2 * s ≤ y ^ 2 * s :=
  Nat.mul_le_mul_right _ (Nat.pow_le_pow_left h 2)

theorem sq_mul_lt {x y s : Nat} (hs : 0 < s) (h : x < y) : x ^ 2 * s < y ^ 2 * s :=
  (Nat.mul_lt_mul_right hs).mpr (Nat.pow_lt_pow_left h (by decide))

theorem two_mul_sq (x s : Nat) : (2 * x) ^ 2 * s = 4 * (x ^ 2 * s) := by
  rw [Nat.mul_pow, Nat.mul_assoc]

theorem sfl_spec {a b : Nat} (hb : 0 < b) (e : Int) :
    sfl a b e ^ 2 * (b * pn (2 * e)) ≤ a * pd (2 * e) ∧
    a * pd (2 * e) < (sfl a b e + 1) ^ 2 * (b * pn (2 * e)) := by
  unfold sfl
  rw [scaled_eq]
  simp only [Nat.pow_two]
  have hs2 : 0 < b * pn (2 * e) := Nat.mul_pos hb (pn_pos _)
  generalize a * pd (2 * e) = s1
  generalize b * pn (2 * e) = s2 at *
  -- `√q² ≤ q < (√q + 1)²` for the quotient `q = ⌊s1/s2⌋`, and `q·s2 ≤ s1 < (q+1)·s2`
  constructor
  · exact Nat.le_trans (Nat.mul_le_mul_right _ (Nat.sqrt_le _)) (Nat.div_mul_le_self s1 s2)
  · rw [Nat.mul_comm _ s2]
    exact Nat.lt_of_lt_of_le (Nat.lt_mul_div_succ s1 hs2) (Nat.mul_le_mul_left _ (Nat.lt_succ_sqrt _))

theorem sfl_lt_iff {a b : Nat} (hb : 0 < b) (e : Int) (M : Nat) :
    sfl a b e < M ↔ a * pd (2 * e) < M ^ 2 * (b * pn (2 * e)) := by
  obtain ⟨h1, h2⟩ := sfl_spec (a := a) hb e
  constructor
  · intro h
    exact Nat.lt_of_lt_of_le h2 (sq_mul_le h _)
  · intro h
    apply Nat.lt_of_not_le
    intro h0
    have := sq_mul_le h0 (b * pn (2 * e))
    omega

theorem sfl_lt_pow_iff {a b : Nat} (hb : 0 < b) (e : Int) (k : Nat) :
    sfl a b e < 2 ^ k ↔ a * pd (2 * e) < 2 ^ (2 * k) * b * pn (2 * e) := by
  rw [sfl_lt_iff hb, ← Nat.pow_mul, Nat.mul_comm k 2, Nat.mul_assoc]

theorem le_sfl_pow_iff {a b : Nat} (hb : 0 < b) (e : Int) (k : Nat) :
    2 ^ k ≤ sfl a b e ↔ 2 ^ (2 * k) * b * pn (2 * e) ≤ a * pd (2 * e) := by
  rw [← Nat.not_lt, sfl_lt_pow_iff hb, Nat.not_lt]

theorem sfl_eq_of_sq {a b M : Nat} {e : Int} (hb : 0 < b) (h : a * pd (2 * e) = M ^ 2 * (b * pn (2 * e))) :
    sfl a b e = M := by
  have h1 : ¬ sfl a b e < M := by rw [sfl_lt_iff hb, h]; exact Nat.lt_irrefl _
  have h2 : sfl a b e < M + 1 := by
    rw [sfl_lt_iff hb, h]; exact sq_mul_lt (Nat.mul_pos hb (pn_pos _)) (Nat.lt_add_one M)
  omega

/-- `|√(a/b) − m·2^e| ≤ 2^e / 2`, stated with squares: `(2m−1)²·4^e ≤ 4·a/b ≤ (2m+1)²·4^e` -/
def SqrtHalfUlp (a b m : Nat) (e : Int) : Prop :=
  (m = 0 ∨ (2 * m - 1) ^ 2 * (b * pn (2 * e)) ≤ 4 * (a * pd (2 * e))) ∧
    4 * (a * pd (2 * e)) ≤ (2 * m + 1) ^ 2 * (b * pn (2 * e))

/-- `√(a/b)` is exactly half way between two neighbours -/
def SqrtTie (a b m : Nat) (e : Int) : Prop :=
  (2 * m - 1) ^ 2 * (b * pn (2 * e)) = 4 * (a * pd (2 * e)) ∨ 4 * (a * pd (2 * e)) = (2 * m + 1) ^ 2 * (b * pn (2 * e))

/-- what `ssig` does, on numbers: from the floor `m0` of `√x`, `x = s1/s2`, by `(2m0)² ≤ 4x < (2m0+2)²` and the order of the squares
of `2m0−1, …, 2m0+3` -/
theorem sqrtNearest_spec {s1 s2 m0 m : Nat} (hs2 : 0 < s2) (h1 : m0 ^ 2 * s2 ≤ s1) (h2 : s1 < (m0 + 1) ^ 2 * s2)
    (hm : (if (2 * m0 + 1) ^ 2 * s2 < 4 * s1 then m0 + 1 else if (2 * m0 + 1) ^ 2 * s2 > 4 * s1 then m0
      else if m0 % 2 == 0 then m0 else m0 + 1) = m) :
    (m = m0 ∨ m = m0 + 1) ∧ ((m = 0 ∨ (2 * m - 1) ^ 2 * s2 ≤ 4 * s1) ∧ 4 * s1 ≤ (2 * m + 1) ^ 2 * s2) ∧
      (1 ≤ m → (2 * m - 1) ^ 2 * s2 = 4 * s1 ∨ 4 * s1 = (2 * m + 1) ^ 2 * s2 → m % 2 = 0) := by
  have t1 := two_mul_sq m0 s2
  have t2 := two_mul_sq (m0 + 1) s2
  rw [show 2 * (m0 + 1) = 2 * m0 + 2 by omega] at t2
  have q1 := sq_mul_le (Nat.sub_le (2 * m0) 1) s2
  have q1' := fun h : 1 ≤ m0 => sq_mul_lt hs2 (show 2 * m0 - 1 < 2 * m0 by omega)
  have q3 := sq_mul_lt hs2 (show 2 * m0 + 2 < 2 * m0 + 3 by omega)
  have e1 : 2 * (m0 + 1) - 1 = 2 * m0 + 1 := by omega
  have e2 : 2 * (m0 + 1) + 1 = 2 * m0 + 3 := by omega
  split at hm
  · subst hm
    rw [e1, e2]
    exact ⟨Or.inr rfl, by omega⟩
  · split at hm
    · subst hm
      exact ⟨Or.inl rfl, by omega⟩
    · split at hm
      · rename_i hpar
        have : m0 % 2 = 0 := by simpa using hpar
        subst hm
        exact ⟨Or.inl rfl, by omega⟩
      · rename_i hpar
        have : m0 % 2 = 1 := by simp at hpar; omega
        subst hm
        rw [e1, e2]
        exact ⟨Or.inr rfl, by omega⟩

theorem ssig_spec {a b : Nat} (hb : 0 < b) (e : Int) :
    (ssig a b e = sfl a b e ∨ ssig a b e = sfl a b e + 1) ∧ SqrtHalfUlp a b (ssig a b e) e ∧
      (1 ≤ ssig a b e → SqrtTie a b (ssig a b e) e → ssig a b e % 2 = 0) := by
  obtain ⟨h1, h2⟩ := sfl_spec (a := a) hb e
  exact sqrtNearest_spec (Nat.mul_pos hb (pn_pos _)) h1 h2 rfl

theorem ssig_eq_of_sq {a b M : Nat} {e : Int} (hb : 0 < b) (h : a * pd (2 * e) = M ^ 2 * (b * pn (2 * e))) :
    ssig a b e = M := by
  have := sq_mul_lt (Nat.mul_pos hb (pn_pos (2 * e))) (Nat.lt_add_one (2 * M))
  rw [two_mul_sq, ← h] at this
  unfold ssig
  rw [sfl_eq_of_sq hb h]
  simp only []
  rw [if_neg (by omega), if_pos this]

theorem sguess_upper (f : Fmt) {a b : Nat} (ha : 0 < a) (hb : 0 < b) : sfl a b (sguess f a b) < 2 ^ f.p := by
  rw [sfl_lt_pow_iff hb]
  generalize hd : (Nat.log2 a : Int) - (Nat.log2 b : Int) = d
  have hle : d + 1 - 2 * (f.p : Int) ≤ 2 * sguess f a b := by unfold sguess; omega
  exact lt_mono_exp hle (log_upper ha hb (d + 1 - 2 * (f.p : Int)) (2 * f.p) (by omega))

theorem sguess_lower (f : Fmt) (hp : 1 ≤ f.p) {a b : Nat} (ha : 0 < a) (hb : 0 < b) :
    2 ^ (f.p - 1) ≤ sfl a b (sguess f a b - 1) := by
  apply Nat.le_of_not_lt
  rw [sfl_lt_pow_iff hb]
  apply Nat.not_lt.mpr
  generalize hd : (Nat.log2 a : Int) - (Nat.log2 b : Int) = d
  have hle : 2 * (sguess f a b - 1) ≤ d + 1 - 2 * (f.p : Int) := by unfold sguess; omega
  exact ge_mono_exp hle (log_lower ha hb (d + 1 - 2 * (f.p : Int)) (2 * (f.p - 1)) (by omega))

theorem sfl_step (f : Fmt) (hp : 1 ≤ f.p) {a b : Nat} (hb : 0 < b) (e : Int) (h : sfl a b e < 2 ^ (f.p - 1)) :
    sfl a b (e - 1) < 2 ^ f.p := by
  rw [sfl_lt_pow_iff hb] at h ⊢
  rw [show 2 * f.p = 2 + 2 * (f.p - 1) by omega, Nat.pow_add, Nat.mul_assoc (2 ^ 2),
    lt_shift (show 2 * e = 2 * (e - 1) + (2 : Nat) by omega)]
  exact h

theorem sadj_fix (f : Fmt) (a b : Nat) (e : Int) (h1 : 2 ^ (f.p - 1) ≤ sfl a b e) (h2 : sfl a b e < 2 ^ f.p) :
    sadj f a b e = e := by
  unfold sadj
  have c1 : ¬ (sfl a b e ≥ 2 ^ f.p) := by omega
  have c2 : ¬ (sfl a b e < 2 ^ (f.p - 1)) := by omega
  simp [c1, c2]

/-- three steps from `sguess` suffice: the guess is right or one too large -/
theorem sadj3_good (f : Fmt) (hp : 1 ≤ f.p) {a b : Nat} (ha : 0 < a) (hb : 0 < b) :
    2 ^ (f.p - 1) ≤ sfl a b (sadj f a b (sadj f a b (sadj f a b (sguess f a b)))) ∧
      sfl a b (sadj f a b (sadj f a b (sadj f a b (sguess f a b)))) < 2 ^ f.p := by
  have hu := sguess_upper f ha hb
  have hl := sguess_lower f hp ha hb
  by_cases h : 2 ^ (f.p - 1) ≤ sfl a b (sguess f a b)
  · have e1 := sadj_fix f a b _ h hu
    rw [e1, e1, e1]; exact ⟨h, hu⟩
  · have h' : sfl a b (sguess f a b) < 2 ^ (f.p - 1) := by omega
    have e0 : sadj f a b (sguess f a b) = sguess f a b - 1 := by
      unfold sadj
      have c1 : ¬ (sfl a b (sguess f a b) ≥ 2 ^ f.p) := by omega
      simp [c1, h']
    have hu' := sfl_step f hp hb _ h'
    have e1 := sadj_fix f a b _ hl hu'
    rw [e0, e1, e1]; exact ⟨hl, hu'⟩

theorem sexpo_spec (f : Fmt) (hp : 1 ≤ f.p) {a b : Nat} (ha : 0 < a) (hb : 0 < b) :
    f.emin ≤ sexpo f a b ∧ sfl a b (sexpo f a b) < 2 ^ f.p ∧
      (sexpo f a b = f.emin ∨ 2 ^ (f.p - 1) ≤ sfl a b (sexpo f a b)) := by
  obtain ⟨g1, g2⟩ := sadj3_good f hp ha hb
  unfold sexpo
  generalize sadj f a b (sadj f a b (sadj f a b (sguess f a b))) = e3 at *
  split
  · rename_i hlt
    refine ⟨Int.le_refl _, ?_, Or.inl rfl⟩
    rw [sfl_lt_pow_iff hb] at g2 ⊢
    exact lt_mono_exp (by omega) g2
  · exact ⟨by omega, g2, Or.inr g1⟩

/-- with `s1/s2 = 4·t1/t2`: bounds of `4·s1/s2` by the squares of `4k ∓ 1` give strict bounds of `4·t1/t2` by the squares of `2k ∓ 1` -/
theorem sqrt_halve_bounds {s1 s2 t1 t2 k : Nat} (hk : 1 ≤ k) (hs2 : 0 < s2) (ht2 : 0 < t2) (hrel : s1 * t2 = 4 * t1 * s2)
    (hlo : (2 * (2 * k) - 1) ^ 2 * s2 ≤ 4 * s1) (hhi : 4 * s1 ≤ (2 * (2 * k) + 1) ^ 2 * s2) :
    (2 * k - 1) ^ 2 * t2 < 4 * t1 ∧ 4 * t1 < (2 * k + 1) ^ 2 * t2 := by
  have a1 : (2 * k - 1) ^ 2 * s2 < s1 := by
    have := sq_mul_lt hs2 (show 2 * (2 * k - 1) < 2 * (2 * k) - 1 by omega)
    rw [two_mul_sq] at this
    omega
  have a2 : s1 < (2 * k + 1) ^ 2 * s2 := by
    have := sq_mul_lt hs2 (show 2 * (2 * k) + 1 < 2 * (2 * k + 1) by omega)
    rw [two_mul_sq] at this
    omega
  exact ⟨(cmp_scale ht2 hs2 (Nat.mul_right_comm ..) hrel).1.mp a1, (cmp_scale ht2 hs2 hrel (Nat.mul_right_comm ..)).1.mp a2⟩

theorem SqrtHalfUlp.halve {a b k : Nat} {e : Int} (hk : 1 ≤ k) (hb : 0 < b) (h : SqrtHalfUlp a b (2 * k) e) :
    SqrtHalfUlp a b k (e + 1) ∧ ¬ SqrtTie a b k (e + 1) := by
  have := sqrt_halve_bounds hk (Nat.mul_pos hb (pn_pos (2 * e))) (Nat.mul_pos hb (pn_pos (2 * (e + 1))))
    (scaled_ratio_shift (show 2 * (e + 1) = 2 * e + (2 : Nat) by omega) a b) (h.1.resolve_left (by omega)) h.2
  exact ⟨⟨Or.inr (Nat.le_of_lt this.1), Nat.le_of_lt this.2⟩, fun t => t.elim (fun t => by omega) (fun t => by omega)⟩

theorem ssig_le (f : Fmt) (hp : 1 ≤ f.p) {a b : Nat} (ha : 0 < a) (hb : 0 < b) : ssig a b (sexpo f a b) ≤ 2 ^ f.p := by
  have := (sexpo_spec f hp ha hb).2.1
  have := (ssig_spec (a := a) hb (sexpo f a b)).1
  omega

theorem ssig_normal (f : Fmt) (hp : 1 ≤ f.p) {a b : Nat} (ha : 0 < a) (hb : 0 < b) :
    2 ^ (f.p - 1) ≤ ssig a b (sexpo f a b) ∨ sexpo f a b = f.emin := by
  have := (sexpo_spec f hp ha hb).2.2
  have := (ssig_spec (a := a) hb (sexpo f a b)).1
  omega

theorem sqrtPos_spec (f : Fmt) (hp : 1 ≤ f.p) {a b m : Nat} {e : Int} (ha : 0 < a) (hb : 0 < b)
    (h : sqrtPos f a b = some (m, e)) :
    m < 2 ^ f.p ∧ f.emin ≤ e ∧ e + ((f.p : Int) - 1) ≤ f.emax ∧ (2 ^ (f.p - 1) ≤ m ∨ e = f.emin) ∧
    SqrtHalfUlp a b m e ∧ (1 ≤ m → SqrtTie a b m e → m % 2 = 0) := by
  rw [sqrtPos_eq] at h
  obtain ⟨_, hhalf, htie⟩ := ssig_spec (a := a) hb (sexpo f a b)
  refine fin_spec f hp (P := fun m e => SqrtHalfUlp a b m e ∧ (1 ≤ m → SqrtTie a b m e → m % 2 = 0))
    (ssig_le f hp ha hb) (sexpo_spec f hp ha hb).1 (ssig_normal f hp ha hb) ⟨hhalf, htie⟩ (fun hc => ?_) h
  rw [hc, ← two_pow_pred hp] at hhalf
  obtain ⟨hh, hnt⟩ := hhalf.halve (Nat.two_pow_pos _) hb
  exact ⟨hh, fun _ t => absurd t hnt⟩

/-- the square root of a number up to `4^emax` (when `1 ≤ emax`: in particular of every finite number of the format) is finite -/
theorem sqrtPos_isSome (f : Fmt) (wf : f.WF) {a b : Nat} (ha : 0 < a) (hb : 0 < b)
    (h : a * pd (2 * f.emax) ≤ b * pn (2 * f.emax)) : (sqrtPos f a b).isSome := by
  have hp := wf.p_pos
  obtain ⟨hge, hlt, hnorm⟩ := sexpo_spec f hp ha hb
  obtain ⟨hsig, hhalf, _⟩ := ssig_spec (a := a) hb (sexpo f a b)
  rw [sqrtPos_eq]
  apply fin_isSome_iff.mpr
  generalize sexpo f a b = e0 at *
  by_cases hc : ssig a b e0 = 2 ^ f.p
  · -- rounded up to `2^p`: `(2^p)²·4^e0 < (2^(p+1) − 1)²·4^e0 ≤ 4a/b ≤ 4·4^emax`, so `e0 + p ≤ emax`
    rw [hc] at hhalf ⊢
    rw [carry_pow]
    have hP := two_pow_pred hp
    have hPpos := Nat.two_pow_pos (f.p - 1)
    have h1 : 2 ^ (2 * f.p) * b * pn (2 * e0) < 4 * a * pd (2 * e0) := by
      have := sq_mul_lt (Nat.mul_pos hb (pn_pos (2 * e0))) (show 2 ^ f.p < 2 * 2 ^ f.p - 1 by omega)
      rw [← Nat.pow_mul, Nat.mul_comm f.p 2] at this
      rw [Nat.mul_assoc, Nat.mul_assoc]
      exact Nat.lt_of_lt_of_le this (hhalf.1.resolve_left (by omega))
    have h2 : 4 * a * pd (2 * f.emax) ≤ 2 ^ 2 * b * pn (2 * f.emax) := by
      rw [Nat.mul_assoc, Nat.mul_assoc]; exact Nat.mul_le_mul_left 4 h
    have := exp_lt_of_lt_of_le h1 h2
    simp only []; omega
  · rw [carry_of_ne hc]
    simp only []
    rcases hnorm with h0 | h0
    · have := wf.range; omega
    · -- `(2^(p-1))²·4^e0 ≤ a/b ≤ 4^emax`
      have := exp_le_of_le_of_le (j' := 0) hb ((le_sfl_pow_iff hb e0 (f.p - 1)).mp h0)
        (by rw [Nat.pow_zero, Nat.one_mul]; exact h)
      omega

theorem sqrt_of_num_eq_zero (f : Fmt) {x : Q} (h : x.num = 0) : sqrt f x = some ⟨0, 1⟩ := by simp [sqrt, h]

theorem sqrt_of_pos (f : Fmt) {x : Q} (h : 0 < x.num) :
    sqrt f x = (sqrtPos f x.num.toNat x.den).map fun me => ofME false me.1 me.2 := by
  unfold sqrt
  have h1 : (x.num == 0) = false := by simp; omega
  have h2 : ¬ (x.num < 0) := by omega
  simp [h1, h2]

theorem sqrt_isSome (f : Fmt) (wf : f.WF) {x : Q} (hd : 0 < x.den) (h0 : 0 ≤ x.num)
    (h : x.num.toNat * pd (2 * f.emax) ≤ x.den * pn (2 * f.emax)) : (sqrt f x).isSome := by
  rcases Int.lt_or_eq_of_le h0 with hpos | hz
  · rw [sqrt_of_pos f hpos]
    have := sqrtPos_isSome f wf (a := x.num.toNat) (b := x.den) (by omega) hd h
    simpa using this
  · rw [sqrt_of_num_eq_zero f hz.symm]; rfl

theorem sqrt_neg (f : Fmt) {x : Q} (h : x.num < 0) : sqrt f x = none := by
  unfold sqrt
  have h1 : (x.num == 0) = false := by simp; omega
  simp [h1, h]

end Morlock.Model.Flt
