import Morlock.Proofs.GenPawns
/-!
# Stage C of C01 (continued): generated pawn moves are exactly the reference pawn moves
-/
namespace Morlock.Proofs.Gen
open Morlock Morlock.Model Morlock.Proofs.Attack

variable {p : Position} {b : Board} {turn : Color} {m : Move} {castling ep fr sq : Nat}

/-- The engine piece of an optional promotion kind. -/
def promoPiece : Option Spec.Kind → Piece
  | none => .none
  | some k => kindPiece k

theorem absKind_promoPiece (o : Option Spec.Kind) : absKind (promoPiece o) = o := by
  cases o with
  | none => rfl
  | some k => cases k <;> rfl

theorem promoPieces_abs {pc : Piece} (h : pc ∈ Position.promoPieces) :
    ∃ k, k ∈ Spec.promoKinds ∧ absKind pc = some k := by
  rw [mem_promoPieces] at h
  rcases h with rfl | rfl | rfl | rfl
  · exact ⟨.queen, by simp [Spec.promoKinds], rfl⟩
  · exact ⟨.rook, by simp [Spec.promoKinds], rfl⟩
  · exact ⟨.knight, by simp [Spec.promoKinds], rfl⟩
  · exact ⟨.bishop, by simp [Spec.promoKinds], rfl⟩

theorem promoKinds_piece {k : Spec.Kind} (h : k ∈ Spec.promoKinds) : kindPiece k ∈ Position.promoPieces := by
  rw [mem_promoPieces]
  simp only [Spec.promoKinds, List.mem_cons, List.not_mem_nil, or_false] at h
  rcases h with rfl | rfl | rfl | rfl <;> simp [kindPiece]

theorem abs_ep (p : Position) (turn : Color) :
    (abs p turn).ep = if p.enpassant = 0 then none else some p.enpassant := rfl

theorem occ_false_iff (h : Rep p b) (turn : Color) (t : Nat) :
    (abs p turn).occ t = false ↔ b t = none := by
  rw [h.abs_occ]; unfold occB; cases b t <;> simp

theorem PawnMove.abs_mem (h : Rep p b)
    (hw : WFb b p.castling p.enpassant turn) (hm : PawnMove b p.enpassant turn m) :
    absMove m ∈ pawnPushes (abs p turn) (absColor turn) m.from ++
      pawnCaps (abs p turn) (absColor turn) m.from := by
  obtain ⟨hsq, hpc, hk⟩ := hm
  rw [List.mem_append, mem_pawnPushes, mem_pawnCaps]
  have hwp : ∀ {pr : Piece},
      ((Spec.rankOf m.to ≠ Spec.lastRank (absColor turn) ∧ pr = .none) ∨
       (Spec.rankOf m.to = Spec.lastRank (absColor turn) ∧ pr ∈ Position.promoPieces)) →
      (⟨m.from, m.to, absKind pr⟩ : Spec.SMove) ∈ withPromo (absColor turn) m.from m.to := by
    intro pr hpr
    rw [mem_withPromo]
    refine ⟨rfl, rfl, ?_⟩
    rcases hpr with ⟨h1, h2⟩ | ⟨h1, h2⟩
    · right; exact ⟨h1, by rw [h2]; rfl⟩
    · left
      obtain ⟨k, hk1, hk2⟩ := promoPieces_abs h2
      exact ⟨h1, k, hk1, hk2⟩
  rcases hk with ⟨hst, hb, hcap, hr⟩ | ⟨t1, hst1, hst2, hstart, hb1, hb2, hty, hpr, hcap⟩ |
    ⟨ht, k, hk, hcap, hr⟩ | ⟨he, hto, ht, hown, hty, hpr, hcap⟩
  · left
    refine ⟨m.to, hst, (occ_false_iff h turn _).mpr hb, Or.inl ?_⟩
    apply hwp
    rcases hr with ⟨h1, _, h3⟩ | ⟨h1, _, h3⟩
    · exact Or.inl ⟨h1, h3⟩
    · exact Or.inr ⟨h1, h3⟩
  · left
    refine ⟨t1, hst1, (occ_false_iff h turn _).mpr hb1, Or.inr ⟨hstart, m.to, hst2,
      (occ_false_iff h turn _).mpr hb2, ?_⟩⟩
    simp [absMove, hpr, absKind]
  · right
    refine ⟨m.to, ht, Or.inl ⟨⟨kindOf k, ?_⟩, ?_⟩⟩
    · rw [← absColor_opp]
      exact (h.abs_at_iff turn m.to turn.opp _).mpr (by rw [kindPiece_kindOf (h.ne_none_of_some hk)]; exact hk)
    · apply hwp
      rcases hr with ⟨h1, _, h3⟩ | ⟨h1, _, h3⟩
      · exact Or.inl ⟨h1, h3⟩
      · exact Or.inr ⟨h1, h3⟩
  · right
    obtain ⟨_, hempty, _, _⟩ := hw.ep_ok he
    refine ⟨m.to, ht, Or.inr ⟨(h.abs_at_none_iff turn _).mpr (hto ▸ hempty), ?_, ?_⟩⟩
    · rw [abs_ep, if_neg he, hto]
    · simp [absMove, hpr, absKind]

theorem PawnMove.abs_mem_pseudoMoves (h : Rep p b)
    (hw : WFb b p.castling p.enpassant turn) (hm : PawnMove b p.enpassant turn m) :
    absMove m ∈ Spec.pseudoMoves (abs p turn) := by
  rw [mem_pseudoMoves]
  refine ⟨h.lt_of_some hm.1, ?_⟩
  have hat : (abs p turn).at (absMove m).from = some ((abs p turn).turn, .pawn) :=
    (h.abs_at_iff turn m.from turn .pawn).mpr hm.1
  rw [movesFrom_pawn hat]
  exact hm.abs_mem h hw

theorem exists_pawnMove (h : Rep p b)
    (hsq : b fr = some (turn, .pawn)) {sm : Spec.SMove}
    (hsm : sm ∈ pawnPushes (abs p turn) (absColor turn) fr ++ pawnCaps (abs p turn) (absColor turn) fr) :
    ∃ m, PawnMove b p.enpassant turn m ∧ absMove m = sm := by
  obtain ⟨sf, st, sp⟩ := sm
  -- the generated move: origin, destination and promotion from `sm`, type and capture by case
  have hex : ∀ (ty : MoveType) (cap : Piece), sf = fr →
      PawnMove b p.enpassant turn ⟨ty, fr, st, .pawn, promoPiece sp, cap⟩ →
      ∃ m, PawnMove b p.enpassant turn m ∧ absMove m = ⟨sf, st, sp⟩ := by
    intro ty cap h1 hm
    subst h1
    exact ⟨_, hm, by simp [absMove, absKind_promoPiece]⟩
  have hpromo : ∀ {t : Nat}, (⟨sf, st, sp⟩ : Spec.SMove) ∈ withPromo (absColor turn) fr t →
      sf = fr ∧ st = t ∧
      ((Spec.rankOf t ≠ Spec.lastRank (absColor turn) ∧ promoPiece sp = .none) ∨
       (Spec.rankOf t = Spec.lastRank (absColor turn) ∧ promoPiece sp ∈ Position.promoPieces)) := by
    intro t hm
    rw [mem_withPromo] at hm
    obtain ⟨h1, h2, h3⟩ := hm
    refine ⟨h1, h2, ?_⟩
    simp only at h3
    rcases h3 with ⟨hr, k, hk, hp⟩ | ⟨hr, hp⟩
    · right; rw [hp]; exact ⟨hr, promoKinds_piece hk⟩
    · left; rw [hp]; exact ⟨hr, rfl⟩
  rw [List.mem_append, mem_pawnPushes, mem_pawnCaps] at hsm
  rcases hsm with ⟨t, hst, hocc, hm | ⟨hstart, t2, hst2, hocc2, hm⟩⟩ | ⟨t, ht, ⟨⟨K, hK⟩, hm⟩ | ⟨hnone, hep, hm⟩⟩
  · -- push / promotion
    obtain ⟨h1, rfl, h3⟩ := hpromo hm
    have hb := (occ_false_iff h turn _).mp hocc
    rcases h3 with ⟨hr, hp⟩ | ⟨hr, hp⟩
    · exact hex .push .none h1 ⟨hsq, rfl, Or.inl ⟨hst, hb, rfl, Or.inl ⟨hr, rfl, hp⟩⟩⟩
    · exact hex .promotion .none h1 ⟨hsq, rfl, Or.inl ⟨hst, hb, rfl, Or.inr ⟨hr, rfl, hp⟩⟩⟩
  · -- jump
    have hb1 := (occ_false_iff h turn _).mp hocc
    have hb2 := (occ_false_iff h turn _).mp hocc2
    obtain ⟨rfl, rfl, rfl⟩ := Spec.SMove.mk.inj hm
    exact hex .jump .none rfl ⟨hsq, rfl, Or.inr (Or.inl ⟨t, hst, hst2, hstart, hb1, hb2, rfl, rfl, rfl⟩)⟩
  · -- capture / capture promotion
    obtain ⟨h1, rfl, h3⟩ := hpromo hm
    rw [← absColor_opp] at hK
    have hb := (h.abs_at_iff turn st turn.opp K).mp hK
    rcases h3 with ⟨hr, hp⟩ | ⟨hr, hp⟩
    · exact hex .capture (kindPiece K) h1
        ⟨hsq, rfl, Or.inr (Or.inr (Or.inl ⟨ht, kindPiece K, hb, rfl, Or.inl ⟨hr, rfl, hp⟩⟩))⟩
    · exact hex .capturePromotion (kindPiece K) h1
        ⟨hsq, rfl, Or.inr (Or.inr (Or.inl ⟨ht, kindPiece K, hb, rfl, Or.inr ⟨hr, rfl, hp⟩⟩))⟩
  · -- en passant
    obtain ⟨rfl, rfl, rfl⟩ := Spec.SMove.mk.inj hm
    rw [abs_ep] at hep
    by_cases he : p.enpassant = 0
    · rw [if_pos he] at hep; cases hep
    · rw [if_neg he] at hep
      have hto := (Option.some.inj hep).symm
      have hb := (h.abs_at_none_iff turn _).mp hnone
      exact hex .enPassant .none rfl
        ⟨hsq, rfl, Or.inr (Or.inr (Or.inr ⟨he, hto, ht, by simp [colAt, hb], rfl, rfl, rfl⟩))⟩

end Morlock.Proofs.Gen
