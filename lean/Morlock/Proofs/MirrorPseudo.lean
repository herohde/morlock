import Morlock.Proofs.MirrorAttack
/-!
# C20: the pseudo-legal moves of a mirror image are the mirror images of the pseudo-legal moves
-/
namespace Morlock.Spec
open Morlock.Proofs.Attack Morlock.Proofs.Gen

theorem mirrorSq_home (f : Nat) (c : Color) (hf : f < 8 := by decide) :
    mirrorSq (mkSq f (homeRank c)) = mkSq f (homeRank c.opp) := by
  rw [mirrorSq_mkSq hf (homeRank_lt c), homeRank_opp]

theorem Mir.home_at {p q : Pos} (h : Mir p q) (f : Nat) (c : Color) (hf : f < 8 := by decide) :
    q.at (mkSq f (homeRank c.opp)) = mirrorCell (p.at (mkSq f (homeRank c))) := by
  rw [← mirrorSq_home f c hf, h.cell _ (mkSq_lt hf (homeRank_lt c))]

theorem Mir.home_occ {p q : Pos} (h : Mir p q) (f : Nat) (c : Color) (hf : f < 8 := by decide) :
    q.occ (mkSq f (homeRank c.opp)) = p.occ (mkSq f (homeRank c)) := by
  rw [← mirrorSq_home f c hf, h.occ _ (mkSq_lt hf (homeRank_lt c))]

theorem withPromo_mir {c : Color} {s t : Nat} (ht : t < 64) {m : SMove} (hm : m ∈ withPromo c s t) :
    mirrorMove m ∈ withPromo c.opp (mirrorSq s) (mirrorSq t) := by
  obtain ⟨h1, h2, h3⟩ := mem_withPromo.mp hm
  refine mem_withPromo.mpr ⟨congrArg mirrorSq h1, congrArg mirrorSq h2, ?_⟩
  rw [rankOf_mirrorSq ht, lastRank_opp, Ne, sub7_inj (rankOf_lt ht) (lastRank_lt c)]
  exact h3

theorem pawnPushes_mir {p q : Pos} (h : Mir p q) (c : Color) {s : Nat} (hs : s < 64) {m : SMove}
    (hm : m ∈ pawnPushes p c s) : mirrorMove m ∈ pawnPushes q c.opp (mirrorSq s) := by
  obtain ⟨t, hst, hocc, hrest⟩ := mem_pawnPushes.mp hm
  have ht : t < 64 := step_lt hst
  have hst' : step (mirrorSq s) 0 (fwd c.opp) = some (mirrorSq t) := by
    rw [fwd_opp, step_mirror hs, hst]; rfl
  refine mem_pawnPushes.mpr ⟨mirrorSq t, hst', by rw [h.occ t ht]; exact hocc, ?_⟩
  rcases hrest with hw | ⟨hr, t2, hst2, hocc2, he⟩
  · exact Or.inl (withPromo_mir ht hw)
  · right
    have ht2 : t2 < 64 := step_lt hst2
    refine ⟨by rw [rankOf_mirrorSq hs, startRank_opp, hr], mirrorSq t2, ?_, by rw [h.occ t2 ht2]; exact hocc2, ?_⟩
    · rw [fwd_opp, step_mirror ht, hst2]; rfl
    · rw [he]; rfl

theorem pawnCaps_mir {p q : Pos} (h : Mir p q) (c : Color) {s : Nat} (hs : s < 64) {m : SMove}
    (hm : m ∈ pawnCaps p c s) : mirrorMove m ∈ pawnCaps q c.opp (mirrorSq s) := by
  obtain ⟨t, htm, hrest⟩ := mem_pawnCaps.mp hm
  have ht : t < 64 := pawnTargets_lt _ _ _ htm
  refine mem_pawnCaps.mpr ⟨mirrorSq t, mem_pawnTargets_mirror c hs htm, ?_⟩
  rcases hrest with ⟨⟨k, hk⟩, hw⟩ | ⟨hn, hep, he⟩
  · exact Or.inl ⟨⟨k, h.at_some ht hk⟩, withPromo_mir ht hw⟩
  · refine Or.inr ⟨h.at_none ht hn, by rw [h.ep, hep]; rfl, by rw [he]; rfl⟩

theorem officerNormal_mir {p q : Pos} (h : Mir p q) (c : Color) (k : Kind) {s : Nat} (hs : s < 64) {m : SMove}
    (hm : m ∈ officerNormal p c k s) : mirrorMove m ∈ officerNormal q c.opp k (mirrorSq s) := by
  obtain ⟨h1, h2, h3, h4⟩ := mem_officerNormal.mp hm
  have ht : m.to < 64 := officerTargets_lt _ _ _ _ h3
  refine mem_officerNormal.mpr ⟨congrArg mirrorSq h1, h2, mem_officerTargets_mirror h.occ k hs h3, ?_⟩
  intro k2 hat
  have : q.at (mirrorSq m.to) = some (c.opp, k2) := hat
  rw [h.cell _ ht, mirrorCell_eq_some, Color.opp_opp] at this
  exact h4 k2 this

theorem Mir.castleReady {p q : Pos} (h : Mir p q) (c : Color) (ks : Bool) :
    CastleReady q c.opp ks ↔ CastleReady p c ks := by
  cases ks
  · show (_ ∧ _ ∧ _ ∧ _ ∧ _) ↔ (_ ∧ _ ∧ _ ∧ _ ∧ _)
    rw [h.right, h.home_at fA, h.home_occ fD, h.home_occ fC, h.home_occ fB, mirrorCell_eq_some,
      Color.opp_opp]
  · show (_ ∧ _ ∧ _ ∧ _) ↔ (_ ∧ _ ∧ _ ∧ _)
    rw [h.right, h.home_at fH, h.home_occ fF, h.home_occ fG, mirrorCell_eq_some, Color.opp_opp]

theorem castlesFrom_mir {p q : Pos} (h : Mir p q) (c : Color) (k : Kind) {s : Nat} {m : SMove}
    (hm : m ∈ castlesFrom p c k s) : mirrorMove m ∈ castlesFrom q c.opp k (mirrorSq s) := by
  obtain ⟨hk, hs, ks, hr, e⟩ := mem_castlesFrom.mp hm
  refine mem_castlesFrom.mpr ⟨hk, by rw [hs, mirrorSq_home fE], ks, (h.castleReady c ks).mpr hr, ?_⟩
  rw [e, ← mirrorSq_home _ c (by cases ks <;> decide)]
  rfl

theorem movesFrom_mir {p q : Pos} (h : Mir p q) {s : Nat} (hs : s < 64) {m : SMove}
    (hm : m ∈ movesFrom p s) : mirrorMove m ∈ movesFrom q (mirrorSq s) := by
  obtain ⟨k, hat⟩ := at_of_mem_movesFrom hm
  have hat' : q.at (mirrorSq s) = some (q.turn, k) := by rw [h.turn]; exact h.at_some hs hat
  by_cases hk : k = .pawn
  · subst hk
    rw [movesFrom_pawn hat, List.mem_append] at hm
    rw [movesFrom_pawn hat', List.mem_append, h.turn]
    rcases hm with hm | hm
    · exact Or.inl (pawnPushes_mir h _ hs hm)
    · exact Or.inr (pawnCaps_mir h _ hs hm)
  · rw [movesFrom_officer hat hk, List.mem_append] at hm
    rw [movesFrom_officer hat' hk, List.mem_append, h.turn]
    rcases hm with hm | hm
    · exact Or.inl (officerNormal_mir h _ k hs hm)
    · exact Or.inr (castlesFrom_mir h _ k hm)

theorem pseudoMoves_mir_imp {p q : Pos} (h : Mir p q) {m : SMove} (hm : m ∈ pseudoMoves p) :
    mirrorMove m ∈ pseudoMoves q := by
  obtain ⟨hlt, hmf⟩ := mem_pseudoMoves.mp hm
  exact mem_pseudoMoves.mpr ⟨mirrorSq_lt hlt, movesFrom_mir h hlt hmf⟩

theorem pseudoMoves_mir {p q : Pos} (h : Mir p q) {m : SMove} :
    m ∈ pseudoMoves q ↔ mirrorMove m ∈ pseudoMoves p := by
  constructor
  · exact pseudoMoves_mir_imp h.symm
  · intro hm
    have := pseudoMoves_mir_imp h hm
    rwa [mirrorMove_mirrorMove] at this

theorem to_lt_of_pseudo {p : Pos} {m : SMove} (hm : m ∈ pseudoMoves p) : m.from < 64 ∧ m.to < 64 := by
  obtain ⟨hlt, hmf⟩ := mem_pseudoMoves.mp hm
  refine ⟨hlt, ?_⟩
  obtain ⟨k, hat⟩ := at_of_mem_movesFrom hmf
  by_cases hk : k = .pawn
  · subst hk
    rw [movesFrom_pawn hat, List.mem_append] at hmf
    rcases hmf with hmf | hmf
    · obtain ⟨t, hst, _, hw | ⟨_, t2, hst2, _, he⟩⟩ := mem_pawnPushes.mp hmf
      · rw [(mem_withPromo.mp hw).2.1]; exact step_lt hst
      · rw [he]; exact step_lt hst2
    · obtain ⟨t, ht, ⟨_, hw⟩ | ⟨_, _, he⟩⟩ := mem_pawnCaps.mp hmf
      · rw [(mem_withPromo.mp hw).2.1]; exact pawnTargets_lt _ _ _ ht
      · rw [he]; exact pawnTargets_lt _ _ _ ht
  · rw [movesFrom_officer hat hk, List.mem_append] at hmf
    rcases hmf with hmf | hmf
    · exact officerTargets_lt _ _ _ _ (mem_officerNormal.mp hmf).2.2.1
    · obtain ⟨_, _, ks, _, e⟩ := mem_castlesFrom.mp hmf
      rw [e]
      exact mkSq_lt (by cases ks <;> decide) (homeRank_lt _)

end Morlock.Spec
