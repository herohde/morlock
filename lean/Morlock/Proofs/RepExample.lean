import Morlock.Proofs.RepAbs
import Morlock.Proofs.ZobristFold
/-!
# The concrete positions used by `example`s and instances

`exPos` = `r3k2r/1P6/8/3pP3/8/8/8/R3K2R w KQkq d6`: all four castling rights, an en-passant capture (e5xd6), a promotion (b7-b8)
and a capture-promotion (b7xa8), rook captures on rook home squares; `exPosB`, its colour-mirrored image; `kiwiPos`, "Kiwipete".
Each comes with its value as a literal record (`*_val`) and with `Rep`.
-/
namespace Morlock.Proofs
open Morlock Morlock.Model

def exPl : List (Nat × Color × Piece) :=
  [(3, .white, .king), (7, .white, .rook), (0, .white, .rook), (35, .white, .pawn), (54, .white, .pawn),
   (59, .black, .king), (63, .black, .rook), (56, .black, .rook), (36, .black, .pawn)]

def exPos : Position := (Position.newPosition exPl 15 44).getD {}

theorem eq_some_getD {α : Type} {o : Option α} {d v : α} (h : o.getD d = v) (hne : d ≠ v) :
    o = some (o.getD d) := by
  cases o
  · exact absurd h hne
  · rfl

theorem validPlacements_of_all {pl : List (Nat × Color × Piece)}
    (h : (pl.all fun x => decide (x.1 < 64) && (x.2.2 != Piece.none)) = true) : ValidPlacements pl :=
  fun x hx => by simpa using List.all_eq_true.mp h x hx

/-- A position built by `NewPosition` from real pieces on real squares satisfies `Rep`; that the call
    succeeded is read off the value (it is not the default). -/
theorem rep_getD_newPosition {pl : List (Nat × Color × Piece)} {castling ep : Nat} {v : Position}
    (hv : (Position.newPosition pl castling ep).getD {} = v) (hne : {} ≠ v)
    (hall : (pl.all fun x => decide (x.1 < 64) && (x.2.2 != Piece.none)) = true) :
    Rep ((Position.newPosition pl castling ep).getD {}) (placeAll emptyBoard pl) :=
  (newPosition_rep (validPlacements_of_all hall) (eq_some_getD hv hne)).1

/-- Evaluations about `exPos` rewrite with this value first: the kernel would otherwise run `NewPosition`
    (three table look-ups per piece) each time. -/
theorem exPos_val : exPos =
    { white := { all := 0x40000800000089, pawn := 0x40000800000000, rook := 129, king := 8 },
      black := { all := 0x8900001000000000, pawn := 0x1000000000, rook := 0x8100000000000000,
                 king := 0x800000000000000 },
      rotated := { rot := 0x8940001800000089, rot90 := 0x8140001091000081, rot45L := 0x8200008d10000401,
                   rot45R := 0x8820008910000041 },
      castling := 15, enpassant := 44 } := by decide +kernel

theorem exPos_rep : Rep exPos (placeAll emptyBoard exPl) :=
  rep_getD_newPosition exPos_val (by decide) (by decide)

/-- e5xd6 en passant. -/
def exEP : Move := { ty := .enPassant, «from» := 35, to := 44, piece := .pawn }
/-- O-O. -/
def exOO : Move := { ty := .kingSideCastle, «from» := 3, to := 1, piece := .king }
/-- b7xa8=N. -/
def exCP : Move := { ty := .capturePromotion, «from» := 54, to := 63, piece := .pawn, promotion := .knight, capture := .rook }

/-- 1. exd6 e.p. Rxa1+ 2. Ke2. -/
def exLine : List Move :=
  [exEP,
   { ty := .capture, «from» := 63, to := 7, piece := .rook, capture := .rook },
   { ty := .normal, «from» := 3, to := 11, piece := .king }]

/-- A sample Zobrist table (any functions with `enpassant 0 = 0` do). -/
def exZ : ZTable where
  pieces c k sq := 1000003 * (64 * (7 * c.code + k.code) + sq + 1) % 18446744073709551557
  castling c := 7919 * (c + 1)
  enpassant e := 104729 * e
  turn c := 15485863 * (c.code + 1)

/-- "Kiwipete" `r3k2r/p1ppqpb1/bn2pnp1/3PN3/1p2P3/2N2Q1p/PPPBBPPP/R3K2R w KQkq -`. -/
def kiwiPl : List (Nat × Color × Piece) :=
  [(63, .black, .rook), (59, .black, .king), (56, .black, .rook), (55, .black, .pawn), (53, .black, .pawn), (52, .black, .pawn), (51, .black, .queen), (50, .black, .pawn), (49, .black, .bishop), (47, .black, .bishop), (46, .black, .knight), (43, .black, .pawn), (42, .black, .knight), (41, .black, .pawn), (36, .white, .pawn), (35, .white, .knight), (30, .black, .pawn), (27, .white, .pawn), (21, .white, .knight), (18, .white, .queen), (16, .black, .pawn), (15, .white, .pawn), (14, .white, .pawn), (13, .white, .pawn), (12, .white, .bishop), (11, .white, .bishop), (10, .white, .pawn), (9, .white, .pawn), (8, .white, .pawn), (7, .white, .rook), (3, .white, .king), (0, .white, .rook)]
def kiwiPos : Position := (Position.newPosition kiwiPl 15 0).getD {}

/-- `r3k2r/8/8/8/3Pp3/8/1p6/R3K2R b KQkq d3` (the colour-mirrored `exPos`). -/
def exPlB : List (Nat × Color × Piece) :=
  [(63, .black, .rook), (59, .black, .king), (56, .black, .rook), (28, .white, .pawn), (27, .black, .pawn), (14, .black, .pawn), (7, .white, .rook), (3, .white, .king), (0, .white, .rook)]
def exPosB : Position := (Position.newPosition exPlB 15 20).getD {}

theorem kiwiPos_val : kiwiPos =
    { white := { all := 0x180824ff89, pawn := 0x100800e700, bishop := 6144, knight := 0x800200000, rook := 129,
                 queen := 262144, king := 8 },
      black := { all := 0x89bece0040010000, pawn := 0xb40a0040010000, bishop := 0x2800000000000,
                 knight := 0x440000000000, rook := 0x8100000000000000, queen := 0x8000000000000,
                 king := 0x800000000000000 },
      rotated := { rot := 0x89bece184825ff89, rot90 := 0xe32a4652fb666287, rot45L := 0x8b98ca99fc513c95,
                   rot45R := 0xa5b0939f754118f5 },
      castling := 15, enpassant := 0 } := by decide +kernel

theorem exPosB_val : exPosB =
    { white := { all := 0x10000089, pawn := 0x10000000, rook := 129, king := 8 },
      black := { all := 0x8900000008004000, pawn := 0x8004000, rook := 0x8100000000000000,
                 king := 0x800000000000000 },
      rotated := { rot := 0x8900000018004089, rot90 := 0x8102000889000081, rot45L := 0x8200000891000411,
                   rot45R := 0x80200008b1000041 },
      castling := 15, enpassant := 20 } := by decide +kernel

theorem kiwiPos_rep : Rep kiwiPos kiwiPos.square :=
  (rep_getD_newPosition kiwiPos_val (by decide) (by decide)).self

theorem exPosB_rep : Rep exPosB exPosB.square :=
  (rep_getD_newPosition exPosB_val (by decide) (by decide)).self

end Morlock.Proofs
