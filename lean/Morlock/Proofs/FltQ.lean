import Morlock.Proofs.FltRndPos
/-! # The rationals `Q`: normalisation, order by cross-multiplication, and the value `ofME` of a (significand, exponent) pair -/
namespace Morlock.Model.Flt

namespace Q

/-- same rational value -/
def Eqv (x y : Q) : Prop := x.num * y.den = y.num * x.den
/-- `x ≤ y` as rationals (meaningful for positive denominators) -/
def Le (x y : Q) : Prop := x.num * y.den ≤ y.num * x.den
def Lt (x y : Q) : Prop := x.num * y.den < y.num * x.den
/-- lowest terms with a positive denominator: the form produced by `Q.norm` (and hence by `Q.add`, `Q.mul`, `rnd` …) -/
def Canon (x : Q) : Prop := 0 < x.den ∧ Nat.gcd x.num.natAbs x.den = 1

theorem beq_iff (x y : Q) : Q.beq x y = true ↔ Eqv x y := by simp [Q.beq, Eqv]
theorem le_iff (x y : Q) : Q.le x y = true ↔ Le x y := by simp [Q.le, Le]
theorem lt_iff (x y : Q) : Q.lt x y = true ↔ Lt x y := by simp [Q.lt, Lt]

theorem Eqv.refl (x : Q) : Eqv x x := rfl
theorem Eqv.symm {x y : Q} (h : Eqv x y) : Eqv y x := Eq.symm h
theorem Eqv.le {x y : Q} (h : Eqv x y) : Le x y := Int.le_of_eq h
theorem Eqv.ge {x y : Q} (h : Eqv x y) : Le y x := Int.le_of_eq h.symm

theorem Le.trans {x y z : Q} (hy : 0 < y.den) (h1 : Le x y) (h2 : Le y z) : Le x z := by
  unfold Le at *
  have hy' : (0 : Int) < y.den := by omega
  have a1 := Int.mul_le_mul_of_nonneg_right h1 (Int.natCast_nonneg z.den)
  have a2 := Int.mul_le_mul_of_nonneg_right h2 (Int.natCast_nonneg x.den)
  have : x.num * z.den * y.den ≤ z.num * x.den * y.den := by
    calc x.num * z.den * y.den = x.num * y.den * z.den := Int.mul_right_comm ..
      _ ≤ y.num * x.den * z.den := a1
      _ = y.num * z.den * x.den := Int.mul_right_comm ..
      _ ≤ z.num * y.den * x.den := a2
      _ = z.num * x.den * y.den := Int.mul_right_comm ..
  exact Int.le_of_mul_le_mul_right this hy'

theorem Le.pos {x y : Q} (hy : 0 < y.den) (hpos : 0 < x.num) (h : Le x y) : 0 < y.num := by
  unfold Le at h
  apply Int.lt_of_not_ge
  intro h0
  have := Int.mul_pos hpos (show (0 : Int) < y.den by omega)
  have := Int.mul_nonpos_of_nonpos_of_nonneg h0 (Int.natCast_nonneg x.den)
  omega

theorem Le.nat {x y : Q} {a c : Nat} (ha : (a : Int) = x.num) (hc : (c : Int) = y.num) (h : Le x y) :
    a * y.den ≤ c * x.den := by
  unfold Le at h
  rw [← ha, ← hc] at h
  exact_mod_cast h

theorem Eqv.trans {x y z : Q} (hy : 0 < y.den) (h1 : Eqv x y) (h2 : Eqv y z) : Eqv x z :=
  Int.le_antisymm (Le.trans hy h1.le h2.le) (Le.trans hy h2.ge h1.ge)

theorem neg_neg (x : Q) : x.neg.neg = x := by
  cases x; simp [Q.neg]

theorem Le.neg {x y : Q} (h : Le x y) : Le y.neg x.neg := by
  unfold Le Q.neg at *; simp only [Int.neg_mul]; omega

theorem Eqv.neg {x y : Q} (h : Eqv x y) : Eqv x.neg y.neg := by
  unfold Eqv Q.neg at *; simp only [Int.neg_mul]; omega

theorem norm_den_pos {x : Q} (h : 0 < x.den) : 0 < (norm x).den := by
  unfold norm
  simp only []
  split
  · exact h
  · simp only []
    exact Nat.div_pos (Nat.le_of_dvd h (Nat.gcd_dvd_right _ _)) (Nat.gcd_pos_of_pos_right _ h)

theorem norm_eqv (x : Q) : Eqv (norm x) x := by
  unfold norm Eqv
  simp only []
  split
  · rfl
  · simp only []
    generalize hg : Nat.gcd x.num.natAbs x.den = g
    have hgn : (g : Int) ∣ x.num := by rw [Int.ofNat_dvd_left, ← hg]; exact Nat.gcd_dvd_left _ _
    have hgd : g ∣ x.den := by rw [← hg]; exact Nat.gcd_dvd_right _ _
    have hgpos : 0 < g := by omega
    obtain ⟨n', hn'⟩ := hgn
    obtain ⟨d', hd'⟩ := hgd
    rw [hn', hd', Int.mul_ediv_cancel_left _ (by omega), Nat.mul_div_cancel_left _ hgpos]
    simp only [Int.natCast_mul]
    grind

theorem norm_canon {x : Q} (h : 0 < x.den) : Canon (norm x) := by
  refine ⟨norm_den_pos h, ?_⟩
  unfold norm
  simp only []
  have hgpos := Nat.gcd_pos_of_pos_right x.num.natAbs h
  split
  · omega
  · simp only []
    have hgn : ((Nat.gcd x.num.natAbs x.den : Nat) : Int) ∣ x.num := by
      rw [Int.ofNat_dvd_left]; exact Nat.gcd_dvd_left _ _
    rw [Int.natAbs_ediv_of_dvd hgn, Int.natAbs_natCast]
    exact Nat.gcd_div_gcd_div_gcd_of_pos_right h

theorem eqv_of_abs {x y : Q} (hs : y.num < 0 ↔ x.num < 0) (h : y.num.natAbs * x.den = x.num.natAbs * y.den) :
    Eqv y x := by
  unfold Eqv
  have h' : (y.num.natAbs : Int) * x.den = (x.num.natAbs : Int) * y.den := by exact_mod_cast h
  by_cases hx : x.num < 0
  · rw [show (y.num.natAbs : Int) = -y.num by omega, show (x.num.natAbs : Int) = -x.num by omega,
      Int.neg_mul, Int.neg_mul] at h'
    omega
  · rwa [show (y.num.natAbs : Int) = y.num by omega, show (x.num.natAbs : Int) = x.num by omega] at h'

theorem abs_of_eqv {x y : Q} (hx : 0 < x.den) (hy : 0 < y.den) (h : Eqv y x) :
    (y.num < 0 ↔ x.num < 0) ∧ (y.num = 0 ↔ x.num = 0) ∧ y.num.natAbs * x.den = x.num.natAbs * y.den := by
  have hs : y.num.sign = x.num.sign := by
    have := congrArg Int.sign h
    rwa [Int.sign_mul, Int.sign_mul, Int.sign_natCast_of_ne_zero (by omega), Int.sign_natCast_of_ne_zero (by omega),
      Int.mul_one, Int.mul_one] at this
  refine ⟨?_, ?_, ?_⟩
  · rw [← Int.sign_eq_neg_one_iff_neg (a := y.num), ← Int.sign_eq_neg_one_iff_neg (a := x.num), hs]
  · rw [← Int.sign_eq_zero_iff_zero (a := y.num), ← Int.sign_eq_zero_iff_zero (a := x.num), hs]
  · simpa [Int.natAbs_mul] using congrArg Int.natAbs h

theorem Canon.eq_of_eqv {x y : Q} (hx : Canon x) (hy : Canon y) (h : Eqv x y) : x = y := by
  obtain ⟨xn, xd⟩ := x
  obtain ⟨yn, yd⟩ := y
  unfold Canon at hx hy
  unfold Eqv at h
  simp only [] at hx hy h
  have habs : xn.natAbs * yd = yn.natAbs * xd := by
    have := congrArg Int.natAbs h
    simpa [Int.natAbs_mul] using this
  have c1 : Nat.Coprime xd xn.natAbs := by rw [Nat.Coprime, Nat.gcd_comm]; exact hx.2
  have c2 : Nat.Coprime yd yn.natAbs := by rw [Nat.Coprime, Nat.gcd_comm]; exact hy.2
  have d1 : xd ∣ yd := by
    apply c1.dvd_of_dvd_mul_left
    rw [habs]; exact Nat.dvd_mul_left _ _
  have d2 : yd ∣ xd := by
    apply c2.dvd_of_dvd_mul_left
    rw [← habs]; exact Nat.dvd_mul_left _ _
  have hd : xd = yd := Nat.dvd_antisymm d1 d2
  subst hd
  have hpos : (0 : Int) < xd := by omega
  have : xn = yn := Int.eq_of_mul_eq_mul_right (by omega) h
  subst this
  rfl

theorem canon_ofInt (i : Int) : Canon (Q.ofInt i) := by
  unfold Canon Q.ofInt; simp

end Q

theorem ofME_true (m : Nat) (e : Int) : ofME true m e = (ofME false m e).neg := by
  unfold ofME; simp

theorem ofME_false_eqv (m : Nat) (e : Int) : Q.Eqv (ofME false m e) ⟨(m * pn e : Nat), pd e⟩ := by
  unfold ofME
  simp only [Bool.false_eq_true, if_false]
  split
  · rename_i he
    simp only [Q.Eqv, pd_of_nonneg he, pn]
  · rename_i he
    rw [pn_of_nonpos (by omega), Nat.mul_one]
    exact Q.norm_eqv _

theorem ofME_false_canon (m : Nat) (e : Int) : (ofME false m e).Canon := by
  unfold ofME
  simp only [Bool.false_eq_true, if_false]
  split
  · unfold Q.Canon; simp
  · exact Q.norm_canon (Nat.two_pow_pos _)

theorem ofME_spec (neg : Bool) (m : Nat) (e : Int) :
    (ofME neg m e).Canon ∧ (ofME neg m e).num.natAbs * pd e = m * pn e * (ofME neg m e).den ∧
    ((ofME neg m e).num < 0 ↔ (neg = true ∧ 0 < m)) ∧ ((ofME neg m e).num = 0 ↔ m = 0) := by
  have hc := ofME_false_canon m e
  obtain ⟨hs, hz, ha⟩ := Q.abs_of_eqv (x := ⟨(m * pn e : Nat), pd e⟩) (pd_pos e) hc.1 (ofME_false_eqv m e)
  simp only [Int.natAbs_natCast] at ha
  have hpn := pn_pos e
  have hs' : 0 ≤ (ofME false m e).num := by
    have : ¬ (((m * pn e : Nat) : Int) < 0) := by omega
    rw [← hs] at this; omega
  have hz' : (ofME false m e).num = 0 ↔ m = 0 := by
    rw [hz]
    simp only [Int.natCast_eq_zero, Nat.mul_eq_zero]
    omega
  cases neg
  · exact ⟨hc, ha, by simp; exact hs', hz'⟩
  · rw [ofME_true]
    generalize ofME false m e = v at *
    refine ⟨⟨hc.1, by simpa [Q.neg] using hc.2⟩, by simpa [Q.neg] using ha, ?_, by simp [Q.neg, hz']⟩
    simp only [Q.neg, true_and]
    omega

end Morlock.Model.Flt
