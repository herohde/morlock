import Morlock.Props.C01
import Morlock.Proofs.PromoLegal
/-!
# C20: the "no under-promotion" exploration filter on the model's legal moves

`Driver.noUnderPromo.pick m = !m.isUnderPromotion`. On generated moves (accurate metadata, C01 stage E)
this is the reference filter `Spec.notUnderPromo` read through `absMove`; with `C01.legal_perm` the filtered
model list is, move for move, the filtered reference list, which is non-empty whenever a legal move exists.
-/
namespace Morlock.Proofs.Promo
open Morlock Morlock.Model Morlock.Proofs Morlock.Proofs.Gen

/-- The predicate of the `nup-*` explorations (`Driver.noUnderPromo.pick`). -/
def pick (m : Move) : Bool := !m.isUnderPromotion

theorem pick_eq {p : Position} {turn : Color} (hw : WF p turn) {m : Move} (hm : m ∈ p.pseudoLegalMoves turn) :
    pick m = Spec.notUnderPromo (absMove m) := by
  have hc := (Props.C01.pseudo_metaOK hw m hm).2
  unfold ClassOK at hc
  simp only [Bool.and_eq_true] at hc
  -- the type of a generated move says "promotion" exactly when it carries a promotion piece
  have h : m.isPromotion = (m.promotion != .none) := by simpa using hc.1.1.1.2
  unfold pick Move.isUnderPromotion Spec.notUnderPromo absMove
  rw [h]
  cases m.promotion <;> rfl

theorem legalMoves_nodup {p : Position} {b : Board} (h : Rep p b) (turn : Color) : (p.legalMoves turn).Nodup := by
  unfold Position.legalMoves
  exact (Props.C01.pseudoLegalMoves_nodup h turn).filter _

theorem filter_pick_perm {p : Position} {turn : Color} (hw : WF p turn) :
    (((p.legalMoves turn).filter pick).map absMove).Perm
      ((Spec.legalMoves (abs p turn)).filter Spec.notUnderPromo) := by
  have h1 : (p.legalMoves turn).filter pick = (p.legalMoves turn).filter (Spec.notUnderPromo ∘ absMove) := by
    apply List.filter_congr
    intro m hm
    exact pick_eq hw ((Props.C01.legal_iff p turn m).mp hm).1
  rw [h1, ← List.filter_map]
  exact (Props.C01.legal_perm hw).filter _

theorem filter_pick_ne_nil {p : Position} {turn : Color} (hw : WF p turn) (h : p.legalMoves turn ≠ []) :
    (p.legalMoves turn).filter pick ≠ [] := by
  intro he
  have hp := filter_pick_perm hw
  rw [he, List.map_nil] at hp
  have hs : Spec.legalMoves (abs p turn) ≠ [] := fun e => h ((Props.C01.legal_nil_iff hw).mpr e)
  exact Spec.filter_notUnderPromo_ne_nil hs hp.nil_eq.symm

theorem filter_pick_sound {p : Position} {b : Board} (h : Rep p b) (turn : Color) :
    ((p.legalMoves turn).filter pick).Sublist (p.legalMoves turn) ∧ ((p.legalMoves turn).filter pick).Nodup :=
  ⟨List.filter_sublist, (legalMoves_nodup h turn).filter _⟩

theorem exPos_legal_counts :
    (exPos.legalMoves .white).length = 36 ∧ ((exPos.legalMoves .white).filter pick).length = 30 := by
  decide +kernel

end Morlock.Proofs.Promo
