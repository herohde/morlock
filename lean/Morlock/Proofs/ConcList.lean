/-!
# List facts used by the concurrency proofs: `List.set` against `countP`, membership, `getD`
-/
namespace Morlock.Proofs

/-- `k` counts the other elements -/
theorem countP_set_split {α : Type} (p : α → Bool) {l : List α} {i : Nat} {a : α} (b : α) (h : l[i]? = some a) :
    ∃ k, l.countP p = k + (if p a then 1 else 0) ∧ (l.set i b).countP p = k + (if p b then 1 else 0) := by
  obtain ⟨hi, rfl⟩ := List.getElem?_eq_some_iff.1 h
  exact ⟨_, (Nat.sub_add_cancel (List.boole_getElem_le_countP hi)).symm, List.countP_set hi⟩

theorem countP_set' {α : Type} (p : α → Bool) {l : List α} {i : Nat} {a : α} (b : α) (h : l[i]? = some a) :
    (l.set i b).countP p + (if p a then 1 else 0) = l.countP p + (if p b then 1 else 0) := by
  obtain ⟨k, h1, h2⟩ := countP_set_split p b h
  rw [h1, h2, Nat.add_right_comm]

theorem countP_pos_of_getElem? {α : Type} (p : α → Bool) {l : List α} {i : Nat} {a : α}
    (h : l[i]? = some a) (hp : p a = true) : 0 < l.countP p :=
  List.countP_pos_iff.2 ⟨a, List.mem_of_getElem? h, hp⟩

theorem set_getElem?_eq {α : Type} {l : List α} {i : Nat} {a b : α} (h : l[i]? = some a) (he : l.set i b = l) :
    b = a := by
  have hlt : i < l.length := (List.getElem?_eq_some_iff.1 h).1
  have : (l.set i b)[i]? = some b := List.getElem?_set_self hlt
  rw [he, h] at this
  exact (Option.some.inj this).symm

theorem set_self_of_getElem? {α : Type} {l : List α} {i : Nat} {a : α} (h : l[i]? = some a) : l.set i a = l := by
  obtain ⟨hi, rfl⟩ := List.getElem?_eq_some_iff.1 h
  exact List.set_getElem_self hi

theorem mem_set_of_ne {α : Type} {l : List α} {j : Nat} {a b x : α} (hj : l[j]? = some a) (hx : x ∈ l)
    (hne : x ≠ a) : x ∈ l.set j b := by
  obtain ⟨i, hi⟩ := List.mem_iff_getElem?.1 hx
  have hij : j ≠ i := by
    intro e; subst e; rw [hj] at hi; exact hne (Option.some.inj hi).symm
  apply List.mem_of_getElem? (i := i)
  rw [List.getElem?_set]; simp [hij, hi]

theorem getD_set_self {α : Type} {l : List α} {k : Nat} {a d : α} (h : k < l.length) : (l.set k a).getD k d = a := by
  simp [List.getD_eq_getElem?_getD, h]

theorem getD_set_ne {α : Type} {l : List α} {k j : Nat} {a d : α} (h : k ≠ j) : (l.set k a).getD j d = l.getD j d := by
  rw [List.getD_eq_getElem?_getD, List.getElem?_set_ne h, List.getD_eq_getElem?_getD]

end Morlock.Proofs
