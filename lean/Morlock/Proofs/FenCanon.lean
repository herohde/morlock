import Morlock.Proofs.FenRoundtrip
/-!
# `Encode ∘ Decode = id` on the standard grammar

`Canonical s`: `s` is a FEN line in the standard grammar — six fields joined by single spaces, no
surrounding blanks; eight `/`-separated ranks each describing exactly eight squares with digits `1`–`8`
and piece letters, no two digits adjacent; `w` or `b`; `-` or a non-empty subsequence of `KQkq`; `-` or
a square `a1`…`h8` other than `h1` (see `C14.h1_target_lost`; the standard only has ranks 3 and 6 here);
two decimal numerals without sign or leading zeros.

Here: what each canonical field reads to and prints back as, and that `Encode` writes canonical lines; the round trip
itself is `C14.encode_decode`.
-/
namespace Morlock.Proofs.Fen
open Morlock Morlock.Model Morlock.Model.Fen Morlock.Proofs

/-- Number of squares a rank string describes. -/
def rankWidth : List Char → Nat
  | [] => 0
  | r :: rs => (if '1' ≤ r && r ≤ '8' then r.toNat - '0'.toNat else 1) + rankWidth rs

theorem rankWidth_eq (rk : List Char) : rankWidth rk = (cellsOf rk).length := by
  induction rk with
  | nil => rfl
  | cons r rs ih =>
    unfold rankWidth cellsOf
    split <;> simp [ih, Nat.add_comm]

def CanonColor (p1 : List Char) : Prop := p1 = ['w'] ∨ p1 = ['b']

def CanonCastling (p2 : List Char) : Prop := p2 = ['-'] ∨ (p2 ≠ [] ∧ List.Sublist p2 ['K', 'Q', 'k', 'q'])

def CanonEp (p3 : List Char) : Prop :=
  p3 = ['-'] ∨ ∃ f r, p3 = [f, r] ∧ ('a' ≤ f ∧ f ≤ 'h') ∧ ('1' ≤ r ∧ r ≤ '8') ∧ p3 ≠ ['h', '1']

def CanonNum (ds : List Char) : Prop :=
  ds ≠ [] ∧ (∀ c ∈ ds, c.isDigit = true) ∧ (ds.head? = some '0' → ds = ['0'])

/-- `rks` are the eight rank strings. -/
def CanonFields (rks : List (List Char)) (p1 p2 p3 p4 p5 : List Char) : Prop :=
  rks.length = 8 ∧ (∀ rk ∈ rks, canonRank rk = true ∧ rankWidth rk = 8) ∧
    CanonColor p1 ∧ CanonCastling p2 ∧ CanonEp p3 ∧ CanonNum p4 ∧ CanonNum p5

def Canonical (s : List Char) : Prop :=
  ∃ rks p1 p2 p3 p4 p5,
    s = join6 (List.intercalate ['/'] rks) p1 p2 p3 p4 p5 ∧ CanonFields rks p1 p2 p3 p4 p5

theorem digit_val_lt {c : Char} (h : c.isDigit = true) : c.toNat - '0'.toNat < 10 := by
  rw [isDigit_iff] at h
  have : '0'.toNat = 48 := rfl
  omega

theorem toDigits_ofDigitChars_pos (ds : List Char) (init : Nat) (hpos : 0 < init)
    (hd : ∀ c ∈ ds, c.isDigit = true) :
    Nat.toDigits 10 (Nat.ofDigitChars 10 ds init) = Nat.toDigits 10 init ++ ds := by
  induction ds generalizing init with
  | nil => simp
  | cons d ds ih =>
    have hdd := hd d (List.mem_cons_self ..)
    rw [Nat.ofDigitChars_cons, ih _ (by omega) (fun c hc => hd c (List.mem_cons_of_mem _ hc)),
      ← Nat.toDigits_append_toDigits (by decide) hpos (digit_val_lt hdd),
      Nat.toDigits_of_lt_base (digit_val_lt hdd), digitChar_of_isDigit hdd]
    simp

theorem toDigits_ofDigitChars {ds : List Char} (h : CanonNum ds) :
    Nat.toDigits 10 (Nat.ofDigitChars 10 ds 0) = ds := by
  obtain ⟨hne, hd, hz⟩ := h
  cases ds with
  | nil => exact absurd rfl hne
  | cons d rest =>
    have hdd := hd d (List.mem_cons_self ..)
    by_cases h0 : d = '0'
    · have := hz (by rw [h0]; rfl)
      rw [this]; decide
    · have hpos : 0 < d.toNat - '0'.toNat := by
        have := (isDigit_iff d).mp hdd
        have hne : d.toNat ≠ '0'.toNat := fun e => h0 (Char.toNat_inj.mp e)
        have : '0'.toNat = 48 := rfl
        omega
      rw [Nat.ofDigitChars_cons, Nat.mul_zero, Nat.zero_add,
        toDigits_ofDigitChars_pos rest _ hpos (fun c hc => hd c (List.mem_cons_of_mem _ hc)),
        Nat.toDigits_of_lt_base (digit_val_lt hdd), digitChar_of_isDigit hdd]
      rfl

theorem itoa_atoi {ds : List Char} {v : Int} (h : CanonNum ds) (ha : atoi ds = some v) :
    (itoa v).toList = ds := by
  rw [atoi_digits ds h.1 h.2.1] at ha
  split at ha
  · cases ha
    rw [itoa_natCast, toDigits_ofDigitChars h]
  · cases ha

theorem CanonNum.NS {ds : List Char} (h : CanonNum ds) : NS ds := fun c hc => isSpace_digit (h.2.1 c hc)

theorem CanonColor.read {p1 : List Char} (h : CanonColor p1) :
    ∃ c, parseColor p1 = some c ∧ (printColor c).toList = p1 := by
  rcases h with rfl | rfl
  · exact ⟨.white, rfl, rfl⟩
  · exact ⟨.black, rfl, rfl⟩

theorem CanonCastling.read {p2 : List Char} (h : CanonCastling p2) :
    ∃ cr, parseCastling p2 = some cr ∧ (printCastling cr).toList = p2 := by
  rcases h with rfl | ⟨hne, hs⟩
  · exact ⟨0, by decide⟩
  -- the fifteen non-empty subsequences of `KQkq`
  · rcases List.sublist_cons_iff.mp hs with h1 | ⟨l1, e1, h1⟩ <;>
    rcases List.sublist_cons_iff.mp h1 with h2 | ⟨l2, e2, h2⟩ <;>
    rcases List.sublist_cons_iff.mp h2 with h3 | ⟨l3, e3, h3⟩ <;>
    rcases List.sublist_cons_iff.mp h3 with h4 | ⟨l4, e4, h4⟩ <;>
    (have e5 := List.eq_nil_of_sublist_nil h4; subst_vars; first | exact absurd rfl hne | exact ⟨_, rfl, by decide⟩)

/-- A canonical target is `-` (square 0) or the name of a square other than `h1` = 0. -/
theorem CanonEp.read {p3 : List Char} (h : CanonEp p3) :
    ∃ ep, ep < 64 ∧ (if p3 = ['-'] then some 0 else parseSquareStr p3) = some ep ∧ (epStr ep).toList = p3 := by
  rcases h with rfl | ⟨f, r, rfl, hf, hr, hne⟩
  · exact ⟨0, by decide, rfl, rfl⟩
  · obtain ⟨i, hi, rfl⟩ := fileChar_of_range hf
    obtain ⟨j, hj, rfl⟩ := rankChar_of_range hr
    rw [← sqChars_mk hi] at hne ⊢
    have h64 : 8 * j + i < 64 := by omega
    have h0 : 8 * j + i ≠ 0 := fun h0 => hne (by rw [h0, sqChars_zero])
    exact ⟨_, h64, by rw [if_neg (by simp [sqChars])]; exact parseSquare_sqChars h64, epStr_toList h64 h0⟩

theorem CanonColor.NS {p1 : List Char} (h : CanonColor p1) : NS p1 := by
  obtain ⟨c, _, e⟩ := h.read
  rw [← e]; exact color_NS c

theorem CanonCastling.NS {p2 : List Char} (h : CanonCastling p2) : NS p2 := by
  obtain ⟨cr, hp, e⟩ := h.read
  rw [← e]; exact NS_of_nsb (castling_nsb _ (parseCastling_lt hp))

theorem CanonEp.NS {p3 : List Char} (h : CanonEp p3) : NS p3 := by
  obtain ⟨ep, h64, _, e⟩ := h.read
  rw [← e]; exact epStr_NS h64

theorem canonical_ranksOK {rks : List (List Char)}
    (h : ∀ rk ∈ rks, canonRank rk = true ∧ rankWidth rk = 8) : RanksOK rks := by
  intro rk hrk
  obtain ⟨h1, h2⟩ := h rk hrk
  exact ⟨canonRank_chars h1, by rw [← rankWidth_eq]; exact h2⟩

theorem CanonFields.split {rks : List (List Char)} {p1 p2 p3 p4 p5 : List Char} (hc : CanonFields rks p1 p2 p3 p4 p5) :
    splitSpaces (trimSpace (join6 (List.intercalate ['/'] rks) p1 p2 p3 p4 p5)) =
      [List.intercalate ['/'] rks, p1, p2, p3, p4, p5] := by
  obtain ⟨hlen, hrk, c1, c2, c3, c4, c5⟩ := hc
  exact decode_split (board_NS fun rk h => (canonical_ranksOK hrk rk h).1) c1.NS c2.NS c3.NS c4.NS c5.NS
    (board_ne_nil hlen) c5.1

theorem boardStr_of_canonical {rks : List (List Char)} (hlen : rks.length = 8)
    (h : ∀ rk ∈ rks, canonRank rk = true ∧ rankWidth rk = 8) :
    (boardStr (boardOf (rks.map cellsOf))).toList = List.intercalate ['/'] rks := by
  obtain ⟨hg, _⟩ := grid_of_ranks hlen (canonical_ranksOK h)
  rw [boardStr_toList, rowsOf_boardOf hg, List.map_map]
  exact congrArg _ ((List.map_congr_left fun rk hrk => enc_cellsOf rk (h rk hrk).1).trans (List.map_id _))

theorem toDigits_head (n : Nat) (hn : 0 < n) : (Nat.toDigits 10 n).head? ≠ some '0' := by
  induction n using Nat.base_induction 10 (by decide) with
  | single m hm =>
    rw [Nat.toDigits_of_lt_base hm]
    intro e
    simp only [List.head?_cons, Option.some.injEq] at e
    exact Nat.lt_irrefl _ ((Nat.digitChar_eq_zero.mp e) ▸ hn)
  | digit m k hk hm ih =>
    rw [← Nat.toDigits_append_toDigits (by decide) hm hk, List.head?_append]
    cases hd : (Nat.toDigits 10 m).head? with
    | none =>
      rw [List.head?_eq_none_iff] at hd
      exact absurd hd Nat.toDigits_ne_nil
    | some x =>
      have := ih hm
      rw [hd] at this
      simpa using this

theorem toDigits_canonNum (n : Nat) : CanonNum (Nat.toDigits 10 n) := by
  refine ⟨Nat.toDigits_ne_nil, toDigits_isDigit n, ?_⟩
  intro h
  by_cases hn : n = 0
  · subst hn; rfl
  · exact absurd h (toDigits_head n (by omega))

theorem printCastling_canon : ∀ c, c < 16 →
    ((printCastling c).toList = ['-'] ∨
      ((printCastling c).toList ≠ [] ∧ List.Sublist (printCastling c).toList ['K', 'Q', 'k', 'q'])) := by
  decide +kernel

theorem epStr_canon {e : Nat} (h : e < 64) : CanonEp (epStr e).toList := by
  by_cases h0 : e = 0
  · subst h0; exact Or.inl rfl
  · rw [epStr_toList h h0]
    refine Or.inr ⟨_, _, rfl, (fileChar_spec _ (Nat.mod_lt _ (by decide))).2.2.2, (rankChar_spec _ (by omega)).2.2, ?_⟩
    -- `h1` is the name of square 0 only
    intro heq
    have hp := parseSquare_sqChars h
    simp only [sqChars, List.cons.injEq, and_true] at heq
    rw [heq.1, heq.2] at hp
    exact h0 (Option.some.inj hp).symm

theorem encode_canonical {p : Position} {b : Board} (h : Rep p b) (hc : p.castling < 16)
    (he : p.enpassant < 64) (c : Color) (np fm : Nat) : Canonical (encode p c np fm).toList := by
  have hg := rowsOf_grid b
  have hwf := rowsOf_wf h.wf
  rw [encode_toList, h.board_eq.symm, boardStr_toList, itoa_natCast, itoa_natCast]
  refine ⟨_, _, _, _, _, _, rfl, by simp [hg.1], ?_, by cases c <;> simp [CanonColor, printColor], printCastling_canon _ hc,
    epStr_canon he, toDigits_canonNum np, toDigits_canonNum fm⟩
  intro rk hrk
  obtain ⟨row, hrow, e⟩ := List.mem_map.mp hrk
  subst e
  have h8 : 0 + row.length ≤ 8 := by rw [hg.2 row hrow]; omega
  refine ⟨canonRank_enc row 0 (hwf row hrow) h8, ?_⟩
  rw [rankWidth_eq, cellsOf_enc row 0 (hwf row hrow) h8]
  simpa using hg.2 row hrow

end Morlock.Proofs.Fen
