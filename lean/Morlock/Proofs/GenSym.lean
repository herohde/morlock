import Morlock.Spec.Chess
import Morlock.Proofs.AttackBounds
/-!
# Geometry of the reference grid: steps and rays in coordinates; the attack relation is symmetric

A step in integer (file, rank) coordinates (`step_eq_some_iff`); a ray square lies a positive number of steps from
the origin (`ray_coords`), so its offset shows the direction. Symmetry ("look from the target square"):
`t ∈ officerTargets occ k sq ↔ sq ∈ officerTargets occ k t` for squares of the board: a step can be
walked backwards, hence so can a ray (same squares in between), and every direction set is closed
under negation. Pure reference-side geometry, used for `isAttacked` and for duplicate-freeness.
-/
namespace Morlock.Proofs.Gen
open Morlock Morlock.Spec Morlock.Proofs.Attack

variable {occ : Sq → Bool} {df dr : Int}

theorem step_eq_some_iff {s t : Nat} :
    Spec.step s df dr = some t ↔
      0 ≤ (↑(s % 8) : Int) + df ∧ (↑(s % 8) : Int) + df < 8 ∧
      0 ≤ (↑(s / 8) : Int) + dr ∧ (↑(s / 8) : Int) + dr < 8 ∧
      (t : Int) = 8 * (↑(s / 8) + dr) + (↑(s % 8) + df) := by
  unfold Spec.step Spec.fileOf Spec.rankOf Spec.mkSq
  simp only []
  split
  · rename_i hc
    obtain ⟨h1, h2, h3, h4⟩ := hc
    simp only [Option.some.injEq]
    generalize (↑(s % 8) : Int) + df = f at *
    generalize (↑(s / 8) : Int) + dr = r at *
    have e1 := Int.toNat_of_nonneg h1
    have e2 := Int.toNat_of_nonneg h3
    generalize f.toNat = fn at *
    generalize r.toNat = rn at *
    subst e1 e2
    constructor
    · intro hh
      have hh' : (8 * rn + fn : Nat) = t := hh
      refine ⟨h1, h2, h3, h4, ?_⟩; omega
    · intro hh
      show (8 * rn + fn : Nat) = t
      omega
  · rename_i hc
    simp only [reduceCtorEq, false_iff]
    intro hh
    exact hc ⟨hh.1, hh.2.1, hh.2.2.1, hh.2.2.2.1⟩

theorem step_coords {s t : Nat} (h : Spec.step s df dr = some t) :
    ((t % 8 : Nat) : Int) = (s % 8 : Nat) + df ∧ ((t / 8 : Nat) : Int) = (s / 8 : Nat) + dr := by
  rw [step_eq_some_iff] at h
  omega

theorem step_rev {sq t : Nat} (hs : sq < 64) (h : step sq df dr = some t) :
    step t (-df) (-dr) = some sq := by
  obtain ⟨c1, c2⟩ := step_coords h
  clear h
  rw [step_eq_some_iff]
  omega

theorem mem_pawnTargets_iff {c : Spec.Color} {s t : Nat} :
    t ∈ Spec.pawnTargets c s ↔ Spec.step s 1 (Spec.fwd c) = some t ∨ Spec.step s (-1) (Spec.fwd c) = some t := by
  simp only [Spec.pawnTargets, List.mem_filterMap, List.mem_cons, List.not_mem_nil, or_false, id,
    exists_eq_or_imp, exists_eq_left]

/-- A pawn capture walked backwards is a capture by a pawn moving the other way. -/
theorem pawnTargets_rev {c c' : Spec.Color} (hc : Spec.fwd c' = -Spec.fwd c) {s t : Nat} (hs : s < 64)
    (h : t ∈ Spec.pawnTargets c s) : s ∈ Spec.pawnTargets c' t := by
  rw [mem_pawnTargets_iff] at h ⊢
  rw [hc]
  rcases h with h | h
  · exact Or.inr (step_rev hs h)
  · exact Or.inl (step_rev hs h)

/-- `IsPath df dr s l`: `l` is walked from `s` by repeated `(df, dr)` steps. -/
def IsPath (df dr : Int) : Sq → List Sq → Prop
  | _, [] => True
  | s, u :: rest => step s df dr = some u ∧ IsPath df dr u rest

theorem isPath_snoc {x y : Sq} (hxy : step x df dr = some y) :
    ∀ (l : List Sq) (a : Sq), IsPath df dr a (l ++ [x]) → IsPath df dr a (l ++ [x] ++ [y]) := by
  intro l
  induction l with
  | nil => intro a h; exact ⟨h.1, hxy, trivial⟩
  | cons u rest ih => intro a h; exact ⟨h.1, ih u h.2⟩

/-- Membership in a ray: a path of empty squares leads to the target. -/
theorem mem_ray_iff (occ : Sq → Bool) (df dr : Int) (t : Sq) :
    ∀ (fuel : Nat) (sq : Sq), t ∈ ray occ sq df dr fuel ↔
      ∃ path : List Sq, path.length < fuel ∧ IsPath df dr sq (path ++ [t]) ∧ ∀ u ∈ path, occ u = false := by
  intro fuel
  induction fuel with
  | zero => intro sq; simp [ray]
  | succ fuel ih =>
    intro sq
    unfold ray
    cases hst : step sq df dr with
    | none =>
      simp only [List.not_mem_nil, false_iff]
      rintro ⟨path, _, hp, _⟩
      cases path with
      | nil => simp only [List.nil_append, IsPath] at hp; rw [hst] at hp; cases hp.1
      | cons u rest => simp only [List.cons_append, IsPath] at hp; rw [hst] at hp; cases hp.1
    | some s =>
      simp only
      by_cases ho : occ s = true
      · rw [if_pos ho]
        simp only [List.mem_singleton]
        constructor
        · rintro rfl
          exact ⟨[], by simp, ⟨hst, trivial⟩, by simp⟩
        · rintro ⟨path, _, hp, hocc⟩
          cases path with
          | nil =>
            simp only [List.nil_append, IsPath] at hp
            rw [hst] at hp; exact (Option.some.inj hp.1).symm
          | cons u rest =>
            simp only [List.cons_append, IsPath] at hp
            rw [hst] at hp
            have : s = u := Option.some.inj hp.1
            subst this
            rw [hocc s (by simp)] at ho; cases ho
      · rw [if_neg ho]
        simp only [List.mem_cons, ih s]
        constructor
        · rintro (rfl | ⟨path, hl, hp, hocc⟩)
          · exact ⟨[], by simp, ⟨hst, trivial⟩, by simp⟩
          · refine ⟨s :: path, by simp; omega, ⟨hst, hp⟩, ?_⟩
            intro u hu
            simp only [List.mem_cons] at hu
            rcases hu with rfl | hu
            · simpa using ho
            · exact hocc u hu
        · rintro ⟨path, hl, hp, hocc⟩
          cases path with
          | nil =>
            simp only [List.nil_append, IsPath] at hp
            rw [hst] at hp; exact Or.inl (Option.some.inj hp.1).symm
          | cons u rest =>
            simp only [List.cons_append, IsPath] at hp
            rw [hst] at hp
            have : s = u := Option.some.inj hp.1
            subst this
            right
            exact ⟨rest, by simp at hl; omega, hp.2, fun v hv => hocc v (by simp [hv])⟩

theorem isPath_rev {t : Sq} :
    ∀ (path : List Sq) (sq : Sq), sq < 64 → IsPath df dr sq (path ++ [t]) →
      IsPath (-df) (-dr) t (path.reverse ++ [sq]) := by
  intro path
  induction path with
  | nil =>
    intro sq hs h
    simp only [List.nil_append, IsPath] at h
    exact ⟨step_rev hs h.1, trivial⟩
  | cons u rest ih =>
    intro sq hs h
    simp only [List.cons_append, IsPath] at h
    have hu : u < 64 := step_lt h.1
    have := ih u hu h.2
    rw [List.reverse_cons]
    exact isPath_snoc (step_rev hs h.1) _ _ this

theorem ray_symm {fuel : Nat} {sq t : Sq} (hs : sq < 64)
    (h : t ∈ ray occ sq df dr fuel) : sq ∈ ray occ t (-df) (-dr) fuel := by
  rw [mem_ray_iff] at h ⊢
  obtain ⟨path, hl, hp, hocc⟩ := h
  exact ⟨path.reverse, by simpa using hl, isPath_rev path sq hs hp, fun u hu => hocc u (by simpa using hu)⟩

theorem ray_coords {t : Sq} :
    ∀ (fuel : Nat) (sq : Sq), t ∈ ray occ sq df dr fuel →
      ∃ k : Nat, 0 < k ∧ (↑(t % 8) : Int) - ↑(sq % 8) = k * df ∧ (↑(t / 8) : Int) - ↑(sq / 8) = k * dr := by
  intro fuel
  induction fuel with
  | zero => intro sq h; cases h
  | succ fuel ih =>
    intro sq h
    unfold ray at h
    cases hst : step sq df dr with
    | none => rw [hst] at h; cases h
    | some s =>
      rw [hst] at h
      obtain ⟨c1, c2⟩ := step_coords hst
      have hm : t = s ∨ t ∈ ray occ s df dr fuel := by
        simp only at h
        split at h
        · exact Or.inl (List.mem_singleton.mp h)
        · exact List.mem_cons.mp h
      rcases hm with rfl | hm
      · exact ⟨1, Nat.one_pos, Int.sub_eq_iff_eq_add'.mpr (by rw [Int.natCast_one, Int.one_mul]; exact c1),
          Int.sub_eq_iff_eq_add'.mpr (by rw [Int.natCast_one, Int.one_mul]; exact c2)⟩
      · obtain ⟨k, hk, e1, e2⟩ := ih s hm
        refine ⟨k + 1, Nat.succ_pos k, ?_⟩
        rw [Int.natCast_add, Int.add_mul, Int.add_mul]
        omega

/-- The direction of a ray can be read off any of its squares. -/
theorem ray_dir {fuel : Nat} {sq t : Sq} (h : t ∈ ray occ sq df dr fuel) :
    ((↑(t % 8) - ↑(sq % 8) : Int).sign, (↑(t / 8) - ↑(sq / 8) : Int).sign) = (df.sign, dr.sign) := by
  obtain ⟨k, hk, e1, e2⟩ := ray_coords fuel sq h
  have hs : (k : Int).sign = 1 := Int.sign_eq_one_of_pos (by omega)
  rw [e1, e2, Int.sign_mul, Int.sign_mul, hs, Int.one_mul, Int.one_mul]

theorem not_mem_ray_self (hd : df ≠ 0 ∨ dr ≠ 0) (fuel : Nat) (sq : Sq) :
    sq ∉ ray occ sq df dr fuel := by
  intro h
  obtain ⟨k, hk, e1, e2⟩ := ray_coords fuel sq h
  have hk0 : (k : Int) ≠ 0 := Int.natCast_ne_zero.mpr (Nat.ne_of_gt hk)
  rcases hd with hd | hd
  · exact (Int.mul_ne_zero hk0 hd) (e1.symm.trans (Int.sub_self _))
  · exact (Int.mul_ne_zero hk0 hd) (e2.symm.trans (Int.sub_self _))

theorem slide_symm {dirs : List (Int × Int)}
    (hneg : ∀ d, d ∈ dirs → (-d.1, -d.2) ∈ dirs) {sq t : Sq} (hs : sq < 64)
    (h : t ∈ dirs.flatMap fun (df, dr) => ray occ sq df dr 8) :
    sq ∈ dirs.flatMap fun (df, dr) => ray occ t df dr 8 := by
  simp only [List.mem_flatMap] at h ⊢
  obtain ⟨⟨df, dr⟩, hd, hm⟩ := h
  exact ⟨(-df, -dr), hneg _ hd, ray_symm hs hm⟩

theorem leap_symm {dirs : List (Int × Int)}
    (hneg : ∀ d, d ∈ dirs → (-d.1, -d.2) ∈ dirs) {sq t : Sq} (hs : sq < 64)
    (h : t ∈ dirs.filterMap fun (df, dr) => step sq df dr) :
    sq ∈ dirs.filterMap fun (df, dr) => step t df dr := by
  simp only [List.mem_filterMap] at h ⊢
  obtain ⟨⟨df, dr⟩, hd, hm⟩ := h
  exact ⟨(-df, -dr), hneg _ hd, step_rev hs hm⟩

/-- **Symmetry of the officer attack relation**, for every occupancy: each direction list is closed under
    negation (a fixed table, checked by evaluation). -/
theorem officerTargets_symm {k : Kind} {sq t : Sq} (hs : sq < 64)
    (h : t ∈ officerTargets occ k sq) : sq ∈ officerTargets occ k t := by
  cases k <;> simp only [officerTargets] at h ⊢
  · cases h
  · exact slide_symm (by decide) hs h
  · exact leap_symm (by decide) hs h
  · exact slide_symm (by decide) hs h
  · exact slide_symm (by decide) hs h
  · exact leap_symm (by decide) hs h

theorem officerTargets_symm_iff {k : Kind} {sq t : Sq} (hs : sq < 64) (ht : t < 64) :
    t ∈ officerTargets occ k sq ↔ sq ∈ officerTargets occ k t :=
  ⟨officerTargets_symm hs, officerTargets_symm ht⟩

end Morlock.Proofs.Gen
