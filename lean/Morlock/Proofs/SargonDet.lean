import Morlock.Proofs.SargonExchange
import Morlock.Proofs.GenExample
/-!
# SARGON: what the unspecified order of `sort.Slice` can and cannot change

`sort.Slice` sorts by `val` but promises nothing about ties. The `Exchange` loop only looks at the *values* of the two lists,
and any two `val`-sorted permutations of a list carry the same values; hence without x-ray stacks the result of `findSide` —
and of `Exchange` — does not depend on the sorter. With stacks it does: in `twoQ` (`3q3k/8/8/8/RQ1r4/8/5Q2/7K`) the two white
queens tie, one of them has a rook behind; the stable sort and the sort with ties reversed give `0` and `−5` for the rook on d4.
-/
namespace Morlock.Proofs.Sargon
open Morlock Morlock.Model Morlock.Model.Sargon Morlock.Proofs.Gen

/-- what `sort.Slice(list, byValue(list))` guarantees: a permutation, ascending in `val` -/
def IsValSort (srt : List Attacker → List Attacker) : Prop :=
  ∀ l, (srt l).Perm l ∧ (srt l).Pairwise (fun a b => val a ≤ val b)

theorem IsValSort.sortOK {srt : List Attacker → List Attacker} (h : IsValSort srt) : SortOK srt := fun l => (h l).1

theorem mem_insertByVal {x y : Attacker} {l : List Attacker} : y ∈ insertByVal x l ↔ y = x ∨ y ∈ l :=
  by rw [(insertByVal_perm x l).mem_iff, List.mem_cons]

theorem insertByVal_sorted (x : Attacker) : ∀ l : List Attacker, l.Pairwise (fun a b => val a ≤ val b) →
    (insertByVal x l).Pairwise (fun a b => val a ≤ val b) := by
  intro l
  induction l with
  | nil => intro _; simp [insertByVal]
  | cons y ys ih =>
    intro h
    unfold insertByVal
    have hy := List.pairwise_cons.mp h
    split
    · rename_i hlt
      refine List.pairwise_cons.mpr ⟨?_, h⟩
      intro z hz
      rcases List.mem_cons.mp hz with rfl | hz
      · omega
      · have := hy.1 z hz; omega
    · rename_i hge
      refine List.pairwise_cons.mpr ⟨?_, ih hy.2⟩
      intro z hz
      rcases mem_insertByVal.mp hz with rfl | hz
      · omega
      · exact hy.1 z hz

theorem stableSort_sorted (l : List Attacker) : (stableSort l).Pairwise (fun a b => val a ≤ val b) := by
  unfold stableSort
  suffices h : ∀ acc : List Attacker, acc.Pairwise (fun a b => val a ≤ val b) →
      (l.foldl (fun acc x => insertByVal x acc) acc).Pairwise (fun a b => val a ≤ val b) from h [] List.Pairwise.nil
  induction l with
  | nil => intro acc h; exact h
  | cons x l ih => intro acc h; exact ih _ (insertByVal_sorted x acc h)

theorem stableSort_isValSort : IsValSort stableSort := fun l => ⟨stableSort_ok l, stableSort_sorted l⟩

/-- a sort that leaves ties in the opposite order -/
def revTieSort (l : List Attacker) : List Attacker := stableSort l.reverse

theorem revTieSort_isValSort : IsValSort revTieSort :=
  fun l => ⟨(stableSort_ok l.reverse).trans (List.reverse_perm l), stableSort_sorted l.reverse⟩

theorem sorted_vals_unique {s1 s2 : List Attacker → List Attacker} (h1 : IsValSort s1) (h2 : IsValSort s2) (l : List Attacker) :
    (s1 l).map val = (s2 l).map val := by
  apply List.Perm.eq_of_pairwise (le := fun (a b : Int) => a ≤ b)
  · intro a b _ _ hab hba; omega
  · exact List.pairwise_map.mpr (h1 l).2
  · exact List.pairwise_map.mpr (h2 l).2
  · exact ((h1 l).1.trans (h2 l).1.symm).map val

theorem exchangeLoop_vals : ∀ (fuel : Nat) {a a' d d' : List Attacker}, a.map val = a'.map val → d.map val = d'.map val →
    ∀ (residue defender : Int) (cur : Color),
      exchangeLoop fuel a d residue defender cur = exchangeLoop fuel a' d' residue defender cur := by
  intro fuel
  induction fuel with
  | zero =>
    intro a a' d d' ha _ r df c
    cases a <;> cases a' <;> first | rfl | cases ha
  | succ n ih =>
    intro a a' d d' ha hd r df c
    cases a with
    | nil => cases a' with
      | nil => rfl
      | cons _ _ => cases ha
    | cons x xs => cases a' with
      | nil => cases ha
      | cons x' xs' =>
        obtain ⟨hx, hxs⟩ := List.cons.inj ha
        have hrec := ih hd hxs (-(r + df)) (val x') c.opp
        have he : d.isEmpty = d'.isEmpty := by cases d <;> cases d' <;> first | rfl | cases hd
        unfold exchangeLoop
        rw [hx, he, hrec]
        cases xs with
        | nil => cases xs' with
          | nil => rfl
          | cons _ _ => cases hxs
        | cons a2 _ => cases xs' with
          | nil => cases hxs
          | cons a2' _ =>
            have h2 : val a2 = val a2' := (List.cons.inj hxs).1
            cases d with
            | nil => cases d' with
              | nil => rfl
              | cons _ _ => cases hd
            | cons d0 _ => cases d' with
              | nil => cases hd
              | cons d0' _ =>
                have h0 : val d0 = val d0' := (List.cons.inj hd).1
                simp only [h2, h0]

theorem flattenW_no_stacks (srt : List Attacker → List Attacker) :
    ∀ fuel (l : List Attacker), (∀ a ∈ l, a.behind = []) → l.length ≤ fuel → flattenW srt fuel l = .ok l := by
  intro fuel
  induction fuel with
  | zero => intro l _ hl; cases l with
    | nil => rfl
    | cons a l => simp at hl
  | succ n ih =>
    intro l hb hl
    cases l with
    | nil => rfl
    | cons a rest =>
      have hnext : a.next = none := by simp [Attacker.next, hb a (List.mem_cons_self ..)]
      have := ih rest (fun x hx => hb x (List.mem_cons_of_mem _ hx)) (by simpa using hl)
      simp only [flattenW, hnext, this]

theorem numAttackers_no_stacks {l : List Attacker} (h : ∀ a ∈ l, a.behind = []) : numAttackers l = l.length := by
  induction l with
  | nil => rfl
  | cons a l ih =>
    rw [numAttackers_cons, h a (List.mem_cons_self ..), ih (fun x hx => h x (List.mem_cons_of_mem _ hx))]
    simp; omega

/-- **`findSide` without x-ray stacks**: every valid sorter yields the same sequence of values. -/
theorem findSide_vals_no_stacks {s1 s2 : List Attacker → List Attacker} (h1 : IsValSort s1) (h2 : IsValSort s2)
    (l : List Attacker) (c : Color) (hb : ∀ a ∈ l, a.behind = []) :
    ∃ o1 o2, findSideW s1 l c = .ok o1 ∧ findSideW s2 l c = .ok o2 ∧ o1.map val = o2.map val := by
  have key : ∀ {s : List Attacker → List Attacker}, IsValSort s →
      findSideW s l c = .ok (s (l.filter fun a => a.front.color == c)) := by
    intro s hs
    unfold findSideW
    have hb' : ∀ a ∈ s (l.filter fun a => a.front.color == c), a.behind = [] := by
      intro a ha
      exact hb a (List.mem_filter.mp (((hs _).1.mem_iff).mp ha)).1
    exact flattenW_no_stacks s _ _ hb' (by rw [numAttackers_no_stacks hb']; exact Nat.le_refl _)
  exact ⟨_, _, key h1, key h2, sorted_vals_unique h1 h2 _⟩

/-- **`Exchange` on a square none of whose attackers or defenders has anybody behind**: the value does not depend on
    how `sort.Slice` orders ties. -/
theorem exchange_no_stacks {s1 s2 : List Attacker → List Attacker} (h1 : IsValSort s1) (h2 : IsValSort s2)
    (pos : Position) (pins : Pins) (side : Color) (sq : Nat)
    (hno : ∀ c l, findAttackers pos pins sq c = .ok l → ∀ a ∈ l, a.behind = []) :
    exchangeW s1 pos pins side sq = exchangeW s2 pos pins side sq := by
  unfold exchangeW
  cases hsq : pos.square sq with
  | none => rfl
  | some cp =>
    obtain ⟨cur, piece⟩ := cp
    simp only []
    by_cases hk : piece = .king
    · simp [hk]
    · simp only [hk, if_false]
      cases hda : findAttackers pos pins sq cur with
      | error e => rfl
      | ok da =>
        cases haa : findAttackers pos pins sq cur.opp with
        | error e =>
          simp only []
          obtain ⟨o1, o2, e1, e2, _⟩ := findSide_vals_no_stacks h1 h2 da cur (hno _ _ hda)
          rw [e1, e2]
        | ok aa =>
          simp only []
          obtain ⟨d1, d2, ed1, ed2, hd⟩ := findSide_vals_no_stacks h1 h2 da cur (hno _ _ hda)
          obtain ⟨a1, a2, ea1, ea2, ha⟩ := findSide_vals_no_stacks h1 h2 aa cur.opp (hno _ _ haa)
          rw [ed1, ed2, ea1, ea2]
          simp only []
          have hl1 : a1.length = a2.length := by simpa using congrArg List.length ha
          have hl2 : d1.length = d2.length := by simpa using congrArg List.length hd
          rw [hl1, hl2, exchangeLoop_vals _ ha hd]

/-- `3q3k/8/8/8/RQ1r4/8/5Q2/7K w - -` -/
def twoQPl : List (Nat × Color × Piece) :=
  [(0, .white, .king), (10, .white, .queen), (28, .black, .rook), (30, .white, .queen), (31, .white, .rook),
   (56, .black, .king), (60, .black, .queen)]
def twoQ : Position := (Position.newPosition twoQPl 0 0).getD {}

theorem twoQ_rep : Rep twoQ twoQ.square :=
  (rep_getD_newPosition (v := twoQ) rfl (by decide +kernel) (by decide +kernel)).self

theorem twoQ_wf : WF twoQ .white ∧ WF twoQ .black := ⟨⟨twoQ_rep, by decide +kernel⟩, ⟨twoQ_rep, by decide +kernel⟩⟩

/-- **The order of ties matters.** The black rook on d4 (square 28) is defended by the queen on d8 and attacked by the
    queens on b4 (with the rook a4 behind it) and f2. With the attackers flattened as `Q f2, Q b4, R a4` (stable
    order) White does not take (`9 + 9 > 5 + 9`) and the exchange value is `0`; flattened as `Q b4, R a4, Q f2` (the tie
    the other way round) White takes (`9 + 5 ≤ 5 + 9`) and the value is `−5`. Both orders are valid results of
    `sort.Slice`. -/
theorem exchange_tie_order_matters :
    IsValSort stableSort ∧ IsValSort revTieSort ∧
    (exchangeW stableSort twoQ (findKingQueenPins twoQ) .black 28).toOption = some 0 ∧
    (exchangeW revTieSort twoQ (findKingQueenPins twoQ) .black 28).toOption = some (-5) :=
  ⟨stableSort_isValSort, revTieSort_isValSort, by decide +kernel⟩

end Morlock.Proofs.Sargon
