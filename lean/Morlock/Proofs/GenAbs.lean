import Morlock.Proofs.GenEmit
import Morlock.Proofs.AttackGlue
import Morlock.Proofs.AttackLeapers
/-!
# Bridging lemmas for C01: the mailbox board of `Rep` versus the reference position `abs p turn`
-/
namespace Morlock.Proofs.Gen
open Morlock Morlock.Model Morlock.Proofs.Attack

variable {p : Position} {b : Board} {turn : Color} {m : Move} {castling ep fr sq : Nat}

def occB (b : Board) : Nat → Bool := fun s => (b s).isSome

theorem _root_.Morlock.Proofs.Rep.rotInv (h : Rep p b) : RotInv p.rotated.rot p.rotated :=
  ⟨h.rotLt, rfl, h.rot90Lt, h.rot45LLt, h.rot45RLt, h.r90, h.r45L, h.r45R⟩

theorem _root_.Morlock.Proofs.Rep.occ_eq (h : Rep p b) :
    (fun s => p.rotated.rot.testBit s) = occB b := by
  funext s
  unfold occB
  by_cases hs : s < 64
  · exact h.rot s hs
  · rw [testBit_high h.rotLt (by omega), h.out s (by omega)]; rfl

theorem _root_.Morlock.Proofs.Rep.abs_occ (h : Rep p b) (turn : Color) :
    (abs p turn).occ = occB b := by
  funext s
  unfold Spec.Pos.occ occB
  rw [h.abs_at]
  cases hb : b s with
  | none => rfl
  | some x =>
    obtain ⟨c, k⟩ := x
    rw [absCellB_some _ (h.ne_none_of_some hb)]; rfl

theorem _root_.Morlock.Proofs.Rep.testBit_pieces (h : Rep p b) (c : Color) {k : Piece}
    (hk : k ≠ .none) (sq : Nat) : (p.pieces c k).testBit sq = true ↔ b sq = some (c, k) := by
  by_cases hs : sq < 64
  · rw [h.one c k sq hk hs, decide_eq_true_eq]
  · rw [testBit_high (h.piecesLt c k) (by omega), h.out sq (by omega)]
    constructor <;> intro e <;> cases e

theorem _root_.Morlock.Proofs.Rep.testBit_all (h : Rep p b) (c : Color) (sq : Nat) :
    (p.pieces c .none).testBit sq = colAt b sq c := by
  by_cases hs : sq < 64
  · exact h.all c sq hs
  · rw [testBit_high (h.piecesLt c .none) (Nat.le_of_not_lt hs)]
    unfold colAt
    rw [h.out sq (Nat.le_of_not_lt hs)]

theorem _root_.Morlock.Proofs.Rep.mem_toSquares_pieces (h : Rep p b) (c : Color)
    {k : Piece} (hk : k ≠ .none) (sq : Nat) : sq ∈ toSquares (p.pieces c k) ↔ b sq = some (c, k) := by
  rw [mem_toSquares (h.piecesLt c k), h.testBit_pieces c hk]

/-- Officer attack boards of a represented position are the reference target sets. -/
theorem attackboard_of_rep (h : Rep p b) (hfr : fr < 64)
    {piece : Piece} (hp : piece ≠ .none) (hpw : piece ≠ .pawn) :
    attackboard p.rotated fr piece = some (toBB (Spec.officerTargets (occB b) (kindOf piece) fr)) := by
  rw [← h.occ_eq]
  cases piece <;> simp only [attackboard, kindOf, ne_eq, not_true_eq_false] at hp hpw ⊢
  · rw [bishop_of_inv h.rotInv hfr]
  · rw [knight_of_lt _ hfr]
  · rw [rook_of_inv h.rotInv hfr]
  · rw [queen_of_inv h.rotInv hfr]
  · rw [king_of_lt _ hfr]

theorem colAt_none_iff {t : Nat} :
    (colAt b t turn = false ∧ colAt b t turn.opp = false) ↔ b t = none := by
  unfold colAt
  cases hb : b t with
  | none => simp
  | some x => obtain ⟨c, k⟩ := x; cases c <;> cases turn <;> simp [Color.opp]

theorem colAt_enemy_iff {t : Nat} :
    colAt b t turn.opp = true ↔ ∃ k, b t = some (turn.opp, k) := by
  unfold colAt
  cases hb : b t with
  | none => simp
  | some x => obtain ⟨c, k⟩ := x; cases c <;> cases turn <;> simp [Color.opp]

theorem colAt_enemy_not_own {t : Nat} (h : colAt b t turn.opp = true) :
    colAt b t turn = false := by
  unfold colAt at h ⊢
  cases hb : b t with
  | none => simp
  | some x => obtain ⟨c, k⟩ := x; rw [hb] at h; cases c <;> cases turn <;> simp_all [Color.opp]


theorem kindOf_kindPiece (K : Spec.Kind) : kindOf (kindPiece K) = K := by cases K <;> rfl

theorem kindPiece_ne_none (K : Spec.Kind) : kindPiece K ≠ .none := by cases K <;> simp [kindPiece]

theorem kindOf_inj {k k' : Piece} (hk : k ≠ .none) (hk' : k' ≠ .none) (h : kindOf k = kindOf k') : k = k' := by
  rw [← kindPiece_kindOf hk, ← kindPiece_kindOf hk', h]

theorem _root_.Morlock.Proofs.Rep.abs_at_iff (h : Rep p b) (turn : Color)
    (sq : Nat) (c : Color) (K : Spec.Kind) :
    (abs p turn).at sq = some (absColor c, K) ↔ b sq = some (c, kindPiece K) := by
  rw [h.abs_at]
  cases hb : b sq with
  | none => simp [absCellB]
  | some x =>
    obtain ⟨c', k⟩ := x
    have hk := h.ne_none_of_some hb
    rw [absCellB_some _ hk]
    simp only [Option.some.injEq, Prod.mk.injEq]
    constructor
    · rintro ⟨h1, h2⟩
      exact ⟨absColor_inj h1, by rw [← h2, kindPiece_kindOf hk]⟩
    · rintro ⟨h1, h2⟩
      exact ⟨by rw [h1], by rw [h2, kindOf_kindPiece]⟩

theorem _root_.Morlock.Proofs.Rep.abs_at_none_iff (h : Rep p b) (turn : Color)
    (sq : Nat) : (abs p turn).at sq = none ↔ b sq = none := by
  rw [h.abs_at]
  cases hb : b sq with
  | none => simp [absCellB]
  | some x =>
    obtain ⟨c', k⟩ := x
    rw [absCellB_some _ (h.ne_none_of_some hb)]; simp

theorem _root_.Morlock.Proofs.Rep.abs_at_colour (h : Rep p b) (turn : Color)
    (sq : Nat) (c : Color) :
    (∃ K, (abs p turn).at sq = some (absColor c, K)) ↔ colAt b sq c = true := by
  unfold colAt
  constructor
  · rintro ⟨K, hK⟩
    rw [(h.abs_at_iff turn sq c K).mp hK]; simp
  · intro hc
    cases hb : b sq with
    | none => rw [hb] at hc; cases hc
    | some x =>
      obtain ⟨c', k⟩ := x
      rw [hb] at hc
      have : c' = c := by simpa using hc
      subst this
      refine ⟨kindOf k, (h.abs_at_iff turn sq c' _).mpr ?_⟩
      rw [hb, kindPiece_kindOf (h.ne_none_of_some hb)]

end Morlock.Proofs.Gen
