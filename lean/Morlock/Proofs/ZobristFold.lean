import Morlock.Proofs.RepMove
import Morlock.Model.Zobrist
/-!
# The Zobrist hash as a fold of xors (helpers for C07)
-/
namespace Morlock.Proofs
open Morlock Morlock.Model

theorem xor_cancel_left' (a b : Nat) : a ^^^ (a ^^^ b) = b := by
  rw [← Nat.xor_assoc, Nat.xor_self, Nat.zero_xor]

theorem xor_xor_cancel_right (a b x : Nat) : (a ^^^ x) ^^^ (b ^^^ x) = a ^^^ b := by
  rw [Nat.xor_comm b x, Nat.xor_assoc, xor_cancel_left']

theorem xor_xor_cancel_left (x a b : Nat) : (x ^^^ a) ^^^ (x ^^^ b) = a ^^^ b := by
  rw [Nat.xor_comm x a, Nat.xor_assoc, xor_cancel_left']

/-- Key of a square's content (empty = 0). -/
def cellKey (z : ZTable) (v : Option (Color × Piece)) (sq : Nat) : Nat :=
  match v with
  | some (c, k) => z.pieces c k sq
  | none => 0

/-- The piece part of the hash, over squares `0 .. n-1`. -/
def boardHash (z : ZTable) (b : Board) : Nat → Nat
  | 0 => 0
  | n + 1 => boardHash z b n ^^^ cellKey z (b n) n

def epKey (z : ZTable) (e : Nat) : Nat := if e != 0 then z.enpassant e else 0

theorem ite_ep (z : ZTable) (h e : Nat) :
    (if e != 0 then h ^^^ z.enpassant e else h) = h ^^^ epKey z e := by
  unfold epKey; split <;> simp

theorem foldl_boardHash (z : ZTable) (p : Position) (n : Nat) :
    (List.range n).foldl (fun h sq =>
      match p.square sq with
      | some (c, k) => h ^^^ z.pieces c k sq
      | none => h) 0 = boardHash z p.square n := by
  induction n with
  | zero => rfl
  | succ n ih =>
    rw [List.range_succ, List.foldl_append, ih]
    simp only [List.foldl_cons, List.foldl_nil, boardHash, cellKey]
    cases p.square n with
    | none => simp
    | some x => rfl

theorem hash_eq (z : ZTable) (p : Position) (turn : Color) :
    z.hash p turn =
      boardHash z p.square 64 ^^^ z.castling p.castling ^^^ epKey z p.enpassant ^^^ z.turn turn := by
  unfold ZTable.hash
  simp only [ite_ep]
  exact congrArg (fun x => x ^^^ z.castling p.castling ^^^ epKey z p.enpassant ^^^ z.turn turn)
    (foldl_boardHash z p 64)

theorem boardHash_upd (z : ZTable) (b : Board) (sq : Nat) (v : Option (Color × Piece)) (n : Nat) :
    boardHash z (upd b sq v) n =
      if sq < n then boardHash z b n ^^^ cellKey z (b sq) sq ^^^ cellKey z v sq else boardHash z b n := by
  induction n with
  | zero => simp [boardHash]
  | succ n ih =>
    simp only [boardHash, ih]
    by_cases h1 : sq < n
    · have h2 : sq < n + 1 := by omega
      have hne : n ≠ sq := by omega
      rw [if_pos h1, if_pos h2, upd_other _ _ hne]
      ac_rfl
    · by_cases h2 : sq = n
      · subst h2
        rw [if_neg h1, if_pos (Nat.lt_succ_self _), upd_same, Nat.xor_assoc, Nat.xor_assoc, xor_cancel_left']
      · have h3 : ¬ sq < n + 1 := by omega
        have hne : n ≠ sq := fun e => h2 e.symm
        rw [if_neg h1, if_neg h3, upd_other _ _ hne]

theorem boardHash_upd64 (z : ZTable) (b : Board) {sq : Nat} (hsq : sq < 64) (v : Option (Color × Piece)) :
    boardHash z (upd b sq v) 64 = boardHash z b 64 ^^^ cellKey z (b sq) sq ^^^ cellKey z v sq := by
  rw [boardHash_upd, if_pos hsq]

theorem hash_steps123 (z : ZTable) {b : Board} {fr to : Nat} {turn : Color}
    {pc mp cap : Piece} (hsq : b fr = some (turn, pc)) (hfr : fr < 64) (hto : to < 64)
    (isCap : Bool) (hdest : DestOK b to turn cap isCap) :
    boardHash z (upd (upd b fr none) to (some (turn, mp))) 64 =
      boardHash z b 64 ^^^ z.pieces turn pc fr ^^^
        (if isCap then z.pieces turn.opp cap to else 0) ^^^ z.pieces turn mp to := by
  rw [boardHash_upd64 z _ hto, boardHash_upd64 z _ hfr, hsq]
  rcases hdest with ⟨rfl, hb⟩ | ⟨rfl, hb⟩
  · rw [upd_other _ _ (ne_of_content hb hsq (some_opp_ne _ _ _)), hb]; simp [cellKey]
  · rw [upd_other _ _ (ne_of_content hb hsq nofun), hb]; simp [cellKey]

/-- The keys `ZobristTable.Move` xors in after those of the origin and the destination. -/
def specialKeys (z : ZTable) (turn : Color) (m : Move) : Nat :=
  match moveShape m with
  | .ep => z.pieces turn.opp .pawn m.enPassantCapture
  | .castle => z.pieces turn .rook m.castlingRookMove.1 ^^^ z.pieces turn .rook m.castlingRookMove.2
  | .plain => 0

theorem boardHash_after (z : ZTable) {p : Position} {b : Board} {m : Move} {turn : Color} {pc : Piece}
    (h : Rep p b) (hok : MetaOKb b m = true) (hsq : b m.from = some (turn, pc)) :
    boardHash z (boardAfter b m) 64 =
      boardHash z b 64 ^^^ z.pieces turn pc m.from ^^^
        (if m.isCapture then z.pieces turn.opp m.capture m.to else 0) ^^^
        z.pieces turn (movedPiece m pc) m.to ^^^ specialKeys z turn m := by
  have hf := metaOKb_shape hok hsq
  have hsp := hf.special
  rw [boardAfter_eq hsq]; unfold specialKeys
  have h123 := hash_steps123 (cap := m.capture) (mp := movedPiece m pc) z hsq (h.lt_of_some hsq) hf.to_lt
    m.isCapture hf.dest
  cases hs : moveShape m <;> simp only [hs] at hsp ⊢
  case plain => rw [h123, Nat.xor_zero]
  case ep =>
    rw [boardHash_upd64 z _ (h.lt_of_some hsp.victim), h123, upd_other _ _ hsp.ne_to, upd_other _ _ hsp.ne_from,
      hsp.victim]
    simp only [cellKey, Nat.xor_zero]
  case castle =>
    rw [boardHash_upd64 z _ hsp.r2_lt, boardHash_upd64 z _ hsp.r1_lt, h123,
      upd_other _ _ (Ne.symm hsp.r1_ne_r2), upd_other _ _ hsp.r2_ne_to, upd_other _ _ hsp.r2_ne_from, hsp.dest,
      upd_other _ _ hsp.r1_ne_to, upd_other _ _ hsp.r1_ne_from, hsp.rook]
    simp only [cellKey, Nat.xor_zero, Nat.xor_assoc]

theorem epKey_of_zero (z : ZTable) (hz : z.enpassant 0 = 0) (e : Nat) : epKey z e = z.enpassant e := by
  unfold epKey; by_cases h : e = 0
  · subst h; simp [hz]
  · simp [h]

/-- `ZobristTable.Move` undoes the three status keys, xors in the keys of the changed squares in the
    order of `boardHash_after`, and adds the new status keys. -/
theorem zmove_eq (z : ZTable) (h : Nat) {p : Position} {m : Move} {turn : Color}
    (hsq : p.square m.from = some (turn, m.piece)) :
    z.move h p m =
      h ^^^ z.castling p.castling ^^^ epKey z p.enpassant ^^^ z.turn turn ^^^ z.pieces turn m.piece m.from ^^^
        (if m.isCapture then z.pieces turn.opp m.capture m.to else 0) ^^^
        z.pieces turn (movedPiece m m.piece) m.to ^^^ specialKeys z turn m ^^^
        z.castling (andNot p.castling m.castlingRightsLost) ^^^ z.enpassant m.enPassantTarget ^^^
        z.turn turn.opp := by
  unfold ZTable.move specialKeys movedPiece moveShape Move.isCapture Move.isPromotion
  rw [hsq]
  simp only [ite_ep]
  generalize h ^^^ z.castling p.castling ^^^ epKey z p.enpassant ^^^ z.turn turn ^^^
    z.pieces turn m.piece m.from = h0
  generalize z.castling (andNot p.castling m.castlingRightsLost) = c', z.enpassant m.enPassantTarget = e',
    z.turn turn.opp = t'
  cases m.ty <;>
    simp only [reduceCtorEq, decide_false, decide_true, Bool.or_false, Bool.or_true,
      Bool.false_eq_true, if_false, if_true, Nat.xor_zero, Nat.xor_assoc]

/-- Two values whose xor is the xor of two distinct keys are distinct. -/
theorem xor_differs {a b c d : Nat} (h : a ^^^ b = c ^^^ d) : a ^^^ b = c ^^^ d ∧ (c ≠ d → a ≠ b) := by
  refine ⟨h, fun hne e => hne ?_⟩
  have := xor_cancel_left' c d
  rwa [← h, e, Nat.xor_self, Nat.xor_zero] at this

end Morlock.Proofs
