import Morlock.Model.Flt
/-!
# Powers of two with integer exponents as pairs of naturals

`2^e = pn e / pd e` (one of the two is `1`).  All comparisons of `X / Y` with `2^e` are stated by cross-multiplication:
`X * pd e < Y * pn e`  means  `X / Y < 2^e`.  Two facts carry the rest: comparisons survive a change of scale, and bounds
`2^j·2^e ≤ X/Y < 2^j'·2^e'` order the exponents.
-/
namespace Morlock.Model.Flt

def pn (e : Int) : Nat := 2 ^ e.toNat
def pd (e : Int) : Nat := 2 ^ (-e).toNat

theorem pn_pos (e : Int) : 0 < pn e := Nat.two_pow_pos _
theorem pd_pos (e : Int) : 0 < pd e := Nat.two_pow_pos _

theorem pd_of_nonneg {e : Int} (h : 0 ≤ e) : pd e = 1 := by
  unfold pd; have : (-e).toNat = 0 := by omega
  simp [this]
theorem pn_of_nonpos {e : Int} (h : e ≤ 0) : pn e = 1 := by
  unfold pn; have : e.toNat = 0 := by omega
  simp [this]

theorem scaled_eq (a b : Nat) (e : Int) : scaled a b e = (a * pd e, b * pn e) := by
  unfold scaled
  split
  · rename_i h; simp [pd_of_nonneg h, pn]
  · rename_i h; simp [pn_of_nonpos (by omega : e ≤ 0), pd]

theorem cmp_scale {A B A' B' c d : Nat} (hc : 0 < c) (hd : 0 < d) (hA : A * c = A' * d) (hB : B * c = B' * d) :
    (A < B ↔ A' < B') ∧ (A ≤ B ↔ A' ≤ B') := by
  constructor
  · rw [← Nat.mul_lt_mul_right hc, hA, hB, Nat.mul_lt_mul_right hd]
  · rw [← Nat.mul_le_mul_right_iff hc, hA, hB, Nat.mul_le_mul_right_iff hd]

theorem pn_pd_shift {e e' : Int} {k : Nat} (h : e' = e + k) : pn e' * pd e = 2 ^ k * pn e * pd e' := by
  unfold pn pd
  rw [← Nat.pow_add, ← Nat.pow_add, ← Nat.pow_add]
  congr 1
  -- exponents: `toNat e - toNat (-e) = e`, for `e` and for `e'`
  have h1 := Int.toNat_sub_toNat_neg e
  have h2 := Int.toNat_sub_toNat_neg e'
  generalize e.toNat = a at *
  generalize (-e).toNat = b at *
  generalize e'.toNat = c at *
  generalize (-e').toNat = d at *
  omega

/-- both sides of a comparison with `2^k·Y·2^e = Y·2^e'` on a common scale (for `cmp_scale`) -/
theorem shift_sides {e e' : Int} {k : Nat} (h : e' = e + k) (X Y : Nat) :
    X * pd e * pd e' = X * pd e' * pd e ∧ 2 ^ k * Y * pn e * pd e' = Y * pn e' * pd e :=
  ⟨Nat.mul_right_comm .., by rw [Nat.mul_assoc Y, pn_pd_shift h]; ac_rfl⟩

/-- `a/b` scaled by `2^-e` is `2^k` times `a/b` scaled by `2^-e'`, as a cross-multiplication of the scaled pairs -/
theorem scaled_ratio_shift {e e' : Int} {k : Nat} (h : e' = e + k) (a b : Nat) :
    a * pd e * (b * pn e') = 2 ^ k * (a * pd e') * (b * pn e) := by
  calc a * pd e * (b * pn e') = a * b * (pn e' * pd e) := by ac_rfl
    _ = a * b * (2 ^ k * pn e * pd e') := by rw [pn_pd_shift h]
    _ = 2 ^ k * (a * pd e') * (b * pn e) := by ac_rfl

theorem lt_shift {e e' : Int} {k : Nat} (h : e' = e + k) (X Y : Nat) :
    X * pd e < 2 ^ k * Y * pn e ↔ X * pd e' < Y * pn e' :=
  (cmp_scale (pd_pos e') (pd_pos e) (shift_sides h X Y).1 (shift_sides h X Y).2).1

theorem le_shift {e e' : Int} {k : Nat} (h : e' = e + k) (X Y : Nat) :
    X * pd e ≤ 2 ^ k * Y * pn e ↔ X * pd e' ≤ Y * pn e' :=
  (cmp_scale (pd_pos e') (pd_pos e) (shift_sides h X Y).1 (shift_sides h X Y).2).2

theorem ge_shift {e e' : Int} {k : Nat} (h : e' = e + k) (X Y : Nat) :
    2 ^ k * Y * pn e ≤ X * pd e ↔ Y * pn e' ≤ X * pd e' :=
  (cmp_scale (pd_pos e') (pd_pos e) (shift_sides h X Y).2 (shift_sides h X Y).1).2

theorem eq_shift {e e' : Int} {k : Nat} (h : e' = e + k) (X Y : Nat) :
    X * pd e = 2 ^ k * Y * pn e ↔ X * pd e' = Y * pn e' := by
  have h1 := le_shift h X Y
  have h2 := ge_shift h X Y
  omega

theorem lt_mono_exp {X Y : Nat} {e e' : Int} (hee : e ≤ e') (h : X * pd e < Y * pn e) :
    X * pd e' < Y * pn e' := by
  have hk : e' = e + ((e' - e).toNat : Nat) := by omega
  rw [← lt_shift hk, Nat.mul_assoc]
  exact Nat.lt_of_lt_of_le h (Nat.le_mul_of_pos_left _ (Nat.two_pow_pos _))

theorem le_mono_exp {X Y : Nat} {e e' : Int} (hee : e ≤ e') (h : X * pd e ≤ Y * pn e) :
    X * pd e' ≤ Y * pn e' := by
  have hk : e' = e + ((e' - e).toNat : Nat) := by omega
  rw [← le_shift hk, Nat.mul_assoc]
  exact Nat.le_trans h (Nat.le_mul_of_pos_left _ (Nat.two_pow_pos _))

theorem ge_mono_exp {X Y : Nat} {e e' : Int} (hee : e ≤ e') (h : Y * pn e' ≤ X * pd e') :
    Y * pn e ≤ X * pd e := by
  apply Nat.le_of_not_lt
  intro hlt
  exact absurd (lt_mono_exp hee hlt) (Nat.not_lt.mpr h)

theorem gt_mono_exp {X Y : Nat} {e e' : Int} (hee : e ≤ e') (h : Y * pn e' < X * pd e') :
    Y * pn e < X * pd e := by
  apply Nat.lt_of_not_le
  intro hle
  exact absurd (le_mono_exp hee hle) (Nat.not_le.mpr h)

/-- a binade determines its exponent: `2^j * 2^e ≤ X / Y < 2^j' * 2^e'` gives `e + j < e' + j'` -/
theorem exp_lt_of_le_of_lt {X Y : Nat} {e e' : Int} {j j' : Nat} (h1 : 2 ^ j * Y * pn e ≤ X * pd e)
    (h2 : X * pd e' < 2 ^ j' * Y * pn e') : e + j < e' + j' := by
  rw [ge_shift rfl] at h1
  rw [lt_shift rfl] at h2
  exact Int.lt_of_not_ge fun hge => absurd (ge_mono_exp hge h1) (Nat.not_le.mpr h2)

theorem exp_lt_of_lt_of_le {X Y : Nat} {e e' : Int} {j j' : Nat} (h1 : 2 ^ j * Y * pn e < X * pd e)
    (h2 : X * pd e' ≤ 2 ^ j' * Y * pn e') : e + j < e' + j' := by
  rw [← Nat.not_le, le_shift rfl] at h1
  rw [le_shift rfl] at h2
  exact Int.lt_of_not_ge fun hge => h1 (le_mono_exp hge h2)

theorem exp_le_of_le_of_le {X Y : Nat} {e e' : Int} {j j' : Nat} (hY : 0 < Y) (h1 : 2 ^ j * Y * pn e ≤ X * pd e)
    (h2 : X * pd e' ≤ 2 ^ j' * Y * pn e') : e + j ≤ e' + j' := by
  rw [ge_shift rfl] at h1
  rw [le_shift rfl] at h2
  apply Int.le_of_not_gt
  intro hgt
  -- one binade above `e' + j'` the lower bound reads `2·Y·2^(e'+j') ≤ X`
  have h3 := (ge_shift (show e' + j' + 1 = e' + j' + (1 : Nat) by omega) X Y).mpr
    (ge_mono_exp (show e' + j' + 1 ≤ e + j by omega) h1)
  have := Nat.mul_pos hY (pn_pos (e' + j'))
  rw [Nat.pow_one, Nat.mul_assoc] at h3
  omega

/-- a comparison of ratios on the scale `s / t` -/
theorem ratio_le_scale {a b a' b' : Nat} (h : a * b' ≤ a' * b) (s t : Nat) : a * s * (b' * t) ≤ a' * s * (b * t) := by
  calc a * s * (b' * t) = a * b' * (s * t) := by ac_rfl
    _ ≤ a' * b * (s * t) := Nat.mul_le_mul_right _ h
    _ = a' * s * (b * t) := by ac_rfl

theorem lt_of_ratio_le {a b a' b' C : Nat} {e : Int} (hb : 0 < b) (hr : a * b' ≤ a' * b)
    (h : a' * pd e < C * b' * pn e) : a * pd e < C * b * pn e := by
  have hb' : 0 < b' := by
    rcases Nat.eq_zero_or_pos b' with h0 | h0
    · subst h0; simp at h
    · exact h0
  have h3 : a * pd e * b' < C * b * pn e * b' := by
    calc a * pd e * b' = a * b' * pd e := Nat.mul_right_comm ..
      _ ≤ a' * b * pd e := Nat.mul_le_mul_right _ hr
      _ = a' * pd e * b := Nat.mul_right_comm ..
      _ < C * b' * pn e * b := (Nat.mul_lt_mul_right hb).mpr h
      _ = C * b * pn e * b' := by ac_rfl
  exact Nat.lt_of_mul_lt_mul_right h3

theorem ge_of_ratio_le {a b a' b' C : Nat} {e : Int} (hb : 0 < b) (hr : a * b' ≤ a' * b)
    (h : C * b * pn e ≤ a * pd e) : C * b' * pn e ≤ a' * pd e := by
  apply Nat.le_of_not_lt
  intro hlt
  exact absurd (lt_of_ratio_le hb hr hlt) (Nat.not_lt.mpr h)

end Morlock.Model.Flt
