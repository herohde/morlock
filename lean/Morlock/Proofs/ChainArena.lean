import Morlock.Proofs.ChainSound
import Morlock.Proofs.ChainExample
/-!
# Chain (→ C05): generated plays on the arena board keep `WFplay`, a good history, and are `FullPlay`s
-/
namespace Morlock.Proofs.Chain
open Morlock Morlock.Model Morlock.Model.World Morlock.Proofs Morlock.Proofs.Arena Morlock.Proofs.Gen
  Morlock.Proofs.Draw Morlock.Proofs.Material

theorem push_wfplay {z : ZTable} {w w' : World} {b : Nat} {m : Move} (hw : WFWorld w) (hb : b < w.boards.size)
    (hwf : WFplay (w.cur b).pos (w.board b).turn) (hm : m ∈ (w.cur b).pos.pseudoLegalMoves (w.board b).turn)
    (h : w.pushMove z b m = some w') :
    FullStep (w.cur b).pos (w.board b).turn m (w'.cur b).pos ∧ WFplay (w'.cur b).pos (w'.board b).turn := by
  obtain ⟨_, ht, _, hmv, _⟩ := push_line hw hb h
  obtain ⟨h1, h2⟩ := step_wfplay hwf hm hmv
  exact ⟨h1, by rw [ht]; exact h2⟩

theorem play_invariant {z : ZTable} {b : Nat} (hz : z.enpassant 0 = 0) (ms rest : List Move) :
    ∀ {w w1 : World}, WFWorld w → b < w.boards.size → GoodHistory z w b →
      WFplay (w.cur b).pos (w.board b).turn → GenPlay (w.cur b).pos (w.board b).turn (ms ++ rest) →
      pushAll z b w ms = some w1 →
      WFWorld w1 ∧ b < w1.boards.size ∧ GoodHistory z w1 b ∧
        WFplay (w1.cur b).pos (w1.board b).turn ∧ GenPlay (w1.cur b).pos (w1.board b).turn rest := by
  induction ms with
  | nil =>
    intro w w1 hw hb hg hwf hgen h
    cases h
    exact ⟨hw, hb, hg, hwf, hgen⟩
  | cons m r ih =>
    intro w w1 hw hb hg hwf hgen h
    obtain ⟨w2, hpm, hw2, hb2, h⟩ := pushAll_cons hw hb h
    obtain ⟨_, ht, _, hmv, _⟩ := push_line hw hb hpm
    obtain ⟨hfull, hwf2⟩ := push_wfplay hw hb hwf hgen.1 hpm
    exact ih hw2 hb2 (goodHistory_push hz hw hb hpm hg hfull.good) hwf2 (by rw [ht]; exact hgen.2 _ hmv) h

theorem fullPlay_of_genPlay {z : ZTable} {b : Nat} (ms : List Move) {w : World} (hw : WFWorld w)
    (hb : b < w.boards.size) (hwf : WFplay (w.cur b).pos (w.board b).turn)
    (hgen : GenPlay (w.cur b).pos (w.board b).turn ms) : FullPlay z b w ms :=
  fullPlay_of_steps (I := fun p t ms => WFplay p t ∧ GenPlay p t ms)
    (fun hi hmv => ⟨(step_wfplay hi.1 hi.2.1 hmv).1, (step_wfplay hi.1 hi.2.1 hmv).2, hi.2.2 _ hmv⟩) ms hw hb ⟨hwf, hgen⟩

theorem genPlay_append : ∀ (ms rest : List Move) {p : Position} {t : Color}, GenPlay p t ms →
    (∀ q t', playMoves p t ms = some (q, t') → GenPlay q t' rest) → GenPlay p t (ms ++ rest)
  | [], _, _, _, _, hrest => hrest _ _ rfl
  | m :: ms, rest, p, t, h, hrest =>
    ⟨h.1, fun q hq => genPlay_append ms rest (h.2 q hq) fun q' t' hpl => hrest q' t' (by simp only [playMoves, hq, hpl])⟩

theorem newBoard_facts {w : World} (hw : WFWorld w) (z : ZTable) (pos : Position) (turn : Color) {np : Int}
    (hnp : 0 ≤ np) (fm : Int) :
    WFWorld (w.newBoard z pos turn np fm).1 ∧
    (w.newBoard z pos turn np fm).2 < (w.newBoard z pos turn np fm).1.boards.size ∧
    GoodHistory z (w.newBoard z pos turn np fm).1 (w.newBoard z pos turn np fm).2 ∧
    ((w.newBoard z pos turn np fm).1.cur (w.newBoard z pos turn np fm).2).pos = pos ∧
    ((w.newBoard z pos turn np fm).1.board (w.newBoard z pos turn np fm).2).turn = turn := by
  have hc := newBoard_cur w z pos turn np fm
  refine ⟨wf_newBoard hw z pos turn np fm, by simp [World.newBoard], goodHistory_newBoard w z pos turn fm hnp, ?_,
    hc.2.1⟩
  rw [hc.1]


theorem startPos_posOK : PosOK startPos :=
  have h : startPos.castling < 16 ∧ kingCount startPos.square = 2 := by decide +kernel
  posOK_of_wfplay startPos_wfplay h.1 h.2

end Morlock.Proofs.Chain
