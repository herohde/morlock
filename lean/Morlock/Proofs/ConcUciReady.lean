import Morlock.Proofs.ConcUci
/-!
# UCI driver model: every `isready` is answered before the next command is consumed
-/
namespace Morlock.Model.UciConc

/-- (log newest first) the most recent command consumed is `isready` and no `readyok` was sent since -/
def openReady : List Ev → Bool
  | [] => false
  | .consume c :: _ => c == .isready
  | .send .readyok :: _ => false
  | _ :: es => openReady es

/-- (log newest first) whenever a command was consumed, no `isready` was waiting for its `readyok` -/
def ReadyAnswered : List Ev → Prop
  | [] => True
  | .consume _ :: es => openReady es = false ∧ ReadyAnswered es
  | _ :: es => ReadyAnswered es

def Ev.isGo : Ev → Bool
  | .consume (.go _) => true
  | _ => false

def goConsumed (log : List Ev) : Nat := log.countP Ev.isGo

/-- the loop has consumed a well-formed `go` and not yet numbered it (`d.searches++`): it is inside that
`go`'s `ensureInactive` -/
def LPc.goPending : LPc → Bool
  | .ensureStore (.go _) => true
  | .haltLock (.ensure (.go _)) | .haltAwait (.ensure (.go _)) _ | .haltQuit (.ensure (.go _)) _
  | .haltRead (.ensure (.go _)) _ | .haltUnlock (.ensure (.go _)) _ => true
  | .goStart _ => true
  | _ => false

end Morlock.Model.UciConc

namespace Morlock.Proofs.ConcUci
open Morlock.Model.UciConc

structure ReadyInv (s : State) : Prop where
  pending : openReady s.log = true ↔ s.loop = .ready
  answered : ReadyAnswered s.log

theorem readyInv_init (cmds : List Cmd) (pcap : Nat) : ReadyInv (init cmds pcap) := by
  constructor <;> simp [init, openReady, ReadyAnswered]

@[simp] theorem openReady_commit (i l : Nat) (es : List Ev) : openReady (.commit i l :: es) = openReady es := rfl
@[simp] theorem openReady_info (pv : Nat) (es : List Ev) : openReady (.send (.info pv) :: es) = openReady es := rfl
@[simp] theorem openReady_best (i pv : Nat) (es : List Ev) :
    openReady (.send (.bestmove i pv) :: es) = openReady es := rfl
@[simp] theorem openReady_sendClosed (l : Line) (es : List Ev) : openReady (.sendClosed l :: es) = openReady es := rfl
@[simp] theorem openReady_readyok (es : List Ev) : openReady (.send .readyok :: es) = false := rfl
@[simp] theorem openReady_consume (c : Cmd) (es : List Ev) : openReady (.consume c :: es) = (c == .isready) := rfl
@[simp] theorem readyAnswered_commit (i l : Nat) (es : List Ev) :
    ReadyAnswered (.commit i l :: es) = ReadyAnswered es := rfl
@[simp] theorem readyAnswered_send (l : Line) (es : List Ev) : ReadyAnswered (.send l :: es) = ReadyAnswered es := rfl
@[simp] theorem readyAnswered_sendClosed (l : Line) (es : List Ev) :
    ReadyAnswered (.sendClosed l :: es) = ReadyAnswered es := rfl
@[simp] theorem readyAnswered_consume (c : Cmd) (es : List Ev) :
    ReadyAnswered (.consume c :: es) = (openReady es = false ∧ ReadyAnswered es) := rfl

theorem dispatch_ready (c : Cmd) : dispatch c = LPc.ready ↔ c = Cmd.isready := by
  cases c <;> simp [dispatch]

@[simp] theorem afterHalt_ready (k : HaltK) (res : Option Nat) : afterHalt .repaired k res ≠ LPc.ready := by
  cases k with
  | ensure a => cases a <;> simp [afterHalt, Cfg.repaired]
  | stop i => cases res <;> simp [afterHalt]

theorem ready_out (c : Bool) {l : Line} (hl : l ≠ .readyok) (es : List Ev) :
    openReady (.out c l :: es) = openReady es ∧ ReadyAnswered (.out c l :: es) = ReadyAnswered es := by
  cases c
  · cases l with
    | readyok => exact absurd rfl hl
    | info pv => exact ⟨rfl, rfl⟩
    | bestmove i pv => exact ⟨rfl, rfl⟩
  · exact ⟨rfl, rfl⟩

theorem ReadyInv.move {s s' : State} {pc : LPc} (h : ReadyInv s) (hpc : s.loop = pc) (hr : pc ≠ .ready)
    (hr' : s'.loop ≠ .ready) (ho : openReady s'.log = openReady s.log)
    (ha : ReadyAnswered s'.log = ReadyAnswered s.log) : ReadyInv s' :=
  ⟨by rw [ho]; exact ⟨fun hop => absurd (hpc ▸ h.pending.1 hop) hr, fun hl => absurd hl hr'⟩, ha ▸ h.answered⟩

theorem ReadyInv.other {s s' : State} (h : ReadyInv s) (hl : s'.loop = s.loop)
    (ho : openReady s'.log = openReady s.log) (ha : ReadyAnswered s'.log = ReadyAnswered s.log) : ReadyInv s' :=
  ⟨by rw [hl, ho]; exact h.pending, ha ▸ h.answered⟩

theorem readyInv_step {s s' : State} {pc : LPc} (st : Step s pc s')
    (hpc : s.loop = pc) (hc : CloseInv s) (h : ReadyInv s) : ReadyInv s' := by
  induction st
  case haltUnlock => exact h.move hpc nofun (afterHalt_ready _ _) rfl rfl
  case goSpawn | commit _ => exact h.move hpc nofun (by dsimp only; split <;> nofun) rfl rfl
  case ponderSend | sendInfo | sendBest =>
    exact h.move hpc (by nofun) (by nofun) (ready_out _ (by nofun) _).1 (ready_out _ (by nofun) _).2
  case fRecv | fEnd | fPond | fCommit | fCasLost | fDone | timerSend | timerDrop | searchIter | searchExit =>
    exact h.other rfl rfl rfl
  case fSendInfo | fSendBest => exact h.other rfl (ready_out _ (by nofun) _).1 (ready_out _ (by nofun) _).2
  case recvCmd cmd _ _ =>
    -- a command is consumed at `select`: no `isready` is open
    have hno : openReady s.log = false := by
      cases ho : openReady s.log with
      | false => rfl
      | true => have := h.pending.1 ho; rw [hpc] at this; cases this
    exact ⟨by simp only [openReady_consume, dispatch_ready]; cases cmd <;> simp, hno, h.answered⟩
  case ready =>
    -- `d.out <- "readyok"`: `out` is still open
    rw [hc.open_of_loop (hpc ▸ rfl)]
    exact ⟨by simp [Ev.out], h.answered⟩
  all_goals exact h.move hpc (by nofun) (by nofun) rfl rfl

theorem readyInv_run (sched : List Act) (s : State) (h : CloseInv s ∧ ReadyInv s) :
    CloseInv (run s sched) ∧ ReadyInv (run s sched) :=
  inv_run (I := fun s => CloseInv s ∧ ReadyInv s) (fun st hpc h => ⟨closeInv_step st hpc h.1, readyInv_step st hpc h.1 h.2⟩)
    sched s h

theorem readyAnswered_between {log : List Ev} (h : ReadyAnswered log) (post mid pre : List Ev) (c : Cmd)
    (hlog : log = post ++ .consume c :: (mid ++ .consume .isready :: pre))
    (hmid : ∀ c', Ev.consume c' ∉ mid) : Ev.send .readyok ∈ mid := by
  subst hlog
  have h1 : ∀ (post : List Ev) (l : List Ev), ReadyAnswered (post ++ l) → ReadyAnswered l := by
    intro post l
    induction post with
    | nil => exact id
    | cons e es ih =>
      intro hh
      apply ih
      cases e <;> first | exact hh.2 | exact hh
  have h2 := (h1 post _ h).1
  clear h h1
  induction mid with
  | nil => simp at h2
  | cons e es ih =>
    have hrec := fun h => List.mem_cons_of_mem e (ih (fun c' hc' => hmid c' (List.mem_cons_of_mem _ hc')) h)
    cases e with
    | consume c' => exact absurd List.mem_cons_self (hmid c')
    | send l =>
      cases l with
      | readyok => exact List.mem_cons_self
      | _ => exact hrec h2
    | _ => exact hrec h2

/-! ## `d.searches` counts the `go` commands consumed -/

def GoCountInv (s : State) : Prop := goConsumed s.log = s.searches + (if s.loop.goPending then 1 else 0)

@[simp] theorem goConsumed_nil : goConsumed [] = 0 := rfl
@[simp] theorem goConsumed_send (l : Line) (es : List Ev) : goConsumed (.send l :: es) = goConsumed es := by
  simp [goConsumed, Ev.isGo]
@[simp] theorem goConsumed_sendClosed (l : Line) (es : List Ev) :
    goConsumed (.sendClosed l :: es) = goConsumed es := by simp [goConsumed, Ev.isGo]
@[simp] theorem goConsumed_commit (i l : Nat) (es : List Ev) : goConsumed (.commit i l :: es) = goConsumed es := by
  simp [goConsumed, Ev.isGo]
theorem goConsumed_consume (c : Cmd) (es : List Ev) :
    goConsumed (.consume c :: es) = goConsumed es + (if (dispatch c).goPending then 1 else 0) := by
  cases c <;> simp [goConsumed, Ev.isGo, dispatch, LPc.goPending, List.countP_cons]

@[simp] theorem afterHalt_goPending_stop (i : Nat) (res : Option Nat) :
    (afterHalt .repaired (.stop i) res).goPending = false := by cases res <;> rfl

theorem goCountInv_init (cmds : List Cmd) (pcap : Nat) : GoCountInv (init cmds pcap) := by
  simp [GoCountInv, init, LPc.goPending]

theorem goConsumed_out (c : Bool) (l : Line) (es : List Ev) : goConsumed (.out c l :: es) = goConsumed es := by
  cases c <;> simp [Ev.out]

theorem GoCountInv.frame {s s' : State} {pc : LPc} (h : GoCountInv s) (hpc : s.loop = pc)
    (hl : goConsumed s'.log = goConsumed s.log) (hn : s'.searches = s.searches)
    (hp : s'.loop.goPending = pc.goPending) : GoCountInv s' := by
  unfold GoCountInv at h ⊢; rw [hl, hn, hp, ← hpc]; exact h

theorem goCountInv_step {s s' : State} {pc : LPc} (st : Step s pc s')
    (hpc : s.loop = pc) (h : GoCountInv s) : GoCountInv s' := by
  induction st
  case commit _ | goSpawn => exact h.frame hpc rfl rfl (by dsimp only; split <;> rfl)
  case ready | ponderSend | sendInfo | sendBest => exact h.frame hpc (goConsumed_out ..) rfl (by rfl)
  case fRecv | fEnd | fPond | fCommit | fCasLost | fDone | timerSend | timerDrop | searchIter | searchExit =>
    exact h.frame rfl rfl rfl rfl
  case fSendInfo | fSendBest => exact h.frame rfl (goConsumed_out ..) rfl rfl
  case ensureStore a => cases a <;> exact h.frame hpc rfl rfl rfl
  case lockIdle k _ _ | lockBusy k _ _ _ | haltAwait k _ _ | haltQuit k _ | haltRead k _ =>
    cases k <;> (try cases ‹After›) <;> exact h.frame hpc rfl rfl rfl
  case haltUnlock k res =>
    cases k <;> (try cases ‹After›) <;> (try cases res) <;> exact h.frame hpc rfl rfl rfl
  case recvCmd _ =>
    unfold GoCountInv at h ⊢; rw [hpc] at h
    simp only [goConsumed_consume, h]; rfl
  case bookErr _ | bookHit _ | bookMiss _ =>
    unfold GoCountInv at h ⊢; rw [hpc] at h; exact h
  all_goals exact h.frame hpc rfl rfl (by rfl)

theorem goCountInv_run (sched : List Act) (s : State) (h : GoCountInv s) : GoCountInv (run s sched) :=
  inv_run goCountInv_step sched s h

end Morlock.Proofs.ConcUci
