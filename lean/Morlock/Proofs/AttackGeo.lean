import Morlock.Proofs.AttackLoops
import Morlock.Proofs.AttackTables
/-!
# Geometric side conditions of the four rank/file loops, checked on all 64 squares

Evaluated on the closed forms of the generated tables; that the tables are these functions is evaluated in
`AttackTables` and re-checked whenever the generated constants change.
-/
namespace Morlock.Proofs.Attack
open Morlock Morlock.Model Morlock.Spec

theorem geo_rankR : allBelow 64 (fun sq => geoOK (specRankR sq) sq id (sqRank sq <<< 3) 255) = true := by
  decide +kernel
theorem geo_rankL : allBelow 64 (fun sq => geoOK (specRankL sq) sq id (sqRank sq <<< 3) 255) = true := by
  decide +kernel
theorem geo_fileD : allBelow 64 (fun sq => geoOK (specFileD sq) sq c90 (sqFile sq <<< 3) 255) = true := by
  decide +kernel
theorem geo_fileU : allBelow 64 (fun sq => geoOK (specFileU sq) sq c90 (sqFile sq <<< 3) 255) = true := by
  decide +kernel
end Morlock.Proofs.Attack
