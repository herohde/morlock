import Morlock.Proofs.ConcUciReady
/-!
# UCI driver model: engine-side invariants (mutex, `e.active`, indices) and shutdown flags
-/
namespace Morlock.Model.UciConc

/-- the loop is inside `e.Halt` with `e.mu` held -/
def LPc.holdsMu : LPc → Bool
  | .haltAwait _ _ | .haltQuit _ _ | .haltRead _ _ | .haltUnlock _ _ => true
  | _ => false

/-- between the `ensureInactive` of a `go` and `Analyze`: no search is registered with the engine -/
def LPc.eIdle : LPc → Bool
  | .goStart _ | .bookStore _ | .analyze _ _ => true
  | _ => false

/-- the search the loop pc refers to: the one `e.active` points to -/
def LPc.sidx? : LPc → Option Nat
  | .haltAwait _ j | .haltQuit _ j | .haltRead _ j => some j
  | .goStore _ _ j | .goSpawn _ _ j => some j
  | _ => none

def quitSeen : List Ev → Bool
  | [] => false
  | .consume .quit :: _ => true
  | .consume .eof :: _ => true
  | _ :: es => quitSeen es

/-- the loop is on its way out (`return` with the deferred calls) -/
def LPc.exitPath : LPc → Bool
  | .ensureStore .exit => true
  | .haltLock (.ensure .exit) | .haltAwait (.ensure .exit) _ | .haltQuit (.ensure .exit) _
  | .haltRead (.ensure .exit) _ | .haltUnlock (.ensure .exit) _ => true
  | .waitFwd | .closeOut | .closeDriver | .finished => true
  | _ => false

end Morlock.Model.UciConc

namespace Morlock.Proofs.ConcUci
open Morlock.Model.UciConc

structure EngInv (s : State) : Prop where
  emuOk : s.emu = s.loop.holdsMu
  idle : s.loop.eIdle = true → s.eactive = none
  sidxOk : ∀ j, s.loop.sidx? = some j → s.eactive = some j
  eidx : ∀ j, s.eactive = some j → j < s.srch.length
  fidx : ∀ f ∈ s.fwds, f.sidx < s.srch.length

theorem engInv_init (cmds : List Cmd) (pcap : Nat) : EngInv (init cmds pcap) := by
  refine ⟨rfl, ?_, ?_, ?_, ?_⟩ <;> simp [init, LPc.eIdle, LPc.sidx?]

theorem EngInv.frame {s s' : State} {pc : LPc} (h : EngInv s) (hpc : s.loop = pc) (h1 : s'.emu = s.emu)
    (h2 : s'.eactive = s.eactive) (h3 : s'.srch.length = s.srch.length)
    (h4 : ∀ f ∈ s'.fwds, ∃ f' ∈ s.fwds, f.sidx = f'.sidx)
    (h7 : s'.loop.holdsMu = pc.holdsMu) (h8 : s'.loop.eIdle = true → pc.eIdle = true)
    (h9 : ∀ j, s'.loop.sidx? = some j → pc.sidx? = some j) : EngInv s' := by
  subst hpc
  obtain ⟨a1, a2, a3, a5, a6⟩ := h
  refine ⟨by rw [h1, h7]; exact a1, fun hh => by rw [h2]; exact a2 (h8 hh),
    fun j hj => by rw [h2]; exact a3 j (h9 j hj), fun j hj => by rw [h3]; exact a5 j (h2 ▸ hj), ?_⟩
  intro f hf; obtain ⟨f', hf', he⟩ := h4 f hf; rw [he, h3]; exact a6 f' hf'

theorem fwds_same {s s' : State} (h : s'.fwds = s.fwds) : ∀ f ∈ s'.fwds, ∃ f' ∈ s.fwds, f.sidx = f'.sidx := by
  intro f hf; exact ⟨f, h ▸ hf, rfl⟩

@[simp] theorem dispatch_holdsMu (c : Cmd) : (dispatch c).holdsMu = false := by cases c <;> rfl
@[simp] theorem dispatch_eIdle (c : Cmd) : (dispatch c).eIdle = false := by cases c <;> rfl
@[simp] theorem dispatch_sidx (c : Cmd) : (dispatch c).sidx? = none := by cases c <;> rfl
@[simp] theorem afterHalt_holdsMu (k : HaltK) (res : Option Nat) : (afterHalt .repaired k res).holdsMu = false := by
  cases k with
  | ensure a => cases a <;> rfl
  | stop i => cases res <;> rfl
@[simp] theorem afterHalt_sidx (k : HaltK) (res : Option Nat) : (afterHalt .repaired k res).sidx? = none := by
  cases k with
  | ensure a => cases a <;> rfl
  | stop i => cases res <;> rfl

theorem fwds_set {l : List Fwd} {j : Nat} {f : Fwd} (hj : l[j]? = some f) (f' : Fwd) (hs : f'.sidx = f.sidx) :
    ∀ g ∈ l.set j f', ∃ g' ∈ l, g.sidx = g'.sidx := by
  intro g hg
  rcases List.mem_or_eq_of_mem_set hg with hg | hg
  · exact ⟨g, hg, rfl⟩
  · exact ⟨f, List.mem_of_getElem? hj, by rw [hg, hs]⟩

theorem engInv_step {s s' : State} {pc : LPc} (st : Step s pc s') (hpc : s.loop = pc) (h : EngInv s) : EngInv s' := by
  induction st
  case bookHit | bookMiss => exact h.frame hpc rfl rfl rfl (fwds_same rfl) (by rfl) (fun _ => rfl) nofun
  case recvCmd _ =>
    exact h.frame hpc rfl rfl rfl (fwds_same rfl) (dispatch_holdsMu _) (by simp) (by simp)
  case commit _ =>
    exact h.frame hpc rfl rfl rfl (fwds_same rfl) (by dsimp only; split <;> rfl) (by dsimp only; split <;> nofun)
      (by dsimp only; split <;> nofun)
  case haltAwait _ | goStore => exact h.frame hpc rfl rfl rfl (fwds_same rfl) rfl nofun fun _ => id
  case haltQuit => exact h.frame hpc rfl rfl (List.length_set ..) (fwds_same rfl) rfl nofun fun _ => id
  case timerSend | timerDrop => exact h.frame rfl rfl rfl rfl (fwds_same rfl) rfl id fun _ => id
  case searchIter | searchExit => exact h.frame rfl rfl rfl (List.length_set ..) (fwds_same rfl) rfl id fun _ => id
  case fEnd hj _ _ _ | fPond hj _ | fCommit hj _ _ | fCasLost hj _ _ | fSendInfo hj _ | fSendBest hj _ | fDone hj _ =>
    exact h.frame rfl rfl rfl rfl (fwds_set hj _ rfl) rfl id fun _ => id
  case fRecv hj _ _ => exact h.frame rfl rfl rfl (List.length_set ..) (fwds_set hj _ rfl) rfl id fun _ => id
  case lockIdle he =>
    exact ⟨rfl, fun _ => he, nofun, h.eidx, h.fidx⟩
  case lockBusy he =>
    exact ⟨rfl, nofun, fun j hj => Option.some.inj hj ▸ he, h.eidx, h.fidx⟩
  case haltUnlock =>
    exact ⟨(afterHalt_holdsMu _ _).symm, fun _ => rfl, by simp, nofun, h.fidx⟩
  case analyze _ _ =>
    refine ⟨by simpa [LPc.holdsMu, hpc] using h.emuOk, nofun, fun j hj => Option.some.inj hj ▸ rfl, ?_, ?_⟩
    · intro j hj; simp at hj; subst hj; simp
    · intro f hf; have := h.fidx f hf; simp; omega
  case goSpawn =>
    -- the new forwarder reads from the search `Analyze` launched
    have hj := h.eidx _ (h.sidxOk _ (by rw [hpc]; rfl))
    refine ⟨by dsimp only; rw [h.emuOk, hpc]; split <;> rfl, by dsimp only; split <;> nofun,
      by dsimp only; split <;> nofun, h.eidx, ?_⟩
    intro f hf
    rcases List.mem_append.1 hf with hf | hf
    · exact h.fidx f hf
    · rw [List.mem_singleton.1 hf]; exact hj
  all_goals exact h.frame hpc rfl rfl rfl (fwds_same rfl) (by rfl) nofun nofun

theorem engInv_run (sched : List Act) (s : State) (h : EngInv s) : EngInv (run s sched) :=
  inv_run engInv_step sched s h

structure ShutInv (s : State) : Prop where
  closedOk : s.closed = true → s.loop = .finished
  outOk : s.loop.afterClose = true → s.outClosed = true
  doneClosed : s.loop = .finished → s.closed = true

theorem shutInv_init (cmds : List Cmd) (pcap : Nat) : ShutInv (init cmds pcap) := by
  constructor <;> simp [init, LPc.afterClose]

theorem ShutInv.move {s s' : State} {pc : LPc} (h : ShutInv s) (hpc : s.loop = pc) (h1 : pc.afterClose = false)
    (h2 : s'.loop.afterClose = false) (hc : s'.closed = s.closed) : ShutInv s' := by
  refine ⟨fun hh => ?_, fun hh => ?_, fun hh => ?_⟩
  · rw [← hpc, h.closedOk (hc ▸ hh)] at h1; cases h1
  · rw [h2] at hh; cases hh
  · rw [hh] at h2; cases h2

theorem shutInv_step {s s' : State} {pc : LPc} (st : Step s pc s')
    (hpc : s.loop = pc) (h : ShutInv s) : ShutInv s' := by
  induction st
  case recvCmd _ => exact h.move hpc rfl (dispatch_afterClose _) rfl
  case haltUnlock => exact h.move hpc rfl (afterHalt_afterClose _ _) rfl
  case goSpawn | commit _ => exact h.move hpc rfl (by dsimp only; split <;> rfl) rfl
  case closeOut => exact ⟨fun hh => (by rw [h.closedOk hh] at hpc; cases hpc), fun _ => rfl, nofun⟩
  case closeDriver => exact ⟨fun _ => rfl, fun _ => h.outOk (hpc ▸ rfl), fun _ => rfl⟩
  case fRecv | fEnd | fPond | fCommit | fCasLost | fSendInfo | fSendBest | fDone | timerSend | timerDrop | searchIter
      | searchExit =>
    exact ⟨h.closedOk, h.outOk, h.doneClosed⟩
  all_goals exact h.move hpc rfl rfl rfl

theorem shutInv_run (sched : List Act) (s : State) (h : ShutInv s) : ShutInv (run s sched) :=
  inv_run shutInv_step sched s h

/-! ## a finished searcher has closed `init` -/

def SrchInv (s : State) : Prop := ∀ x ∈ s.srch, x.done = true → x.init = true

theorem srchInv_init (cmds : List Cmd) (pcap : Nat) : SrchInv (init cmds pcap) := by
  intro x hx; simp [init] at hx

theorem searchAt_mem_or_default (s : State) (j : Nat) : searchAt s j ∈ s.srch ∨ searchAt s j = default := by
  unfold searchAt
  rw [List.getD_eq_getElem?_getD]
  cases h : s.srch[j]? with
  | none => right; rfl
  | some x => left; exact List.mem_of_getElem? h

theorem srchInv_set {s : State} (h : SrchInv s) (j : Nat) (x : Search) (hx : x.done = true → x.init = true) :
    ∀ y ∈ s.srch.set j x, y.done = true → y.init = true := by
  intro y hy
  rcases List.mem_or_eq_of_mem_set hy with hy | hy
  · exact h y hy
  · rw [hy]; exact hx

theorem srchInv_at {s : State} (h : SrchInv s) (j : Nat) : (searchAt s j).done = true → (searchAt s j).init = true := by
  rcases searchAt_mem_or_default s j with hm | hm
  · exact h _ hm
  · rw [hm]; intro hd; cases hd

theorem srchInv_step {s s' : State} {pc : LPc} (st : Step s pc s')
    (hpc : s.loop = pc) (h : SrchInv s) : SrchInv s' := by
  induction st
  case haltQuit | fRecv => exact srchInv_set h _ _ (srchInv_at h _)
  case searchIter | searchExit => exact srchInv_set h _ _ fun _ => rfl
  case analyze =>
    intro x hx
    rcases List.mem_append.1 hx with hx | hx
    · exact h x hx
    · rw [List.mem_singleton.1 hx]; nofun
  all_goals exact h

theorem srchInv_run (sched : List Act) (s : State) (h : SrchInv s) : SrchInv (run s sched) :=
  inv_run srchInv_step sched s h

/-! ## after `quit`/EOF the loop is on its way out -/

def QuitInv (s : State) : Prop := quitSeen s.log = true → s.loop.exitPath = true

theorem quitInv_init (cmds : List Cmd) (pcap : Nat) : QuitInv (init cmds pcap) := by
  intro h; simp [init, quitSeen] at h

@[simp] theorem quitSeen_send (l : Line) (es : List Ev) : quitSeen (.send l :: es) = quitSeen es := rfl
@[simp] theorem quitSeen_sendClosed (l : Line) (es : List Ev) : quitSeen (.sendClosed l :: es) = quitSeen es := rfl
@[simp] theorem quitSeen_commit (i l : Nat) (es : List Ev) : quitSeen (.commit i l :: es) = quitSeen es := rfl
theorem quitSeen_out (c : Bool) (l : Line) (es : List Ev) : quitSeen (.out c l :: es) = quitSeen es := by
  cases c <;> rfl

theorem QuitInv.frame {s s' : State} {pc : LPc} (h : QuitInv s) (hpc : s.loop = pc)
    (hl : quitSeen s'.log = quitSeen s.log) (hp : pc.exitPath = true → s'.loop.exitPath = true) : QuitInv s' :=
  fun hq => hp (hpc ▸ h (hl ▸ hq))

theorem quitInv_step {s s' : State} {pc : LPc} (st : Step s pc s')
    (hpc : s.loop = pc) (h : QuitInv s) : QuitInv s' := by
  induction st
  case ready | ponderSend | sendInfo | sendBest => exact h.frame hpc (quitSeen_out ..) (by nofun)
  case waitFwd | closeOut | closeDriver => exact h.frame hpc rfl fun _ => rfl
  case fRecv | fEnd | fPond | fCommit | fCasLost | fDone | timerSend | timerDrop | searchIter | searchExit =>
    exact h.frame rfl rfl id
  case fSendInfo | fSendBest => exact h.frame rfl (quitSeen_out ..) id
  case ensureStore a => cases a <;> exact h.frame hpc rfl id
  case lockIdle k _ _ | lockBusy k _ _ _ | haltAwait k _ _ | haltQuit k _ | haltRead k _ =>
    cases k <;> (try cases ‹After›) <;> exact h.frame hpc rfl id
  case haltUnlock k res =>
    cases k <;> (try cases ‹After›) <;> (try cases res) <;> exact h.frame hpc rfl (fun _ => by trivial)
  case recvCmd cmd _ _ =>
    intro hq
    cases cmd <;> first | rfl | (have := h hq; rw [hpc] at this; cases this)
  all_goals exact h.frame hpc rfl (by nofun)

theorem quitInv_run (sched : List Act) (s : State) (h : QuitInv s) : QuitInv (run s sched) :=
  inv_run quitInv_step sched s h

end Morlock.Proofs.ConcUci
