import Morlock.Proofs.ArenaObs
/-!
# C05, list level: lines, sides, occurrence counts, the loop `identicalPositionCount`, the clock

Everything here is about plain lists of nodes, nearest first; `DrawWorld` ties the lists to the arena.
-/
namespace Morlock.Proofs.Draw
open Morlock Morlock.Model Morlock.Model.World Morlock.Proofs.Arena

def key (n : Node) : Node := { pos := n.pos, hash := n.hash, noprogress := n.noprogress }

@[simp] theorem key_pos (n : Node) : (key n).pos = n.pos := rfl
@[simp] theorem key_hash (n : Node) : (key n).hash = n.hash := rfl
@[simp] theorem key_noprogress (n : Node) : (key n).noprogress = n.noprogress := rfl
@[simp] theorem key_key (n : Node) : key (key n) = key n := rfl
@[simp] theorem key_eraseNode (n : Node) : key (eraseNode n) = key n := rfl

/-- The nodes of a line (nearest first) with the side to move there: `t` at the head, then alternating. -/
def sided : Color → List Node → List (Node × Color)
  | _, [] => []
  | t, n :: r => (n, t) :: sided t.opp r

@[simp] theorem sided_nil (t : Color) : sided t [] = [] := rfl
@[simp] theorem sided_cons (t : Color) (n : Node) (r : List Node) : sided t (n :: r) = (n, t) :: sided t.opp r := rfl

theorem sided_map_fst : ∀ (t : Color) (l : List Node), (sided t l).map Prod.fst = l
  | _, [] => rfl
  | t, n :: r => by simp [sided_map_fst t.opp r]

theorem sided_length (t : Color) (l : List Node) : (sided t l).length = l.length := by
  rw [← List.length_map Prod.fst, sided_map_fst]

theorem sided_map (f : Node → Node) : ∀ (t : Color) (l : List Node),
    sided t (l.map f) = (sided t l).map (fun e => (f e.1, e.2))
  | _, [] => rfl
  | t, n :: r => by simp [sided_map f t.opp r]

theorem mem_sided_fst {t : Color} {l : List Node} {e : Node × Color} (h : e ∈ sided t l) : e.1 ∈ l := by
  rw [← sided_map_fst t l]
  exact List.mem_map_of_mem h

def samePos (pos : Position) (turn : Color) (e : Node × Color) : Bool := e.1.pos == pos && e.2 == turn

/-- The test of the loop in `identicalPositionCount`. -/
def sameKey (hash : Nat) (pos : Position) (turn : Color) (e : Node × Color) : Bool :=
  e.1.hash == hash && turn == e.2 && e.1.pos == pos

theorem samePos_iff {pos : Position} {turn : Color} {e : Node × Color} :
    samePos pos turn e = true ↔ e.1.pos = pos ∧ e.2 = turn := by
  simp [samePos]

theorem sameKey_iff {hash : Nat} {pos : Position} {turn : Color} {e : Node × Color} :
    sameKey hash pos turn e = true ↔ e.1.hash = hash ∧ e.2 = turn ∧ e.1.pos = pos := by
  simp only [sameKey, Bool.and_eq_true, beq_iff_eq, and_assoc, eq_comm (a := turn)]

def occOf (pos : Position) (turn : Color) (t : Color) (l : List Node) : Nat :=
  (sided t l).countP (samePos pos turn)

def hashCount (h : Nat) (l : List Node) : Nat := l.countP (fun n => n.hash == h)

theorem occOf_map_key (pos : Position) (turn t : Color) (l : List Node) :
    occOf pos turn t (l.map key) = occOf pos turn t l := by
  unfold occOf
  rw [sided_map, List.countP_map]
  rfl

theorem hashCount_map_key (h : Nat) (l : List Node) : hashCount h (l.map key) = hashCount h l := by
  unfold hashCount
  rw [List.countP_map]
  rfl

theorem occOf_cons (pos : Position) (turn t : Color) (n : Node) (r : List Node) :
    occOf pos turn t (n :: r) = occOf pos turn t.opp r + if n.pos = pos ∧ t = turn then 1 else 0 := by
  unfold occOf
  rw [sided_cons, List.countP_cons]
  congr 1
  simp [samePos]

theorem hashCount_cons (h : Nat) (n : Node) (r : List Node) :
    hashCount h (n :: r) = hashCount h r + if n.hash = h then 1 else 0 := by
  unfold hashCount
  rw [List.countP_cons]
  simp

theorem occOf_le_hashCount {pos : Position} {turn t : Color} {l : List Node} {h : Nat}
    (hf : ∀ e ∈ sided t l, samePos pos turn e = true → e.1.hash = h) :
    occOf pos turn t l ≤ hashCount h l := by
  unfold occOf hashCount
  have : List.countP (fun n => n.hash == h) l = List.countP ((fun n => n.hash == h) ∘ Prod.fst) (sided t l) := by
    rw [← List.countP_map, sided_map_fst]
  rw [this]
  apply List.countP_mono_left
  intro e he hs
  simp only [Function.comp, beq_iff_eq]
  exact hf e he hs

theorem ipcList_map_key (hash : Nat) (pos : Position) (turn : Color) (limit : Int) (l : List Node) :
    ∀ (i : Int) (t : Color) (ret : Int),
      ipcList hash pos turn limit (l.map key) i t ret = ipcList hash pos turn limit l i t ret := by
  induction l with
  | nil => intro i t ret; rfl
  | cons n r ih =>
    intro i t ret
    simp only [List.map_cons, ipcList]
    rw [ih]
    rfl

/-- At distance `i` the loop still inspects the entries at distances `i … limit`: the entry exactly `limit` plies back
*is* inspected (`i ≤ limit`). -/
theorem ipcList_spec (hash : Nat) (pos : Position) (turn : Color) (limit : Int) (l : List Node) :
    ∀ (i : Int) (t : Color) (ret : Int),
      ipcList hash pos turn limit l i t ret =
        ret + (((sided t l).take (limit + 1 - i).toNat).countP (sameKey hash pos turn) : Nat) := by
  induction l with
  | nil => intro i t ret; simp [ipcList]
  | cons n r ih =>
    intro i t ret
    unfold ipcList
    by_cases hle : i ≤ limit
    · have hsplit : (limit + 1 - i).toNat = (limit + 1 - (i + 1)).toNat + 1 := by omega
      rw [if_pos hle, ih, hsplit, sided_cons, List.take_succ_cons, List.countP_cons]
      have hkey : (n.hash == hash && turn == t && n.pos == pos) = sameKey hash pos turn (n, t) := rfl
      rw [hkey]
      split <;> omega
    · have hz : (limit + 1 - i).toNat = 0 := by omega
      rw [if_neg hle, hz]
      simp

/-- `identicalPositionCount` starts at distance 1 with result 1 (the current node). -/
theorem ipcList_start (hash : Nat) (pos : Position) (turn t0 : Color) (limit : Int) (l : List Node) :
    ipcList hash pos turn limit l 1 t0 1 =
      1 + (((sided t0 l).take limit.toNat).countP (sameKey hash pos turn) : Nat) := by
  rw [ipcList_spec, Int.add_sub_cancel]

/-- The loop counts the whole line under hash faithfulness (`hf`) and irreversibility (`hirr`). -/
theorem ipcList_exact {hash : Nat} {pos : Position} {turn t0 : Color} {limit : Int} {l : List Node}
    (hf : ∀ e ∈ sided t0 l, samePos pos turn e = true → e.1.hash = hash)
    (hirr : ∀ e ∈ (sided t0 l).drop limit.toNat, samePos pos turn e = false) :
    ipcList hash pos turn limit l 1 t0 1 = 1 + (occOf pos turn t0 l : Nat) := by
  rw [ipcList_start]
  congr 2
  unfold occOf
  have h1 : ((sided t0 l).take limit.toNat).countP (sameKey hash pos turn) =
      ((sided t0 l).take limit.toNat).countP (samePos pos turn) := by
    apply List.countP_congr
    intro e he
    rw [sameKey_iff, samePos_iff]
    constructor
    · rintro ⟨_, h2, h3⟩; exact ⟨h3, h2⟩
    · rintro ⟨h3, h2⟩
      exact ⟨hf e (List.mem_of_mem_take he) (samePos_iff.mpr ⟨h3, h2⟩), h2, h3⟩
  have h2 : ((sided t0 l).drop limit.toNat).countP (samePos pos turn) = 0 := by
    rw [List.countP_eq_zero]
    intro e he
    rw [hirr e he]
    exact Bool.false_ne_true
  have h3 := List.countP_append (p := samePos pos turn) (l₁ := (sided t0 l).take limit.toNat)
    (l₂ := (sided t0 l).drop limit.toNat)
  rw [List.take_append_drop] at h3
  omega

theorem ipcList_le (hash : Nat) (pos : Position) (turn t0 : Color) (limit : Int) (l : List Node) :
    ipcList hash pos turn limit l 1 t0 1 ≤ 1 + (occOf pos turn t0 l : Nat) := by
  rw [ipcList_start]
  unfold occOf
  have h1 : ((sided t0 l).take limit.toNat).countP (sameKey hash pos turn) ≤
      ((sided t0 l).take limit.toNat).countP (samePos pos turn) := by
    apply List.countP_mono_left
    intro e _ he
    rw [sameKey_iff] at he
    exact samePos_iff.mpr ⟨he.2.2, he.2.1⟩
  have h3 := List.countP_append (p := samePos pos turn) (l₁ := (sided t0 l).take limit.toNat)
    (l₂ := (sided t0 l).drop limit.toNat)
  rw [List.take_append_drop] at h3
  omega

/-- The kind of move after which `pushMove` tests the material. -/
def materialTrigger (m : Move) : Bool :=
  m.ty = .capture || ((m.ty = .capturePromotion || m.ty = .promotion) && (m.promotion = .bishop || m.promotion = .knight))

/-- The moves after which `updateNoProgress` restarts the clock: pawn push / jump, en passant, capture, promotion,
capture-promotion - and `invalid`. -/
def isReset (m : Move) : Bool := m.ty != .normal && !m.isCastle

theorem updateNoProgress_eq (old : Int) (m : Move) :
    updateNoProgress old m = if isReset m = true then 0 else old + 1 := rfl

/-- `np` = clock of the current node, `past` = its strict ancestors with the moves played from them in `next`. -/
def ClockChain : Int → List Node → Prop
  | _, [] => True
  | np, p :: r => np = updateNoProgress p.noprogress p.next ∧ ClockChain p.noprogress r

/-- The clock of the oldest node of the line. -/
def rootClock (np : Int) (past : List Node) : Int := (past.getLast?.map (·.noprogress)).getD np

theorem rootClock_cons (np : Int) (p : Node) (r : List Node) : rootClock np (p :: r) = rootClock p.noprogress r := by
  cases r with
  | nil => rfl
  | cons q s =>
    unfold rootClock
    rw [List.getLast?_cons_cons]
    cases h : (q :: s).getLast? with
    | none => simp at h
    | some x => rfl

theorem clockChain_erase : ∀ (np : Int) (l : List Node), ClockChain np (l.map eraseNode) ↔ ClockChain np l
  | _, [] => Iff.rfl
  | np, p :: r => by
    simp only [List.map_cons, ClockChain, eraseNode_noprogress, eraseNode_next]
    rw [clockChain_erase p.noprogress r]

/-- The clock is the number of moves since the last resetting move, counting on from `np` when there was none
(`ms` latest first). -/
theorem foldr_updateNoProgress (np : Int) (ms : List Move) :
    ms.foldr (fun m c => updateNoProgress c m) np =
      (if ms.any isReset then 0 else np) + ((ms.takeWhile (fun m => !isReset m)).length : Nat) := by
  induction ms with
  | nil => simp
  | cons m r ih =>
    simp only [List.foldr_cons, List.any_cons, List.takeWhile_cons]
    rw [updateNoProgress_eq]
    by_cases hr : isReset m = true
    · simp [hr]
    · simp only [hr, Bool.false_eq_true, if_false, Bool.false_or, Bool.not_false, if_true, List.length_cons]
      rw [ih]
      omega

theorem clockChain_foldr : ∀ (np : Int) (past : List Node), ClockChain np past →
    np = (past.map (·.next)).foldr (fun m c => updateNoProgress c m) (rootClock np past)
  | _, [], _ => rfl
  | np, p :: r, h => by
    rw [rootClock_cons, List.map_cons, List.foldr_cons, ← clockChain_foldr p.noprogress r h.2]
    exact h.1

end Morlock.Proofs.Draw
