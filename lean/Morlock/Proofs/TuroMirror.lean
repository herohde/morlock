import Morlock.Proofs.TuroMirrorGen
import Morlock.Proofs.TurochampMirror2
/-!
# `MirrorGap` closed for BOTH colours, whatever the en-passant target and whoever is in check

The terms of TUROCHAMP's `PositionPlay` that read the legal moves (mobility, "may castle", "may give mate") are computed by
the Go code for the side NOT to move with the en-passant target and check status of the actual position: that side gets
"en-passant captures" onto its own target (they remove a phantom pawn), and may capture the king of a side in check. None of
this is a position of the reference semantics, so the proof goes through the bitboards (`MP`, `Proofs/TuroMirror{Bits,Pos,Gen}`):
`Position.Move` maps mirror images to mirror images (`move_mirror`), hence the legal moves (`legal_mirror`), hence
`IsCheckMate` one ply further (`isCheckMate_mirror`) and the three terms (`mirrorGap_bits`). With the parts of
`Proofs/TurochampMirror2.lean` this gives the colour-blindness of `Eval.Evaluate` without further hypothesis
(`evaluateCoreOrd_mirror_bits`).
-/
namespace Morlock.Proofs.TuroMirror
open Morlock Morlock.Model Morlock.Model.Turochamp Morlock.Proofs.Gen Morlock.Proofs.Attack Morlock.Proofs.Mirror
open Morlock.Proofs.Turochamp

local notation "ms" => Spec.mirrorSq

theorem one_zero : One 0 := fun u _ hu _ => by simp at hu

theorem one_xor_clear {x a : Nat} (ho : One x) (ha : x.testBit a = true) (h64 : a < 64) : x ^^^ bitMask a = 0 := by
  apply eq_zero_of_no_bits
  intro i
  rw [Nat.testBit_xor, bitMask_testBit h64]
  by_cases e : i = a
  · subst e; simp [ha]
  · cases hi : x.testBit i
    · simp [e]
    · exact absurd (ho _ _ hi ha) e

theorem one_bitMask (b : Nat) : One (0 ^^^ bitMask b) := by
  intro u v hu hv
  rw [Nat.zero_xor, bitMask_testBit'] at hu hv
  simp only [Bool.and_eq_true, decide_eq_true_eq] at hu hv
  rw [hu.2, hv.2]

theorem step4_king (a : Position) (turn : Color) (m : Move) (d : Color) :
    (step4 a turn m).pieces d .king = a.pieces d .king := by
  unfold step4
  split <;> simp [pieces_xor_king]

theorem rawCore_king (p : Position) (turn : Color) (pc : Piece) (m : Move) (d : Color) :
    (rawCore p turn pc m).pieces d .king =
      (if d = turn ∧ movedPiece m pc = .king then
        (if m.isCapture = true ∧ d = turn.opp ∧ m.capture = .king then
          (if d = turn ∧ pc = .king then p.pieces d .king ^^^ bitMask m.from else p.pieces d .king) ^^^ bitMask m.to
         else (if d = turn ∧ pc = .king then p.pieces d .king ^^^ bitMask m.from else p.pieces d .king)) ^^^ bitMask m.to
       else
        (if m.isCapture = true ∧ d = turn.opp ∧ m.capture = .king then
          (if d = turn ∧ pc = .king then p.pieces d .king ^^^ bitMask m.from else p.pieces d .king) ^^^ bitMask m.to
         else (if d = turn ∧ pc = .king then p.pieces d .king ^^^ bitMask m.from else p.pieces d .king))) := by
  unfold rawCore
  rw [step4_king, pieces_xor_king]
  by_cases hc : m.isCapture = true
  · simp only [hc, if_true, true_and, pieces_xor_king]
  · simp only [hc, if_false, false_and, pieces_xor_king, Bool.false_eq_true]

theorem moveRaw_king_mover {p : Position} {turn : Color} {pc : Piece} {m : Move}
    (ho : One (p.pieces turn .king)) (hf : m.from < 64)
    (hbit : pc = .king → (p.pieces turn .king).testBit m.from = true)
    (hpr : m.isPromotion = true → m.promotion ≠ .king) :
    One ((moveRaw p turn pc m).pieces turn .king) := by
  rw [moveRaw_pieces, rawCore_king]
  have hne : ¬ turn = turn.opp := fun e => Color.opp_ne turn e.symm
  simp only [true_and, hne, false_and, and_false, if_false]
  by_cases hk : pc = .king
  · rw [if_pos hk, one_xor_clear ho (hbit hk) hf]
    split
    · exact one_bitMask _
    · exact one_zero
  · rw [if_neg hk]
    have : movedPiece m pc ≠ .king := by
      unfold movedPiece
      split
      · rename_i hp; exact hpr hp
      · exact hk
    rw [if_neg this]
    exact ho

theorem moveRaw_king_opp {p : Position} {turn : Color} {pc : Piece} {m : Move}
    (ho : One (p.pieces turn.opp .king)) (ht : m.to < 64)
    (hbit : m.isCapture = true → m.capture = .king → (p.pieces turn.opp .king).testBit m.to = true) :
    One ((moveRaw p turn pc m).pieces turn.opp .king) := by
  rw [moveRaw_pieces, rawCore_king]
  have hne : ¬ turn.opp = turn := Color.opp_ne turn
  simp only [hne, false_and, if_false, true_and]
  split
  · rename_i hh
    rw [one_xor_clear ho (hbit hh.1 hh.2) ht]
    exact one_zero
  · exact ho

theorem step4_tri {a : Position} (h : Tri a) (turn : Color) (m : Move) : Tri (step4 a turn m) := by
  unfold step4
  split
  · exact h.xor _ _ (by decide)
  · exact (h.xor _ _ (by decide)).xor _ _ (by decide)
  · exact (h.xor _ _ (by decide)).xor _ _ (by decide)
  · exact h

theorem moveRaw_tri {p : Position} (h : Tri p) {turn : Color} {pc : Piece} {m : Move} (hpc : pc ≠ .none)
    (hcap : m.isCapture = true → m.capture ≠ .none) (hmp : movedPiece m pc ≠ .none) :
    Tri (moveRaw p turn pc m) := by
  have hc : Tri (rawCore p turn pc m) := by
    unfold rawCore
    apply step4_tri
    apply Tri.xor _ _ _ hmp
    by_cases hcc : m.isCapture = true
    · rw [if_pos hcc]; exact (h.xor _ _ hpc).xor _ _ (hcap hcc)
    · rw [if_neg hcc]; exact h.xor _ _ hpc
  intro u hu
  rw [moveRaw_rotated, moveRaw_pieces, moveRaw_pieces]
  exact hc u hu

theorem squareF_some {r w b : Bool} {fw fb : Option Piece} {c : Color} {k : Piece}
    (h : squareF r w b fw fb = some (c, k)) : (c = .white ∧ fw = some k) ∨ (c = .black ∧ fb = some k) := by
  unfold squareF at h
  cases r <;> cases w <;> cases b <;> cases fw <;> cases fb <;> simp at h <;>
    (try (obtain ⟨rfl, rfl⟩ := h)) <;> simp

theorem square_some_bit {p : Position} {sq : Nat} {c : Color} {k : Piece} (h : p.square sq = some (c, k)) :
    isSet (p.pieces c k) sq = true ∧ k ≠ .none := by
  rw [square_eq_F] at h
  have hn : ∀ k', k' ∈ Position.piecesInOrder → k' ≠ Piece.none := by decide
  rcases squareF_some h with ⟨rfl, hf⟩ | ⟨rfl, hf⟩
  · have h1 := List.find?_some hf
    exact ⟨h1, hn _ (List.mem_of_find?_eq_some hf)⟩
  · have h1 := List.find?_some hf
    exact ⟨h1, hn _ (List.mem_of_find?_eq_some hf)⟩

theorem promo_ne_king {p : Position} {c : Color} {m : Move} (g : GenOK p c m) :
    m.isPromotion = true → m.promotion ≠ .king := by
  intro hp e
  have := g.promo hp
  rw [e, mem_promoPieces] at this
  simp at this

theorem next_facts {p : Position} {b : Board} (hr : Rep p b) (hk : ∀ d, One (p.pieces d .king)) {c : Color} {m : Move}
    (g : GenOK p c m) :
    p.square m.from = some (c, m.piece) ∧ Tri (moveRaw p c m.piece m) ∧
      ∀ d, One ((moveRaw p c m.piece m).pieces d .king) := by
  have hsq : p.square m.from = some (c, m.piece) := by
    rw [hr.square_eq]
    have := g.fromBit
    rw [hr.one c m.piece m.from g.pne g.ok.f, decide_eq_true_eq] at this
    exact this
  have hcapK : m.isCapture = true → ∃ k, b m.to = some (c.opp, k) ∧ m.capture = k := by
    intro hc
    obtain ⟨e, hb⟩ := g.cap hc
    rw [hr.all c.opp m.to g.ok.t, colAt_enemy_iff] at hb
    obtain ⟨k, hk'⟩ := hb
    exact ⟨k, hk', by rw [e, captureAt_of_rep hr, capAt_enemy hk']⟩
  have hmp : movedPiece m m.piece ≠ .none := by
    unfold movedPiece
    split
    · rename_i hp; exact ne_none_of_mem_promoPieces (g.promo hp)
    · exact g.pne
  refine ⟨hsq, ?_, ?_⟩
  · apply moveRaw_tri (Tri.of_rep hr) g.pne _ hmp
    intro hc
    obtain ⟨k, hk', e⟩ := hcapK hc
    rw [e]
    exact hr.ne_none_of_some hk'
  · intro d
    by_cases hd : d = c
    · subst hd
      apply moveRaw_king_mover (hk d) g.ok.f _ (promo_ne_king g)
      intro e
      rw [← e]; exact g.fromBit
    · have hd' : d = c.opp := by cases d <;> cases c <;> simp_all [Color.opp]
      subst hd'
      apply moveRaw_king_opp (hk c.opp) g.ok.t
      intro hc hkg
      obtain ⟨k, hk', e⟩ := hcapK hc
      rw [hr.one c.opp .king m.to (by decide) g.ok.t, decide_eq_true_eq, hk', ← e, hkg]

theorem weight_mm (m : Move) : weight (mm m) = weight m := rfl

section
variable {p q : Position} (h : MP p q) (ht : Tri p) (hk : ∀ d, One (p.pieces d .king))
include h ht hk

/-- **`Position.Move` commutes with the mirror**: rejected on both sides, or accepted on both with mirror-image results -/
theorem move_mirror {m : Move}
    (ok : MoveOK m) (hpr : m.isPromotion = true → m.promotion ≠ .king) :
    (p.move m = none ∧ q.move (mm m) = none) ∨
    ∃ turn pc, p.square m.from = some (turn, pc) ∧ p.move m = some (moveRaw p turn pc m) ∧
      q.move (mm m) = some (moveRaw q turn.opp pc (mm m)) := by
  have hsq := square_mirror h ht ok.f
  cases hs : p.square m.from with
  | none =>
    rw [hs] at hsq
    exact Or.inl ⟨move_none hs, move_none hsq⟩
  | some x =>
    obtain ⟨turn, pc⟩ := x
    rw [hs] at hsq
    have hb := square_some_bit hs
    have hking : One ((moveRaw p turn pc m).pieces turn .king) :=
      moveRaw_king_mover (hk turn) ok.f (fun e => by rw [← isSet_lt _ ok.f, ← e]; exact hb.1) hpr
    have e := moveTest_mirror h ok turn pc hking
    have hq : q.move (mm m) = if moveTest q turn.opp pc (mm m) then some (moveRaw q turn.opp pc (mm m)) else none :=
      move_eq_test (m := mm m) hsq
    rw [move_eq_test hs, hq, e]
    by_cases htest : moveTest p turn pc m = true
    · right
      exact ⟨turn, pc, rfl, by rw [if_pos htest], by rw [if_pos htest]⟩
    · left
      exact ⟨by rw [if_neg htest], by rw [if_neg htest]⟩

theorem legal_mirror (c : Color) :
    (q.legalMoves c.opp).Perm ((p.legalMoves c).map mm) := by
  unfold Position.legalMoves
  have hp := (pseudo_mirror h c (hk c)).filter (fun m => (q.move m).isSome)
  refine hp.trans (List.Perm.of_eq ?_)
  rw [List.filter_map]
  congr 1
  apply List.filter_congr
  intro m hm
  have g := pseudo_ok h.sized hm
  rcases move_mirror h ht hk g.ok (promo_ne_king g) with ⟨a, b⟩ | ⟨_, _, _, a, b⟩
  · rw [Function.comp, a, b]
  -- `rfl` here makes Lean compare the two `moveRaw` results before it looks at `isSome`
  · rw [Function.comp, a, b, Option.isSome_some, Option.isSome_some]

theorem isCheckMate_mirror (d : Color) :
    q.isCheckMate d.opp = p.isCheckMate d := by
  unfold Position.isCheckMate
  rw [isChecked_mirror h d (hk d), (legal_mirror h ht hk d).isEmpty_eq, List.isEmpty_map]

theorem mayCastle_bits (c : Color) :
    mayCastle q c.opp = mayCastle p c := by
  unfold mayCastle
  rw [(legal_mirror h ht hk c).any_eq, List.any_map]
  rfl

theorem wsum_bits (c : Color) (k : Nat) :
    wsum (q.legalMoves c.opp) (ms k) = wsum (p.legalMoves c) k := by
  unfold wsum
  rw [nsum_perm ((legal_mirror h ht hk c).map _), List.map_map]
  congr 1
  apply List.map_congr_left
  intro m _
  simp only [Function.comp, mm_from, weight_mm]
  have : (ms m.from = ms k) = (m.from = k) := propext ⟨fun e => Spec.mirrorSq_inj e, fun e => by rw [e]⟩
  simp only [this]

end

theorem mayCheckMate_bits {p q : Position} {b : Board} (h : MP p q) (hr : Rep p b) (hk : ∀ d, One (p.pieces d .king))
    (c : Color) : mayCheckMate q c.opp = mayCheckMate p c := by
  have ht := Tri.of_rep hr
  unfold mayCheckMate
  rw [(legal_mirror h ht hk c).any_eq, List.any_map]
  apply any_congr_mem
  intro m hm
  have g := pseudo_ok h.sized (Chain.mem_pseudo_of_legal hm)
  obtain ⟨hsq, htn, hkn⟩ := next_facts hr hk g
  simp only [Function.comp]
  rcases move_mirror h ht hk g.ok (promo_ne_king g) with ⟨a, b'⟩ | ⟨turn, pc, hs, a, b'⟩
  · rw [a, b']
  · rw [hsq] at hs
    obtain ⟨rfl, rfl⟩ := Prod.mk.inj (Option.some.inj hs)
    rw [a, b']
    exact isCheckMate_mirror (moveRaw_MP h g.ok c m.piece) htn hkn c.opp

/-- **`MirrorGap` holds for every colour** when `q` is the bit-level mirror image of a position `p` that represents a
board with at most one king a side. -/
theorem mirrorGap_bits {p q : Position} {b : Board} (h : MP p q) (hr : Rep p b) (hk : ∀ d, One (p.pieces d .king))
    (c : Color) : MirrorGap p q c :=
  ⟨mayCheckMate_bits h hr hk c, mayCastle_bits h (Tri.of_rep hr) hk c, mob10_of_wsum (wsum_bits h (Tri.of_rep hr) hk c)⟩

theorem sqRank_of_div {s r : Nat} (hs : s < 64) (h : s / 8 = r) : sqRank s = r := by
  rw [sqRank_eq]; omega

theorem MP.of_rep {p q : Position} {t : Color} {b : Board} (hw : WF p t) (hp : Rep p b) (hq : Rep q (mirrorBoard b))
    (hwk : (q.castling &&& wK != 0) = (p.castling &&& bK != 0))
    (hwq : (q.castling &&& wQ != 0) = (p.castling &&& bQ != 0))
    (hbk : (q.castling &&& bK != 0) = (p.castling &&& wK != 0))
    (hbq : (q.castling &&& bQ != 0) = (p.castling &&& wQ != 0))
    (hep0 : p.enpassant = 0 → q.enpassant = 0)
    (hep1 : p.enpassant ≠ 0 → q.enpassant = ms p.enpassant ∧ q.enpassant ≠ 0) : MP p q where
  pc := pieces_MB hp hq
  rp := hp.rotInv
  rq := hq.rotInv
  occ := occ_MB hp hq
  wk := hwk
  wq := hwq
  bk := hbk
  bq := hbq
  epl := by
    by_cases h0 : p.enpassant = 0
    · rw [h0]; decide
    · exact (hw.wfb.ep_ok h0).1
  ep0 := hep0
  ep1 := by
    intro h0
    obtain ⟨a, b'⟩ := hep1 h0
    obtain ⟨l, _, r, _⟩ := hw.wfb.ep_ok h0
    refine ⟨a, b', ?_⟩
    cases t
    · right; exact sqRank_of_div l r
    · left; exact sqRank_of_div l r

theorem bits_of_rep {p q : Position} {t : Color} {b : Board} (hw : WF p t) (hp : Rep p b) (hq : Rep q (mirrorBoard b))
    (hwk : (q.castling &&& wK != 0) = (p.castling &&& bK != 0))
    (hwq : (q.castling &&& wQ != 0) = (p.castling &&& bQ != 0))
    (hbk : (q.castling &&& bK != 0) = (p.castling &&& wK != 0))
    (hbq : (q.castling &&& bQ != 0) = (p.castling &&& wQ != 0))
    (hep0 : p.enpassant = 0 → q.enpassant = 0)
    (hep1 : p.enpassant ≠ 0 → q.enpassant = ms p.enpassant ∧ q.enpassant ≠ 0) :
    MP p q ∧ Tri p ∧ ∀ d, One (p.pieces d .king) :=
  ⟨MP.of_rep hw hp hq hwk hwq hbk hbq hep0 hep1, Tri.of_rep hp, one_king_of_wfb hw.rep hw.wfb⟩

/-- **`Eval.Evaluate` is colour-blind** as a float32, for any iteration orders of the mobility maps on the two boards, on
every well-formed `Sane` position: no hypothesis on checks or on the en-passant target, no `MirrorGap`. -/
theorem evaluateCoreOrd_mirror_bits {p q : Position} {t : Color} {b : Board} (hwp : WF p t) (hwq : WF q t.opp)
    (hp : Rep p b) (hq : Rep q (mirrorBoard b))
    (hwk : (q.castling &&& wK != 0) = (p.castling &&& bK != 0))
    (hwq' : (q.castling &&& wQ != 0) = (p.castling &&& bQ != 0))
    (hbk : (q.castling &&& bK != 0) = (p.castling &&& wK != 0))
    (hbq : (q.castling &&& bQ != 0) = (p.castling &&& wQ != 0))
    (hep0 : p.enpassant = 0 → q.enpassant = 0)
    (hep1 : p.enpassant ≠ 0 → q.enpassant = ms p.enpassant ∧ q.enpassant ≠ 0)
    (hW : Sane p .white) (hB : Sane p .black)
    (cs co : Bool) (oS oO oS' oO' : List (Nat × Nat) → List (Nat × Nat))
    (hpS : ∀ l, (oS l).Perm l) (hpO : ∀ l, (oO l).Perm l) (hpS' : ∀ l, (oS' l).Perm l) (hpO' : ∀ l, (oO' l).Perm l) :
    evaluateCoreOrd oS oO q cs co t.opp = evaluateCoreOrd oS' oO' p cs co t := by
  obtain ⟨h, _, hk⟩ := bits_of_rep hwp hp hq hwk hwq' hbk hbq hep0 hep1
  exact evaluateCoreOrd_mirror hwp hwq hp hq (abs_eq_mirror hp hq t hwk hwq' hbk hbq hep0 hep1) hwk hwq' hbk hbq hW hB
    (mirrorGap_bits h hp hk) cs co t oS oO oS' oO' hpS hpO hpS' hpO'

end Morlock.Proofs.TuroMirror
