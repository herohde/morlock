import Morlock.Proofs.ChainArena
import Morlock.Proofs.DetSeed
/-!
# Chain (→ C18): the hypothesis on the moves holds from a `WFplay` start position

`GoodGen J` (`Proofs/DetSeed.lean`) asks for an invariant `J` of positions under which every generated move
accepted by `Position.move` is a `GoodStep` and `J` is kept. `WFplay` is such an invariant, so `GoodTree n` holds
for every `n` at every position reachable from a `WFplay` position by generated moves.
-/
namespace Morlock.Proofs.Chain
open Morlock Morlock.Model Morlock.Proofs Morlock.Proofs.Gen Morlock.Proofs.Draw Morlock.Proofs.Det

theorem goodGen_wfplay : GoodGen WFplay :=
  ⟨fun hj hm hq => ⟨(step_wfplay hj hm hq).1.good, (step_wfplay hj hm hq).2⟩⟩

theorem goodTree_of_wfplay (n : Nat) {p : Position} {t : Color} (hw : WFplay p t) : GoodTree n p t :=
  goodTree_of_gen goodGen_wfplay n p t hw

theorem goodPlay_of_wfplay (n : Nat) : ∀ (ms : List Move) (p : Position) (t : Color), WFplay p t → GenPlay p t ms →
    GoodPlay n p t ms
  | [], _, _, hw, _ => goodTree_of_wfplay n hw
  | _ :: ms, _, t, hw, hg => fun q hq =>
    ⟨(step_wfplay hw hg.1 hq).1.good, goodPlay_of_wfplay n ms q t.opp (step_wfplay hw hg.1 hq).2 (hg.2 q hq)⟩

theorem treeCheck_of_wfplay : ∀ (n : Nat) {p : Position} {t : Color}, WFplay p t → treeCheck n p t = true
  | 0, _, _, _ => rfl
  | n + 1, p, t, hw => by
    simp only [treeCheck, List.all_eq_true]
    intro m hm
    cases hq : p.move m with
    | none => rfl
    | some q =>
      simp only [Bool.and_eq_true]
      exact ⟨stepCheck_of_wfplay hw m hm, treeCheck_of_wfplay n (wf_preserved hw hm hq)⟩

theorem playTreeCheck_of_wfplay (n : Nat) : ∀ (ms : List Move) {p : Position} {t : Color}, WFplay p t → GenPlay p t ms →
    playTreeCheck n p t ms = true
  | [], _, _, hw, _ => treeCheck_of_wfplay n hw
  | m :: ms, p, t, hw, hg => by
    simp only [playTreeCheck]
    cases hq : p.move m with
    | none => rfl
    | some q =>
      simp only [Bool.and_eq_true]
      exact ⟨stepCheck_of_wfplay hw m hg.1, playTreeCheck_of_wfplay n ms (wf_preserved hw hg.1 hq) (hg.2 q hq)⟩

end Morlock.Proofs.Chain
