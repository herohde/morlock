import Morlock.Proofs.FenBoard
import Morlock.Proofs.FenDecode
/-!
# `Decode ∘ Encode = id`

Assembles the lexical layer (`FenLex`), the rank layer (`FenRank`), the board layer (`FenBoard`) and
the field-by-field reading of `decode` (`FenDecode`).
-/
namespace Morlock.Proofs.Fen
open Morlock Morlock.Model Morlock.Model.Fen Morlock.Proofs

/-- The en-passant field `Encode` writes. -/
def epStr (e : Nat) : String := if e != 0 then squareString e else "-"

/-- Not `rfl`: to see through the `match` on the rank loop's result the unifier would run the loop; `simp` takes the pair
    apart by projections instead. -/
theorem encode_eq (pos : Position) (c : Color) (np fm : Int) :
    encode pos c np fm =
      boardStr pos.square ++ " " ++ printColor c ++ " " ++ printCastling pos.castling ++ " " ++
        epStr pos.enpassant ++ " " ++ itoa np ++ " " ++ itoa fm := by
  unfold encode epStr boardStr rankStrOf rowOf rankFlush
  simp only [List.foldl_map]
  rfl

theorem encode_toList (pos : Position) (c : Color) (np fm : Int) :
    (encode pos c np fm).toList =
      join6 (boardStr pos.square).toList (printColor c).toList (printCastling pos.castling).toList
        (epStr pos.enpassant).toList (itoa np).toList (itoa fm).toList := by
  rw [encode_eq]
  simp [join6, String.toList_append]

/-- Boolean form of `NS`. -/
def nsb (l : List Char) : Bool := l.all fun c => !isSpace c

theorem NS_of_nsb {l : List Char} (h : nsb l = true) : NS l := by
  intro c hc
  have := List.all_eq_true.mp h c hc
  simpa using this

theorem color_NS (c : Color) : NS (printColor c).toList := by
  cases c <;> exact NS_of_nsb (by decide)

theorem castling_spec : ∀ c, c < 16 →
    parseCastling (printCastling c).toList = some c ∧ nsb (printCastling c).toList = true := by decide +kernel

theorem castling_nsb : ∀ c, c < 16 → nsb (printCastling c).toList = true := fun c h => (castling_spec c h).2

theorem epStr_toList {e : Nat} (h : e < 64) (h0 : e ≠ 0) : (epStr e).toList = sqChars e := by
  unfold epStr
  rw [if_pos (by simpa using h0), squareString_toList h]

theorem epStr_NS {e : Nat} (h : e < 64) : NS (epStr e).toList := by
  by_cases h0 : e = 0
  · subst h0; exact NS_of_nsb (by decide)
  · rw [epStr_toList h h0]; exact sqChars_NS e h

theorem ep_nsb (e : Nat) (h : e < 64) : nsb (epStr e).toList = true :=
  List.all_eq_true.mpr fun c hc => by rw [epStr_NS h c hc]; rfl

theorem rankChars_NS {rk : List Char} (h : RankChars rk) : NS rk := by
  intro c hc
  rcases h c hc with hd | hp
  · rw [rank18_iff] at hd; exact isSpace_of_range (by omega) (by omega)
  · obtain ⟨⟨col, k⟩, hck⟩ := Option.isSome_iff_exists.mp hp
    rw [← (printPiece_parsePiece hck).1]
    cases col <;> cases k <;> decide

theorem tailSlash_NS {rks : List (List Char)} (h : ∀ rk ∈ rks, NS rk) : NS (tailSlash rks) := by
  induction rks with
  | nil => exact NS.nil
  | cons rk rest ih =>
    rw [tailSlash]
    exact NS.cons (by decide)
      (NS.append (h rk (List.mem_cons_self ..)) (ih fun x hx => h x (List.mem_cons_of_mem _ hx)))

theorem board_NS {rks : List (List Char)} (h : ∀ rk ∈ rks, RankChars rk) :
    NS (List.intercalate ['/'] rks) := by
  cases rks with
  | nil => intro c hc; simp [List.intercalate] at hc
  | cons rk rest =>
    rw [intercalate_slash]
    exact NS.append (rankChars_NS (h rk (List.mem_cons_self ..)))
      (tailSlash_NS fun x hx => rankChars_NS (h x (List.mem_cons_of_mem _ hx)))

theorem NS_boardStr {p : Position} {b : Board} (h : Rep p b) : NS (boardStr b).toList := by
  rw [boardStr_toList]
  exact board_NS fun rk hrk => ((ranksOK_enc (rowsOf_grid b) (rowsOf_wf h.wf)).1 rk hrk).1

theorem board_ne_nil {rks : List (List Char)} (h : rks.length = 8) : List.intercalate ['/'] rks ≠ [] := by
  match rks, h with
  | a :: b :: rest, _ =>
    rw [intercalate_slash, tailSlash]
    intro e
    have := congrArg List.length e
    simp at this

theorem ep_roundtrip (e : Nat) (h : e < 64) :
    (if (epStr e).toList = ['-'] then some 0 else parseSquareStr (epStr e).toList) = some e := by
  by_cases h0 : e = 0
  · subst h0; rfl
  · rw [epStr_toList h h0, if_neg (by simp [sqChars])]
    exact parseSquare_sqChars h

theorem parseColor_printColor (c : Color) : parseColor (printColor c).toList = some c := by
  cases c <;> decide

theorem Position.eq_of_fields {p q : Position} (h1 : p.white = q.white) (h2 : p.black = q.black)
    (h3 : p.rotated = q.rotated) (h4 : p.castling = q.castling) (h5 : p.enpassant = q.enpassant) : p = q := by
  cases p; cases q; simp_all

theorem newPosition_rowsOf {p : Position} {b : Board} (h : Rep p b) :
    Position.newPosition (plRows 63 (rowsOf b)) p.castling p.enpassant = some p := by
  have hg := rowsOf_grid b
  have hwf := rowsOf_wf h.wf
  obtain ⟨hv, hnd⟩ := placements_valid (placements_enc hg hwf)
  have hs := (newPosition_isSome_iff p.castling p.enpassant hv).mpr hnd
  obtain ⟨p', hp'⟩ := Option.isSome_iff_exists.mp hs
  obtain ⟨hr, hc, he⟩ := newPosition_rep hv hp'
  rw [placeAll_plRows hg hnd, boardOf_rowsOf b h.out] at hr
  obtain ⟨e1, e2, e3⟩ := hr.views_eq h
  rw [hp', Position.eq_of_fields e1 e2 e3 hc he]

theorem decode_encode_of_rep {p : Position} {b : Board} (h : Rep p b) (hc : p.castling < 16)
    (he : p.enpassant < 64) (c : Color) (np fm : Nat)
    (hnp : np ≤ 9223372036854775807) (hfm : fm ≤ 9223372036854775807) :
    decode (encode p c np fm).toList = some ⟨p, c, np, fm⟩ := by
  have hsq : p.square = b := h.board_eq.symm
  have hg := rowsOf_grid b
  have hwf := rowsOf_wf h.wf
  have hlen : ((rowsOf b).map (enc 0)).length = 8 := by simp [hg.1]
  have h0 : placements (boardStr b).toList 63 [] = some (-1, plRows 63 (rowsOf b)) := by
    rw [boardStr_toList]; exact placements_enc hg hwf
  have e0 : (boardStr b).toList ≠ [] := by rw [boardStr_toList]; exact board_ne_nil hlen
  rw [encode_toList, hsq]
  refine decode_of_fields
    (decode_split (NS_boardStr h) (color_NS c) (NS_of_nsb (castling_nsb _ hc)) (epStr_NS he)
      (by rw [itoa_natCast]; exact toDigits_NS np) (by rw [itoa_natCast]; exact toDigits_NS fm) e0
      (by rw [itoa_natCast]; exact Nat.toDigits_ne_nil))
    h0 (parseColor_printColor c) (castling_spec _ hc).1 (ep_roundtrip _ he)
    (atoi_itoa np hnp) (Int.natCast_nonneg np) (atoi_itoa fm hfm) (Int.natCast_nonneg fm)
    (newPosition_rowsOf h)

end Morlock.Proofs.Fen
