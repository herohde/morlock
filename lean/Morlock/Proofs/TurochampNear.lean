import Morlock.Proofs.TurochampErr
import Morlock.Proofs.TurochampFltInst
/-!
# Error tracking: `Near x s E` — the float `x` is within `E·2^-40` of the exact value `s/10`

The ideal values of TUROCHAMP's position play are multiples of 1/10; `s : Int` counts tenths, `E : Nat` counts units of
`2^-40`. One float32 addition of values below 256 adds `2^24` units (`2^-16`), see `rnd_err32`.
-/
namespace Morlock.Proofs.Turochamp
open Morlock Morlock.Model Morlock.Model.Flt Morlock.Model.Turochamp

/-- `10·2^40·x.den` times the deviation `x − s/10` -/
def dev (x : Q) (s : Int) : Int := x.num * 10995116277760 - s * 1099511627776 * x.den

/-- `|x − s/10| ≤ E / 2^40` -/
def Near (x : Q) (s : Int) (E : Nat) : Prop := 0 < x.den ∧ (dev x s).natAbs ≤ E * 10 * x.den

theorem Near.mono {x : Q} {s : Int} {E F : Nat} (h : Near x s E) (hEF : E ≤ F) : Near x s F :=
  ⟨h.1, Nat.le_trans h.2 (Nat.mul_le_mul_right _ (Nat.mul_le_mul_right _ hEF))⟩

theorem Near.congr {x x' : Q} {s : Int} {E : Nat} (h : Near x s E) (hd : 0 < x'.den)
    (he : x'.num * x.den = x.num * x'.den) : Near x' s E := by
  refine ⟨hd, ?_⟩
  have key : dev x' s * x.den = dev x s * x'.den := by
    unfold dev
    rw [Int.sub_mul, Int.sub_mul, Int.mul_right_comm x'.num, he, Int.mul_right_comm x.num]
    congr 1
    ac_rfl
  have k2 := congrArg Int.natAbs key
  simp only [Int.natAbs_mul, Int.natAbs_natCast] at k2
  have h1 : (dev x' s).natAbs * x.den ≤ (E * 10 * x'.den) * x.den := by
    rw [k2]
    calc (dev x s).natAbs * x'.den ≤ (E * 10 * x.den) * x'.den := Nat.mul_le_mul_right _ h.2
      _ = (E * 10 * x'.den) * x.den := by ac_rfl
  exact Nat.le_of_mul_le_mul_right h1 h.1

theorem Near.norm {x : Q} {s : Int} {E : Nat} (h : Near x s E) : Near (Q.norm x) s E :=
  h.congr (Q.norm_den_pos h.1) (Q.norm_eqv x)

theorem Near.add {x y : Q} {s t : Int} {E F : Nat} (hx : Near x s E) (hy : Near y t F) :
    Near (Q.add x y) (s + t) (E + F) := by
  unfold Q.add
  apply Near.norm
  refine ⟨Nat.mul_pos hx.1 hy.1, ?_⟩
  have e : dev ⟨x.num * y.den + y.num * x.den, x.den * y.den⟩ (s + t) = dev x s * y.den + dev y t * x.den := by
    unfold dev
    show (x.num * (y.den : Int) + y.num * (x.den : Int)) * 10995116277760 -
      (s + t) * 1099511627776 * ((x.den * y.den : Nat) : Int) = _
    rw [Int.natCast_mul]
    simp only [Int.add_mul, Int.sub_mul, Int.mul_add, Int.mul_assoc]
    have c1 : (y.den : Int) * 10995116277760 = 10995116277760 * y.den := Int.mul_comm _ _
    have c2 : (x.den : Int) * 10995116277760 = 10995116277760 * x.den := Int.mul_comm _ _
    have c3 : (y.den : Int) * (x.den : Int) = x.den * y.den := Int.mul_comm _ _
    rw [c1, c2, c3]
    omega
  rw [e]
  have h1 := Int.natAbs_add_le (dev x s * y.den) (dev y t * x.den)
  simp only [Int.natAbs_mul, Int.natAbs_natCast] at h1
  have h2 := Nat.mul_le_mul_right y.den hx.2
  have h3 := Nat.mul_le_mul_right x.den hy.2
  have e2 : (E + F) * 10 * (x.den * y.den) = E * 10 * x.den * y.den + F * 10 * y.den * x.den := by
    rw [Nat.add_mul, Nat.add_mul]
    congr 1 <;> ac_rfl
  show _ ≤ (E + F) * 10 * (x.den * y.den)
  omega

theorem Near.neg {x : Q} {s : Int} {E : Nat} (h : Near x s E) : Near x.neg (-s) E := by
  refine ⟨h.1, ?_⟩
  have : dev x.neg (-s) = -dev x s := by
    unfold dev
    show -x.num * 10995116277760 - -s * 1099511627776 * x.den = _
    simp only [Int.neg_mul]; omega
  rw [this, Int.natAbs_neg]
  exact h.2

theorem Near.sub {x y : Q} {s t : Int} {E F : Nat} (hx : Near x s E) (hy : Near y t F) :
    Near (Q.sub x y) (s - t) (E + F) := by
  unfold Q.sub
  have := hx.add hy.neg
  rwa [← Int.sub_eq_add_neg] at this

theorem Near.mul_nat {x : Q} {s : Int} {E : Nat} (h : Near x s E) (r : Nat) :
    Near (Q.mul x (Q.ofInt (r : Int))) (s * r) (E * r) := by
  unfold Q.mul Q.ofInt
  apply Near.norm
  refine ⟨by simpa using h.1, ?_⟩
  have e : dev ⟨x.num * (r : Int), x.den * 1⟩ (s * r) = dev x s * r := by
    unfold dev
    show x.num * (r : Int) * 10995116277760 - s * r * 1099511627776 * ((x.den * 1 : Nat) : Int) = _
    rw [Nat.mul_one, Int.sub_mul]
    congr 1
    · rw [Int.mul_right_comm]
    · rw [Int.mul_right_comm (s * 1099511627776), Int.mul_right_comm s]
  rw [e, Int.natAbs_mul, Int.natAbs_natCast]
  show _ ≤ E * r * 10 * (x.den * 1)
  rw [Nat.mul_one]
  calc (dev x s).natAbs * r ≤ (E * 10 * x.den) * r := Nat.mul_le_mul_right _ h.2
    _ = E * r * 10 * x.den := by ac_rfl

/-- `|x| ≤ |s|/10 + E/2^40` -/
theorem Near.bd_of {x : Q} {s : Int} {E B : Nat} (h : Near x s E)
    (hs : E * 10 + s.natAbs * 1099511627776 ≤ B * 10995116277760) : Bd x B := by
  refine ⟨h.1, ?_⟩
  have h1 : (x.num * 10995116277760).natAbs ≤ (dev x s).natAbs + (s * 1099511627776 * x.den).natAbs := by
    have := Int.natAbs_add_le (dev x s) (s * 1099511627776 * x.den)
    rwa [dev, Int.sub_add_cancel] at this
  simp only [Int.natAbs_mul, Int.natAbs_natCast] at h1
  have h3 := Nat.mul_le_mul_right x.den hs
  rw [Nat.add_mul, Nat.mul_right_comm B] at h3
  have h4 : (1099511627776 : Int).natAbs = 1099511627776 := rfl
  have h5 : (10995116277760 : Int).natAbs = 10995116277760 := rfl
  rw [h4, h5] at h1
  exact Nat.le_of_mul_le_mul_right (Nat.le_trans h1 (Nat.le_trans (Nat.add_le_add_right h.2 _) h3)) (by decide)

theorem Near.bd {x : Q} {s : Int} {E B : Nat} (h : Near x s E) (hE : E ≤ 2 ^ 40) (hs : s.natAbs + 10 ≤ 10 * B) :
    Bd x B := h.bd_of (by omega)

/-- a value `v` within `G·2^-40` of `y` (cross-multiplied) is near what `y` is near, with `G` more units of error -/
theorem Near.of_err {y v : Q} {s : Int} {E G : Nat} (h : Near y s E) (hvd : 0 < v.den)
    (herr : (v.num * y.den - y.num * v.den).natAbs * 10995116277760 ≤ G * 10 * v.den * y.den) : Near v s (E + G) := by
  refine ⟨hvd, ?_⟩
  have key : dev v s * y.den = (v.num * y.den - y.num * v.den) * 10995116277760 + dev y s * v.den := by
    unfold dev
    simp only [Int.sub_mul]
    have c1 : v.num * 10995116277760 * (y.den : Int) = v.num * y.den * 10995116277760 := Int.mul_right_comm _ _ _
    have c2 : y.num * (v.den : Int) * 10995116277760 = y.num * 10995116277760 * v.den := Int.mul_right_comm _ _ _
    have c3 : s * 1099511627776 * (v.den : Int) * (y.den : Int) = s * 1099511627776 * y.den * v.den :=
      Int.mul_right_comm _ _ _
    rw [c1, c2, c3]
    omega
  have k2 := congrArg Int.natAbs key
  rw [Int.natAbs_mul, Int.natAbs_natCast] at k2
  have h1 := Int.natAbs_add_le ((v.num * y.den - y.num * v.den) * 10995116277760) (dev y s * v.den)
  rw [Int.natAbs_mul, Int.natAbs_mul, Int.natAbs_natCast] at h1
  have h5 : (10995116277760 : Int).natAbs = 10995116277760 := rfl
  rw [h5] at h1
  have a2 : (dev y s).natAbs * v.den ≤ E * 10 * v.den * y.den := by
    calc (dev y s).natAbs * v.den ≤ (E * 10 * y.den) * v.den := Nat.mul_le_mul_right _ h.2
      _ = E * 10 * v.den * y.den := by ac_rfl
  have fin : (dev v s).natAbs * y.den ≤ ((E + G) * 10 * v.den) * y.den := by
    rw [k2]
    have : (E + G) * 10 * v.den * y.den = E * 10 * v.den * y.den + G * 10 * v.den * y.den := by
      simp only [Nat.add_mul]
    omega
  exact Nat.le_of_mul_le_mul_right fin h.1

theorem Near.rnd32 {y v : Q} {s : Int} {E k : Nat} (h : Near y s E) (hb : y.num.natAbs ≤ 2 ^ k * y.den)
    (hr : rnd f32 y = some v) : Near v s (E + 2 ^ (k + 16)) := by
  refine h.of_err (rnd_canon f32 hr).1 ?_
  have h5 : (10995116277760 : Nat) = 2 ^ 24 * (10 * 2 ^ 16) := by decide
  calc (v.num * y.den - y.num * v.den).natAbs * 10995116277760
      = ((v.num * y.den - y.num * v.den).natAbs * 2 ^ 24) * (10 * 2 ^ 16) := by rw [h5, Nat.mul_assoc]
    _ ≤ (2 ^ k * (y.den * v.den)) * (10 * 2 ^ 16) := Nat.mul_le_mul_right _ (rnd_err32 h.1 hb hr)
    _ = 2 ^ (k + 16) * 10 * v.den * y.den := by rw [Nat.pow_add]; ac_rfl

theorem Near.rnd64 {y v : Q} {s : Int} {E : Nat} (h : Near y s E) (hb : y.num.natAbs ≤ 2 ^ 16 * y.den)
    (hr : rnd f64 y = some v) : Near v s (E + 8) := by
  refine h.of_err (rnd_canon f64 hr).1 ?_
  -- |v yd − y vd| * 2^53 ≤ 2^16 yd vd, and 10·2^40 * 2^16 = 80 * 2^53
  have hh : (v.num * y.den - y.num * v.den).natAbs * 10995116277760 * 2 ^ 53 ≤ (8 * 10 * v.den * y.den) * 2 ^ 53 := by
    calc (v.num * y.den - y.num * v.den).natAbs * 10995116277760 * 2 ^ 53
        = ((v.num * y.den - y.num * v.den).natAbs * 2 ^ 53) * 10995116277760 := by ac_rfl
      _ ≤ (2 ^ 16 * (y.den * v.den)) * 10995116277760 := Nat.mul_le_mul_right _ (rnd_err64 h.1 hb hr)
      _ = (y.den * v.den) * (2 ^ 16 * 10995116277760) := by ac_rfl
      _ = (y.den * v.den) * (80 * 2 ^ 53) := by
        have : (2 : Nat) ^ 16 * 10995116277760 = 80 * 2 ^ 53 := by decide
        rw [this]
      _ = (8 * 10 * v.den * y.den) * 2 ^ 53 := by ac_rfl
  exact Nat.le_of_mul_le_mul_right hh (Nat.two_pow_pos 53)

/-- a value within less than a half of the integer `n` rounds (`math.Round`) to `n` -/
theorem Near.roundAway {y : Q} {n : Int} {E : Nat} (h : Near y (10 * n) E) (hE : 2 * E < 2 ^ 40) :
    y.roundAway = n := by
  have hd := h.1
  -- 2 |num − n·den| < den
  have e : dev y (10 * n) = (y.num - n * y.den) * 10995116277760 := by
    unfold dev
    rw [Int.sub_mul]
    congr 1
    have : (10 : Int) * n * 1099511627776 * y.den = n * y.den * (10 * 1099511627776) := by ac_rfl
    rw [this]
    have : (10 : Int) * 1099511627776 = 10995116277760 := by decide
    rw [this]
  have h2 := h.2
  rw [e, Int.natAbs_mul] at h2
  have h5 : (10995116277760 : Int).natAbs = 10995116277760 := rfl
  rw [h5] at h2
  have h3 : 2 * (y.num - n * y.den).natAbs * 1099511627776 < y.den * 1099511627776 := by
    have a : 2 * ((y.num - n * y.den).natAbs * 10995116277760) ≤ 2 * (E * 10 * y.den) := Nat.mul_le_mul_left _ h2
    have b : 2 * (E * 10 * y.den) = (2 * E) * (10 * y.den) := by ac_rfl
    have c : (2 * E) * (10 * y.den) < 1099511627776 * (10 * y.den) :=
      Nat.mul_lt_mul_of_pos_right hE (by omega)
    have d : 2 * ((y.num - n * y.den).natAbs * 10995116277760) = (2 * (y.num - n * y.den).natAbs * 1099511627776) * 10 := by
      have : (10995116277760 : Nat) = 1099511627776 * 10 := by decide
      rw [this]; ac_rfl
    have f : 1099511627776 * (10 * y.den) = (y.den * 1099511627776) * 10 := by ac_rfl
    omega
  have h4 : 2 * (y.num - n * y.den).natAbs < y.den := Nat.lt_of_mul_lt_mul_right h3
  obtain ⟨r1, r2⟩ := Q.roundAway_spec y hd
  -- R < n + 1 and n < R + 1
  have hdI : (0 : Int) < y.den := by omega
  have u1 : y.roundAway * y.den < (n + 1) * y.den := by
    rw [Int.add_mul, Int.one_mul]
    have : 2 * y.roundAway * y.den = 2 * (y.roundAway * y.den) := Int.mul_assoc _ _ _
    omega
  have u2 : n * y.den < (y.roundAway + 1) * y.den := by
    rw [Int.add_mul, Int.one_mul]
    have : 2 * y.roundAway * y.den = 2 * (y.roundAway * y.den) := Int.mul_assoc _ _ _
    omega
  have v1 := Int.lt_of_mul_lt_mul_right u1 (by omega)
  have v2 := Int.lt_of_mul_lt_mul_right u2 (by omega)
  omega

/-- rounding to float32 of a value near `s/10` with `|s/10| + 1 ≤ 2^k`: finite, `2^(k+16)` more units of error -/
theorem rnd32N {z : Q} {s : Int} {E : Nat} (k : Nat) (hz : Near z s E) (hE : E ≤ 2 ^ 40)
    (hs : s.natAbs + 10 ≤ 10 * 2 ^ k) (hk : 2 ^ k ≤ 2 ^ 24) :
    ∃ v, rnd f32 z = some v ∧ Near v s (E + 2 ^ (k + 16)) := by
  have hb : Bd z (2 ^ k) := hz.bd hE hs
  obtain ⟨v, hv, _⟩ := fltFacts.abs_le32 _ _ hk hb
  exact ⟨v, hv, hz.rnd32 hb.2 hv⟩

/-- one float32 addition of values whose exact sum is below 255: `2^24` more units of error -/
theorem add32N {x y : Q} {s t : Int} {E F : Nat} (hx : Near x s E) (hy : Near y t F)
    (hs : (s + t).natAbs ≤ 2540) (hE : E + F ≤ 2 ^ 40) :
    ∃ v, add f32 x y = some v ∧ Near v (s + t) (E + F + 16777216) :=
  rnd32N 8 (hx.add hy) hE (by omega) (by decide)

theorem sub32N {x y : Q} {s t : Int} {E F : Nat} (hx : Near x s E) (hy : Near y t F)
    (hs : (s - t).natAbs ≤ 2540) (hE : E + F ≤ 2 ^ 40) :
    ∃ v, sub f32 x y = some v ∧ Near v (s - t) (E + F + 16777216) :=
  rnd32N 8 (hx.sub hy) hE (by omega) (by decide)

/-- the final subtraction `PositionPlay(turn) - PositionPlay(opponent)`: below 511 -/
theorem sub32N' {x y : Q} {s t : Int} {E F : Nat} (hx : Near x s E) (hy : Near y t F)
    (hs : (s - t).natAbs ≤ 5100) (hE : E + F ≤ 2 ^ 40) :
    ∃ v, sub f32 x y = some v ∧ Near v (s - t) (E + F + 33554432) :=
  rnd32N 9 (hx.sub hy) hE (by omega) (by decide)

theorem addIf32N {x y : Q} {s t : Int} {E F : Nat} (c : Bool) (hx : Near x s E) (hy : Near y t F)
    (hs : (s + t).natAbs ≤ 2540) (hE : E + F ≤ 2 ^ 40) :
    ∃ v, addIf c y x = some v ∧ Near v (s + if c then t else 0) (E + F + 16777216) := by
  cases c
  · refine ⟨x, ?_, ?_⟩
    · unfold addIf; exact if_neg (by decide)
    · simp only [Bool.false_eq_true, if_false, Int.add_zero]
      exact hx.mono (by omega)
  · obtain ⟨v, hv, hn⟩ := add32N hx hy hs hE
    refine ⟨v, ?_, by simpa using hn⟩
    unfold addIf
    rw [if_pos rfl]
    exact hv

end Morlock.Proofs.Turochamp
