import Morlock.Proofs.AttackScan
import Morlock.Proofs.AttackTables
/-!
# The rotated-bitboard invariant

`RotInv occ r`: `r.rot` is the occupancy itself and each rotated board has bit `T[sq]` set iff
bit `sq` of the occupancy is set (`T` the generated table), with nothing set at or above bit 64.
`newRotated` establishes it; `Rotated.xor` preserves it (the tables are injective into `0..63`,
`AttackTables`).
-/
namespace Morlock.Proofs.Attack
open Morlock Morlock.Model

structure RotInv (occ : Nat) (r : Rotated) : Prop where
  occ_lt : occ < 2 ^ 64
  rot : r.rot = occ
  lt90 : r.rot90 < 2 ^ 64
  lt45L : r.rot45L < 2 ^ 64
  lt45R : r.rot45R < 2 ^ 64
  bit90 : ∀ s, s < 64 → r.rot90.testBit (Gen.rot90[s]!) = occ.testBit s
  bit45L : ∀ s, s < 64 → r.rot45L.testBit (Gen.rot45L[s]!) = occ.testBit s
  bit45R : ∀ s, s < 64 → r.rot45R.testBit (Gen.rot45R[s]!) = occ.testBit s

theorem xor_inv {occ : Nat} {r : Rotated} {sq : Nat} (hsq : sq < 64) (h : RotInv occ r) :
    RotInv (occ ^^^ bitMask sq) (r.xor sq) where
  occ_lt := Nat.xor_lt_two_pow h.occ_lt (bitMask_lt hsq)
  rot := by rw [← h.rot]; rfl
  lt90 := Nat.xor_lt_two_pow h.lt90 (bitMask_lt (perm_rot90.lt hsq))
  lt45L := Nat.xor_lt_two_pow h.lt45L (bitMask_lt (perm_rot45L.lt hsq))
  lt45R := Nat.xor_lt_two_pow h.lt45R (bitMask_lt (perm_rot45R.lt hsq))
  bit90 := perm_rot90.view_xor hsq h.bit90
  bit45L := perm_rot45L.view_xor hsq h.bit45L
  bit45R := perm_rot45R.view_xor hsq h.bit45R

/-- The first `n + 1` squares of `occ` are the first `n` with square `n` toggled in if it is set. -/
theorem mod_two_pow_succ (occ n : Nat) :
    occ % 2 ^ (n + 1) = if occ.testBit n then occ % 2 ^ n ^^^ 2 ^ n else occ % 2 ^ n := by
  apply Nat.eq_of_testBit_eq
  intro i
  by_cases ho : occ.testBit n = true <;>
    simp only [ho, if_true, Bool.false_eq_true, if_false, Nat.testBit_xor, Nat.testBit_mod_two_pow,
      Nat.testBit_two_pow]
  all_goals
    by_cases e : n = i
    · subst e; simp [ho]
    · have : decide (i < n + 1) = decide (i < n) := decide_eq_decide.mpr (by omega)
      simp [e, this]

/-- The loop of `NewRotatedBitboard`: after `n` squares the invariant holds for the first `n` squares of
    `occ`; each set square is one `Xor`. -/
theorem newRotatedAux_inv (occ : Nat) :
    ∀ fuel n r, n + fuel = 64 → RotInv (occ % 2 ^ n) r → RotInv (occ % 2 ^ 64) (newRotatedAux occ fuel n r) := by
  intro fuel
  induction fuel with
  | zero => intro n r hn h; rwa [show n = 64 by omega] at h
  | succ fuel ih =>
    intro n r hn h
    have hn64 : n < 64 := by omega
    unfold newRotatedAux
    apply ih (n + 1) _ (by omega)
    rw [isSet_lt _ hn64, mod_two_pow_succ]
    split
    · have := xor_inv hn64 h; rwa [Proofs.bitMask_lt hn64] at this
    · exact h

theorem newRotated_inv (occ : Nat) (hocc : occ < 2 ^ 64) : RotInv occ (newRotated occ) := by
  have h0 : RotInv (occ % 2 ^ 0) {} := by
    rw [Nat.pow_zero, Nat.mod_one]
    exact ⟨Nat.two_pow_pos 64, rfl, Nat.two_pow_pos 64, Nat.two_pow_pos 64, Nat.two_pow_pos 64,
      fun _ _ => by simp, fun _ _ => by simp, fun _ _ => by simp⟩
  have h := newRotatedAux_inv occ 64 0 {} rfl h0
  rwa [Nat.mod_eq_of_lt hocc] at h

end Morlock.Proofs.Attack
