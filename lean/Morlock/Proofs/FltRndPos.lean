import Morlock.Proofs.FltExpo
/-! # `rndPos`: specification, totality below the overflow threshold, its value on normalised pairs, dependence on the ratio only -/
namespace Morlock.Model.Flt

/-- `|a/b − m·2^e| ≤ 2^e / 2` -/
def HalfUlp (a b m : Nat) (e : Int) : Prop :=
  2 * m * (b * pn e) ≤ 2 * (a * pd e) + b * pn e ∧ 2 * (a * pd e) ≤ 2 * m * (b * pn e) + b * pn e

/-- `|a/b − m·2^e| = 2^e / 2` -/
def IsTie (a b m : Nat) (e : Int) : Prop :=
  2 * m * (b * pn e) = 2 * (a * pd e) + b * pn e ∨ 2 * (a * pd e) = 2 * m * (b * pn e) + b * pn e

/-- the significand before renormalisation -/
def sig0 (f : Fmt) (a b : Nat) : Nat := roundHalfEven (a * pd (expo f a b)) (b * pn (expo f a b))

/-- `rndPos_eq` with the significand named -/
theorem rndPos_eq' (f : Fmt) (a b : Nat) :
    rndPos f a b = if (carry f (sig0 f a b) (expo f a b)).2 + ((f.p : Int) - 1) > f.emax then none
      else some (carry f (sig0 f a b) (expo f a b)) := rndPos_eq f a b

theorem sig0_le (f : Fmt) (hp : 1 ≤ f.p) {a b : Nat} (ha : 0 < a) (hb : 0 < b) : sig0 f a b ≤ 2 ^ f.p := by
  have h := (expo_spec f hp ha hb).upper
  apply rhe_le (Nat.mul_pos hb (pn_pos _))
  rw [← Nat.mul_assoc]; exact Nat.le_of_lt h

theorem sig0_normal (f : Fmt) (hp : 1 ≤ f.p) {a b : Nat} (ha : 0 < a) (hb : 0 < b) :
    2 ^ (f.p - 1) ≤ sig0 f a b ∨ expo f a b = f.emin := by
  rcases (expo_spec f hp ha hb).lower with h | h
  · exact Or.inr h
  · exact Or.inl (le_rhe (Nat.mul_pos hb (pn_pos _)) (by rw [← Nat.mul_assoc]; exact h))

/-- with `s1/s2 = 2·t1/t2`: `|s1/s2 − 2k| ≤ 1/2` gives `|t1/t2 − k| ≤ 1/4 < 1/2` -/
theorem halve_bounds {s1 s2 t1 t2 k : Nat} (hs2 : 0 < s2) (ht2 : 0 < t2) (hrel : s1 * t2 = 2 ^ 1 * t1 * s2)
    (h1 : 2 * (2 * k) * s2 ≤ 2 * s1 + s2) (h2 : 2 * s1 ≤ 2 * (2 * k) * s2 + s2) :
    2 * k * t2 < 2 * t1 + t2 ∧ 2 * t1 < 2 * k * t2 + t2 := by
  rw [Nat.pow_one] at hrel
  -- `h1`, `h2` brought from the scale `s2` to the scale `t2`
  have e1 : 2 * (2 * k) * s2 * t2 = 2 * (2 * (k * t2)) * s2 := by ac_rfl
  have e2 : 2 * s1 * t2 = 2 * (2 * t1) * s2 := by rw [Nat.mul_assoc, hrel]; ac_rfl
  have e3 : s2 * t2 = t2 * s2 := Nat.mul_comm ..
  have h1 := (cmp_scale (B' := 2 * (2 * t1) + t2) ht2 hs2 e1 (by rw [Nat.add_mul, Nat.add_mul, e2, e3])).2.mp h1
  have h2 := (cmp_scale (B' := 2 * (2 * (k * t2)) + t2) ht2 hs2 e2 (by rw [Nat.add_mul, Nat.add_mul, e1, e3])).2.mp h2
  rw [Nat.mul_assoc 2 k]
  omega

theorem HalfUlp.halve {a b k : Nat} {e : Int} (hb : 0 < b) (h : HalfUlp a b (2 * k) e) :
    HalfUlp a b k (e + 1) ∧ ¬ IsTie a b k (e + 1) := by
  have := halve_bounds (Nat.mul_pos hb (pn_pos e)) (Nat.mul_pos hb (pn_pos (e + 1)))
    (scaled_ratio_shift (show e + 1 = e + (1 : Nat) by omega) a b) h.1 h.2
  exact ⟨⟨Nat.le_of_lt this.1, Nat.le_of_lt this.2⟩, fun t => t.elim (fun t => by omega) (fun t => by omega)⟩

theorem rndPos_spec (f : Fmt) (hp : 1 ≤ f.p) {a b m : Nat} {e : Int} (ha : 0 < a) (hb : 0 < b)
    (h : rndPos f a b = some (m, e)) :
    m < 2 ^ f.p ∧ f.emin ≤ e ∧ e + ((f.p : Int) - 1) ≤ f.emax ∧ (2 ^ (f.p - 1) ≤ m ∨ e = f.emin) ∧
    HalfUlp a b m e ∧ (IsTie a b m e → m % 2 = 0) := by
  rw [rndPos_eq'] at h
  have hs2 : 0 < b * pn (expo f a b) := Nat.mul_pos hb (pn_pos _)
  have hspec : HalfUlp a b (sig0 f a b) (expo f a b) := rhe_spec (a * pd (expo f a b)) (b * pn (expo f a b)) hs2
  refine fin_spec f hp (P := fun m e => HalfUlp a b m e ∧ (IsTie a b m e → m % 2 = 0)) (sig0_le f hp ha hb)
    (expo_spec f hp ha hb).ge (sig0_normal f hp ha hb)
    ⟨hspec, rhe_tie (a * pd (expo f a b)) (b * pn (expo f a b)) hs2⟩ (fun hc => ?_) h
  -- rounded up to `2^p`: the value is `2^(p-1)` at the next exponent, strictly inside the half ulp
  rw [hc, ← two_pow_pred hp] at hspec
  obtain ⟨hh, hnt⟩ := hspec.halve hb
  exact ⟨hh, fun t => absurd t hnt⟩

/-- finite below the midpoint between `(2^p − 1)·2^E` and `2^p·2^E`, `E = emax − (p−1)`: the exponent is at most `E`, and at `E`
the significand rounds to less than `2^p` -/
theorem rndPos_isSome_of_lt (f : Fmt) (wf : f.WF) {a b : Nat} (ha : 0 < a) (hb : 0 < b)
    (h : 2 * a * pd (f.emax - ((f.p : Int) - 1)) < (2 ^ (f.p + 1) - 1) * b * pn (f.emax - ((f.p : Int) - 1))) :
    (rndPos f a b).isSome := by
  have hp := wf.p_pos
  have hE := expo_spec f hp ha hb
  generalize hEE : f.emax - ((f.p : Int) - 1) = E at h
  have hEmin : f.emin ≤ E := by have := wf.range; omega
  rw [Nat.mul_assoc, Nat.mul_assoc] at h
  have hs2 : 0 < b * pn E := Nat.mul_pos hb (pn_pos _)
  have hN : 2 ^ (f.p + 1) - 1 + 1 = 2 * 2 ^ f.p := by
    have := Nat.two_pow_pos f.p; rw [Nat.pow_succ]; omega
  have h2 : 2 * (a * pd E) + b * pn E < 2 * 2 ^ f.p * (b * pn E) := by
    rw [← hN, Nat.add_mul, Nat.one_mul]; omega
  have hup : a * pd E < 2 ^ f.p * b * pn E := by
    rw [Nat.mul_assoc 2] at h2; rw [Nat.mul_assoc]; omega
  have hle := isExpo_le hp hE hEmin hup
  rw [rndPos_eq']
  apply fin_isSome_iff.mpr
  rcases Int.lt_or_eq_of_le hle with hl | heq
  · have := (carry_normal f hp (sig0_le f hp ha hb) hE.ge (sig0_normal f hp ha hb)).2.2.2
    omega
  · have hlt : sig0 f a b < 2 ^ f.p := by unfold sig0; rw [heq]; exact rhe_lt hs2 h2
    rw [carry_of_ne (Nat.ne_of_lt hlt)]
    simp only []; omega

theorem rndPos_isSome (f : Fmt) (wf : f.WF) {a b : Nat} (ha : 0 < a) (hb : 0 < b)
    (h : a * pd (f.emax - ((f.p : Int) - 1)) ≤ (2 ^ f.p - 1) * b * pn (f.emax - ((f.p : Int) - 1))) :
    (rndPos f a b).isSome := by
  apply rndPos_isSome_of_lt f wf ha hb
  have hs2 : 0 < b * pn (f.emax - ((f.p : Int) - 1)) := Nat.mul_pos hb (pn_pos _)
  have hN : 2 ^ (f.p + 1) - 1 = 2 * (2 ^ f.p - 1) + 1 := by
    have := Nat.two_pow_pos f.p; rw [Nat.pow_succ]; omega
  rw [Nat.mul_assoc] at h
  rw [hN, Nat.mul_assoc, Nat.mul_assoc, Nat.add_mul, Nat.one_mul, Nat.mul_assoc]
  omega

theorem rndPos_isSome_of_le_two_pow (f : Fmt) (wf : f.WF) {a b : Nat} (ha : 0 < a) (hb : 0 < b)
    (h : a * pd f.emax ≤ b * pn f.emax) : (rndPos f a b).isSome := by
  apply rndPos_isSome f wf ha hb
  have hp := wf.p_pos
  -- 2^emax = 2^(p-1) · 2^(emax-(p-1)) ≤ (2^p - 1) · 2^(emax-(p-1))
  have h' := (le_shift (show f.emax = f.emax - ((f.p : Int) - 1) + ((f.p - 1 : Nat) : Int) by omega) a b).mpr h
  have hle : 2 ^ (f.p - 1) ≤ 2 ^ f.p - 1 := by have := two_pow_pred_lt hp; omega
  exact Nat.le_trans h' (Nat.mul_le_mul_right _ (Nat.mul_le_mul_right _ hle))

/-- a normalised pair satisfies the characterisation of the grid exponent, at which the significand is the integer `m` -/
theorem rndPos_of_normal (f : Fmt) (hp : 1 ≤ f.p) {a b m : Nat} {e : Int} (ha : 0 < a) (hb : 0 < b)
    (hv : a * pd e = m * b * pn e) (hm : m < 2 ^ f.p) (he : f.emin ≤ e) (hmax : e + ((f.p : Int) - 1) ≤ f.emax)
    (hn : 2 ^ (f.p - 1) ≤ m ∨ e = f.emin) : rndPos f a b = some (m, e) := by
  have hI : IsExpo f a b e := by
    refine ⟨he, ?_, hn.symm.imp id fun h => ?_⟩ <;> rw [hv]
    · exact (Nat.mul_lt_mul_right (pn_pos _)).mpr ((Nat.mul_lt_mul_right hb).mpr hm)
    · exact Nat.mul_le_mul_right _ (Nat.mul_le_mul_right _ h)
  have hee := isExpo_unique hp hb hb (expo_spec f hp ha hb) hI rfl
  rw [rndPos_eq']
  unfold sig0
  rw [hee, hv, Nat.mul_assoc, rhe_exact _ _ (Nat.mul_pos hb (pn_pos _)), carry_of_ne (Nat.ne_of_lt hm),
    if_neg (by simp only []; omega)]

theorem rndPos_congr (f : Fmt) (hp : 1 ≤ f.p) {a b a' b' : Nat} (ha : 0 < a) (hb : 0 < b) (ha' : 0 < a') (hb' : 0 < b')
    (hr : a * b' = a' * b) : rndPos f a b = rndPos f a' b' := by
  have he := expo_congr (f := f) hp ha hb ha' hb' hr
  have hm : sig0 f a b = sig0 f a' b' := by
    unfold sig0
    rw [← he]
    exact rhe_congr (Nat.mul_pos hb (pn_pos _)) (Nat.mul_pos hb' (pn_pos _))
      (Nat.le_antisymm (ratio_le_scale (Nat.le_of_eq hr) _ _) (ratio_le_scale (Nat.le_of_eq hr.symm) _ _))
  rw [rndPos_eq', rndPos_eq', he, hm]

end Morlock.Model.Flt
