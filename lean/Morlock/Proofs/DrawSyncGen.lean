import Morlock.Proofs.DrawSync
/-!
# C05 / C14: lock-step with the reference game at every node of the line

`Sync z g w b` ties the clock of the reference game `g` to the clock of the *current* node only. That is not enough to
survive a take-back: after a clock-resetting move both clocks are `0` whatever they were before. `SyncAll` closes
the gap: the clocks agree at every node of the line, and the moves of `g` are exactly the moves stored on the line.
-/
namespace Morlock.Proofs.Draw
open Morlock Morlock.Model Morlock.Model.World Morlock.Proofs Morlock.Proofs.Arena Morlock.Proofs.Material

def gpop (g : Spec.Game) : Spec.Game := { g with moves := g.moves.dropLast }

@[simp] theorem gpop_start (g : Spec.Game) : (gpop g).start = g.start := rfl
@[simp] theorem gpop_moves (g : Spec.Game) : (gpop g).moves = g.moves.dropLast := rfl

theorem gpop_gsnoc (g : Spec.Game) (m : Spec.SMove) : gpop (gsnoc g m) = g := by
  unfold gpop gsnoc
  simp

theorem gsnoc_gpop (g : Spec.Game) (h : g.moves ≠ []) : g = gsnoc (gpop g) (g.moves.getLast h) := by
  unfold gpop gsnoc
  simp only [List.dropLast_concat_getLast]

theorem fullmove_snoc (g : Spec.Game) (m : Spec.SMove) :
    (gsnoc g m).fullmove = if g.current.turn = .black then g.fullmove + 1 else g.fullmove := by
  unfold Spec.Game.fullmove
  simp only [gsnoc_moves, gsnoc_start, List.foldl_append, List.foldl_cons, List.foldl_nil]
  rw [fold_fst (fun p h _ => if p.turn = .black then h + 1 else h), ← current_eq_foldl]

theorem abs_turn_black (p : Position) (t : Color) : (abs p t).turn = .black ↔ t = .black := by
  cases t <;> simp [abs, absColor]

/-- `Sync` only reads the view of the board. -/
theorem sync_of_view {z : ZTable} {g : Spec.Game} {w w' : World} {a a' : Nat} (hv : view w' a' = view w a)
    (hs : Sync z g w a) : Sync z g w' a' := by
  refine ⟨goodHistory_of_view hv hs.hist, ?_, ?_, ?_⟩
  · rw [lineK_of_view hv]; exact hs.posOK
  · rw [lineK_of_view hv, turn_of_view hv]; exact hs.positions
  · rw [clock_of_view hv]; exact hs.clock

theorem Sync.moves_length {z : ZTable} {g : Spec.Game} {w : World} {b : Nat} (h : Sync z g w b) :
    g.moves.length + 1 = (lineK w b).length := by
  have := congrArg List.length h.positions
  rw [List.length_reverse, positions_length, List.length_map, sided_length] at this
  exact this

theorem Sync.start {z : ZTable} {g : Spec.Game} {w : World} {b : Nat} (h : Sync z g w b) :
    ((sided (w.board b).turn (lineK w b)).getLast?.map fun e => abs e.1.pos e.2) = some g.start.pos := by
  rw [← List.getLast?_map, ← h.positions, List.getLast?_reverse]
  exact positions_head g

/-- `Sync` reads the reference game through its positions and its current clock only: the set-up clock may differ
once a resetting move has been played. -/
theorem sync_congr {z : ZTable} {g g' : Spec.Game} {w : World} {b : Nat} (hs : Sync z g w b)
    (hstart : g'.start.pos = g.start.pos) (hmoves : g'.moves = g.moves) (hclk : g'.halfmove = g.halfmove) :
    Sync z g' w b := by
  have hpos : g'.positions = g.positions := by
    unfold Spec.Game.positions
    rw [hstart, hmoves]
  exact ⟨hs.hist, hs.posOK, by rw [hpos]; exact hs.positions, by rw [hclk]; exact hs.clock⟩

/-- Along the line `l` (current node first) the clock of every node is the half-move clock of the reference game
with start `s` and the corresponding prefix of the moves (`ms` = the moves, latest first). -/
def ClockLine (s : Spec.FenGame) : List Spec.SMove → List Node → Prop
  | _, [] => True
  | ms, n :: r =>
    ((({ start := s, moves := ms.reverse } : Spec.Game).halfmove : Nat) : Int) = n.noprogress ∧ ClockLine s ms.tail r

/-- The moves stored on the line of board `b` (the `next` fields of the strict ancestors), oldest first. -/
def lineMoves (w : World) (b : Nat) : List Spec.SMove :=
  ((view w b).past.map fun n => absMove n.next).reverse

theorem lineMoves_eq (w : World) (b : Nat) :
    lineMoves w b = ((anc w (w.cur b).prev).map fun n => absMove n.next).reverse := by
  unfold lineMoves view
  simp only [List.map_map]
  rfl

theorem lineMoves_push {z : ZTable} {w w' : World} {b : Nat} {m : Move} (hw : WFWorld w) (hb : b < w.boards.size)
    (h : w.pushMove z b m = some w') : lineMoves w' b = lineMoves w b ++ [absMove m] := by
  obtain ⟨_, _, _, _, _, _, hpast⟩ := vlineK_push (push_view_some hw hb h)
  unfold lineMoves
  rw [hpast, List.map_cons, List.reverse_cons]

theorem lineMoves_pop {w w' : World} {b : Nat} {m : Move} (hw : WFWorld w) (hb : b < w.boards.size)
    (h : w.popMove b = some (w', m)) : lineMoves w b = lineMoves w' b ++ [absMove m] := by
  obtain ⟨_, _, _, p, hpast, _, hm⟩ := vlineK_pop (pop_view_some hw hb h)
  unfold lineMoves
  rw [hpast, hm, List.map_cons, List.reverse_cons]

/-- Lock-step at every node of the line. -/
structure SyncAll (z : ZTable) (g : Spec.Game) (w : World) (b : Nat) : Prop where
  sync : Sync z g w b
  clocks : ClockLine g.start g.moves.reverse (lineK w b)
  moves : g.moves = lineMoves w b

theorem clockLine_root (s : Spec.FenGame) : ∀ (l : List Node) (ms : List Spec.SMove), ClockLine s ms l →
    l.length = ms.length + 1 → (l.getLast?.map fun n => n.noprogress) = some (s.halfmove : Int)
  | [], _, _, hlen => by simp at hlen
  | [n], ms, h, hlen => by
    have : ms = [] := by
      cases ms with
      | nil => rfl
      | cons _ _ => simp at hlen
    subst this
    simp only [List.getLast?_singleton, Option.map_some, Option.some.injEq]
    exact h.1.symm
  | n :: n' :: r, ms, h, hlen => by
    rw [List.getLast?_cons_cons]
    apply clockLine_root s (n' :: r) ms.tail h.2
    cases ms with
    | nil => simp at hlen
    | cons _ t => simpa using hlen

theorem SyncAll.root_clock {z : ZTable} {g : Spec.Game} {w : World} {b : Nat} (h : SyncAll z g w b) :
    ((lineK w b).getLast?.map fun n => n.noprogress) = some (g.start.halfmove : Int) := by
  apply clockLine_root g.start _ _ h.clocks
  rw [List.length_reverse]
  exact h.sync.moves_length.symm

theorem syncAll_of_view {z : ZTable} {g : Spec.Game} {w w' : World} {a a' : Nat} (hv : view w' a' = view w a)
    (hs : SyncAll z g w a) : SyncAll z g w' a' := by
  refine ⟨sync_of_view hv hs.sync, ?_, ?_⟩
  · rw [lineK_of_view hv]; exact hs.clocks
  · unfold lineMoves; rw [hv]; exact hs.moves

theorem syncAll_newBoard (w : World) (z : ZTable) {pos : Position} (turn : Color) (n0 f : Nat) (fm : Int)
    (hpos : PosOK pos) :
    SyncAll z { start := { pos := abs pos turn, halfmove := n0, fullmove := f }, moves := [] }
      (w.newBoard z pos turn (n0 : Int) fm).1 (w.newBoard z pos turn (n0 : Int) fm).2 := by
  refine ⟨sync_newBoard w z turn n0 f fm hpos, ?_, ?_⟩
  · rw [newBoard_line]
    exact ⟨rfl, trivial⟩
  · unfold lineMoves view
    rw [(newBoard_cur w z pos turn n0 fm).1]
    rfl

theorem syncAll_push {z : ZTable} {g : Spec.Game} {w w' : World} {b : Nat} {m : Move} (hz : z.enpassant 0 = 0)
    (hw : WFWorld w) (hb : b < w.boards.size) (h : w.pushMove z b m = some w') (hs : SyncAll z g w b)
    (hstep : FullStep (w.cur b).pos (w.board b).turn m (w'.cur b).pos) :
    SyncAll z (gsnoc g (absMove m)) w' b := by
  have hs' := sync_push hz hw hb h hs.sync hstep
  obtain ⟨hl, _⟩ := push_line hw hb h
  refine ⟨hs', ?_, ?_⟩
  · rw [hl]
    have hrev : (gsnoc g (absMove m)).moves.reverse = absMove m :: g.moves.reverse := by simp
    rw [hrev]
    refine ⟨?_, hs.clocks⟩
    have hg : ({ start := (gsnoc g (absMove m)).start, moves := (absMove m :: g.moves.reverse).reverse } : Spec.Game)
        = gsnoc g (absMove m) := by
      unfold gsnoc; simp
    rw [hg]
    exact hs'.clock
  · rw [lineMoves_push hw hb h, gsnoc_moves, hs.moves]

theorem view_newBoard_old {w : World} (hw : WFWorld w) (z : ZTable) (pos : Position) (turn : Color) (np fm : Int)
    {a : Nat} (ha : a < w.boards.size) : view (w.newBoard z pos turn np fm).1 a = view w a := by
  have hbd : (w.newBoard z pos turn np fm).1.board a = w.board a := by
    rw [newBoard_board, if_neg (by omega)]
  have hc := hw.cur_lt a ha
  have hcur : (w.newBoard z pos turn np fm).1.cur a = w.cur a := by
    unfold cur
    rw [hbd, newBoard_node, if_neg (by omega)]
  apply frame_view hbd <;> try rw [hcur]
  intro j hj
  have h1 := ancIdx_lt hw hj
  have h2 := bound_cur_prev_le_size hw a
  rw [newBoard_node, if_neg (by omega)]

structure SyncFen (g : Spec.Game) (w : World) (b : Nat) : Prop where
  fullmove : (g.fullmove : Int) = (w.board b).moves

theorem syncFen_of_view {g : Spec.Game} {w w' : World} {a a' : Nat} (hv : view w' a' = view w a)
    (hs : SyncFen g w a) : SyncFen g w' a' :=
  ⟨by rw [hs.fullmove]; exact (congrArg View.moves hv).symm⟩

theorem syncFen_newBoard (w : World) (z : ZTable) (pos : Position) (turn : Color) (np : Int) (n0 f : Nat) :
    SyncFen { start := { pos := abs pos turn, halfmove := n0, fullmove := f }, moves := [] }
      (w.newBoard z pos turn np (f : Int)).1 (w.newBoard z pos turn np (f : Int)).2 := by
  constructor
  have hid : (w.newBoard z pos turn np (f : Int)).2 = w.boards.size := rfl
  rw [hid, newBoard_board, if_pos rfl]
  rfl

theorem syncFen_push {z : ZTable} {g : Spec.Game} {w w' : World} {b : Nat} {m : Move}
    (hw : WFWorld w) (hb : b < w.boards.size) (h : w.pushMove z b m = some w') (hs : Sync z g w b)
    (hf : SyncFen g w b) : SyncFen (gsnoc g (absMove m)) w' b := by
  obtain ⟨_, next, _, hv'⟩ := viewPush_eq_some (push_view_some hw hb h)
  have hmoves : (w'.board b).moves =
      if (w.board b).turn.opp = .white then (w.board b).moves + 1 else (w.board b).moves := congrArg View.moves hv'
  constructor
  rw [fullmove_snoc, hs.current, hmoves, ← hf.fullmove]
  cases ht : (w.board b).turn <;> simp [abs, absColor, Color.opp]

theorem syncFen_pop {z : ZTable} {g : Spec.Game} {w w' : World} {b : Nat} {m : Move}
    (hw : WFWorld w) (hb : b < w.boards.size) (h : w.popMove b = some (w', m)) (hne : g.moves ≠ [])
    (hs' : Sync z (gpop g) w' b) (hf : SyncFen g w b) : SyncFen (gpop g) w' b := by
  obtain ⟨p, r, _, _, hv'⟩ := viewPop_some (pop_view_some hw hb h)
  have hmoves : (w'.board b).moves =
      if (w.board b).turn.opp = .black then (w.board b).moves - 1 else (w.board b).moves := congrArg View.moves hv'
  have hturn : (w'.board b).turn = (w.board b).turn.opp := congrArg View.turn hv'
  have hfm := hf.fullmove
  rw [gsnoc_gpop g hne, fullmove_snoc, hs'.current, hturn] at hfm
  constructor
  rw [hmoves]
  cases ht : (w.board b).turn <;> rw [ht] at hfm <;> simp [abs, absColor, Color.opp] at hfm ⊢ <;> omega

end Morlock.Proofs.Draw
