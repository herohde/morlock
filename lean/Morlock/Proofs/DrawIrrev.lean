import Morlock.Proofs.DrawMeasure
import Morlock.Proofs.DrawHash
/-!
# C05: irreversibility from the rules

`GoodStep p t m q`: in position `p` (all views agreeing), the side `t` plays `m` - accurate metadata, sound
type, pawns forward - and `Position.move` yields `q`. Along a line of good steps (`GoodChain`) the measure
`mu` never increases going forward and drops at every clock-resetting move; with chained clocks
(`ClockChain`) and a non-negative start clock this gives `Irreversible`.
-/
namespace Morlock.Proofs.Draw
open Morlock Morlock.Model Morlock.Model.World Morlock.Proofs Morlock.Proofs.Arena

structure GoodStep (p : Position) (t : Color) (m : Move) (q : Position) : Prop where
  rep : Rep p p.square
  ok : MetaOK p m = true
  mover : ∃ pc, p.square m.from = some (t, pc)
  sound : MoveSound p.square m = true
  moved : p.move m = some q

/-- Current position `q` with `t` to move, strict ancestors `past` holding the moves in `next`. -/
def GoodChain : Position → Color → List Node → Prop
  | _, _, [] => True
  | q, t, p :: r => GoodStep p.pos t.opp p.next q ∧ GoodChain p.pos t.opp r

def muP (p : Position) : Nat := mu p.square

theorem GoodStep.rep' {p q : Position} {t : Color} {m : Move} (h : GoodStep p t m q) : Rep q q.square :=
  (move_rep h.rep h.ok h.moved).1.self

theorem GoodStep.mu_le {p q : Position} {t : Color} {m : Move} (h : GoodStep p t m q) :
    muP q ≤ muP p ∧ (isReset m = true → muP q < muP p) := by
  have hq := (move_rep h.rep h.ok h.moved).1
  have hb : q.square = boardAfter p.square m := hq.board_eq.symm
  unfold muP
  rw [hb]
  exact mu_boardAfter h.rep.out (by rw [← h.rep.metaOK_iff]; exact h.ok) h.sound

theorem goodChain_erase : ∀ (q : Position) (t : Color) (l : List Node),
    GoodChain q t (l.map eraseNode) ↔ GoodChain q t l
  | _, _, [] => Iff.rfl
  | q, t, p :: r => by
    simp only [List.map_cons, GoodChain, eraseNode_pos, eraseNode_next]
    rw [goodChain_erase p.pos t.opp r]

theorem goodChain_mono : ∀ (past : List Node) (q : Position) (t : Color), GoodChain q t past →
    ∀ n ∈ past, muP q ≤ muP n.pos
  | [], _, _, _ => by intro n hn; cases hn
  | p :: r, q, t, h => by
    intro n hn
    have h1 := h.1.mu_le.1
    rcases List.mem_cons.mp hn with rfl | hn
    · exact h1
    · exact Nat.le_trans h1 (goodChain_mono r p.pos t.opp h.2 n hn)

theorem clockChain_nonneg {past : List Node} {np : Int} (hc : ClockChain np past) (h : 0 ≤ rootClock np past) :
    0 ≤ np := by
  induction past generalizing np with
  | nil => exact h
  | cons p r ih =>
    rw [rootClock_cons] at h
    have := ih hc.2 h
    have h1 := hc.1
    rw [updateNoProgress_eq] at h1
    split at h1 <;> omega

/-- An ancestor `j + 1` plies back with the measure of the current position is at most `noprogress` plies back: the
measure does not increase going forward, so no move since that ancestor was a resetting one, and each added 1 to the
clock. -/
theorem same_measure_within_clock {past : List Node} {q : Position} {t : Color} {np : Int} {j : Nat} {n : Node}
    (hg : GoodChain q t past) (hc : ClockChain np past) (hroot : 0 ≤ rootClock np past)
    (hj : past[j]? = some n) (hmu : muP n.pos = muP q) : ((j : Int) + 1) ≤ np := by
  induction past generalizing q t np j with
  | nil => simp at hj
  | cons p r ih =>
    rw [rootClock_cons] at hroot
    have hnn := clockChain_nonneg hc.2 hroot
    have hstep := hg.1.mu_le
    have hle : muP p.pos ≤ muP n.pos := by
      cases j with
      | zero => cases hj; exact Nat.le_refl _
      | succ j' => exact goodChain_mono r p.pos t.opp hg.2 n (List.mem_of_getElem? hj)
    have hc1 := hc.1
    rw [updateNoProgress_eq, if_neg fun hr => by have := hstep.2 hr; omega] at hc1
    cases j with
    | zero => omega
    | succ j' => have := ih hg.2 hc.2 hroot hj (by have := hstep.1; omega); omega

theorem mem_drop_sided {l : List Node} {t : Color} {k : Nat} {e : Node × Color} (h : e ∈ (sided t l).drop k) :
    ∃ j, k ≤ j ∧ l[j]? = some e.1 := by
  have : e.1 ∈ l.drop k := by
    rw [← sided_map_fst t l, ← List.map_drop]
    exact List.mem_map_of_mem h
  obtain ⟨i, hi⟩ := List.mem_iff_getElem?.mp this
  exact ⟨k + i, Nat.le_add_right _ _, by rw [← hi, List.getElem?_drop]⟩

def GoodLine (w : World) (b : Nat) : Prop := GoodChain (w.cur b).pos (w.board b).turn (anc w (w.cur b).prev)

def RootClockOK (w : World) (b : Nat) : Prop := 0 ≤ rootClock (w.cur b).noprogress (anc w (w.cur b).prev)

theorem irreversible_of_good {w : World} {b : Nat} (hg : GoodLine w b) (hc : ClockOK w b) (hr : RootClockOK w b) :
    Irreversible w b := by
  intro e he
  rw [lineK_head, sided_cons, List.drop_succ_cons] at he
  obtain ⟨j, hk, hj⟩ := mem_drop_sided he
  rw [List.getElem?_map] at hj
  cases hanc : (anc w (w.cur b).prev)[j]? with
  | none => rw [hanc] at hj; cases hj
  | some n =>
    rw [hanc] at hj
    simp only [Option.map_some, Option.some.injEq] at hj
    cases hs : samePos (w.cur b).pos (w.board b).turn e with
    | false => rfl
    | true =>
      exfalso
      rw [samePos_iff] at hs
      have hpos : n.pos = (w.cur b).pos := by
        rw [← hs.1, ← hj]; rfl
      have := same_measure_within_clock hg hc hr hanc (by rw [hpos])
      omega

theorem goodLine_view (w : World) (b : Nat) :
    GoodLine w b ↔ GoodChain (view w b).pos (view w b).turn (view w b).past :=
  (goodChain_erase _ _ _).symm

theorem rootClockOK_view (w : World) (b : Nat) :
    RootClockOK w b ↔ 0 ≤ rootClock (view w b).noprogress (view w b).past := by
  unfold RootClockOK rootClock
  show _ ↔ 0 ≤ ((((anc w (w.cur b).prev).map eraseNode).getLast?.map (·.noprogress)).getD _)
  rw [List.getLast?_map]
  cases (anc w (w.cur b).prev).getLast? <;> rfl

end Morlock.Proofs.Draw
