import Morlock.Proofs.BookLoop
/-!
# `sargon.NewBook`, structurally

The loop of `sargon.NewBook` runs over the legal moves of the initial position; `Position.Move` accepts each of them (that is
what "legal" means), and `Strip (Encode ..)` of the successor is its four-field key: the loop cannot panic and sets one entry per
first move. Different successors have different keys, so no entry overwrites another, and the book is the initial entry followed by
one entry per first move. That the twenty successors differ, and the legality of the replies, are left to evaluation.
-/
namespace Morlock.Proofs.Book
open Morlock Morlock.Model Morlock.Model.Fen Morlock.Model.Book Morlock.Proofs Morlock.Proofs.Fen
open Morlock.Proofs.Gen Morlock.Proofs.Chain

theorem set_of_not_mem {t : Table} {k : List Char} (ms : List Move) (h : k ∉ t.map (·.1)) : t.set k ms = t ++ [(k, ms)] := by
  induction t with
  | nil => rfl
  | cons e rest ih =>
    obtain ⟨k0, ms0⟩ := e
    rw [List.map_cons, List.mem_cons, not_or] at h
    unfold Table.set
    rw [if_neg (fun e => h.1 e.symm), ih h.2]
    rfl

/-- `m[k] = ms` for each pair in turn. -/
def setAll (t : Table) (kvs : List (List Char × List Move)) : Table := kvs.foldl (fun t kv => t.set kv.1 kv.2) t

theorem setAll_eq_append : ∀ (kvs : List (List Char × List Move)) (t : Table),
    (t.map (·.1) ++ kvs.map (·.1)).Nodup → setAll t kvs = t ++ kvs
  | [], t, _ => by simp [setAll]
  | kv :: kvs, t, h => by
    have hk : kv.1 ∉ t.map (·.1) := fun hin =>
      (List.nodup_append.mp h).2.2 _ hin _ (List.mem_cons_self ..) rfl
    have ih := setAll_eq_append kvs (t ++ [kv]) (by simpa [List.append_assoc] using h)
    unfold setAll at ih ⊢
    rw [List.foldl_cons, set_of_not_mem _ hk, ih, List.append_assoc]
    rfl

def startDecoded : Decoded := ⟨startPos, .white, 0, 1⟩

/-- `response` of `sargon.NewBook`. -/
def sargonResponse (e7e5 d7d5 : Move) (m : Move) : Move := if isQueenSideOrKingPawn m then e7e5 else d7d5

theorem reach_first {m : Move} {q : Position} (hm : m ∈ startPos.legalMoves .white) (hq : startPos.move m = some q) :
    GenReach startPos .white q .black :=
  GenReach.step (GenReach.refl _ _) (mem_pseudo_of_legal hm) hq

theorem sargonStep_legal (e7e5 d7d5 : Move) (t : Table) {m : Move} (hm : m ∈ startPos.legalMoves .white) :
    ∃ q, startPos.move m = some q ∧
      sargonStep startDecoded e7e5 d7d5 t m = some (t.set (keyOf q .black) [sargonResponse e7e5 d7d5 m]) := by
  have hsome : (startPos.move m).isSome = true := by
    unfold Position.legalMoves at hm
    exact (List.mem_filter.mp hm).2
  obtain ⟨q, hq⟩ := Option.isSome_iff_exists.mp hsome
  refine ⟨q, hq, ?_⟩
  unfold sargonStep startDecoded
  simp only [hq]
  have hs := strip_encode_reach (reach_first hm hq) 0 1
  simp only [Color.opp] at hs ⊢
  rw [hs]; rfl

/-- The accepted first moves with their successors. -/
def firstSucc (ms : List Move) : List (Move × Position) :=
  ms.filterMap fun m => (startPos.move m).map fun q => (m, q)

theorem mem_firstSucc {ms : List Move} {m : Move} {q : Position} (hm : m ∈ ms) (hq : startPos.move m = some q) :
    (m, q) ∈ firstSucc ms :=
  List.mem_filterMap.mpr ⟨m, hm, by rw [hq]; rfl⟩

theorem of_mem_firstSucc {ms : List Move} {x : Move × Position} (h : x ∈ firstSucc ms) :
    x.1 ∈ ms ∧ startPos.move x.1 = some x.2 := by
  obtain ⟨m, hm, hx⟩ := List.mem_filterMap.mp h
  cases hq : startPos.move m with
  | none => rw [hq] at hx; cases hx
  | some q =>
    rw [hq] at hx
    cases hx
    exact ⟨hm, hq⟩

/-- The entry the loop writes for a first move and its successor. -/
def sargonEntryOf (e7e5 d7d5 : Move) (x : Move × Position) : List Char × List Move :=
  (keyOf x.2 .black, [sargonResponse e7e5 d7d5 x.1])

/-- The loop over legal first moves sets one entry per move, keyed on the successor; it cannot panic. -/
theorem sargonLoop_eq (e7e5 d7d5 : Move) : ∀ (ms : List Move) (t : Table),
    (∀ m ∈ ms, m ∈ startPos.legalMoves .white) →
    sargonLoop startDecoded e7e5 d7d5 t ms = some (setAll t ((firstSucc ms).map (sargonEntryOf e7e5 d7d5)))
  | [], _, _ => rfl
  | m :: ms, t, hms => by
    obtain ⟨q, hq, hstep⟩ := sargonStep_legal e7e5 d7d5 t (hms m (List.mem_cons_self ..))
    have hfs : firstSucc (m :: ms) = (m, q) :: firstSucc ms := by
      unfold firstSucc
      rw [List.filterMap_cons, hq]; rfl
    unfold sargonLoop
    rw [hstep]
    simp only
    rw [sargonLoop_eq e7e5 d7d5 ms _ (fun m' hm' => hms m' (List.mem_cons_of_mem _ hm')), hfs]
    rfl

theorem sargonNewBook_of {init : List Move} {d7d5 e7e5 : Move} {k0 : List Char} {d : Decoded}
    (h1 : Gen.sargonInitialReplies.mapM sargonLiteral = some init)
    (h2 : sargonLiteral Gen.sargonDefaultResponse = some d7d5) (h3 : sargonLiteral Gen.sargonFileResponse = some e7e5)
    (h4 : strip initial = some k0) (h5 : decode initial = some d) :
    sargonNewBook = sargonLoop d e7e5 d7d5 [(k0, init)] (d.pos.legalMoves d.turn) := by
  simp only [sargonNewBook, h1, h2, h3, h4, h5, Option.bind_eq_bind, Option.bind_some]

theorem encode_toList_keyOf (p : Position) (c : Color) (np fm : Int) :
    (encode p c np fm).toList = keyOf p c ++ ' ' :: ((itoa np).toList ++ ' ' :: (itoa fm).toList) := by
  rw [encode_toList]
  unfold join6 keyOf join4
  simp [List.append_assoc]

theorem keyOf_inj {p p' : Position} {t t' : Color} (h : GenReach startPos .white p t)
    (h' : GenReach startPos .white p' t') (e : keyOf p t = keyOf p' t') : p = p' ∧ t = t' := by
  have d := decode_encode_reach h
  have d' := decode_encode_reach h'
  rw [encode_toList_keyOf] at d d'
  rw [e, d'] at d
  simp only [Option.some.injEq, Decoded.mk.injEq, and_true] at d
  exact ⟨d.1.symm, d.2.symm⟩

/-- With different successors nothing is overwritten: the book is the initial entry followed by one entry per first move. -/
theorem sargonLoop_full (init : List Move) (e7e5 d7d5 : Move) {ms : List Move}
    (hms : ∀ m ∈ ms, m ∈ startPos.legalMoves .white) (hnd : ((firstSucc ms).map (·.2)).Nodup) :
    sargonLoop startDecoded e7e5 d7d5 [(keyOf startPos .white, init)] ms =
      some ((keyOf startPos .white, init) :: (firstSucc ms).map (sargonEntryOf e7e5 d7d5)) ∧
    (((keyOf startPos .white, init) :: (firstSucc ms).map (sargonEntryOf e7e5 d7d5)).map (·.1)).Nodup := by
  have hreach : ∀ x ∈ firstSucc ms, GenReach startPos .white x.2 .black := fun x hx =>
    reach_first (hms _ (of_mem_firstSucc hx).1) (of_mem_firstSucc hx).2
  have hkeys : (((keyOf startPos .white, init) :: (firstSucc ms).map (sargonEntryOf e7e5 d7d5)).map (·.1)).Nodup := by
    rw [List.map_cons, List.map_map, List.nodup_cons]
    constructor
    · intro hin
      obtain ⟨x, hx, e⟩ := List.mem_map.mp hin
      cases (keyOf_inj (hreach x hx) (GenReach.refl _ _) e).2
    · rw [List.Nodup, List.pairwise_map] at hnd ⊢
      exact hnd.imp_of_mem fun {x y} hx hy hne e => hne (keyOf_inj (hreach x hx) (hreach y hy) e).1
  refine ⟨?_, hkeys⟩
  rw [sargonLoop_eq e7e5 d7d5 ms _ hms, setAll_eq_append _ _ (by simpa using hkeys)]
  rfl

end Morlock.Proofs.Book
