import Morlock.Proofs.FltLemmas
import Morlock.Model.EngineExplore
import Morlock.Proofs.ABRef
/-!
# The engines' evaluation keys are keys of (non-NaN) `float32`s: `EvalOk` for the games the engines search

`f32keyOfQ q` is computed from `Flt.bits32 q = Flt.bits f32 q`, the IEEE bit pattern of the `float32` nearest to `q`.
Every pattern that `bits f32` returns is below `2^32` and its magnitude part below `2^31`, so the key lies strictly between
`-2^31` and `2^31`. No hypothesis on `q` is needed: for a zero denominator (which no operation of `Model/Flt.lean` produces,
but which the type `Q` allows) `rndPos` returns a significand `≤ 1`, and the bound holds as well. Hence the keys are
bounded on *every* input, and the games the engines search satisfy `EvalOk` outright.
-/
namespace Morlock.Model.Flt

theorem roundHalfEven_zero_le (a : Nat) : roundHalfEven a 0 ≤ 1 := by
  unfold roundHalfEven
  simp only [Nat.div_zero, Nat.mod_zero]
  split
  · omega
  · split
    · omega
    · split <;> omega

theorem expo_ge_emin (f : Fmt) (a b : Nat) : f.emin ≤ expo f a b := by
  unfold expo
  simp only []
  split <;> omega

/-- whatever the denominator -/
theorem rndPos_bounds (f : Fmt) (hp : 1 ≤ f.p) {a b m : Nat} {e : Int} (ha : 0 < a) (h : rndPos f a b = some (m, e)) :
    m < 2 ^ f.p ∧ f.emin ≤ e ∧ e + ((f.p : Int) - 1) ≤ f.emax := by
  rcases Nat.eq_zero_or_pos b with hb | hb
  · subst hb
    rw [rndPos_eq'] at h
    split at h
    · exact absurd h (by simp)
    rename_i hov
    have hme : carry f (sig0 f a 0) (expo f a 0) = (m, e) := by simpa using h
    rw [hme] at hov
    simp only [] at hov
    have hs : sig0 f a 0 ≤ 1 := by
      unfold sig0
      rw [Nat.zero_mul]
      exact roundHalfEven_zero_le _
    have h2 : 2 ≤ 2 ^ f.p := by
      calc 2 = 2 ^ 1 := rfl
        _ ≤ 2 ^ f.p := Nat.pow_le_pow_right (by decide) hp
    have hge := expo_ge_emin f a 0
    unfold carry at hme
    split at hme
    · rename_i hc
      have hc : sig0 f a 0 = 2 ^ f.p := by simpa using hc
      omega
    · obtain ⟨rfl, rfl⟩ : sig0 f a 0 = m ∧ expo f a 0 = e := by simpa using hme
      exact ⟨by omega, hge, by omega⟩
  · obtain ⟨h1, h2, h3, _, _, _⟩ := rndPos_spec f hp ha hb h
    exact ⟨h1, h2, h3⟩

theorem rnd_den_pos {f : Fmt} {x y : Q} (h : rnd f x = some y) : 0 < y.den := by
  by_cases h0 : x.num = 0
  · rw [rnd_of_num_eq_zero f h0] at h
    have : y = ⟨0, 1⟩ := by simpa using h.symm
    subst this
    decide
  · obtain ⟨m, e, _, rfl⟩ := rnd_eq_some f h0 h
    exact (ofME_spec _ m e).1.1

theorem add_den_pos {f : Fmt} {x y r : Q} (h : add f x y = some r) : 0 < r.den := rnd_den_pos h
theorem sub_den_pos {f : Fmt} {x y r : Q} (h : sub f x y = some r) : 0 < r.den := rnd_den_pos h
theorem mul_den_pos {f : Fmt} {x y r : Q} (h : mul f x y = some r) : 0 < r.den := rnd_den_pos h
theorem div_den_pos {f : Fmt} {x y r : Q} (h : div f x y = some r) : 0 < r.den := by
  unfold div at h
  split at h
  · exact absurd h (by simp)
  · exact rnd_den_pos h

/-- the sign bit apart, a pattern produced by `bits32` is below `2^31` -/
theorem bits32_cases {q : Q} {b : Nat} (h : bits32 q = some b) :
    b < 2147483648 ∨ (2147483648 ≤ b ∧ b < 4294967296) := by
  unfold bits32 at h
  by_cases h0 : q.num = 0
  · have : b = 0 := by simpa [bits, h0] using h.symm
    omega
  · rw [bits_of_num_ne_zero f32 h0] at h
    cases hr : rndPos f32 q.num.natAbs q.den with
    | none => rw [hr] at h; simp at h
    | some me =>
      obtain ⟨m, e⟩ := me
      rw [hr] at h
      obtain ⟨hm, he1, he2⟩ := rndPos_bounds f32 (by decide) (by omega) hr
      simp only [show f32.p = 24 from rfl, show f32.ebits = 8 from rfl, show f32.emin = -149 from rfl,
        show f32.emax = 127 from rfl, Option.bind_some, Nat.reduceAdd, Nat.reduceSub, Nat.reducePow] at h hm he1 he2
      generalize hsg : (if q.num < 0 then 2147483648 else 0 : Nat) = sign at h
      have hsign : sign = 0 ∨ sign = 2147483648 := by
        rw [← hsg]; split <;> simp
      split at h
      · have : b = 0 := by simpa using h.symm
        omega
      · split at h
        · have : b = sign + m := by simpa using h.symm
          omega
        · generalize hF : (e + (((24 : Nat) : Int) - 1) + ((127 : Nat) : Int)).toNat = F at h
          have hFle : F ≤ 254 := by omega
          have : b = sign + F * 8388608 + (m - 8388608) := by simpa using h.symm
          omega

theorem bits32_lt {q : Q} {b : Nat} (h : bits32 q = some b) : b < 2 ^ 32 := by
  have : (2 : Nat) ^ 32 = 4294967296 := by decide
  rcases bits32_cases h with h1 | h1 <;> omega

-- non-vacuity: a negative value uses the sign bit (-3.5 = 0xC0600000); a zero denominator still gives a 32-bit pattern
example : bits32 ⟨-7, 2⟩ = some 3227516928 := by decide +kernel
example : bits32 ⟨-7, 0⟩ = some 2147483649 := by decide +kernel

end Morlock.Model.Flt

namespace Morlock.Model
open Morlock Morlock.Proofs.AB

theorem f32keyOfQ_bound (q : Flt.Q) : -2147483648 < f32keyOfQ q ∧ f32keyOfQ q < 2147483648 := by
  unfold f32keyOfQ
  cases h : Flt.bits32 q with
  | none => simp
  | some b =>
    simp only []
    rcases Flt.bits32_cases h with h1 | h1
    · split <;> omega
    · split <;> omega

example : f32keyOfQ ⟨-7, 2⟩ = -1080033280 := by decide +kernel
example : f32keyOfQ ⟨7, 2⟩ = 1080033280 := by decide +kernel

theorem bernsteinKeyF_bound (factor : Int) (pos : Position) (turn : Color) :
    -2147483648 < bernsteinKeyF factor pos turn ∧ bernsteinKeyF factor pos turn < 2147483648 := by
  unfold bernsteinKeyF
  cases Bernstein.evalEvaluate pos factor turn with
  | none => simp
  | some q => exact f32keyOfQ_bound q

theorem turochampKey_bound (w : World) : -2147483648 < turochampKey w ∧ turochampKey w < 2147483648 := by
  unfold turochampKey
  cases Turochamp.evaluate w 0 with
  | none => simp
  | some q => exact f32keyOfQ_bound q

theorem bernsteinGame_evalOk (z : ZTable) (factor : Int) : EvalOk (bernsteinGame z factor) := by
  intro w
  dsimp only [bernsteinGame, boardGame]
  exact bernsteinKeyF_bound factor _ _

theorem turochampGame_evalOk (z : ZTable) : EvalOk (turochampGame z) := by
  intro w
  dsimp only [turochampGame, boardGameW]
  exact turochampKey_bound w

end Morlock.Model
