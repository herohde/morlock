import Morlock.Proofs.DetSim
import Morlock.Props.C05
import Morlock.Model.BoardGame
/-!
# C18: the search game on the arena board does not depend on the Zobrist table

Two board views (`Proofs.Arena.View`: everything a board can read, arena indices erased) show the same game
(`SameView`, `SameGame`) when they are equal in every field except the node hashes and the repetition map, which
is keyed by hashes. For boards with good histories (`GoodHistory`, C05), each under its own table, a good move
(`GoodStep`) is refused by both or accepted by both, and the boards then show the same game again - in
particular they report the same result: by C05 `draw_iff_good` each result is the verdict dictated by the
whole-line occurrence count, the clock and the material, none of which mentions the table. So "same game, good
histories, and every generated move of the next `n` plies a good step" (`SeedRel`) is a simulation between
`boardGame z1 ev` and `boardGame z2 ev`.
-/
namespace Morlock.Proofs.Det
open Morlock Morlock.Model Morlock.Model.World Morlock.Proofs Morlock.Proofs.Arena Morlock.Proofs.Draw
  Morlock.Proofs.Material
open Morlock.Props.C05 (DrawVerdict ClockHit MaterialHit draw_iff_good)

def unhash (n : Node) : Node := { n with hash := 0 }

@[simp] theorem unhash_pos (n : Node) : (unhash n).pos = n.pos := rfl

/-- Two views show the same game: equal in everything but the node hashes and the repetition map. -/
structure SameView (v1 v2 : View) : Prop where
  pos : v1.pos = v2.pos
  noprogress : v1.noprogress = v2.noprogress
  past : v1.past.map unhash = v2.past.map unhash
  turn : v1.turn = v2.turn
  ply : v1.ply = v2.ply
  moves : v1.moves = v2.moves
  castledW : v1.castledW = v2.castledW
  castledB : v1.castledB = v2.castledB
  result : v1.result = v2.result

/-- Board `b1` of `w1` and board `b2` of `w2` show the same game (hashes and repetition maps unrelated). -/
def SameGame (w1 : World) (b1 : Nat) (w2 : World) (b2 : Nat) : Prop := SameView (view w1 b1) (view w2 b2)

theorem SameView.refl (v : View) : SameView v v := ⟨rfl, rfl, rfl, rfl, rfl, rfl, rfl, rfl, rfl⟩

theorem SameView.symm {v1 v2 : View} (h : SameView v1 v2) : SameView v2 v1 :=
  ⟨h.pos.symm, h.noprogress.symm, h.past.symm, h.turn.symm, h.ply.symm, h.moves.symm, h.castledW.symm,
   h.castledB.symm, h.result.symm⟩

theorem SameView.trans {v1 v2 v3 : View} (h : SameView v1 v2) (h' : SameView v2 v3) : SameView v1 v3 :=
  ⟨h.pos.trans h'.pos, h.noprogress.trans h'.noprogress, h.past.trans h'.past, h.turn.trans h'.turn,
   h.ply.trans h'.ply, h.moves.trans h'.moves, h.castledW.trans h'.castledW, h.castledB.trans h'.castledB,
   h.result.trans h'.result⟩

theorem SameView.pastPos {v1 v2 : View} (h : SameView v1 v2) : v1.past.map (·.pos) = v2.past.map (·.pos) := by
  have := congrArg (List.map (·.pos)) h.past
  simpa [List.map_map, Function.comp_def] using this

/-- The two worlds are literally equal - same arena size, same nodes index by index (position, clock, `next`,
`prev`), same board records - except for the node hashes and the repetition maps. -/
structure SameArena (w1 w2 : World) : Prop where
  node : ∀ i, unhash (w1.node i) = unhash (w2.node i)
  board : ∀ b, { w1.board b with repetitions := [] } = { w2.board b with repetitions := [] }

theorem SameArena.ancIdx {w1 w2 : World} (h : SameArena w1 w2) (o : Option Nat) : ancIdx w2 o = ancIdx w1 o :=
  path_congr _ _ fun j _ => (congrArg Node.prev (h.node j) :).symm

theorem occOf_congr_pos (pos : Position) (turn : Color) :
    ∀ (l1 l2 : List Node) (t : Color), l1.map (·.pos) = l2.map (·.pos) → occOf pos turn t l1 = occOf pos turn t l2
  | [], [], _, _ => rfl
  | [], _ :: _, _, h => by simp at h
  | _ :: _, [], _, h => by simp at h
  | n1 :: r1, n2 :: r2, t, h => by
    simp only [List.map_cons, List.cons.injEq] at h
    rw [occOf_cons, occOf_cons, occOf_congr_pos pos turn r1 r2 t.opp h.2, h.1]

theorem vlineK_pos (v : View) : (vlineK v).map (·.pos) = v.pos :: v.past.map (·.pos) := by
  simp [vlineK, List.map_map, Function.comp_def]

theorem occurrences_view (w : World) (b : Nat) :
    occurrences w b = occOf (view w b).pos (view w b).turn (view w b).turn (vlineK (view w b)) := by
  unfold occurrences
  rw [lineK_view]
  rfl

/-- Boards showing the same game have the same whole-line occurrence count (the result is not needed). -/
theorem occurrences_same {w1 w2 : World} {b1 b2 : Nat} (hpos : (view w1 b1).pos = (view w2 b2).pos)
    (hpast : (view w1 b1).past.map (·.pos) = (view w2 b2).past.map (·.pos))
    (hturn : (view w1 b1).turn = (view w2 b2).turn) : occurrences w1 b1 = occurrences w2 b2 := by
  rw [occurrences_view, occurrences_view, hpos, hturn]
  apply occOf_congr_pos
  rw [vlineK_pos, vlineK_pos, hpos, hpast]

/-- Two boards whose results are both the verdict of their history (C05 `DrawVerdict`) and whose histories
agree on occurrence count, clock and position report the same result. -/
theorem result_eq_of_verdict {w1 w2 : World} {b1 b2 : Nat} {m : Move} (h1 : DrawVerdict w1 b1 m)
    (h2 : DrawVerdict w2 b2 m) (hocc : occurrences w1 b1 = occurrences w2 b2)
    (hnp : (w1.cur b1).noprogress = (w2.cur b2).noprogress) (hpos : (w1.cur b1).pos = (w2.cur b2).pos) :
    (w1.board b1).result = (w2.board b2).result := by
  obtain ⟨a0, aM, aN, a5, a3, anone⟩ := h1
  obtain ⟨c0, cM, cN, c5, c3, cnone⟩ := h2
  have eN : ClockHit w1 b1 ↔ ClockHit w2 b2 := by unfold ClockHit; rw [hnp]
  have eM : MaterialHit w1 b1 m ↔ MaterialHit w2 b2 m := by unfold MaterialHit; rw [hpos]
  rw [hocc, eN, eM] at a0 a5 a3
  rw [eM] at aM
  rw [eN, eM] at aN
  by_cases hd : (w2.board b2).result.outcome = .draw
  · -- both report a draw; the reason is the first of `M`, `N`, 5 occurrences, 3 or 4 occurrences that holds
    have hreason : (w1.board b1).result.reason = (w2.board b2).result.reason := by
      by_cases hM : MaterialHit w2 b2 m
      · rw [aM.mpr hM, cM.mpr hM]
      · by_cases hN : ClockHit w2 b2
        · rw [aN.mpr ⟨hN, hM⟩, cN.mpr ⟨hN, hM⟩]
        · by_cases h5 : occurrences w2 b2 ≥ 5
          · rw [a5.mpr ⟨h5, hN, hM⟩, c5.mpr ⟨h5, hN, hM⟩]
          · have h34 : occurrences w2 b2 = 3 ∨ occurrences w2 b2 = 4 := by
              rcases c0.mp hd with h | h | h
              · omega
              · exact absurd h hN
              · exact absurd h hM
            rw [a3.mpr ⟨h34, hN, hM⟩, c3.mpr ⟨h34, hN, hM⟩]
    have ho := (a0.mpr (c0.mp hd)).trans hd.symm
    cases hr1 : (w1.board b1).result
    cases hr2 : (w2.board b2).result
    rw [hr1, hr2] at ho hreason
    cases ho
    cases hreason
    rfl
  · rw [anone fun h => hd (c0.mpr (a0.mp h)), cnone hd]

theorem viewPush_isSome (z : ZTable) (v : View) (m : Move) :
    (viewPush z v m).isSome = (!blockedR v.result && (v.pos.move m).isSome) := by
  unfold viewPush
  cases blockedR v.result
  · cases v.pos.move m <;> rfl
  · rfl

/-- One move on views that show the same game: the new views show the same game up to their results (which
`viewPush` computes from the repetition maps, and those the views do not share). -/
theorem SameView.push {z1 z2 : ZTable} {v1 v2 v1' v2' : View} {m : Move} (h : SameView v1 v2)
    (e1 : viewPush z1 v1 m = some v1') (e2 : viewPush z2 v2 m = some v2') :
    SameView { v1' with result := {} } { v2' with result := {} } := by
  obtain ⟨_, n1, hm1, rfl⟩ := viewPush_eq_some e1
  obtain ⟨_, n2, hm2, rfl⟩ := viewPush_eq_some e2
  have hn : n1 = n2 := Option.some.inj (hm1.symm.trans ((congrArg (·.move m) h.pos).trans hm2))
  subst hn
  exact ⟨rfl, congrArg (updateNoProgress · m) h.noprogress,
    by simp only [View.pushed, View.top, List.map_cons, h.past, unhash, h.pos, h.noprogress], congrArg Color.opp h.turn,
    congrArg (· + 1) h.ply, by simp only [View.pushed, h.moves, h.turn], by simp only [View.pushed, h.castledW, h.turn],
    by simp only [View.pushed, h.castledB, h.turn], rfl⟩

/-- What accompanies "same game" in the simulation: both worlds well-formed, both histories good. -/
structure SeedBase (z1 z2 : ZTable) (w1 : World) (b1 : Nat) (w2 : World) (b2 : Nat) : Prop where
  wf1 : WFWorld w1
  wf2 : WFWorld w2
  lt1 : b1 < w1.boards.size
  lt2 : b2 < w2.boards.size
  same : SameGame w1 b1 w2 b2
  good1 : GoodHistory z1 w1 b1
  good2 : GoodHistory z2 w2 b2

/-- The simulation step (C18 `sameGame_step`). -/
theorem seedBase_push {z1 z2 : ZTable} (hz1 : z1.enpassant 0 = 0) (hz2 : z2.enpassant 0 = 0) {w1 w2 : World}
    {b1 b2 : Nat} (h : SeedBase z1 z2 w1 b1 w2 b2) {m : Move}
    (hstep : ∀ q, (w1.cur b1).pos.move m = some q → GoodStep (w1.cur b1).pos (w1.board b1).turn m q) :
    ORel (fun w1' w2' => SeedBase z1 z2 w1' b1 w2' b2) (w1.pushMove z1 b1 m) (w2.pushMove z2 b2 m) := by
  obtain ⟨hw1, hw2, hb1, hb2, hsv, hg1, hg2⟩ := h
  refine ORel.intro ?_ fun w1' w2' h1 h2 => ?_
  · have e1 := congrArg Option.isSome (push_view hw1 (z := z1) hb1 m)
    have e2 := congrArg Option.isSome (push_view hw2 (z := z2) hb2 m)
    rw [Option.isSome_map, viewPush_isSome] at e1 e2
    rw [e1, e2, hsv.result, hsv.pos]
  · have hw1' := wf_push hw1 hb1 h1
    have hw2' := wf_push hw2 hb2 h2
    have hb1' : b1 < w1'.boards.size := by rw [boards_size_push h1]; exact hb1
    have hb2' : b2 < w2'.boards.size := by rw [boards_size_push h2]; exact hb2
    have hsame := hsv.push (push_view_some hw1 hb1 h1) (push_view_some hw2 hb2 h2)
    have hcur1 : (w1.cur b1).pos.move m = some (w1'.cur b1).pos := (push_line hw1 hb1 h1).2.2.2.1
    have hs1 := hstep _ hcur1
    have hs2 := hs1
    rw [show (w1.cur b1).pos = (w2.cur b2).pos from hsv.pos, show (w1.board b1).turn = (w2.board b2).turn from hsv.turn,
      show (w1'.cur b1).pos = (w2'.cur b2).pos from hsame.pos] at hs2
    -- each result is the verdict of its history (C05), and the verdicts read nothing the views do not share
    obtain ⟨hv1, hg1'⟩ := draw_iff_good hz1 hw1 hb1 h1 hg1 hs1
    obtain ⟨hv2, hg2'⟩ := draw_iff_good hz2 hw2 hb2 h2 hg2 hs2
    have hres : (view w1' b1).result = (view w2' b2).result :=
      result_eq_of_verdict hv1 hv2 (occurrences_same hsame.pos hsame.pastPos hsame.turn) hsame.noprogress hsame.pos
    exact ⟨hw1', hw2', hb1', hb2', { hsame with result := hres }, hg1', hg2'⟩

/-- Every generated move accepted by `Position.move` in the next `n` plies is a good step (C05 `GoodStep`:
views agree, accurate metadata, made by the side to move, sound type). -/
def GoodTree : Nat → Position → Color → Prop
  | 0, _, _ => True
  | n + 1, p, t => ∀ m ∈ p.pseudoLegalMoves t, ∀ q, p.move m = some q → GoodStep p t m q ∧ GoodTree n q t.opp

/-- The moves `ms` played from `p` are good steps when accepted, and from the position they lead to every
generated move accepted in the next `n` plies is a good step. -/
def GoodPlay (n : Nat) : Position → Color → List Move → Prop
  | p, t, [] => GoodTree n p t
  | p, t, m :: ms => ∀ q, p.move m = some q → GoodStep p t m q ∧ GoodPlay n q t.opp ms

/-- The generator only produces good steps on the positions satisfying `J`, and `J` is kept. -/
structure GoodGen (J : Position → Color → Prop) : Prop where
  step : ∀ {p t m q}, J p t → m ∈ p.pseudoLegalMoves t → p.move m = some q → GoodStep p t m q ∧ J q t.opp

theorem goodTree_of_gen {J : Position → Color → Prop} (h : GoodGen J) :
    ∀ (n : Nat) (p : Position) (t : Color), J p t → GoodTree n p t
  | 0, _, _, _ => trivial
  | n + 1, _, t, hj => fun _ hm q hq => ⟨(h.step hj hm hq).1, goodTree_of_gen h n q t.opp (h.step hj hm hq).2⟩

/-- A decidable sufficient criterion for `GoodTree` (C05 `stepCheck` on every accepted generated move). -/
def treeCheck : Nat → Position → Color → Bool
  | 0, _, _ => true
  | n + 1, p, t => (p.pseudoLegalMoves t).all fun m =>
      match p.move m with
      | none => true
      | some q => stepCheck p t m && treeCheck n q t.opp

theorem goodStep_of_stepCheck {p q : Position} {t : Color} {m : Move} (hp : PosOK p) (hc : stepCheck p t m = true)
    (hq : p.move m = some q) : GoodStep p t m q ∧ PosOK q :=
  have hfs := fullStep_of_stepCheck hp hc hq
  ⟨hfs.good, posOK_move hp hfs.good.ok hfs.good.sound hfs.noKing hq⟩

theorem goodTree_of_treeCheck : ∀ (n : Nat) (p : Position) (t : Color), PosOK p → treeCheck n p t = true →
    GoodTree n p t
  | 0, _, _, _, _ => trivial
  | n + 1, p, t, hp, hc => by
    intro m hm q hq
    simp only [treeCheck, List.all_eq_true] at hc
    have := hc m hm
    simp only [hq, Bool.and_eq_true] at this
    have hs := goodStep_of_stepCheck hp this.1 hq
    exact ⟨hs.1, goodTree_of_treeCheck n q t.opp hs.2 this.2⟩

/-- A decidable sufficient criterion for `GoodPlay`. -/
def playTreeCheck (n : Nat) : Position → Color → List Move → Bool
  | p, t, [] => treeCheck n p t
  | p, t, m :: ms =>
    match p.move m with
    | none => true
    | some q => stepCheck p t m && playTreeCheck n q t.opp ms

theorem goodPlay_of_check (n : Nat) : ∀ (ms : List Move) (p : Position) (t : Color), PosOK p →
    playTreeCheck n p t ms = true → GoodPlay n p t ms
  | [], p, t, hp, hc => goodTree_of_treeCheck n p t hp hc
  | m :: ms, p, t, hp, hc => by
    intro q hq
    simp only [playTreeCheck, hq, Bool.and_eq_true] at hc
    have hs := goodStep_of_stepCheck hp hc.1 hq
    exact ⟨hs.1, goodPlay_of_check n ms q t.opp hs.2 hc.2⟩

/-- The simulation relation between `boardGame z1 ev` and `boardGame z2 ev` (boards 0). -/
structure SeedRel (z1 z2 : ZTable) (n : Nat) (w1 w2 : World) : Prop where
  base : SeedBase z1 z2 w1 0 w2 0
  tree : GoodTree n (w1.cur 0).pos (w1.board 0).turn

/-- `seedBase_push`, carrying along what is known of the position the move leads to. -/
theorem seedBase_push_then {z1 z2 : ZTable} (hz1 : z1.enpassant 0 = 0) (hz2 : z2.enpassant 0 = 0) {w1 w2 : World}
    {b1 b2 : Nat} (h : SeedBase z1 z2 w1 b1 w2 b2) {m : Move} {T : Position → Color → Prop}
    (hstep : ∀ q, (w1.cur b1).pos.move m = some q →
      GoodStep (w1.cur b1).pos (w1.board b1).turn m q ∧ T q (w1.board b1).turn.opp) :
    ORel (fun w1' w2' => SeedBase z1 z2 w1' b1 w2' b2 ∧ T (w1'.cur b1).pos (w1'.board b1).turn)
      (w1.pushMove z1 b1 m) (w2.pushMove z2 b2 m) :=
  (seedBase_push hz1 hz2 h fun q hq => (hstep q hq).1).imp fun w1' _ e1 _ hb => by
    obtain ⟨_, ht, _, hmv, _⟩ := push_line h.wf1 h.lt1 e1
    exact ⟨hb, ht ▸ (hstep _ hmv).2⟩

/-- **What `boardGame` lets the search observe of a world, the hash apart, is what board 0 shows**: a relation
under which boards 0 show the same game, and which generated moves keep (one index down), is a simulation between
the search games of any two tables. -/
theorem simN_of_sameGame {z1 z2 : ZTable} (ev : Position → Color → Int) {R : Nat → World → World → Prop}
    (hv : ∀ {n w1 w2}, R n w1 w2 → SameGame w1 0 w2 0)
    (hpush : ∀ {n w1 w2} (m : Move), R (n + 1) w1 w2 → m ∈ (w1.cur 0).pos.pseudoLegalMoves (w1.board 0).turn →
      ORel (R n) (w1.pushMove z1 0 m) (w2.pushMove z2 0 m)) :
    SimN (boardGame z1 ev) (boardGame z2 ev) R := by
  have hpos : ∀ {n w1 w2}, R n w1 w2 → (w1.cur 0).pos = (w2.cur 0).pos := fun h => (hv h).pos
  have hturn : ∀ {n w1 w2}, R n w1 w2 → (w1.board 0).turn = (w2.board 0).turn := fun h => (hv h).turn
  refine ⟨fun h => ?_, fun h => (hv h).ply, fun h => ?_, fun h => ?_, fun h => ?_, fun m h hm => ?_⟩
  · exact congrArg (fun r : Result => r.outcome == .draw) (hv h).result
  · simp only [boardGame, hpos h, hturn h]
  · simp only [boardGame, hpos h, hturn h]
  · simp only [boardGame, hpos h, hturn h]
  · -- `boardGame` unfolded first: left to the unifier, it unfolds `pseudoLegalMoves` instead
    simp only [boardGame] at hm ⊢
    exact hpush m h hm

theorem view_newBoard (w : World) (z : ZTable) (pos : Position) (turn : Color) (np fm : Int) :
    view (w.newBoard z pos turn np fm).1 (w.newBoard z pos turn np fm).2 =
      { pos := pos, hash := z.hash pos turn, noprogress := np, past := [], turn := turn, ply := 1, moves := fm,
        castledW := false, castledB := false, reps := fun h => repGet [(z.hash pos turn, 1)] h, result := {} } := by
  have hid : (w.newBoard z pos turn np fm).2 = w.boards.size := rfl
  have hbd := newBoard_board w z pos turn np fm w.boards.size
  rw [if_pos rfl] at hbd
  have hcur := (newBoard_cur w z pos turn np fm).1
  unfold view
  rw [hcur]
  rw [hid] at hcur ⊢
  rw [hbd]
  simp [anc, ancIdx, bound]

theorem seedBase_newBoard (z1 z2 : ZTable) {w1 w2 : World} (hw1 : WFWorld w1) (hw2 : WFWorld w2) (pos : Position)
    (turn : Color) {np : Int} (fm : Int) (hnp : 0 ≤ np) :
    SeedBase z1 z2 (w1.newBoard z1 pos turn np fm).1 (w1.newBoard z1 pos turn np fm).2
      (w2.newBoard z2 pos turn np fm).1 (w2.newBoard z2 pos turn np fm).2 := by
  refine ⟨wf_newBoard hw1 _ _ _ _ _, wf_newBoard hw2 _ _ _ _ _, by simp [World.newBoard], by simp [World.newBoard],
    ?_, goodHistory_newBoard w1 z1 pos turn fm hnp, goodHistory_newBoard w2 z2 pos turn fm hnp⟩
  unfold SameGame
  rw [view_newBoard w1 z1 pos turn np fm, view_newBoard w2 z2 pos turn np fm]
  exact ⟨rfl, rfl, rfl, rfl, rfl, rfl, rfl, rfl, rfl⟩

theorem seedRel_pushAll {z1 z2 : ZTable} (hz1 : z1.enpassant 0 = 0) (hz2 : z2.enpassant 0 = 0) (n : Nat) :
    ∀ (ms : List Move) {w1 w2 : World}, SeedBase z1 z2 w1 0 w2 0 → GoodPlay n (w1.cur 0).pos (w1.board 0).turn ms →
      ORel (SeedRel z1 z2 n) (pushAll z1 0 w1 ms) (pushAll z2 0 w2 ms)
  | [], _, _, h, hg => ORel.some_iff.mpr ⟨h, hg⟩
  | m :: r, w1, w2, h, hg => by
    rcases (seedBase_push_then hz1 hz2 h (T := fun q t => GoodPlay n q t r) hg).cases with
      ⟨h1, h2⟩ | ⟨w1', w2', h1, h2, hb, hg'⟩
    · simp only [pushAll, h1, h2, Option.bind_none]
      exact ORel.none_none
    · simp only [pushAll, h1, h2, Option.bind_some]
      exact seedRel_pushAll hz1 hz2 n r hb hg'

/-- **Two boards set up on the same position, each with its own table, and the same good moves played on both**:
both sequences are accepted or both refused, and then the worlds are related by the simulation relation. -/
theorem seedRel_newBoard_play {z1 z2 : ZTable} (hz1 : z1.enpassant 0 = 0) (hz2 : z2.enpassant 0 = 0) (pos : Position)
    (turn : Color) {np : Int} (hnp : 0 ≤ np) (fm : Int) (n : Nat) (ms : List Move) (hg : GoodPlay n pos turn ms) :
    ORel (SeedRel z1 z2 n) (pushAll z1 0 (({} : World).newBoard z1 pos turn np fm).1 ms)
      (pushAll z2 0 (({} : World).newBoard z2 pos turn np fm).1 ms) := by
  refine seedRel_pushAll hz1 hz2 n ms (seedBase_newBoard z1 z2 wf_empty wf_empty pos turn fm hnp) ?_
  have hc := newBoard_cur ({} : World) z1 pos turn np fm
  rw [show (({} : World).newBoard z1 pos turn np fm).2 = 0 from rfl] at hc
  rw [hc.1, hc.2.1]
  exact hg

end Morlock.Proofs.Det
