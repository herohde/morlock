import Morlock.Proofs.SargonAttackers
/-!
# SARGON: `findSide` and `Exchange` are total, with bounds

For every sorter that returns a permutation of its input (`SortOK`; every implementation of `sort.Slice` does):
the flattening loop of `findSide` ends within its budget, the `Exchange` loop ends within its budget and never
indexes the empty `defenders`, and the exchange value is bounded.
-/
namespace Morlock.Proofs.Sargon
open Morlock Morlock.Model Morlock.Model.Sargon Morlock.Proofs.Attack Morlock.Proofs.Gen

/-- what is assumed of `sort.Slice`: the result is a rearrangement of the input -/
def SortOK (srt : List Attacker → List Attacker) : Prop := ∀ l, (srt l).Perm l

theorem numAttackers_nil : numAttackers [] = 0 := rfl
theorem numAttackers_cons (a : Attacker) (l : List Attacker) :
    numAttackers (a :: l) = 1 + a.behind.length + numAttackers l := by
  simp [numAttackers]

theorem numAttackers_append (l l' : List Attacker) : numAttackers (l ++ l') = numAttackers l + numAttackers l' := by
  simp [numAttackers]

theorem numAttackers_perm {l l' : List Attacker} (h : l.Perm l') : numAttackers l = numAttackers l' :=
  (h.map _).sum_nat

theorem numAttackers_filter_le (q : Attacker → Bool) (l : List Attacker) : numAttackers (l.filter q) ≤ numAttackers l := by
  induction l with
  | nil => simp
  | cons a l ih =>
    by_cases h : q a = true
    · simp only [List.filter_cons, h, if_true, numAttackers_cons]; omega
    · simp only [List.filter_cons, h, numAttackers_cons]; simp; omega

theorem length_le_numAttackers (l : List Attacker) : l.length ≤ numAttackers l := by
  induction l with
  | nil => simp
  | cons a l ih => simp only [List.length_cons, numAttackers_cons]; omega

theorem numAttackers_le {l : List Attacker} {n : Nat} (hl : l.length ≤ n) (hd : DepthOK l) :
    numAttackers l ≤ n * stackFuel := by
  induction l generalizing n with
  | nil => simp [numAttackers_nil]
  | cons a l ih =>
    cases n with
    | zero => simp at hl
    | succ n =>
      have h1 := hd a (List.mem_cons_self ..)
      have h2 := ih (n := n) (by simpa using hl) (fun x hx => hd x (List.mem_cons_of_mem _ hx))
      rw [numAttackers_cons, Nat.succ_mul]
      omega

theorem insertByVal_perm (x : Attacker) : ∀ l, (insertByVal x l).Perm (x :: l) := by
  intro l
  induction l with
  | nil => exact List.Perm.refl _
  | cons y ys ih =>
    unfold insertByVal
    split
    · exact List.Perm.refl _
    · exact (List.Perm.cons y ih).trans (List.Perm.swap x y ys)

theorem stableSort_ok : SortOK stableSort := by
  intro l
  unfold stableSort
  suffices h : ∀ (acc : List Attacker), (l.foldl (fun acc x => insertByVal x acc) acc).Perm (acc ++ l) by
    simpa using h []
  induction l with
  | nil => intro acc; simp
  | cons x l ih =>
    intro acc
    simp only [List.foldl_cons]
    refine (ih _).trans ?_
    have h1 : (insertByVal x acc ++ l).Perm ((x :: acc) ++ l) := List.Perm.append_right l (insertByVal_perm x acc)
    refine h1.trans ?_
    simp only [List.cons_append]
    exact (List.perm_middle).symm

theorem flattenW_ok {srt : List Attacker → List Attacker} (hs : SortOK srt) :
    ∀ fuel l, numAttackers l ≤ fuel → ∃ out, flattenW srt fuel l = .ok out ∧ out.length = numAttackers l := by
  intro fuel
  induction fuel with
  | zero =>
    intro l hl
    cases l with
    | nil => exact ⟨[], rfl, rfl⟩
    | cons a l => rw [numAttackers_cons] at hl; omega
  | succ n ih =>
    intro l hl
    cases l with
    | nil => exact ⟨[], rfl, rfl⟩
    | cons a rest =>
      rw [numAttackers_cons] at hl
      cases hb : a.behind with
      | nil =>
        have hnext : a.next = none := by simp [Attacker.next, hb]
        obtain ⟨out, hout, hlen⟩ := ih rest (by omega)
        refine ⟨a :: out, ?_, ?_⟩
        · simp only [flattenW, hnext, hout]
        · rw [numAttackers_cons, List.length_cons, hlen, hb]; simp; omega
      | cons q bs =>
        have hnext : a.next = some { front := q, behind := bs } := by simp [Attacker.next, hb]
        have hn : numAttackers (srt (rest ++ [{ front := q, behind := bs }])) = a.behind.length + numAttackers rest := by
          rw [numAttackers_perm (hs _), numAttackers_append, numAttackers_cons, numAttackers_nil, hb]
          simp; omega
        obtain ⟨out, hout, hlen⟩ := ih (srt (rest ++ [{ front := q, behind := bs }])) (by omega)
        refine ⟨a :: out, ?_, ?_⟩
        · simp only [flattenW, hnext, hout]
        · rw [numAttackers_cons, List.length_cons, hlen, hn]; omega

theorem findSideW_ok {srt : List Attacker → List Attacker} (hs : SortOK srt) (l : List Attacker) (c : Color) :
    ∃ out, findSideW srt l c = .ok out ∧ out.length ≤ numAttackers l := by
  unfold findSideW
  obtain ⟨out, hout, hlen⟩ := flattenW_ok hs _ (srt (l.filter fun a => a.front.color == c)) (Nat.le_refl _)
  refine ⟨out, hout, ?_⟩
  rw [hlen, numAttackers_perm (hs _)]
  exact numAttackers_filter_le _ _

theorem nominalValue_range (k : Piece) : 0 ≤ nominalValue k ∧ nominalValue k ≤ 100 := by
  cases k <;> decide

/-- one round of the loop: it stops with what it has, or goes on with the sides swapped (never `defenders[0]` out of range) -/
theorem exchangeLoop_step (n : Nat) (x : Attacker) (xs d : List Attacker) (residue defender : Int) (cur : Color) :
    exchangeLoop (n + 1) (x :: xs) d residue defender cur = .ok (residue, cur) ∨
    exchangeLoop (n + 1) (x :: xs) d residue defender cur =
      exchangeLoop n d xs (-(residue + defender)) (val x) cur.opp := by
  cases d with
  | nil => exact Or.inr (by simp [exchangeLoop])
  | cons d0 ds =>
    cases xs with
    | nil => by_cases h : val x ≤ defender <;> simp [exchangeLoop, h]
    | cons a2 xs' =>
      by_cases h : val x ≤ defender
      · simp [exchangeLoop, h]
      · by_cases h2 : val x + val a2 ≤ defender + val d0 <;> simp [exchangeLoop, h, h2]

theorem exchangeLoop_ok :
    ∀ fuel (a d : List Attacker) (residue defender : Int) (cur : Color) (R : Int),
      a.length + d.length ≤ fuel → 0 ≤ defender → defender ≤ 100 → -R ≤ residue → residue ≤ R →
      ∃ res cur', exchangeLoop fuel a d residue defender cur = .ok (res, cur') ∧
        -(R + 100 * ((a.length + d.length : Nat) : Int)) ≤ res ∧ res ≤ R + 100 * ((a.length + d.length : Nat) : Int) := by
  intro fuel
  induction fuel with
  | zero =>
    intro a d residue defender cur R hlen _ _ h1 h2
    cases a with
    | nil => exact ⟨residue, cur, by simp [exchangeLoop], by omega, by omega⟩
    | cons x xs => simp at hlen
  | succ n ih =>
    intro a d residue defender cur R hlen hd0 hd1 h1 h2
    cases a with
    | nil => exact ⟨residue, cur, by simp [exchangeLoop], by omega, by omega⟩
    | cons x xs =>
      rcases exchangeLoop_step n x xs d residue defender cur with e | e <;> rw [e]
      · exact ⟨residue, cur, rfl, by omega, by omega⟩
      · have hv := nominalValue_range x.front.piece
        obtain ⟨res, cur', hres, hb1, hb2⟩ := ih d xs (-(residue + defender)) (val x) cur.opp (R + 100)
          (by simp at hlen ⊢; omega) hv.1 hv.2 (by omega) (by omega)
        refine ⟨res, cur', hres, ?_, ?_⟩ <;> simp only [List.length_cons] at hb1 hb2 ⊢ <;> omega
/-- bound on the number of flattened attackers of one side -/
def sideMax : Nat := 384 * stackFuel

/-- **`Exchange` is total and bounded** on every represented position, for every sorter. -/
theorem exchangeW_ok {p : Position} {b : Board} (hrep : Rep p b) {srt : List Attacker → List Attacker} (hs : SortOK srt)
    (pins : Pins) (side : Color) {sq : Nat} (hsq : sq < 64) :
    ∃ v, exchangeW srt p pins side sq = .ok v ∧ -(200 * (sideMax : Int)) ≤ v ∧ v ≤ 200 * (sideMax : Int) := by
  unfold exchangeW
  cases hsqr : p.square sq with
  | none => exact ⟨0, rfl, by unfold sideMax stackFuel; omega, by unfold sideMax stackFuel; omega⟩
  | some cp =>
    obtain ⟨cur, piece⟩ := cp
    simp only []
    by_cases hk : piece = .king
    · simp only [hk, if_true]
      exact ⟨0, rfl, by unfold sideMax stackFuel; omega, by unfold sideMax stackFuel; omega⟩
    · simp only [hk, if_false]
      obtain ⟨da, hda, nda, dda⟩ := findAttackers_ok hrep pins hsq cur
      obtain ⟨aa, haa, naa, daa⟩ := findAttackers_ok hrep pins hsq cur.opp
      obtain ⟨defenders, hdef, ndef⟩ := findSideW_ok hs da cur
      obtain ⟨attackers, hatt, natt⟩ := findSideW_ok hs aa cur.opp
      have hnd := numAttackers_le nda dda
      have hna := numAttackers_le naa daa
      have hnv := nominalValue_range piece
      obtain ⟨res, cur', hloop, hb1, hb2⟩ := exchangeLoop_ok (attackers.length + defenders.length) attackers defenders 0
        (nominalValue piece) cur 0 (Nat.le_refl _) hnv.1 hnv.2 (by omega) (by omega)
      simp only [hda, hdef, haa, hatt, hloop]
      have hL : ((attackers.length + defenders.length : Nat) : Int) ≤ 2 * (sideMax : Int) := by
        unfold sideMax; omega
      by_cases hc : cur' = side
      · exact ⟨-res, by simp [hc], by omega, by omega⟩
      · exact ⟨res, by simp [hc], by omega, by omega⟩

end Morlock.Proofs.Sargon
