import Morlock.Proofs.TurochampSqrt
import Morlock.Proofs.TurochampFlags
/-!
# TUROCHAMP: `Material.Evaluate`, `PositionPlay`, `Eval.Evaluate` return finite values, with explicit bounds

Every divisor is shown to be non-zero, every square root is taken of a small natural number (`sqrtTerm_bd`),
every exact intermediate value is bounded; `FltFacts` then turns the bound of the exact value into finiteness and
the same bound for the rounded value.
-/
namespace Morlock.Proofs.Turochamp
open Morlock Morlock.Model Morlock.Model.Flt Morlock.Model.Turochamp

attribute [local irreducible] Flt.rnd Flt.sqrt Flt.rndPos Q.norm

theorem half_bd {k B : Nat} (h : k ≤ 2 * B) : Bd (half k) B := by
  refine ⟨half_den_pos k, ?_⟩
  have hv := half_value k
  have hd := half_den_pos k
  have hn : 0 ≤ (half k).num := by
    unfold half; split <;> simp only [] <;> omega
  have h1 : k * (half k).den ≤ 2 * B * (half k).den := Nat.mul_le_mul_right _ h
  have h2 : ((k * (half k).den : Nat) : Int) = (k : Int) * ((half k).den : Int) := Int.natCast_mul _ _
  have h3 : (2 * B * (half k).den : Nat) = 2 * (B * (half k).den) := Nat.mul_assoc _ _ _
  omega

theorem half_num_pos {k : Nat} (h : 1 ≤ k) : 0 < (half k).num := by
  unfold half; split <;> simp only [] <;> omega

theorem half_den_le {k : Nat} (h : 1 ≤ k) : (half k).den ≤ 2 * (half k).num.toNat := by
  unfold half; split <;> simp only [] <;> omega

theorem div_half (F : FltFacts) {b : Nat} (hb : 1 ≤ b) (x : Q) (hx : Bd x 1440) :
    ∃ v, div f32 x (half b) = some v ∧ Bd v 2880 := by
  unfold div
  have hnp := half_num_pos hb
  have hne : ((half b).num == 0) = false := by
    simp only [beq_eq_false_iff_ne]; omega
  rw [hne]
  have hbd : Bd (Q.div x (half b)) (1440 * 2) := hx.div hnp (half_den_le hb)
  have h24 : (2880 : Nat) ≤ 2 ^ 24 := by decide
  obtain ⟨v, hv, hb⟩ := F.abs_le32 _ 2880 h24 hbd
  refine ⟨v, ?_, hb⟩
  rw [if_neg (by decide)]
  exact hv

/-- the divisor is at least half a pawn -/
theorem materialEvaluate_total (F : FltFacts) (pos : Position) (turn : Color) :
    ∃ v, materialEvaluate pos turn = some v ∧ Bd v 2880 := by
  unfold materialEvaluate
  rw [material_eq, material_eq, Option.bind_some, Option.bind_some]
  have ha := mat2_le pos turn
  have hb := mat2_le pos turn.opp
  have ha1 := mat2_pos pos turn
  have hb1 := mat2_pos pos turn.opp
  split
  · exact ⟨q0, rfl, bd_q0.mono (by omega)⟩
  · split
    · exact div_half F hb1 _ (half_bd (by omega))
    · exact div_half F ha1 _ (half_bd (by omega)).neg

def constOk (c : Option Q) : Bool :=
  match c with
  | some t => decide (0 < t.den) && decide (t.num.natAbs ≤ 1 * t.den)
  | none => false

theorem const_bd {c : Option Q} (h : constOk c = true) : ∃ t, c = some t ∧ Bd t 1 := by
  unfold constOk at h
  cases c with
  | none => cases h
  | some t =>
    simp only [Bool.and_eq_true, decide_eq_true_eq] at h
    exact ⟨t, rfl, h⟩

theorem prePlay_total (F : FltFacts) (pos : Position) (castled : Bool) (turn : Color) :
    ∃ s, prePlay pos castled turn = some s ∧ Bd s 5 := by
  unfold prePlay
  obtain ⟨s1, h1, b1⟩ := addIf32 F (pos.castling &&& castlingRights turn != 0)
    bd_q0 bd_q1 (by decide)
  rw [h1, Option.bind_some]
  obtain ⟨s2, h2, b2⟩ := addIf32 F castled b1 bd_q1 (by decide)
  rw [h2, Option.bind_some]
  obtain ⟨s3, h3, b3⟩ := addIf32 F (pos.isChecked turn.opp) b2 bd_qHalf (by decide)
  rw [h3, Option.bind_some]
  obtain ⟨s4, h4, b4⟩ := addIf32 F (mayCheckMate pos turn) b3 bd_q1 (by decide)
  rw [h4, Option.bind_some]
  obtain ⟨s5, h5, b5⟩ := addIf32 F (mayCastle pos turn) b4 bd_q1 (by decide)
  exact ⟨s5, h5, b5⟩

theorem stepLoop_total {α : Type} {step : α → Q → Option Q} {P : α → Prop} {c : Nat}
    (hstep : ∀ a s A, P a → Bd s A → A + c ≤ 2 ^ 24 → ∃ s', step a s = some s' ∧ Bd s' (A + c)) :
    ∀ (l : List α) (s : Q) (A : Nat), (∀ a ∈ l, P a) → Bd s A → A + c * l.length ≤ 2 ^ 24 →
      ∃ s', stepLoop step l s = some s' ∧ Bd s' (A + c * l.length)
  | [], s, A, _, hs, _ => ⟨s, rfl, hs.mono (by simp)⟩
  | a :: l, s, A, hall, hs, hA => by
    rw [List.length_cons, Nat.mul_succ] at hA ⊢
    obtain ⟨s1, h1, b1⟩ := hstep a s A (hall a (List.mem_cons_self ..)) hs (by omega)
    obtain ⟨s2, h2, b2⟩ := stepLoop_total hstep l s1 (A + c) (fun x hx => hall x (List.mem_cons_of_mem _ hx)) b1
      (by omega)
    exact ⟨s2, by rw [stepLoop, h1, Option.bind_some]; exact h2, b2.mono (by omega)⟩

theorem mobSum_total (F : FltFacts) (l : List (Nat × Nat)) (score : Q) (A : Nat)
    (hall : ∀ e ∈ l, e.2 ≤ 128) (hs : Bd score A) (hA : A + 12 * l.length ≤ 2 ^ 24) :
    ∃ s, mobSum l score = some s ∧ Bd s (A + 12 * l.length) := by
  rw [mobSum_eq]
  refine stepLoop_total (P := fun e => e.2 ≤ 128) (fun e s A hn hs hA => ?_) l score A hall hs hA
  obtain ⟨t, ht, bt⟩ := sqrtTerm_bd hn
  obtain ⟨s1, h1, b1⟩ := add32 F hs bt hA
  exact ⟨s1, by rw [mobTerm, ht, Option.bind_some]; exact h1, b1⟩

theorem officerHits_isSome (pos : Position) (turn : Color) (sq : Nat) {p : Piece} (hp : p ∈ kqrnb) :
    (officerHits pos turn sq p).isSome = true := by
  rw [kqrnb_eq] at hp
  simp only [List.mem_cons, List.not_mem_nil, or_false] at hp
  rcases hp with rfl | rfl | rfl | rfl | rfl <;> simp [officerHits, attackboard]

theorem defendersLoop_isSome (pos : Position) (turn : Color) (sq : Nat) :
    ∀ (l : List Piece) (d : Nat), (∀ p ∈ l, p ∈ kqrnb) → (defendersLoop pos turn sq l d).isSome = true
  | [], _, _ => rfl
  | p :: rest, d, h => by
    obtain ⟨bb, hb⟩ := Option.isSome_iff_exists.mp (officerHits_isSome pos turn sq (h p (List.mem_cons_self ..)))
    unfold defendersLoop
    rw [hb, Option.bind_some]
    exact defendersLoop_isSome pos turn sq rest _ (fun q hq => h q (List.mem_cons_of_mem _ hq))

/-- `Attackboard` is only asked for K, Q, R, N, B: no panic in `defenders`. -/
theorem defenders_isSome (pos : Position) (turn : Color) (sq : Nat) : ∃ d, defenders pos turn sq = some d := by
  obtain ⟨d, hd⟩ := Option.isSome_iff_exists.mp (defendersLoop_isSome pos turn sq kqrnb 0 (fun _ h => h))
  unfold defenders
  rw [hd]
  exact ⟨_, rfl⟩

theorem officerDefended_isSome (pos : Position) (turn : Color) (sq : Nat) :
    ∀ (l : List Piece), (∀ p ∈ l, p ∈ kqrnb) → ∃ d, officerDefended pos turn sq l = some d
  | [], _ => ⟨false, rfl⟩
  | p :: rest, h => by
    obtain ⟨bb, hb⟩ := Option.isSome_iff_exists.mp (officerHits_isSome pos turn sq (h p (List.mem_cons_self ..)))
    unfold officerDefended
    rw [hb, Option.bind_some]
    split
    · exact ⟨true, rfl⟩
    · exact officerDefended_isSome pos turn sq rest (fun q hq => h q (List.mem_cons_of_mem _ hq))

theorem defenceLoop_total (F : FltFacts) (pos : Position) (turn : Color) (l : List Nat) (score : Q) (A : Nat)
    (hs : Bd score A) (hA : A + 2 * l.length ≤ 2 ^ 24) :
    ∃ s, defenceLoop pos turn l score = some s ∧ Bd s (A + 2 * l.length) := by
  rw [defenceLoop_eq]
  refine stepLoop_total (P := fun _ => True) (fun sq s A _ hs hA => ?_) l score A (fun _ _ => trivial) hs hA
  obtain ⟨d, hd⟩ := defenders_isSome pos turn sq
  obtain ⟨s1, h1, b1⟩ := addIf32 F (decide (d > 0)) hs bd_q1 (by omega)
  obtain ⟨s2, h2, b2⟩ := addIf32 F (decide (d > 1)) b1 bd_qHalf (by omega)
  exact ⟨s2, by rw [defenceStep, hd, Option.bind_some, h1, Option.bind_some]; exact h2, b2⟩

theorem kingSafety_total (F : FltFacts) (pos : Position) (turn : Color) (score : Q) (A : Nat)
    (hs : Bd score A) (hA : A + 12 ≤ 2 ^ 24) : ∃ s, kingSafety pos turn score = some s ∧ Bd s (A + 12) := by
  unfold kingSafety
  split
  · have hsafe : safety pos turn ≤ 128 := by
      unfold safety
      exact Nat.le_trans (popCount_le _) (by decide)
    obtain ⟨t, ht, bt⟩ := sqrtTerm_bd hsafe
    rw [ht, Option.bind_some]
    exact sub32 F hs bt hA
  · exact ⟨score, rfl, hs.mono (by omega)⟩

theorem pawnRanks_le (turn : Color) (sq : Nat) : pawnRanks turn sq ≤ 255 := by
  unfold pawnRanks; cases turn <;> simp only [] <;> omega

/-- the pawn term `0.2 * eval.Pawns(ranks)`: at most 255 -/
theorem pawnTerm_total (F : FltFacts) (turn : Color) (sq : Nat) :
    ∃ k02 r t, c02 = some k02 ∧ pawnsOfInt (pawnRanks turn sq : Nat) = some r ∧ mul f32 k02 r = some t ∧ Bd t 255 := by
  obtain ⟨k02, hk02, bk02⟩ := const_bd (c := c02) (by decide +kernel)
  obtain ⟨r, hr, br⟩ := F.abs_le32 (Q.ofInt (pawnRanks turn sq : Nat)) 255 (by decide) (Bd.ofNat (pawnRanks_le turn sq))
  obtain ⟨t, ht, bt⟩ := mul32 F bk02 br (by decide)
  exact ⟨k02, r, t, hk02, hr, ht, bt.mono (by omega)⟩

theorem pawnLoop_total (F : FltFacts) (pos : Position) (turn : Color) (l : List Nat) (score : Q) (A : Nat)
    (hs : Bd score A) (hA : A + 256 * l.length ≤ 2 ^ 24) :
    ∃ s, pawnLoop pos turn l score = some s ∧ Bd s (A + 256 * l.length) := by
  rw [pawnLoop_eq]
  refine stepLoop_total (P := fun _ => True) (fun sq s A _ hs hA => ?_) l score A (fun _ _ => trivial) hs hA
  obtain ⟨k02, r, t, hk02, hr, ht, bt⟩ := pawnTerm_total F turn sq
  obtain ⟨k03, hk03, bk03⟩ := const_bd (c := c03) (by decide +kernel)
  obtain ⟨s1, h1, b1⟩ := add32 F hs bt (Nat.le_trans (Nat.add_le_add_left (by decide) A) hA)
  obtain ⟨d, hd⟩ := officerDefended_isSome pos turn sq kqrnb (fun _ h => h)
  obtain ⟨s2, h2, b2⟩ := addIf32 F d b1 bk03 hA
  refine ⟨s2, ?_, b2⟩
  rw [pawnStep, hk02, Option.bind_some, hr, Option.bind_some, ht, Option.bind_some, h1, Option.bind_some, hd,
    Option.bind_some, hk03, Option.bind_some]
  exact h2

/-- the bound on `|PositionPlay|` proved here (the true range is far smaller; see the source comment `[-55;55]`) -/
def ppBound : Nat := 17297

/-- parts (2)-(4) add at most `2·64 + 12 + 256·64 = 16524` -/
theorem postPlay_total (F : FltFacts) (pos : Position) (turn : Color) (score : Q) {A : Nat} (hs : Bd score A)
    (hA : A + 16524 ≤ 2 ^ 24) : ∃ s, postPlay pos turn score = some s ∧ Bd s (A + 16524) := by
  have hm := toSquares_length (middle pos turn)
  have hp := toSquares_length (pos.pieces turn .pawn)
  obtain ⟨s1, h1, b1⟩ := defenceLoop_total F pos turn (toSquares (middle pos turn)) score A hs (by omega)
  obtain ⟨s2, h2, b2⟩ := kingSafety_total F pos turn s1 _ b1 (by omega)
  obtain ⟨s3, h3, b3⟩ := pawnLoop_total F pos turn (toSquares (pos.pieces turn .pawn)) s2 _ b2 (by omega)
  refine ⟨s3, ?_, b3.mono (by omega)⟩
  unfold postPlay
  rw [h1, Option.bind_some, h2, Option.bind_some]
  exact h3

def MobOK (l : List (Nat × Nat)) : Prop := l.length ≤ 64 ∧ ∀ e ∈ l, e.2 ≤ 128

theorem positionPlayOrd_total (F : FltFacts) (order : List (Nat × Nat) → List (Nat × Nat)) (pos : Position) (castled : Bool)
    (turn : Color) (hm : MobOK (order (mobility pos turn))) :
    ∃ v, positionPlayOrd order pos castled turn = some v ∧ Bd v ppBound := by
  obtain ⟨s1, h1, b1⟩ := prePlay_total F pos castled turn
  obtain ⟨s2, h2, b2⟩ := mobSum_total F (order (mobility pos turn)) s1 5 hm.2 b1 (by have := hm.1; omega)
  obtain ⟨s3, h3, b3⟩ := postPlay_total F pos turn s2 (A := 773) (b2.mono (by have := hm.1; omega)) (by decide)
  refine ⟨s3, ?_, b3⟩
  unfold positionPlayOrd
  rw [h1, Option.bind_some, h2, Option.bind_some]
  exact h3

def evalBound : Nat := 2883460

theorem combine_total (F : FltFacts) {mat pp : Q} (hmat : Bd mat 2880) (hpp : Bd pp (ppBound + ppBound)) :
    ∃ v, combine mat pp = some v ∧ Bd v evalBound := by
  obtain ⟨m100, h1, b1⟩ := mul64 F hmat (Bd.ofInt (i := 100) (B := 100) (by decide)) (by decide)
  obtain ⟨m64, h2, b2⟩ := mul64 F (Bd.ofInt b1.roundAway) (Bd.ofInt (i := 10) (B := 10) (by decide)) (by decide)
  obtain ⟨m, h3, b3⟩ := F.abs_le32 m64 _ (by decide) b2
  obtain ⟨p100, h4, b4⟩ := mul64 F hpp (Bd.ofInt (i := 100) (B := 100) (by decide)) (by decide)
  have b5 : Bd (Q.div (Q.ofInt p100.roundAway) (Q.ofInt ((1000 : Nat) : Int))) 3460 :=
    Bd.div_int ((Bd.ofInt b4.roundAway).mono (by decide)) (by decide)
  obtain ⟨p64, h6, b6⟩ := F.abs_le64 _ 3460 (by decide) b5
  obtain ⟨p, h7, b7⟩ := F.abs_le32 p64 _ (by decide) b6
  obtain ⟨v, h8, b8⟩ := add32 F b3 b7 (by decide)
  refine ⟨v, ?_, b8.mono (by decide)⟩
  have h6' : div f64 (Q.ofInt p100.roundAway) (Q.ofInt 1000) = some p64 := by
    unfold div
    have : ((Q.ofInt 1000).num == 0) = false := by decide
    rw [this, if_neg (by decide)]
    exact h6
  unfold combine
  rw [h1, Option.bind_some, h2, Option.bind_some, h3, Option.bind_some, h4, Option.bind_some, h6', Option.bind_some,
    h7, Option.bind_some]
  exact h8

theorem evaluateCore_total (F : FltFacts) (pos : Position) (cs co : Bool) (turn : Color)
    (hs : MobOK (mobility pos turn)) (ho : MobOK (mobility pos turn.opp)) :
    ∃ v, evaluateCore pos cs co turn = some v ∧ Bd v evalBound := by
  obtain ⟨mat, h1, b1⟩ := materialEvaluate_total F pos turn
  obtain ⟨ppS, h2, b2⟩ := positionPlayOrd_total F id pos cs turn hs
  obtain ⟨ppO, h3, b3⟩ := positionPlayOrd_total F id pos co turn.opp ho
  obtain ⟨pp, h4, b4⟩ := sub32 F b2 b3 (by decide)
  obtain ⟨v, h5, b5⟩ := combine_total F b1 b4
  refine ⟨v, ?_, b5⟩
  unfold evaluateCore positionPlayCore
  rw [h1, Option.bind_some, h2, Option.bind_some, h3, Option.bind_some, h4, Option.bind_some]
  exact h5

end Morlock.Proofs.Turochamp
