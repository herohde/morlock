import Morlock.Proofs.ABScore
/-!
# The move loop of `runAlphaBeta.search` / `runQuiescence.search`

`abLoop_tt` is the loop invariant of `Model.abLoop` over an *arbitrary* move list, for an arbitrary recursive
searcher `rec` that satisfies the node contract `RecTT` relative to an arbitrary invariant `Inv` of the table, with
cancellation allowed. `Live st` says that no poll so far reported "cancelled"; it can only be lost, never regained
(`Mono`). The loop contract is: the table invariant is kept unconditionally (as long as the bounds are graded-valid
*while the search is live*), and if the search is still live at the end then `LoopPost` holds: the result is a graded
valid score, `Clip` on proper windows, "exact or ≥ alpha" on every window, the PV is a path.
"No table, no cancellation" (`Quiet`) is the instance `Inv t := t.slots.size = 0`.
-/
namespace Morlock.Proofs.AB
open Morlock Morlock.Model Morlock.Model.Score Morlock.Spec
open Morlock.Props.C09
variable {P : Type}

/-- No transposition table and no cancellation. -/
def Quiet (st : SState) : Prop := st.tt.slots.size = 0 ∧ st.cancelAt = none

theorem poll_quiet {st : SState} (h : Quiet st) : (poll st).1 = false ∧ Quiet (poll st).2 := by
  obtain ⟨h1, h2⟩ := h
  simp [poll, Quiet, h1, h2]

theorem quiet_nodes {st : SState} (h : Quiet st) (k : Nat) : Quiet { st with nodes := k } := h

def legalAny (g : Game P) (p : P) (l : List Move) : Bool := l.any fun m => (g.push p m).isSome

def kids (g : Game P) (ex : P → Explore) (p : P) (l : List Move) : List P :=
  l.filterMap fun m => if (ex p).pick m then g.push p m else none

def maxR (x : Int) (l : List Int) : Int := l.foldl Max.max x

def kidsR (g : Game P) (ex : P → Explore) (p : P) (vc : P → Score) (l : List Move) : List Int :=
  (kids g ex p l).map fun c => rank (lift (vc c))

theorem maxR_ge (l : List Int) (x : Int) : x ≤ maxR x l := by
  unfold maxR
  induction l generalizing x with
  | nil => simp
  | cons y ys ih => simp only [List.foldl]; have := ih (Max.max x y); omega

theorem maxR_cons (x y : Int) (l : List Int) : maxR x (y :: l) = maxR (Max.max x y) l := rfl

theorem maxR_max (l : List Int) (x a : Int) : maxR (Max.max a x) l = Max.max a (maxR x l) := by
  unfold maxR
  induction l generalizing x with
  | nil => simp
  | cons y ys ih => simp only [List.foldl]; rw [← ih]; congr 1; omega

theorem maxR_mem {l : List Int} {y : Int} (x : Int) (h : y ∈ l) : y ≤ maxR x l := by
  induction l generalizing x with
  | nil => simp at h
  | cons z zs ih =>
    rw [maxR_cons]
    rcases List.mem_cons.1 h with e | e
    · have := maxR_ge zs (Max.max x z); omega
    · exact ih _ e

section loop
variable {g : Game P} {ex : P → Explore} {rec : P → Score → Score → SState → Score × List Move × SState} {p : P}
  {b : Score} {vc : P → Score} {m : Move} {rest : List Move} {c : P} {a : Score} {pv : List Move} {hl : Bool}
  {st : SState}

theorem mem_kidsR {l : List Move} (hm : m ∈ l) (hpush : g.push p m = some c) (hp : (ex p).pick m = true) :
    rank (lift (vc c)) ∈ kidsR g ex p vc l := by
  unfold kidsR kids
  simp only [List.mem_map, List.mem_filterMap]
  exact ⟨c, ⟨m, hm, by simp [hp, hpush]⟩, rfl⟩

theorem kidsR_none (h : g.push p m = none) : kidsR g ex p vc (m :: rest) = kidsR g ex p vc rest := by
  simp [kidsR, kids, h]

theorem kidsR_skip (h : (ex p).pick m = false) : kidsR g ex p vc (m :: rest) = kidsR g ex p vc rest := by
  simp [kidsR, kids, h]

theorem kidsR_pick (h : g.push p m = some c) (hp : (ex p).pick m = true) :
    kidsR g ex p vc (m :: rest) = rank (lift (vc c)) :: kidsR g ex p vc rest := by
  simp [kidsR, kids, h, hp]

theorem legalAny_cons (g : Game P) (p : P) (m : Move) (rest : List Move) :
    legalAny g p (m :: rest) = ((g.push p m).isSome || legalAny g p rest) := by
  simp [legalAny]

theorem abLoop_none (h : g.push p m = none) :
    abLoop g ex rec p b (m :: rest) a pv hl st = abLoop g ex rec p b rest a pv hl st := by
  simp [abLoop, childOf, h]

theorem abLoop_skip (h : g.push p m = some c) (hp : (ex p).pick m = false) :
    abLoop g ex rec p b (m :: rest) a pv hl st =
      if cutoff a b then (a, pv, true, true, st) else abLoop g ex rec p b rest a pv true st := by
  simp [abLoop, childOf, h, hp]

theorem abLoop_pick (h : g.push p m = some c) (hp : (ex p).pick m = true) :
    abLoop g ex rec p b (m :: rest) a pv hl st =
      (let r := rec c (childBound b) (childBound a) st
       let s := lift r.1
       let a' := if a.less s then s else a
       let pv' := if a.less s then m :: r.2.1 else pv
       if cutoff a' b then (a', pv', true, true, r.2.2) else abLoop g ex rec p b rest a' pv' true r.2.2) := by
  simp only [abLoop, childOf, h, hp, if_true, lift]
  split <;> simp [*]

/-- An invariant of the move loop, for an arbitrary child searcher: `J` holds of the list still to do, `alpha`, the PV
    and the legal-move flag; every step keeps it whatever the child search returns; when the loop runs out of moves
    or cuts off (then a legal move has been seen), it gives `Post` of what is returned. -/
theorem abLoop_invariant
    (J : List Move → Score → List Move → Bool → Prop) (Post : Score → List Move → Bool → Prop)
    (h_none : ∀ m rest a pv hl, g.push p m = none → J (m :: rest) a pv hl → J rest a pv hl)
    (h_skip : ∀ m rest a pv hl c, g.push p m = some c → (ex p).pick m = false → J (m :: rest) a pv hl →
      J rest a pv true)
    (h_pick : ∀ m rest a pv hl c s rem, g.push p m = some c → (ex p).pick m = true → J (m :: rest) a pv hl →
      J rest (if a.less (lift s) then lift s else a) (if a.less (lift s) then m :: rem else pv) true)
    (h_end : ∀ l a pv hl, J l a pv hl → l = [] ∨ (hl = true ∧ cutoff a b = true) → Post a pv hl) :
    ∀ (l : List Move) (a : Score) (pv : List Move) (hl : Bool) (st : SState), J l a pv hl →
      Post (abLoop g ex rec p b l a pv hl st).1 (abLoop g ex rec p b l a pv hl st).2.1
        (abLoop g ex rec p b l a pv hl st).2.2.1 := by
  intro l
  induction l with
  | nil => intro a pv hl st h; exact h_end [] a pv hl h (Or.inl rfl)
  | cons m rest ih =>
    intro a pv hl st h
    cases hpush : g.push p m with
    | none => rw [abLoop_none hpush]; exact ih a pv hl st (h_none m rest a pv hl hpush h)
    | some c =>
      cases hp : (ex p).pick m with
      | false =>
        rw [abLoop_skip hpush hp]
        have h' := h_skip m rest a pv hl c hpush hp h
        by_cases hcut : cutoff a b = true
        · rw [if_pos hcut]; exact h_end rest a pv true h' (Or.inr ⟨rfl, hcut⟩)
        · rw [if_neg hcut]; exact ih a pv true st h'
      | true =>
        rw [abLoop_pick hpush hp]
        generalize rec c (childBound b) (childBound a) st = r
        have h' := h_pick m rest a pv hl c r.1 r.2.1 hpush hp h
        dsimp only
        generalize (if a.less (lift r.1) then lift r.1 else a) = a' at h' ⊢
        generalize (if a.less (lift r.1) then m :: r.2.1 else pv) = pv' at h' ⊢
        by_cases hcut : cutoff a' b = true
        · rw [if_pos hcut]; exact h_end rest a' pv' true h' (Or.inr ⟨rfl, hcut⟩)
        · rw [if_neg hcut]; exact ih a' pv' true r.2.2 h'

end loop

/-- No poll performed so far has reported "cancelled". -/
def Live (st : SState) : Prop := ∀ k, st.cancelAt = some k → st.polls < k

/-- The cancellation instant is fixed and the poll counter only grows. -/
def Mono (st st' : SState) : Prop := st'.cancelAt = st.cancelAt ∧ st.polls ≤ st'.polls

theorem Mono.refl (st : SState) : Mono st st := ⟨rfl, Nat.le_refl _⟩

theorem Mono.trans {s1 s2 s3 : SState} (h1 : Mono s1 s2) (h2 : Mono s2 s3) : Mono s1 s3 :=
  ⟨h2.1.trans h1.1, Nat.le_trans h1.2 h2.2⟩

theorem Mono.live {st st' : SState} (h : Mono st st') (hl : Live st') : Live st := by
  intro k hk
  have := hl k (by rw [h.1]; exact hk)
  have := h.2
  omega

theorem live_of_none {st : SState} (h : st.cancelAt = none) : Live st := by
  intro k hk; rw [h] at hk; cases hk

theorem Quiet.of_mono {st st' : SState} (h : Quiet st) (hm : Mono st st') (ht : st'.tt.slots.size = 0) :
    Quiet st' ∧ Live st' :=
  ⟨⟨ht, hm.1.trans h.2⟩, live_of_none (hm.1.trans h.2)⟩

def tick (st : SState) : SState := { st with polls := st.polls + 1 }

def cancelled (st : SState) : Bool := (poll st).1

theorem poll_eq (st : SState) : poll st = (cancelled st, tick st) := rfl

theorem mono_tick (st : SState) : Mono st (tick st) := ⟨rfl, Nat.le_succ _⟩

theorem cancelled_false_iff (st : SState) : cancelled st = false ↔ Live (tick st) := by
  unfold cancelled poll Live tick
  cases h : st.cancelAt with
  | none => simp
  | some k => simp <;> omega

theorem not_live_of_cancelled {st : SState} (h : cancelled st = true) : ¬ Live (tick st) := by
  intro hl
  have := (cancelled_false_iff st).2 hl
  rw [h] at this; cases this

theorem cancelled_mono {st st' : SState} (h : Mono (tick st) st') (hc : cancelled st = true) :
    cancelled st' = true := by
  cases hc' : cancelled st' with
  | true => rfl
  | false =>
    have := (cancelled_false_iff st').1 hc'
    exact absurd (h.live ((mono_tick st').live this)) (not_live_of_cancelled hc)

/-- What a searcher owes for a node with reference value `v`, started in `st` on the window `(a, b)`, with result `r`:
    the table invariant is kept whatever happens, and if the search stayed live the score is graded-valid, exact or at
    least `alpha`, the value clipped to a proper window, and the PV is good. -/
@[reducible] def NodeOK (Inv : TTState → Prop) (n : Nat) (v : Score) (pathok : Score → List Move → Prop)
    (a b : Score) (st : SState) (r : Score × List Move × SState) : Prop :=
  Mono st r.2.2 ∧ Inv r.2.2.tt ∧
  (Live r.2.2 → okN n r.1 ∧ (r.1 = v ∨ rank a ≤ rank r.1) ∧
    (rank a < rank b → Clip (rank a) (rank b) (rank v) (rank r.1)) ∧ pathok r.1 r.2.1)

/-- The node contract with table invariant `Inv` and cancellation, for the positions of the domain `D`
    (the positions the searcher is actually called on: the region of the tree at this remaining depth). -/
structure RecTT (Inv : TTState → Prop) (D : P → Prop) (n : Nat) (vc : P → Score)
    (pathc : P → Score → List Move → Prop)
    (rec : P → Score → Score → SState → Score × List Move × SState) : Prop where
  vok : ∀ c, okN n (vc c)
  node : ∀ c a b st, D c → Inv st.tt → (Live st → okN n a ∧ okN n b) →
    NodeOK Inv n (vc c) (pathc c) a b st (rec c a b st)

/-- What the loop needs to know about one explored legal child whose search stayed live. -/
structure StepFacts (n : Nat) (vc : P → Score) (c : P) (a b r1 : Score) : Prop where
  rok : okN n r1
  a'ok : okN (n + 1) (if a.less (lift r1) then lift r1 else a)
  a'r : rank (if a.less (lift r1) then lift r1 else a) = Max.max (rank a) (rank (lift r1))
  less : a.less (lift r1) = true ↔ rank a < rank (lift r1)
  kp : rank a < rank b →
      (rank a < rank (lift (vc c)) ∧ rank (lift (vc c)) < rank b → rank (lift r1) = rank (lift (vc c))) ∧
      (rank (lift (vc c)) ≤ rank a → rank (lift r1) ≤ rank a) ∧
      (rank b ≤ rank (lift (vc c)) → rank b ≤ rank (lift r1) ∧ rank (lift r1) ≤ rank (lift (vc c)))
  ki : rank b ≤ rank a → rank b ≠ -1099511627776 →
      rank (lift r1) ≤ rank a ∨ rank (lift r1) = rank (lift (vc c))
  kr : rank a < rank (lift r1) → rank (lift r1) ≤ rank (lift (vc c))

theorem stepFacts {n : Nat} {vc : P → Score} {c : P} {a b r1 : Score} (hn : n ≤ 126) (hvc : okN n (vc c))
    (ha : okN (n + 1) a) (hb : okN (n + 1) b) (hrok : okN n r1)
    (hweak : r1 = vc c ∨ rank (childBound b) ≤ rank r1)
    (hclip : rank (childBound b) < rank (childBound a) →
      Clip (rank (childBound b)) (rank (childBound a)) (rank (vc c)) (rank r1)) :
    StepFacts n vc c a b r1 := by
  have hsok : okN (n + 1) (lift r1) := okN_lift hrok hn
  have rs : rank (lift r1) = fR (rank r1) := rank_lift hrok hn
  have rF : rank (lift (vc c)) = fR (rank (vc c)) := rank_lift hvc hn
  have rcb : rank (childBound b) = cwR (rank b) := rank_cw hb (by omega)
  have rca : rank (childBound a) = cwR (rank a) := rank_cw ha (by omega)
  obtain ⟨hless, ha'ok, ha'r⟩ := raise_spec ha hsok
  have Na : rankN 127 (rank a) := rankN_mono (okN_rankN ha) (by omega)
  have Nb : rankN 127 (rank b) := rankN_mono (okN_rankN hb) (by omega)
  have Nv : rankN 126 (rank (vc c)) := rankN_mono (okN_rankN hvc) hn
  have Nr : rankN 126 (rank r1) := rankN_mono (okN_rankN hrok) hn
  have hweak' : rank r1 = rank (vc c) ∨ cwR (rank b) ≤ rank r1 := by
    rcases hweak with e | e
    · left; rw [e]
    · right; rw [← rcb]; exact e
  have hclip' : cwR (rank b) < cwR (rank a) → Clip (cwR (rank b)) (cwR (rank a)) (rank (vc c)) (rank r1) := by
    rw [← rcb, ← rca]; exact hclip
  have kp := fun hab => key_proper Na Nb Nv Nr hab hclip' hweak'
  have ki := fun hba hbot => key_improper (a := rank a) (v := rank (vc c)) Nb Nr hba hbot hweak'
  have kr := key_raise Na Nb Nv Nr hclip' hweak'
  rw [← rs, ← rF] at kp ki kr
  exact ⟨hrok, ha'ok, ha'r, hless, kp, ki, kr⟩

/-- Conclusions of the loop lemma for a run that stayed live. -/
def LoopPost (g : Game P) (ex : P → Explore) (p : P) (n : Nat) (vc : P → Score)
    (pathc : P → Score → List Move → Prop) (b : Score) (l : List Move) (a : Score) (pv : List Move) (hl : Bool)
    (res : Score × List Move × Bool × Bool × SState) : Prop :=
  okN (n + 1) res.1 ∧ rank a ≤ rank res.1 ∧ res.2.2.1 = (hl || legalAny g p l) ∧
  (rank a < rank b →
    (maxR (rank a) (kidsR g ex p vc l) < rank b → rank res.1 = maxR (rank a) (kidsR g ex p vc l)) ∧
    (rank b ≤ maxR (rank a) (kidsR g ex p vc l) →
      rank b ≤ rank res.1 ∧ rank res.1 ≤ maxR (rank a) (kidsR g ex p vc l))) ∧
  (rank b ≤ rank a → rank b ≠ -1099511627776 → rank res.1 ≤ maxR (rank a) (kidsR g ex p vc l)) ∧
  (res.2.2.2.1 = false → rank res.1 < rank b ∨ res.1 = a) ∧
  ((res.2.1 = pv ∧ res.1 = a) ∨
    ∃ m c s rem, res.2.1 = m :: rem ∧ m ∈ l ∧ g.push p m = some c ∧ (ex p).pick m = true ∧ pathc c s rem ∧
      okN n s ∧ res.1 = lift s ∧ rank a < rank res.1 ∧ rank res.1 ≤ rank (lift (vc c)))

section post
variable {g : Game P} {ex : P → Explore} {p : P} {n : Nat} {vc : P → Score}
  {pathc : P → Score → List Move → Prop} {b : Score}

theorem LoopPost.nil {a : Score} {pv : List Move} {hl : Bool} {st : SState} (ha : okN (n + 1) a) :
    LoopPost g ex p n vc pathc b [] a pv hl (a, pv, hl, false, st) := by
  refine ⟨ha, Int.le_refl _, by simp [legalAny], ?_, ?_, ?_, Or.inl ⟨rfl, rfl⟩⟩
  · intro hab; simp only [kidsR, kids, List.filterMap_nil, List.map_nil, maxR, List.foldl_nil]
    exact ⟨fun _ => trivial, fun h => by omega⟩
  · intro _ _; simp only [kidsR, kids, List.filterMap_nil, List.map_nil, maxR, List.foldl_nil]
    exact Int.le_refl _
  · intro _; right; rfl

/-- A move that is not explored (illegal, or legal and not picked) changes nothing but the legal-move flag. -/
theorem LoopPost.cons_unexplored {m : Move} {rest : List Move} {a : Score} {pv : List Move} {hl hl' : Bool}
    {res : Score × List Move × Bool × Bool × SState} (hk : kidsR g ex p vc (m :: rest) = kidsR g ex p vc rest)
    (hleg : (hl' || legalAny g p rest) = (hl || legalAny g p (m :: rest)))
    (h : LoopPost g ex p n vc pathc b rest a pv hl' res) :
    LoopPost g ex p n vc pathc b (m :: rest) a pv hl res := by
  obtain ⟨h1, h2, h3, h4, h5, h6, h7⟩ := h
  unfold LoopPost
  rw [hk, ← hleg]
  refine ⟨h1, h2, h3, h4, h5, h6, h7.imp id ?_⟩
  rintro ⟨m', c, s, rem, e1, e2, e3⟩
  exact ⟨m', c, s, rem, e1, List.mem_cons_of_mem _ e2, e3⟩

theorem LoopPost.skip_cut {m : Move} {rest : List Move} {a : Score} {pv : List Move} {hl : Bool} {c : P}
    {st : SState} (hpush : g.push p m = some c) (hp : (ex p).pick m = false) (ha : okN (n + 1) a)
    (hba : rank b ≤ rank a) :
    LoopPost g ex p n vc pathc b (m :: rest) a pv hl (a, pv, true, true, st) := by
  have hM := maxR_ge (kidsR g ex p vc rest) (rank a)
  unfold LoopPost
  rw [kidsR_skip hp, legalAny_cons, hpush]
  refine ⟨ha, Int.le_refl _, by simp, ?_, ?_, ?_, Or.inl ⟨rfl, rfl⟩⟩
  · intro hab; omega
  · intro _ _; exact hM
  · intro h; simp at h

theorem LoopPost.pick_cut {m : Move} {rest : List Move} {a : Score} {pv : List Move} {hl : Bool} {c : P}
    {st : SState} {r1 : Score} {rem1 : List Move} (hpush : g.push p m = some c) (hp : (ex p).pick m = true)
    (S : StepFacts n vc c a b r1) (hpath : pathc c r1 rem1)
    (hba : rank b ≤ rank (if a.less (lift r1) then lift r1 else a)) :
    LoopPost g ex p n vc pathc b (m :: rest) a pv hl
      (if a.less (lift r1) then lift r1 else a, if a.less (lift r1) then m :: rem1 else pv, true, true, st) := by
  have hM := maxR_ge (kidsR g ex p vc rest) (Max.max (rank a) (rank (lift (vc c))))
  have ha'r := S.a'r
  unfold LoopPost
  rw [kidsR_pick hpush hp, maxR_cons, legalAny_cons, hpush]
  refine ⟨S.a'ok, by rw [ha'r]; omega, by simp, ?_, ?_, ?_, ?_⟩
  · intro hab
    obtain ⟨q1, q2, q3⟩ := S.kp hab
    dsimp only
    rw [ha'r] at hba ⊢
    omega
  · intro hba' hbot
    have := S.ki hba' hbot
    dsimp only
    rw [ha'r]
    omega
  · intro h; simp at h
  · dsimp only
    by_cases hl' : a.less (lift r1) = true
    · right
      have h1 := S.less.1 hl'
      have h2 := S.kr h1
      refine ⟨m, c, r1, rem1, by simp [hl'], List.mem_cons_self, hpush, hp, hpath, S.rok, by simp [hl'], ?_, ?_⟩
      · simp only [hl', if_true]; exact h1
      · simp only [hl', if_true]; exact h2
    · left
      simp [hl']

theorem LoopPost.pick_cont {m : Move} {rest : List Move} {a : Score} {pv : List Move} {hl : Bool} {c : P}
    {r1 : Score} {rem1 : List Move} {res : Score × List Move × Bool × Bool × SState}
    (hpush : g.push p m = some c) (hp : (ex p).pick m = true)
    (S : StepFacts n vc c a b r1) (hpath : pathc c r1 rem1)
    (hnb : rank (if a.less (lift r1) then lift r1 else a) < rank b)
    (h : LoopPost g ex p n vc pathc b rest (if a.less (lift r1) then lift r1 else a)
      (if a.less (lift r1) then m :: rem1 else pv) true res) :
    LoopPost g ex p n vc pathc b (m :: rest) a pv hl res := by
  have ha'r := S.a'r
  have hab : rank a < rank b := by rw [ha'r] at hnb; omega
  obtain ⟨q1, q2, q3⟩ := S.kp hab
  have hMeq : Max.max (rank a) (rank (lift (vc c))) = rank (if a.less (lift r1) then lift r1 else a) := by
    rw [ha'r] at hnb ⊢; omega
  obtain ⟨h1, h2, h3, h4, h5, h6, h7⟩ := h
  unfold LoopPost
  rw [kidsR_pick hpush hp, maxR_cons, legalAny_cons, hpush, hMeq]
  refine ⟨h1, by rw [ha'r] at h2; omega, by simpa using h3, fun _ => h4 hnb, fun hba _ => by omega, ?_, ?_⟩
  · intro hw
    rcases h6 hw with e | e
    · left; exact e
    · left; rw [e]; exact hnb
  · rcases h7 with ⟨e1, e2⟩ | ⟨m', c', s, rem, e1, e2, e3, e4, e5, e6, e7, e8, e9⟩
    · by_cases hl' : a.less (lift r1) = true
      · right
        have g1 := S.less.1 hl'
        have g2 := S.kr g1
        refine ⟨m, c, r1, rem1, by simp [e1, hl'], List.mem_cons_self, hpush, hp, hpath, S.rok,
          by simp [e2, hl'], ?_, ?_⟩
        · rw [e2]; simp only [hl', if_true]; exact g1
        · rw [e2]; simp only [hl', if_true]; exact g2
      · left
        simp [e1, e2, hl']
    · right
      exact ⟨m', c', s, rem, e1, List.mem_cons_of_mem _ e2, e3, e4, e5, e6, e7, by rw [ha'r] at e8; omega, e9⟩

end post

theorem abLoop_tt {g : Game P} {ex : P → Explore} {rec} {p : P} {Inv : TTState → Prop} {D : P → Prop} {n : Nat}
    {vc : P → Score}
    {pathc : P → Score → List Move → Prop} (H : RecTT Inv D n vc pathc rec) (hn : n ≤ 126) {b : Score} :
    ∀ (l : List Move), (∀ m ∈ l, ∀ c, g.push p m = some c → (ex p).pick m = true → D c) →
    ∀ (a : Score) (pv : List Move) (hl : Bool) (st : SState), Inv st.tt →
    (Live st → okN (n + 1) a ∧ okN (n + 1) b) →
    ∀ res, abLoop g ex rec p b l a pv hl st = res →
      Mono st res.2.2.2.2 ∧ Inv res.2.2.2.2.tt ∧
      (Live res.2.2.2.2 → LoopPost g ex p n vc pathc b l a pv hl res) := by
  intro l
  induction l with
  | nil =>
    intro _ a pv hl st hinv hab res hres
    simp only [abLoop] at hres
    subst hres
    exact ⟨Mono.refl _, hinv, fun hlive => LoopPost.nil (hab hlive).1⟩
  | cons m rest ih' =>
    intro hD a pv hl st hinv hab res hres
    have ih := ih' (fun m' hm' => hD m' (List.mem_cons_of_mem _ hm'))
    cases hpush : g.push p m with
    | none =>
      rw [abLoop_none hpush] at hres
      obtain ⟨h1, h2, h3⟩ := ih a pv hl st hinv hab res hres
      exact ⟨h1, h2, fun hlive => (h3 hlive).cons_unexplored (kidsR_none hpush) (by simp [legalAny_cons, hpush])⟩
    | some c =>
      cases hp : (ex p).pick m with
      | false =>
        rw [abLoop_skip hpush hp] at hres
        by_cases hcut : cutoff a b = true
        · rw [if_pos hcut] at hres
          subst hres
          refine ⟨Mono.refl _, hinv, fun hlive => ?_⟩
          obtain ⟨ha, hb⟩ := hab hlive
          exact LoopPost.skip_cut hpush hp ha ((cutoff_iff ha.1 hb.1).1 hcut)
        · rw [if_neg hcut] at hres
          obtain ⟨h1, h2, h3⟩ := ih a pv true st hinv hab res hres
          exact ⟨h1, h2, fun hlive => (h3 hlive).cons_unexplored (kidsR_skip hp) (by simp [legalAny_cons, hpush])⟩
      | true =>
        rw [abLoop_pick hpush hp] at hres
        have hab' : Live st → okN n (childBound b) ∧ okN n (childBound a) := fun hlive =>
          ⟨okN_cw (hab hlive).2 (by omega), okN_cw (hab hlive).1 (by omega)⟩
        obtain ⟨hm, hi, hs⟩ := H.node c (childBound b) (childBound a) st
          (hD m List.mem_cons_self c hpush hp) hinv hab'
        generalize rec c (childBound b) (childBound a) st = r at hres hm hi hs
        dsimp only at hres
        -- facts about the child, available when its search stayed live
        have facts : Live r.2.2 → okN (n + 1) a ∧ okN (n + 1) b ∧ StepFacts n vc c a b r.1 ∧ pathc c r.1 r.2.1 := by
          intro hlive
          obtain ⟨ha, hb⟩ := hab (hm.live hlive)
          obtain ⟨s1, s2, s3, s4⟩ := hs hlive
          exact ⟨ha, hb, stepFacts hn (H.vok c) ha hb s1 s2 s3, s4⟩
        by_cases hcut : cutoff (if a.less (lift r.1) then lift r.1 else a) b = true
        · rw [if_pos hcut] at hres
          subst hres
          refine ⟨hm, hi, fun hlive => ?_⟩
          obtain ⟨_, hb, S, hpath⟩ := facts hlive
          exact LoopPost.pick_cut hpush hp S hpath ((cutoff_iff S.a'ok.1 hb.1).1 hcut)
        · rw [if_neg hcut] at hres
          obtain ⟨h1, h2, h3⟩ := ih _ _ true r.2.2 hi
            (fun hlive => ⟨(facts hlive).2.2.1.a'ok, (facts hlive).2.1⟩) res hres
          refine ⟨hm.trans h1, h2, fun hlive => ?_⟩
          obtain ⟨_, hb, S, hpath⟩ := facts (h1.live hlive)
          have hnb : rank (if a.less (lift r.1) then lift r.1 else a) < rank b := by
            have : ¬ rank b ≤ rank (if a.less (lift r.1) then lift r.1 else a) :=
              fun h => hcut ((cutoff_iff S.a'ok.1 hb.1).2 h)
            omega
          exact LoopPost.pick_cont hpush hp S hpath hnb (h3 hlive)

/-- The move loop of the quiescence search does nothing to the state but hand it through the searches of the explored
    legal children: a reflexive, transitive relation they all respect holds between its first and last state. -/
theorem quiesceLoop_frame {g : Game P} {ex : P → Explore} {rec : P → Score → Score → SState → Score × SState} {p : P}
    {b : Score} (Rel : SState → SState → Prop) (hrefl : ∀ s, Rel s s)
    (htrans : ∀ {s1 s2 s3}, Rel s1 s2 → Rel s2 s3 → Rel s1 s3) :
    ∀ (l : List Move),
      (∀ m c, m ∈ l → (ex p).pick m = true → g.push p m = some c → ∀ a b st, Rel st (rec c a b st).2) →
      ∀ (a : Score) (hl : Bool) (st : SState), Rel st (quiesceLoop g ex rec p b l a hl st).2.2 := by
  intro l
  induction l with
  | nil => intro _ a hl st; exact hrefl st
  | cons m rest ih =>
    intro hrec a hl st
    have ih' := ih (fun m' c hm => hrec m' c (List.mem_cons_of_mem _ hm))
    cases hpush : g.push p m with
    | none => simp only [quiesceLoop, childOf, hpush]; exact ih' _ _ _
    | some c =>
      cases hp : (ex p).pick m with
      | false =>
        simp only [quiesceLoop, childOf, hpush, hp, Bool.false_eq_true, if_false]
        split
        · exact hrefl st
        · exact ih' _ _ _
      | true =>
        have := hrec m c List.mem_cons_self hp hpush (childBound b) (childBound a) st
        simp only [quiesceLoop, childOf, hpush, hp, if_true]
        split
        · exact this
        · exact htrans this (ih' _ _ _)

end Morlock.Proofs.AB
