import Morlock.Proofs.ABChessFuel
import Morlock.Proofs.ABTTSearch
/-!
# Concrete search trees of the chess game

The region hypotheses of C11 / C12 (`NoDrawOn`, `RootFreeOn`, `HashOKOn` on the tree of the search) are discharged
here for concrete roots of the chess game the driver ties to the Go code (`materialGame`, worlds built by `newBoard`),
by evaluating the finite tree (`treeList`) in the kernel:

* `wS` (= `C05.wS`): K + N v K + N, White to move - the tree of depth 2 (73 positions);
* `w1`: `wS` after 1. Nf3 - a successor root for sequences of searches;
* `wE`: `r3k2r/1P6/8/3pP3/8/8/8/R3K2R w KQkq d6` (`RepExample.exPos`: castling, en passant, promotion and captures
  available) - the tree of depth 1 (37 positions).
-/
namespace Morlock.Proofs.AB
open Morlock Morlock.Model Morlock.Model.World Morlock.Model.Score Morlock.Proofs
variable {P : Type}

theorem trees_cover {g : Game P} {ex : P → Explore} {root : P} {D : Nat} {l : List (P × Nat)}
    (h : ∀ pd ∈ l, ∃ k, Reach g ex k root pd.1 ∧ k + pd.2 ≤ D) :
    ∀ n q, Trees g ex l n q → q ∈ treeList g ex root D := by
  intro n q ⟨pd, hpd, ht⟩
  obtain ⟨k, hk, hD⟩ := h pd hpd
  exact tree_mem_treeList (tree_sub hk _ _ _ ht) hD

theorem inv_kids {z : ZTable} {ev : Position → Color → Int} {ex : World → Explore} {w c : World} (h : Inv w)
    (hc : c ∈ kids (boardGame z ev) ex w ((boardGame z ev).moves w)) : Inv c := by
  obtain ⟨m, hm, _, hpush⟩ := mem_kids hc
  exact inv_push h hm hpush

/-- The reference value of the main search with captures-only quiescence leaves does not depend on the fuel (from 64
    on) at any world reached by legal play: the Go code, which has no fuel, is modelled faithfully by fuel 64. -/
theorem V_fuel_irrelevant (z : ZTable) (ev : Position → Color → Int) (ex qx : World → Explore) (hq : CapturesOnly qx)
    (rootPly : Int) (fuel : Nat) (hf : 64 ≤ fuel) :
    ∀ d w, Inv w → V (boardGame z ev) ex (.quiescence qx fuel) rootPly d w =
      V (boardGame z ev) ex (.quiescence qx 64) rootPly d w :=
  V_fuel_irrelevant_of_qdone Inv (fun _ _ => inv_kids) 64 (boardGame_qdone z ev qx hq) rootPly fuel hf

theorem push_ply {w w' : World} {z : ZTable} {m : Move} (hx : 0 < w.boards.size) (h : w.pushMove z 0 m = some w') :
    (w'.board 0).ply = (w.board 0).ply + 1 := by
  obtain ⟨_, next, _, rfl⟩ := Arena.pushMove_some h
  rw [Arena.setBoard_board, if_pos ⟨rfl, hx⟩]
  rfl

theorem reach_inv_ply (z : ZTable) (ev : Position → Color → Int) (ex : World → Explore) {w : World} (h : Inv w) :
    ∀ k q, Reach (boardGame z ev) ex k w q →
      Inv q ∧ (boardGame z ev).ply q = (boardGame z ev).ply w + (k : Int) := by
  intro k
  induction k with
  | zero => intro q hq; cases hq; exact ⟨h, by simp⟩
  | succ k ih =>
    intro q ⟨q', hq', m, hm, _, hpush⟩
    obtain ⟨hi, hp⟩ := ih q' hq'
    refine ⟨inv_push hi hm hpush, ?_⟩
    have := push_ply hi.2.1 hpush
    show (q.board 0).ply = _
    rw [this]
    have hp' : (q'.board 0).ply = (w.board 0).ply + (k : Int) := hp
    rw [hp']
    show _ = (w.board 0).ply + ((k + 1 : Nat) : Int)
    omega

/-- On the chess game the root-ply condition of C11 / C12 holds for the tree of every search whose root satisfies the
    play invariant and is not drawn: the ply grows by one with every move. -/
theorem boardGame_rootFreeOn (z : ZTable) (ev : Position → Color → Int) (ex : World → Explore) {w : World} (h : Inv w)
    (hd : (boardGame z ev).isDraw w = false) (d : Nat) :
    RootFreeOn (boardGame z ev) (Tree (boardGame z ev) ex w d) ((boardGame z ev).ply w) := by
  intro n p ⟨k, _, hr⟩ hdraw
  have hp := (reach_inv_ply z ev ex h k p hr).2
  cases k with
  | zero => cases hr; rw [hd] at hdraw; cases hdraw
  | succ k => rw [hp]; omega

/-- The material game with the sample Zobrist table of C07. -/
def gX : Game World := materialGame exZ

/-- The captures-only exploration of the driver's quiescence search (the same on every board). -/
def capX : World → Explore := constEx { prio := mvvlva, pick := fun m => m.isCapture }

/-- The full exploration (the same on every board). -/
def fullX : World → Explore := constEx fullExploration

theorem gX_evalOk : EvalOk gX := materialGame_evalOk exZ

theorem capX_capturesOnly : CapturesOnly capX := capturesOnly_driver mvvlva

/-- K + N v K + N, White to move (C05). -/
def wS : World := Props.C05.wS

/-- `wS` after 1. Nf3. -/
def w1 : World := (wS.pushMove exZ 0 Props.C05.nf3).getD wS

/-- `RepExample.exPos` as a new board, White to move. -/
def wE : World := (({} : World).newBoard exZ Proofs.exPos .white 0 1).1

theorem wS_inv : Inv wS := c05_wS_inv

theorem wE_inv : Inv wE := inv_newBoard exZ 0 1 ⟨⟨exPos_rep.self, by decide +kernel⟩, by decide +kernel⟩

theorem wS_reach_w1 : Reach gX fullX 1 wS w1 := by
  have h : (wS.pushMove exZ 0 Props.C05.nf3).isSome = true := by decide +kernel
  refine ⟨wS, rfl, Props.C05.nf3, by decide +kernel, rfl, ?_⟩
  show wS.pushMove exZ 0 Props.C05.nf3 = some w1
  unfold w1
  cases hh : wS.pushMove exZ 0 Props.C05.nf3 with
  | none => rw [hh] at h; cases h
  | some c => rfl

theorem wS_ply : gX.ply wS = 1 := by decide +kernel
theorem wE_ply : gX.ply wE = 1 := by decide +kernel

/-- 73 positions, none drawn, pairwise distinct hashes; `Minimax` visits each once. -/
theorem wS_tree : (treeList gX fullX wS 2).length = 73 ∧
    ((treeList gX fullX wS 2).all fun q => !gX.isDraw q) = true ∧ ((treeList gX fullX wS 2).map gX.hash).Nodup ∧
    mmNodes gX fullX 2 wS = 73 := by
  decide +kernel

theorem wS_tree_size : (treeList gX fullX wS 2).length = 73 := wS_tree.1

theorem wS_noDraw : NoDrawOn gX (Tree gX fullX wS 2) :=
  noDrawOn_of_list _ (fun _ _ h => tree_mem_treeList h (Nat.le_refl _)) wS_tree.2.1

theorem wS_hashOK (le : LeafEval World) : HashOKOn gX fullX le (Tree gX fullX wS 2) :=
  hashOKOn_of_list fullX le _ (fun _ _ h => tree_mem_treeList h (Nat.le_refl _)) wS_tree.2.2.1

/-- Searches of `wS` (depths 1, 2, 2 again) and of its successor `w1` (depth 1), threading one table. -/
def seqX : List (World × Nat) := [(wS, 1), (wS, 2), (wS, 2), (w1, 1)]

theorem seqX_cover : ∀ n q, Trees gX fullX seqX n q → q ∈ treeList gX fullX wS 2 := by
  apply trees_cover
  intro pd hpd
  simp only [seqX, List.mem_cons, List.mem_nil_iff, or_false] at hpd
  rcases hpd with rfl | rfl | rfl | rfl
  · exact ⟨0, rfl, by decide⟩
  · exact ⟨0, rfl, by decide⟩
  · exact ⟨0, rfl, by decide⟩
  · exact ⟨1, wS_reach_w1, by decide⟩

theorem seqX_noDraw : NoDrawOn gX (Trees gX fullX seqX) :=
  noDrawOn_of_list _ seqX_cover wS_tree.2.1

theorem seqX_hashOK (le : LeafEval World) : HashOKOn gX fullX le (Trees gX fullX seqX) :=
  hashOKOn_of_list fullX le _ seqX_cover wS_tree.2.2.1

theorem wE_tree : (treeList gX fullX wE 1).length = 37 ∧
    ((treeList gX fullX wE 1).all fun q => !gX.isDraw q) = true ∧ ((treeList gX fullX wE 1).map gX.hash).Nodup := by
  decide +kernel

theorem wE_tree_size : (treeList gX fullX wE 1).length = 37 := wE_tree.1

theorem wE_noDraw : NoDrawOn gX (Tree gX fullX wE 1) :=
  noDrawOn_of_list _ (fun _ _ h => tree_mem_treeList h (Nat.le_refl _)) wE_tree.2.1

theorem wE_hashOK (le : LeafEval World) : HashOKOn gX fullX le (Tree gX fullX wE 1) :=
  hashOKOn_of_list fullX le _ (fun _ _ h => tree_mem_treeList h (Nat.le_refl _)) wE_tree.2.2

theorem wS_notDraw : gX.isDraw wS = false := wS_noDraw 2 wS (tree_root _ _ _ _)
theorem wE_notDraw : gX.isDraw wE = false := wE_noDraw 1 wE (tree_root _ _ _ _)
theorem wS_legal : legalAny gX wS (gX.moves wS) = true := by decide +kernel
theorem wE_legal : legalAny gX wE (gX.moves wE) = true := by decide +kernel

/-- `7k/6Q1/6K1/8/8/8/8/8 b`: Black is mated. -/
def wM : World :=
  (({} : World).newBoard exZ
    ((Position.newPosition [(56, .black, .king), (49, .white, .queen), (41, .white, .king)] 0 0).getD {}) .black 0 1).1

/-- `7k/5Q2/6K1/8/8/8/8/8 b`: Black is stalemated. -/
def wT : World :=
  (({} : World).newBoard exZ
    ((Position.newPosition [(56, .black, .king), (50, .white, .queen), (41, .white, .king)] 0 0).getD {}) .black 0 1).1

theorem wM_facts : gX.isDraw wM = false ∧ legalAny gX wM (gX.moves wM) = false ∧ gX.inCheck wM = true ∧
    (gX.moves wM).length = 3 := by decide +kernel

theorem wT_facts : gX.isDraw wT = false ∧ legalAny gX wT (gX.moves wT) = false ∧ gX.inCheck wT = false ∧
    (gX.moves wT).length = 3 := by decide +kernel

/-- A table of 128 slots (`NewTranspositionTable(4096)`), empty. -/
def st4k : SState := { tt := TTState.new 4096 }

/-! The concrete worlds are made irreducible for the elaborator, so that stating a theorem about them does not make
`whnf` evaluate a search (the kernel, and `decide +kernel`, still unfold them). -/
attribute [irreducible] wS w1 wE wM wT

/-- Three runs on `wS`, in one statement.
    (1) The searches of `seqX` threading the table `st4k`: nodes, score and PV length of each, and the slots used at
    the end; the repeated depth-2 search needs 15 nodes instead of 24 and its PV is cut short by a table hit.
    (2) The depth-2 search halted at its 40th poll: it polls three more times on the way out and has stored two entries
    by then. (3) Undisturbed, that search performs 49 polls. -/
theorem wS_runs :
    ((searchSeq gX fullX .static seqX st4k).1.map (fun o => o.map fun r => (r.nodes, r.score, r.pv.length)) =
        [some (9, zeroScore, 1), some (24, zeroScore, 2), some (15, zeroScore, 1), some (9, zeroScore, 1)] ∧
      (searchSeq gX fullX .static seqX st4k).2.tt.used = 5) ∧
    ((alphaBetaSearch gX fullX .static wS 2 invalidScore invalidScore { st4k with cancelAt := some 40 }).2.polls = 43 ∧
      (alphaBetaSearch gX fullX .static wS 2 invalidScore invalidScore { st4k with cancelAt := some 40 }).2.tt.used = 2) ∧
    (alphaBetaSearch gX fullX .static wS 2 invalidScore invalidScore { st4k with cancelAt := some 50 }).2.polls = 49 := by
  decide +kernel

theorem seqX_values : (searchSeq gX fullX .static seqX st4k).1.map (fun o => o.map (·.score)) =
    seqX.map fun pd => some (V gX fullX .static (gX.ply pd.1) pd.2 pd.1) :=
  (searchSeq_tt gX_evalOk fullX .static (seqX_hashOK _) seqX st4k (soundOn_new _ _ _ _ 4096 0) rfl fun pd hpd =>
    ⟨fun _ _ hq => ⟨pd, hpd, hq⟩, (seqX_noDraw.mono fun _ _ hq => ⟨pd, hpd, hq⟩).rootFreeOn _, by
      simp only [seqX, List.mem_cons, List.mem_nil_iff, or_false] at hpd
      rcases hpd with rfl | rfl | rfl | rfl <;> decide⟩).1

/-- The depth-2 value of `wS` is 0: the score the second search of `seqX` reports (`wS_runs`) is the reference value
    (`seqX_values`). -/
theorem wS_V2 : V gX fullX .static 1 2 wS = zeroScore := by
  have h := seqX_values
  have e : (searchSeq gX fullX .static seqX st4k).1.map (fun o => o.map (·.score)) =
      ((searchSeq gX fullX .static seqX st4k).1.map
        (fun o => o.map fun r => (r.nodes, r.score, r.pv.length))).map (fun o => o.map (·.2.1)) := by
    simp only [List.map_map, Function.comp_def, Option.map_map]
  rw [e, wS_runs.1.1] at h
  simp only [seqX, List.map, Option.map, wS_ply] at h
  injection h with _ h
  injection h with h _
  exact (Option.some.inj h).symm

end Morlock.Proofs.AB
