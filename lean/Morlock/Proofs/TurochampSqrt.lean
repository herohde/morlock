import Morlock.Proofs.TurochampNear
import Morlock.Proofs.TurochampMaterial
/-!
# The square-root terms `round(10·√n)/10`, `n ≤ 128`: one table

`sqrtTerm n` goes through a float64 square root; what the proofs need of it is read off one sweep over the 129 values:
the term is within `2^-21` of a multiple `ideal n` of 1/10 with `0 ≤ ideal n ≤ 114`. That it is at most 12 follows.
-/
namespace Morlock.Proofs.Turochamp
open Morlock Morlock.Model Morlock.Model.Flt Morlock.Model.Turochamp

/-- the tenths that `round(10·√n)/10` stands for -/
def ideal (n : Nat) : Int :=
  match sqrtTerm n with
  | some t => (Q.mul (Q.ofInt 10) t).roundAway
  | none => 0

/-- `Near` as a Boolean, so that the sweep of `sqrtTerm_near` is a `decide` -/
def nearB (t : Q) (s : Int) (E : Nat) : Bool :=
  decide (0 < t.den) && decide ((dev t s).natAbs ≤ E * 10 * t.den)

theorem nearB_spec {t : Q} {s : Int} {E : Nat} (h : nearB t s E = true) : Near t s E := by
  simp only [nearB, Bool.and_eq_true, decide_eq_true_eq] at h
  exact h

def termOk (n : Nat) : Bool :=
  match sqrtTerm n with
  | some t => nearB t (ideal n) 524288 && decide (0 ≤ ideal n) && decide (ideal n ≤ 114)
  | none => false

theorem sqrtTerm_near {n : Nat} (h : n ≤ 128) :
    ∃ t, sqrtTerm n = some t ∧ Near t (ideal n) 524288 ∧ 0 ≤ ideal n ∧ ideal n ≤ 114 := by
  have hall : allBelow 129 termOk = true := by decide +kernel
  have := allBelow_spec hall n (by omega)
  unfold termOk at this
  cases hs : sqrtTerm n with
  | none => rw [hs] at this; cases this
  | some t =>
    rw [hs] at this
    simp only [Bool.and_eq_true, decide_eq_true_eq] at this
    exact ⟨t, rfl, nearB_spec this.1.1, this.1.2, this.2⟩

theorem sqrtTerm_bd {n : Nat} (h : n ≤ 128) : ∃ t, sqrtTerm n = some t ∧ Bd t 12 := by
  obtain ⟨t, ht, hn, h0, h1⟩ := sqrtTerm_near h
  exact ⟨t, ht, hn.bd_of (by omega)⟩

end Morlock.Proofs.Turochamp
