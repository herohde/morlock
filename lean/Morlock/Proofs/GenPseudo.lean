import Morlock.Proofs.GenCastle
/-!
# Stage E of C01: the pseudo-legal move list against the reference `pseudoMoves`
-/
namespace Morlock.Proofs.Gen
open Morlock Morlock.Model Morlock.Proofs.Attack

variable {p : Position} {b : Board} {turn : Color} {m : Move} {castling ep fr sq : Nat}

/-- A pseudo-legal move of `turn` with its metadata: the four kinds the generator emits. -/
def PseudoMove (b : Board) (castling ep : Nat) (turn : Color) (m : Move) : Prop :=
  (∃ pc ∈ Position.promoPieces, StepMove b turn pc m) ∨
  PawnMove b ep turn m ∨
  StepMove b turn .king m ∨
  (m.from = kingHomeSq turn ∧ CastleMove b castling turn m)

/-- Case analysis on a pseudo-legal move: a step move of a piece other than a pawn (officer or king), a pawn
    move, or a castle from the king's home square. -/
theorem PseudoMove.elim {P : Prop}
    (hm : PseudoMove b castling ep turn m) (step : ∀ pc, pc ≠ .pawn → StepMove b turn pc m → P)
    (pawn : PawnMove b ep turn m → P)
    (castle : m.from = kingHomeSq turn → CastleMove b castling turn m → P) : P := by
  rcases hm with ⟨pc, hpc, hs⟩ | hp | hs | ⟨hf, hc⟩
  · refine step pc ?_ hs
    rcases (mem_promoPieces pc).mp hpc with rfl | rfl | rfl | rfl <;> simp
  · exact pawn hp
  · exact step .king (by simp) hs
  · exact castle hf hc

theorem mem_genKing (h : Rep p b) {turn t : Color}
    (hw : WFb b p.castling p.enpassant t) (m : Move) :
    m ∈ genKing p turn ↔
      StepMove b turn .king m ∨ (m.from = kingHomeSq turn ∧ CastleMove b p.castling turn m) := by
  unfold genKing
  by_cases h0 : p.pieces turn .king = 0
  · rw [if_pos h0]
    have hno := (king_zero_iff h turn).mp h0
    simp only [List.not_mem_nil, false_iff]
    rintro (hs | ⟨_, hc⟩)
    · exact hno _ hs.1
    · exact hno _ (hc.kingHome hw)
  · rw [if_neg h0, List.mem_append, mem_genKingSteps h turn h0, mem_genCastles h]
    obtain ⟨hk, _⟩ := kingSquare_spec h turn h0
    constructor
    · rintro (⟨_, hs⟩ | ⟨hf, hc⟩)
      · exact Or.inl hs
      · exact Or.inr ⟨by rw [hf]; exact hw.king_unique _ _ _ hk (hc.kingHome hw), hc⟩
    · rintro (hs | ⟨hf, hc⟩)
      · exact Or.inl ⟨hw.king_unique _ _ _ hs.1 hk, hs⟩
      · exact Or.inr ⟨by rw [hf]; exact hw.king_unique _ _ _ (hc.kingHome hw) hk, hc⟩

theorem mem_pseudoLegalMoves (h : Rep p b) {turn t : Color}
    (hw : WFb b p.castling p.enpassant t) (m : Move) :
    m ∈ p.pseudoLegalMoves turn ↔ PseudoMove b p.castling p.enpassant turn m := by
  rw [pseudoLegalMoves_eq, List.mem_append, List.mem_append, mem_genOfficers h, mem_genPawns h,
    mem_genKing h hw]
  unfold PseudoMove
  constructor
  · rintro ((h1 | h2) | h3)
    · exact Or.inl h1
    · exact Or.inr (Or.inl h2)
    · exact Or.inr (Or.inr h3)
  · rintro (h1 | h2 | h3)
    · exact Or.inl (Or.inl h1)
    · exact Or.inl (Or.inr h2)
    · exact Or.inr h3

theorem CastleMove.abs_mem_pseudoMoves (h : Rep p b) {turn t : Color}
    (hw : WFb b p.castling p.enpassant t) (hm : CastleMove b p.castling turn m)
    (hfr : m.from = kingHomeSq turn) : absMove m ∈ Spec.pseudoMoves (abs p turn) := by
  have hk : b m.from = some (turn, .king) := by rw [hfr]; exact hm.kingHome hw
  rw [mem_pseudoMoves]
  refine ⟨h.lt_of_some hk, ?_⟩
  have hat : (abs p turn).at (absMove m).from = some ((abs p turn).turn, .king) :=
    (h.abs_at_iff turn m.from turn .king).mpr hk
  rw [movesFrom_officer hat (by simp), List.mem_append]
  exact Or.inr (hm.abs_mem h hfr)

theorem PseudoMove.abs_mem_pseudoMoves (h : Rep p b)
    (hw : WFb b p.castling p.enpassant turn)
    (hm : PseudoMove b p.castling p.enpassant turn m) : absMove m ∈ Spec.pseudoMoves (abs p turn) :=
  hm.elim (fun _ hpw hs => hs.abs_mem_pseudoMoves h hpw) (fun hp => hp.abs_mem_pseudoMoves h hw)
    (fun hf hc => hc.abs_mem_pseudoMoves h hw hf)

theorem exists_pseudoMove (h : Rep p b) {sm : Spec.SMove}
    (hsm : sm ∈ Spec.pseudoMoves (abs p turn)) :
    ∃ m, PseudoMove b p.castling p.enpassant turn m ∧ absMove m = sm := by
  rw [mem_pseudoMoves] at hsm
  obtain ⟨_, hsm⟩ := hsm
  obtain ⟨K, hat⟩ := at_of_mem_movesFrom hsm
  have hb : b sm.from = some (turn, kindPiece K) := (h.abs_at_iff turn sm.from turn K).mp hat
  by_cases hK : K = .pawn
  · subst hK
    rw [movesFrom_pawn hat] at hsm
    obtain ⟨m, hm, e⟩ := exists_pawnMove h hb hsm
    exact ⟨m, Or.inr (Or.inl hm), e⟩
  · rw [movesFrom_officer hat hK, List.mem_append] at hsm
    rcases hsm with hsm | hsm
    · have hsm' : sm ∈ officerNormal (abs p turn) (absColor turn) (kindOf (kindPiece K)) sm.from := by
        rw [kindOf_kindPiece]; exact hsm
      obtain ⟨m, hm, e⟩ := exists_stepMove_of_officerNormal h hb hsm'
      refine ⟨m, ?_, e⟩
      cases K
      · exact absurd rfl hK
      · exact Or.inl ⟨_, (mem_promoPieces _).mpr (Or.inr (Or.inr (Or.inr rfl))), hm⟩
      · exact Or.inl ⟨_, (mem_promoPieces _).mpr (Or.inr (Or.inr (Or.inl rfl))), hm⟩
      · exact Or.inl ⟨_, (mem_promoPieces _).mpr (Or.inr (Or.inl rfl)), hm⟩
      · exact Or.inl ⟨_, (mem_promoPieces _).mpr (Or.inl rfl), hm⟩
      · exact Or.inr (Or.inr (Or.inl hm))
    · obtain ⟨_, hfr, m, hf, hc, e⟩ := exists_castleMove h hsm
      exact ⟨m, Or.inr (Or.inr (Or.inr ⟨hf.trans hfr, hc⟩)), e⟩

theorem pseudo_iff_aux (h : Rep p b)
    (hw : WFb b p.castling p.enpassant turn) (sm : Spec.SMove) :
    (∃ m, m ∈ p.pseudoLegalMoves turn ∧ absMove m = sm) ↔ sm ∈ Spec.pseudoMoves (abs p turn) := by
  constructor
  · rintro ⟨m, hm, rfl⟩
    exact ((mem_pseudoLegalMoves h hw m).mp hm).abs_mem_pseudoMoves h hw
  · intro hsm
    obtain ⟨m, hm, e⟩ := exists_pseudoMove h hsm
    exact ⟨m, (mem_pseudoLegalMoves h hw m).mpr hm, e⟩

end Morlock.Proofs.Gen
