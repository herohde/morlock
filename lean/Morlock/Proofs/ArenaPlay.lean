import Morlock.Proofs.RepBits
import Morlock.Proofs.ArenaSim
/-!
# Pure reasoning on views: take-back is the inverse of a move, play only depends on the view

Popping a pushed move restores the view except for the result, provided the mover's has-castled flag was not
already set when he castles. Views that agree up to the result class are one view with two results, and no
operation reads more of the result than its class, so play continues identically. A run is a fold of its
step, so invariants and `view` pass through runs.
-/
namespace Morlock.Proofs.Arena
open Morlock Morlock.Model Morlock.Model.World

theorem foldlM_inv {σ α : Type} {f : σ → α → Option σ} (P : σ → Prop) {l : List α}
    (hf : ∀ s a s', a ∈ l → P s → f s a = some s' → P s') {s s' : σ} (hs : P s)
    (h : l.foldlM f s = some s') : P s' := by
  induction l generalizing s with
  | nil => cases h; exact hs
  | cons a r ih =>
    rw [List.foldlM_cons, Option.bind_eq_bind] at h
    obtain ⟨s1, hfa, h⟩ := Option.bind_eq_some_iff.mp h
    exact ih (fun s a s' ha => hf s a s' (List.mem_cons_of_mem _ ha)) (hf s a s1 List.mem_cons_self hs hfa) h

theorem foldlM_map_comm {σ τ α : Type} {f : σ → α → Option σ} {f' : τ → α → Option τ} (g : σ → τ)
    (P : σ → Prop) (hP : ∀ s a s', P s → f s a = some s' → P s')
    (hf : ∀ s a, P s → (f s a).map g = f' (g s) a) (l : List α) {s : σ} (hs : P s) :
    (l.foldlM f s).map g = l.foldlM f' (g s) := by
  induction l generalizing s with
  | nil => rfl
  | cons a r ih =>
    rw [List.foldlM_cons, List.foldlM_cons, Option.bind_eq_bind, Option.bind_eq_bind, ← hf s a hs]
    cases hfa : f s a with
    | none => rfl
    | some s1 => exact ih (hP s a s1 hs hfa)

/-- The mover does not castle with his has-castled flag already set. Chess guarantees it (castling
forfeits the castling rights), the board does not check it, and `popMove` relies on it: it *clears* the
flag of the side whose castling is taken back. -/
def CastleFreshV (v : View) (m : Move) : Prop :=
  m.isCastle = true → (v.turn = .white → v.castledW = false) ∧ (v.turn = .black → v.castledB = false)

def View.setResult (v : View) (r : Result) : View := { v with result := r }

theorem viewPop_setResult (v : View) (r : Result) : viewPop (v.setResult r) = viewPop v := rfl

theorem View.popped_pushed (v : View) {m : Move} (pos : Position) (hash : Nat) (np : Int) (hc : CastleFreshV v m) :
    (v.pushed m pos hash np).popped (v.top m) v.past = v.setResult { outcome := .undecided } := by
  obtain ⟨vpos, vhash, vnp, past, turn, ply, moves, cw, cb, reps, result⟩ := v
  simp only [CastleFreshV] at hc
  simp only [View.pushed, View.popped, View.top, View.setResult, Color.opp_opp, View.mk.injEq, true_and, and_true]
  refine ⟨Int.add_sub_cancel _ _, ?_, ?_, ?_, ?_⟩
  · cases turn <;> simp [Color.opp]
  -- the flag set by a castling move is cleared again: it has to have been clear before
  · cases hm : m.isCastle
    · simp
    · cases turn
      · simp [(hc hm).1 rfl]
      · simp
  · cases hm : m.isCastle
    · simp
    · cases turn
      · simp
      · simp [(hc hm).2 rfl]
  · funext h
    by_cases hh : h = hash
    · subst hh; simp
    · simp [hh]

theorem viewPop_viewPush {z : ZTable} {v v' : View} {m : Move} (h : viewPush z v m = some v')
    (hc : CastleFreshV v m) : viewPop v' = some (v.setResult { outcome := .undecided }, m) := by
  obtain ⟨_, next, _, rfl⟩ := viewPush_eq_some h
  rw [viewPop_of_past (p := v.top m) (r := v.past) rfl, View.popped_pushed v _ _ _ hc]
  rfl

inductive Op
  | push (m : Move)
  | pop
deriving DecidableEq, Repr

def viewStep (z : ZTable) (v : View) : Op → Option View
  | .push m => viewPush z v m
  | .pop => (viewPop v).map (·.1)

def viewRun (z : ZTable) : View → List Op → Option View
  | v, [] => some v
  | v, o :: r => (viewStep z v o).bind (viewRun z · r)

theorem viewRun_eq_foldlM (z : ZTable) (ops : List Op) (v : View) :
    viewRun z v ops = ops.foldlM (viewStep z) v := by
  induction ops generalizing v with
  | nil => rfl
  | cons o r ih => simp only [viewRun, List.foldlM_cons, ih, Option.bind_eq_bind]

/-- After `ms` the view with only the result reset (when at least one move was played). -/
def View.afterDetour (v : View) (ms : List Move) : View :=
  v.setResult (if ms = [] then v.result else { outcome := .undecided })

/-- Same view except possibly the result, and the same "terminal" class (so the same moves are accepted). -/
def SimW (v1 v2 : View) : Prop :=
  v1.setResult {} = v2.setResult {} ∧ blockedR v1.result = blockedR v2.result

/-- `SimW` and the same "drawn" class. -/
def Sim (v1 v2 : View) : Prop := SimW v1 v2 ∧ drawnR v1.result = drawnR v2.result

def OptRel {α : Type} (R : α → α → Prop) : Option α → Option α → Prop
  | none, none => True
  | some a, some b => R a b
  | _, _ => False

theorem OptRel.refl {α : Type} {R : α → α → Prop} (hr : ∀ x, R x x) : ∀ o : Option α, OptRel R o o
  | none => trivial
  | some a => hr a

theorem SimW.refl (v : View) : SimW v v := ⟨rfl, rfl⟩
theorem Sim.refl (v : View) : Sim v v := ⟨SimW.refl v, rfl⟩
theorem SimW.symm {v1 v2 : View} (h : SimW v1 v2) : SimW v2 v1 := ⟨h.1.symm, h.2.symm⟩
theorem Sim.symm {v1 v2 : View} (h : Sim v1 v2) : Sim v2 v1 := ⟨h.1.symm, h.2.symm⟩

theorem SimW.setResult {v : View} {r : Result} (h : blockedR v.result = blockedR r) : SimW v (v.setResult r) :=
  ⟨rfl, h⟩

/-- `SimW` views are one view carrying two results. -/
theorem SimW.eq_setResult {v1 v2 : View} (h : SimW v1 v2) : v1 = v2.setResult v1.result :=
  congrArg (·.setResult v1.result) h.1

theorem blockedR_ite {c : Prop} [Decidable c] {a b : Result} (ha : blockedR a = false) (hb : blockedR b = false) :
    blockedR (if c then a else b) = false := by
  split <;> assumption

/-- The result after a move is never "terminal". -/
theorem pushResult_not_blocked (rep actual np : Int) (pos : Position) (m : Move) :
    blockedR (pushResult rep actual np pos m) = false :=
  blockedR_ite rfl (blockedR_ite rfl (blockedR_ite (blockedR_ite rfl (blockedR_ite rfl rfl)) rfl))

/-- One operation makes views that agree up to the result agree completely: a move reads only the class of
the result and recomputes it, a take-back overwrites it. -/
theorem SimW.viewStep_eq {z : ZTable} {v1 v2 : View} (h : SimW v1 v2) (o : Op) :
    viewStep z v1 o = viewStep z v2 o := by
  rw [h.eq_setResult]
  cases o with
  | push m =>
    rw [viewStep, viewStep, viewPush_eq, viewPush_eq]
    show (if blockedR v1.result then none else _) = _
    rw [h.2]
    rfl
  | pop => rfl

theorem SimW.viewRun_eq {z : ZTable} {v1 v2 : View} {ops : List Op} (h : SimW v1 v2) (hne : ops ≠ []) :
    viewRun z v1 ops = viewRun z v2 ops := by
  cases ops with
  | nil => exact absurd rfl hne
  | cons o r => rw [viewRun, viewRun, h.viewStep_eq]

theorem viewRun_simW {z : ZTable} (ops : List Op) {v1 v2 : View} (h : SimW v1 v2) :
    OptRel SimW (viewRun z v1 ops) (viewRun z v2 ops) := by
  cases ops with
  | nil => exact h
  | cons o r => rw [h.viewRun_eq (List.cons_ne_nil o r)]; exact OptRel.refl SimW.refl _

theorem viewRun_sim {z : ZTable} (ops : List Op) :
    ∀ {v1 v2 : View}, Sim v1 v2 → OptRel Sim (viewRun z v1 ops) (viewRun z v2 ops) := by
  intro v1 v2 h
  cases ops with
  | nil => exact h
  | cons o r => rw [h.1.viewRun_eq (List.cons_ne_nil o r)]; exact OptRel.refl Sim.refl _

theorem obsOfView_setResult (v : View) (r : Result) : obsOfView (v.setResult r) = obsOfView v := rfl

theorem SimW.obs {v1 v2 : View} (h : SimW v1 v2) : obsOfView v1 = obsOfView v2 := by
  rw [h.eq_setResult, obsOfView_setResult]

def step (z : ZTable) (b : Nat) (w : World) : Op → Option World
  | .push m => w.pushMove z b m
  | .pop => (w.popMove b).map (·.1)

def run (z : ZTable) (b : Nat) : World → List Op → Option World
  | w, [] => some w
  | w, o :: r => (step z b w o).bind (run z b · r)

def pushAll (z : ZTable) (b : Nat) : World → List Move → Option World
  | w, [] => some w
  | w, m :: ms => (w.pushMove z b m).bind (pushAll z b · ms)

/-- `n` take-backs; also returns the moves taken back, in that order. -/
def popN (b : Nat) : World → Nat → Option (World × List Move)
  | w, 0 => some (w, [])
  | w, n + 1 => (w.popMove b).bind fun r => (popN b r.1 n).map fun s => (s.1, r.2 :: s.2)

theorem popN_succ_last (b : Nat) (w : World) (n : Nat) :
    popN b w (n + 1) = (popN b w n).bind fun s => (s.1.popMove b).map fun r => (r.1, s.2 ++ [r.2]) := by
  induction n generalizing w with
  | zero => show (w.popMove b).bind _ = (w.popMove b).map _; cases w.popMove b <;> rfl
  | succ n ih =>
    show (w.popMove b).bind _ = ((w.popMove b).bind _).bind _
    cases w.popMove b with
    | none => rfl
    | some r =>
      show (popN b r.1 (n + 1)).map _ = ((popN b r.1 n).map _).bind _
      rw [ih]
      cases popN b r.1 n with
      | none => rfl
      | some s => show ((s.1.popMove b).map _).map _ = (s.1.popMove b).map _; cases s.1.popMove b <;> rfl

theorem run_eq_foldlM (z : ZTable) (b : Nat) (ops : List Op) (w : World) :
    run z b w ops = ops.foldlM (step z b) w := by
  induction ops generalizing w with
  | nil => rfl
  | cons o r ih => simp only [run, List.foldlM_cons, ih, Option.bind_eq_bind]

theorem run_single (z : ZTable) (b : Nat) (w : World) (o : Op) : run z b w [o] = step z b w o := by
  show (step z b w o).bind _ = _
  cases step z b w o <;> rfl

theorem pushAll_eq_run (z : ZTable) (b : Nat) (ms : List Move) (w : World) :
    pushAll z b w ms = run z b w (ms.map .push) := by
  induction ms generalizing w with
  | nil => rfl
  | cons m r ih => simp only [pushAll, List.map_cons, run, step, ih]

theorem boards_size_push {w w' : World} {z : ZTable} {b : Nat} {m : Move} (h : w.pushMove z b m = some w') :
    w'.boards.size = w.boards.size := by
  obtain ⟨_, next, _, rfl⟩ := pushMove_some h
  simp

theorem boards_size_pop {w w' : World} {b : Nat} {m : Move} (h : w.popMove b = some (w', m)) :
    w'.boards.size = w.boards.size := by
  obtain ⟨pi, _, _, rfl⟩ := popMove_some h
  simp

theorem nodes_size_push {w w' : World} {z : ZTable} {b : Nat} {m : Move} (h : w.pushMove z b m = some w') :
    w'.nodes.size = w.nodes.size + 1 := by
  obtain ⟨_, next, _, rfl⟩ := pushMove_some h
  simp

theorem nodes_size_pop {w w' : World} {b : Nat} {m : Move} (h : w.popMove b = some (w', m)) :
    w'.nodes.size = w.nodes.size := by
  obtain ⟨pi, _, _, rfl⟩ := popMove_some h
  simp

theorem step_pop_some {w w' : World} {z : ZTable} {b : Nat} (h : step z b w .pop = some w') :
    ∃ m, w.popMove b = some (w', m) := by
  obtain ⟨r, hp, rfl⟩ := Option.map_eq_some_iff.mp h
  exact ⟨r.2, hp⟩

theorem step_wf {w w' : World} {z : ZTable} {b : Nat} (hw : WFWorld w) (hb : b < w.boards.size) {o : Op}
    (h : step z b w o = some w') : WFWorld w' ∧ w'.boards.size = w.boards.size := by
  cases o with
  | push m =>
    have h : w.pushMove z b m = some w' := h
    exact ⟨wf_push hw hb h, boards_size_push h⟩
  | pop =>
    obtain ⟨m, hp⟩ := step_pop_some h
    exact ⟨wf_pop hw hp, boards_size_pop hp⟩

theorem step_view {w : World} (hw : WFWorld w) {z : ZTable} {b : Nat} (hb : b < w.boards.size) (o : Op) :
    (step z b w o).map (fun w' => view w' b) = viewStep z (view w b) o := by
  cases o with
  | push m => exact push_view hw hb m
  | pop =>
    simp only [step, viewStep, ← pop_view hw hb, Option.map_map]
    rfl

theorem run_wf {z : ZTable} {b : Nat} (ops : List Op) {w w' : World} (hw : WFWorld w) (hb : b < w.boards.size)
    (h : run z b w ops = some w') : WFWorld w' ∧ w'.boards.size = w.boards.size := by
  rw [run_eq_foldlM] at h
  refine foldlM_inv (fun s => WFWorld s ∧ s.boards.size = w.boards.size) ?_ ⟨hw, rfl⟩ h
  intro s o s' _ hs h
  have := step_wf hs.1 (hs.2 ▸ hb) h
  exact ⟨this.1, this.2.trans hs.2⟩

theorem run_view {z : ZTable} {b : Nat} (ops : List Op) {w : World} (hw : WFWorld w) (hb : b < w.boards.size) :
    (run z b w ops).map (fun w' => view w' b) = viewRun z (view w b) ops := by
  rw [run_eq_foldlM, viewRun_eq_foldlM]
  refine foldlM_map_comm _ (fun s => WFWorld s ∧ b < s.boards.size) ?_ (fun s o hs => step_view hs.1 hs.2 o) ops
    ⟨hw, hb⟩
  intro s o s' hs h
  have := step_wf hs.1 hs.2 h
  exact ⟨this.1, this.2 ▸ hs.2⟩

theorem pushAll_wf {z : ZTable} {b : Nat} (ms : List Move) {w w' : World} (hw : WFWorld w) (hb : b < w.boards.size)
    (h : pushAll z b w ms = some w') : WFWorld w' ∧ w'.boards.size = w.boards.size :=
  run_wf _ hw hb (pushAll_eq_run z b ms w ▸ h)

end Morlock.Proofs.Arena
