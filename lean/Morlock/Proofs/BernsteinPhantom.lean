import Morlock.Proofs.BernsteinMirror
import Morlock.Proofs.GenLegal
import Morlock.Proofs.MoveEp
import Morlock.Proofs.TuroMirror
/-!
# The legal moves of the side NOT to move, when an en-passant target is set

`Eval.Evaluate` asks for `Mobility(pos, turn.Opponent())`. With an en-passant target set, `PseudoLegalMoves(opponent)` contains, besides the
moves the opponent would have without the target, one "phantom" en-passant capture for each of its pawns that attacks the target square.
The count splits accordingly (this is what the defect recorded in `Props/C20Bernstein` rests on). The legal moves of either colour
are nevertheless mirrored in the colour-swapped mirror image: by the bit-level mirror `MP`, because the positions the phantoms lead to
represent no board.
-/
namespace Morlock.Proofs.Bernstein
open Morlock Morlock.Model Morlock.Model.Bernstein Morlock.Proofs.Gen Morlock.Proofs.Attack Morlock.Proofs.Mirror
open Morlock.Proofs.TuroMirror Morlock.Proofs.Turochamp

def clearEp (p : Position) : Position := { p with enpassant := 0, castling := p.castling }

/-- the en-passant part of `genPawn` -/
def epPart (p : Position) (d : Color) (fr : Nat) : List Move :=
  if p.enpassant != 0 then
    p.emitMove d .enPassant .pawn fr
      (pawnCaptureboard d (bitMask fr) &&& not64 (p.pieces d .none) &&& bitMask p.enpassant)
  else []

def epMove (fr ep : Nat) : Move := { ty := .enPassant, «from» := fr, to := ep, piece := .pawn }

theorem genOfficers_clearEp (p : Position) (d : Color) : genOfficers (clearEp p) d = genOfficers p d := rfl
theorem genKing_clearEp (p : Position) (d : Color) : genKing (clearEp p) d = genKing p d := rfl

theorem genPawn_split (p : Position) (d : Color) (fr : Nat) :
    genPawn p d fr = genPawn (clearEp p) d fr ++ epPart p d fr := by
  unfold genPawn epPart clearEp
  simp only [bne_self_eq_false, Bool.false_eq_true, if_false, List.append_nil]
  rfl

theorem length_filter_flatMap_append {α β : Type} (f : β → Bool) (A E : α → List β) : ∀ l : List α,
    ((l.flatMap fun x => A x ++ E x).filter f).length =
      ((l.flatMap A).filter f).length + ((l.flatMap E).filter f).length
  | [] => rfl
  | x :: xs => by
    simp only [List.flatMap_cons, List.filter_append, List.length_append]
    rw [length_filter_flatMap_append f A E xs]
    omega

/-- The opponent's legal moves: its legal moves without the target, and the accepted phantom captures. -/
theorem legalMoves_length_split (p : Position) (d : Color) :
    (p.legalMoves d).length = ((clearEp p).legalMoves d).length +
      (((toSquares (p.pieces d .pawn)).flatMap (epPart p d)).filter fun m => (p.move m).isSome).length := by
  unfold Position.legalMoves
  rw [pseudoLegalMoves_eq, pseudoLegalMoves_eq, genOfficers_clearEp, genKing_clearEp]
  -- `Position.Move` does not read the en-passant target
  have hf : (fun m => ((clearEp p).move m).isSome) = (fun m => (p.move m).isSome) := by
    funext m; exact congrArg Option.isSome (Position.move_ep p 0 m)
  rw [hf]
  have hpawns : genPawns p d = (toSquares (p.pieces d .pawn)).flatMap fun fr => genPawn (clearEp p) d fr ++ epPart p d fr := by
    unfold genPawns
    congr 1
    funext fr
    exact genPawn_split p d fr
  have hpawns0 : genPawns (clearEp p) d = (toSquares (p.pieces d .pawn)).flatMap (genPawn (clearEp p) d) := rfl
  have key := length_filter_flatMap_append (fun m => (p.move m).isSome) (genPawn (clearEp p) d) (epPart p d)
    (toSquares (p.pieces d .pawn))
  simp only [List.filter_append, List.length_append]
  rw [hpawns, hpawns0, key]
  omega

theorem toSquares_and_bitMask (x : Nat) {e : Nat} (he : e < 64) :
    toSquares (x &&& bitMask e) = if x.testBit e then [e] else [] := by
  have hlt : x &&& bitMask e < 2 ^ 64 := and_lt_right _ (Attack.bitMask_lt he)
  have hmem : ∀ a, a ∈ toSquares (x &&& bitMask e) ↔ (x.testBit e = true ∧ a = e) := by
    intro a
    rw [mem_toSquares hlt, Nat.testBit_and, bitMask_testBit he, Bool.and_eq_true, decide_eq_true_eq]
    constructor
    · rintro ⟨h1, rfl⟩; exact ⟨h1, rfl⟩
    · rintro ⟨h1, rfl⟩; exact ⟨h1, rfl⟩
  have hnd := toSquares_nodup hlt
  cases hx : x.testBit e with
  | false =>
    simp only [Bool.false_eq_true, if_false]
    apply List.eq_nil_iff_forall_not_mem.mpr
    intro a ha
    have := (hmem a).mp ha
    rw [hx] at this
    cases this.1
  | true =>
    simp only [if_true]
    have hperm : (toSquares (x &&& bitMask e)).Perm [e] := by
      rw [List.perm_ext_iff_of_nodup hnd (by simp)]
      intro a
      rw [hmem a, hx]
      simp
    exact List.perm_singleton.mp hperm

theorem epPart_eq {p : Position} {b : Board} (hp : Rep p b) (d : Color) {fr : Nat} (hfr : fr < 64)
    (hep0 : p.enpassant ≠ 0) (hep : p.enpassant < 64) (hempty : b p.enpassant = none) :
    epPart p d fr =
      if p.enpassant ∈ Spec.pawnTargets (absColor d) fr then [epMove fr p.enpassant] else [] := by
  unfold epPart
  have hne : (p.enpassant != 0) = true := by rw [bne_iff_ne]; exact hep0
  rw [if_pos hne]
  unfold Position.emitMove
  rw [toSquares_and_bitMask _ hep]
  have hbit : (pawnCaptureboard d (bitMask fr) &&& not64 (p.pieces d .none)).testBit p.enpassant = true ↔
      p.enpassant ∈ Spec.pawnTargets (absColor d) fr := by
    rw [Nat.testBit_and, Bool.and_eq_true, pawnSet_testBit d _ _ (Attack.bitMask_lt hfr), not64_testBit,
      hp.all d _ hep]
    have hcol : colAt b p.enpassant d = false := by unfold colAt; rw [hempty]
    rw [hcol]
    simp only [Bool.not_false, Bool.and_true, decide_eq_true_eq]
    constructor
    · rintro ⟨⟨s, hs, hb, hm⟩, _⟩
      rw [bitMask_testBit hfr, decide_eq_true_eq] at hb
      subst hb
      exact hm
    · intro hm
      exact ⟨⟨fr, hfr, by rw [bitMask_testBit hfr]; simp, hm⟩, hep⟩
  by_cases hm : p.enpassant ∈ Spec.pawnTargets (absColor d) fr
  · rw [if_pos hm, hbit.mpr hm]
    simp [epMove]
  · rw [if_neg hm]
    have : (pawnCaptureboard d (bitMask fr) &&& not64 (p.pieces d .none)).testBit p.enpassant = false := by
      rw [← Bool.not_eq_true]; exact fun h => hm (hbit.mp h)
    rw [this]
    simp

/-- the number of phantom captures `Position.Move` accepts -/
def phantomCount (p : Position) (d : Color) : Nat :=
  (toSquares (p.pieces d .pawn)).countP fun fr =>
    decide (p.enpassant ∈ Spec.pawnTargets (absColor d) fr) && (p.move (epMove fr p.enpassant)).isSome

theorem phantoms_length {p : Position} {b : Board} (hp : Rep p b) (d : Color)
    (hep0 : p.enpassant ≠ 0) (hep : p.enpassant < 64) (hempty : b p.enpassant = none) :
    (((toSquares (p.pieces d .pawn)).flatMap (epPart p d)).filter fun m => (p.move m).isSome).length =
      phantomCount p d := by
  unfold phantomCount
  have hl : ∀ fr ∈ toSquares (p.pieces d .pawn), fr < 64 := fun fr h => toSquares_lt (hp.piecesLt d .pawn) h
  generalize toSquares (p.pieces d .pawn) = l at hl
  induction l with
  | nil => rfl
  | cons x xs ih =>
    rw [List.flatMap_cons, List.filter_append, List.length_append, List.countP_cons,
      ih (fun fr h => hl fr (List.mem_cons_of_mem _ h)), epPart_eq hp d (hl x (List.mem_cons_self ..)) hep0 hep hempty]
    by_cases hm : p.enpassant ∈ Spec.pawnTargets (absColor d) x
    · rw [if_pos hm]
      cases hok : (p.move (epMove x p.enpassant)).isSome <;> simp [hm, hok] <;> omega
    · rw [if_neg hm]
      simp [hm]

/-- `Mobility` of the side NOT to move is colour-blind, en-passant target or not: the legal moves of either colour mirror under the
    bit-level relation `MP` (`TuroMirror.legal_mirror`), which also covers the positions the phantom captures lead to. -/
theorem mobility_mirror_opp {p q : Position} {c : Color} (hp : WF p c) (hq : WF q c.opp)
    (habs : abs q c.opp = Spec.mirror (abs p c)) : mobility q c = mobility p c.opp := by
  have hbq := mirrorBoard_of_abs hp.1 hq.1 habs
  have hq' : Rep q (mirrorBoard p.square) := hbq ▸ hq.1
  -- the e.p. fields of the mirror image
  have hepf : (if q.enpassant = 0 then none else some q.enpassant) =
      (if p.enpassant = 0 then none else some p.enpassant).map Spec.mirrorSq := congrArg Spec.Pos.ep habs
  have hep0 : p.enpassant = 0 → q.enpassant = 0 := fun h0 => by
    rw [if_pos h0] at hepf
    by_cases hq0 : q.enpassant = 0
    · exact hq0
    · rw [if_neg hq0] at hepf; cases hepf
  have hep1 : p.enpassant ≠ 0 → q.enpassant = Spec.mirrorSq p.enpassant ∧ q.enpassant ≠ 0 := fun h0 => by
    have hq0 : q.enpassant ≠ 0 := fun e => by rw [if_neg h0, if_pos e] at hepf; cases hepf
    rw [if_neg h0, if_neg hq0] at hepf
    exact ⟨by simpa using hepf, hq0⟩
  have hMP : MP p q := MP.of_rep hp hp.1 hq' (congrArg Spec.Pos.wk habs) (congrArg Spec.Pos.wq habs)
    (congrArg Spec.Pos.bk habs) (congrArg Spec.Pos.bq habs) hep0 hep1
  have h := (legal_mirror hMP (Tri.of_rep hp.1) (one_king_of_wfb hp.rep hp.wfb) c.opp).length_eq
  rw [Color.opp_opp, List.length_map] at h
  unfold mobility
  rw [h]
theorem evaluate_mirror_opp {p q : Position} {c : Color} (hp : WF p c) (hq : WF q c.opp)
    (habs : abs q c.opp = Spec.mirror (abs p c)) (factor : Int) :
    evaluate q factor c = evaluate p factor c.opp := by
  have h := evaluate_mirror_of (d := c.opp) hp hq habs (by rw [Color.opp_opp]; exact mobility_mirror_opp hp hq habs) factor
  rwa [Color.opp_opp] at h

theorem evalEvaluate_mirror_full {p q : Position} {c : Color} (hp : WF p c) (hq : WF q c.opp)
    (habs : abs q c.opp = Spec.mirror (abs p c)) (factor : Int) :
    evalEvaluate q factor c.opp = evalEvaluate p factor c := by
  unfold evalEvaluate
  rw [Bernstein.evaluate_mirror hp hq habs factor, Color.opp_opp, evaluate_mirror_opp hp hq habs factor]

end Morlock.Proofs.Bernstein
