import Morlock.Proofs.BernsteinCapture
import Morlock.Proofs.BernsteinEval
import Morlock.Proofs.TurochampMirror
import Morlock.Proofs.TuroMirrorPos
/-!
# Colour-blindness of the four Bernstein terms: the colour-swapped mirror image of a position scores, for the other colour, the same

`p` represents a mailbox board `b`, `q` represents `mirrorBoard b` (ranks reversed, colours swapped). Attack queries, `Control`,
`KingDefense` and `Material` need nothing else (`KingDefense`: at most one king of the colour); `Mobility` goes through C01 and the
reference mirror theorem, hence needs `WF` of both positions for the colour in question.
-/
namespace Morlock.Proofs.Bernstein
open Morlock Morlock.Model Morlock.Model.Bernstein Morlock.Proofs.Gen Morlock.Proofs.Attack Morlock.Proofs.Mirror
open Morlock.Proofs.TuroMirror Morlock.Proofs.Turochamp

theorem occB_mirrorBoard' (b : Board) (t : Nat) : occB b (Spec.mirrorSq t) = occB (mirrorBoard b) t := by
  unfold occB
  rw [mirrorBoard_apply]
  cases b (Spec.mirrorSq t) <;> rfl

/-- The attack queries read the piece sets and the rotated boards only: with the status fields cleared the two positions are
    related by the bit-level mirror `MP`, whatever their castling rights and en-passant targets. -/
theorem isAttackedBy_mirror {p q : Position} {b : Board} (hp : Rep p b) (hq : Rep q (mirrorBoard b)) (c : Color)
    {sq : Nat} (hsq : sq < 64) (list : List Piece) :
    q.isAttackedBy c.opp (Spec.mirrorSq sq) list = p.isAttackedBy c sq list := by
  have hp0 := hp.with_meta 0 0
  have hq0 := hq.with_meta 0 0
  have z : ∀ x y : Nat, ((0 : Nat) &&& x != 0) = ((0 : Nat) &&& y != 0) := fun x y => by simp
  have h : MP { p with enpassant := 0, castling := 0 } { q with enpassant := 0, castling := 0 } :=
    { pc := pieces_MB hp0 hq0, rp := hp0.rotInv, rq := hq0.rotInv, occ := occ_MB hp0 hq0, wk := z _ _, wq := z _ _,
      bk := z _ _, bq := z _ _, epl := Nat.zero_lt_succ 63, ep0 := fun _ => rfl, ep1 := fun h => absurd rfl h }
  show List.any list (attP { q with enpassant := 0, castling := 0 } c.opp (Spec.mirrorSq sq)) =
    List.any list (attP { p with enpassant := 0, castling := 0 } c sq)
  congr 1
  funext piece
  exact attP_mirror h c hsq piece

theorem isAttacked_mirror {p q : Position} {b : Board} (hp : Rep p b) (hq : Rep q (mirrorBoard b)) (c : Color)
    {sq : Nat} (hsq : sq < 64) : q.isAttacked c.opp (Spec.mirrorSq sq) = p.isAttacked c sq :=
  isAttackedBy_mirror hp hq c hsq _

theorem isDefended_mirror {p q : Position} {b : Board} (hp : Rep p b) (hq : Rep q (mirrorBoard b)) (c : Color)
    {sq : Nat} (hsq : sq < 64) : q.isDefended c.opp (Spec.mirrorSq sq) = p.isDefended c sq := by
  unfold Position.isDefended
  exact isAttacked_mirror hp hq c.opp hsq

theorem isDefendedBy_mirror {p q : Position} {b : Board} (hp : Rep p b) (hq : Rep q (mirrorBoard b)) (c : Color)
    {sq : Nat} (hsq : sq < 64) :
    isDefendedBy q c.opp (Spec.mirrorSq sq) qrnbpPieces = isDefendedBy p c sq qrnbpPieces := by
  unfold isDefendedBy
  exact isAttackedBy_mirror hp hq c.opp hsq _

theorem isEmpty_mirror {p q : Position} {b : Board} (hp : Rep p b) (hq : Rep q (mirrorBoard b))
    {sq : Nat} (hsq : sq < 64) : q.isEmpty (Spec.mirrorSq sq) = p.isEmpty sq := by
  unfold Position.isEmpty
  rw [(occ_MB hp hq).isSet hsq]

theorem countP_mirror (P Q : Nat → Bool) {l l' : List Nat} (hperm : l'.Perm (l.map Spec.mirrorSq))
    (h : ∀ s ∈ l, Q (Spec.mirrorSq s) = P s) : (l'.filter Q).length = (l.filter P).length := by
  rw [← List.countP_eq_length_filter, ← List.countP_eq_length_filter, hperm.countP_eq, List.countP_map]
  exact List.countP_congr (fun s hs => by simp only [Function.comp]; rw [h s hs])

theorem control_mirror {p q : Position} {b : Board} (hp : Rep p b) (hq : Rep q (mirrorBoard b)) (c : Color) :
    Bernstein.control q c.opp = Bernstein.control p c := by
  unfold Bernstein.control controlSquares
  congr 1
  apply countP_mirror _ _ (l := List.range 64) (l' := List.range 64)
  · exact Spec.allSquares_mirror_perm.symm
  · intro s hs
    have hs' : s < 64 := List.mem_range.mp hs
    rw [isDefended_mirror hp hq c hs', isAttacked_mirror hp hq c hs']

theorem kingRing_perm {ks : Nat} (hks : ks < 64) :
    (toSquares (kingAttackboard (Spec.mirrorSq ks))).Perm ((toSquares (kingAttackboard ks)).map Spec.mirrorSq) :=
  (kingAttackboard_MB hks).toSquares

def OneKingB (b : Board) (c : Color) : Prop :=
  ∀ s1 s2, b s1 = some (c, Piece.king) → b s2 = some (c, Piece.king) → s1 = s2

theorem kingSquare_mirror {p q : Position} {b : Board} (hp : Rep p b) (hq : Rep q (mirrorBoard b)) {c : Color}
    (hu : OneKingB b c) :
    (p.pieces c .king = 0 ∧ q.pieces c.opp .king = 0) ∨
    (p.kingSquare c < 64 ∧ q.kingSquare c.opp = Spec.mirrorSq (p.kingSquare c)) := by
  have hmb := pieces_MB hp hq c .king
  have ho : One (p.pieces c .king) := fun u v hu' hv' => by
    have lu := lt_of_testBit hmb.lx hu'
    have lv := lt_of_testBit hmb.lx hv'
    rw [hp.one c .king u (by simp) lu, decide_eq_true_eq] at hu'
    rw [hp.one c .king v (by simp) lv, decide_eq_true_eq] at hv'
    exact hu u v hu' hv'
  by_cases h0 : p.pieces c .king = 0
  · exact Or.inl ⟨h0, hmb.eq_zero_iff.mpr h0⟩
  · obtain ⟨e, lt⟩ := hmb.lastPop ho h0
    exact Or.inr ⟨lt, e⟩

theorem kingDefense_mirror {p q : Position} {b : Board} (hp : Rep p b) (hq : Rep q (mirrorBoard b)) {c : Color}
    (hu : OneKingB b c) : kingDefense q c.opp = kingDefense p c := by
  rcases kingSquare_mirror hp hq hu with ⟨h1, h2⟩ | ⟨hks, hk⟩
  · have e1 : p.kingSquare c = 64 := by unfold Position.kingSquare; rw [h1]; rfl
    have e2 : q.kingSquare c.opp = 64 := by unfold Position.kingSquare; rw [h2]; rfl
    unfold kingDefense
    simp [e1, e2]
  · unfold kingDefense
    simp only
    rw [hk, if_neg (by have := Spec.mirrorSq_lt hks; omega), if_neg (by omega)]
    congr 2
    unfold kingDefenseSquares
    apply countP_mirror _ _ (kingRing_perm hks)
    intro s hs
    have hs' : s < 64 := toSquares_lt (kingAttackboard_MB hks).lx hs
    rw [isEmpty_mirror hp hq hs', isDefendedBy_mirror hp hq c hs', isAttacked_mirror hp hq c hs',
      isDefended_mirror hp hq c hs']

theorem popCount_mirror {p q : Position} {b : Board} (hp : Rep p b) (hq : Rep q (mirrorBoard b)) (c : Color)
    (k : Piece) : popCount (q.pieces c.opp k) = popCount (p.pieces c k) :=
  (pieces_MB hp hq c k).popCount

theorem material_mirror {p q : Position} {b : Board} (hp : Rep p b) (hq : Rep q (mirrorBoard b)) (c : Color) :
    material q c.opp = material p c := by
  unfold material
  simp only
  rw [popCount_mirror hp hq c .queen, popCount_mirror hp hq c .rook, popCount_mirror hp hq c .knight,
    popCount_mirror hp hq c .bishop, popCount_mirror hp hq c .pawn]

/-- Through C01 and the mirror symmetry of the rules, hence for `WF` positions of the colour. -/
theorem mobility_mirror {p q : Position} {c : Color} (hp : WF p c) (hq : WF q c.opp)
    (habs : abs q c.opp = Spec.mirror (abs p c)) : mobility q c.opp = mobility p c := by
  unfold mobility
  have := (model_legalMoves_mirror hp hq habs).length_eq
  simp only [List.length_map] at this
  rw [this]

theorem mirrorBoard_of_abs {p q : Position} {b b' : Board} (hp : Rep p b) (hq : Rep q b') {t t' : Color}
    (habs : abs q t' = Spec.mirror (abs p t)) : b' = mirrorBoard b := by
  funext s
  by_cases hs : s < 64
  · have h : (abs q t').at s = (Spec.mirror (abs p t)).at s := by rw [habs]
    rw [hq.abs_at, Spec.mirror_at hs, hp.abs_at, ← absCellB_mirrorBoard] at h
    exact absCellB_inj (hq.wf s) (fun c e => hp.wf _ _ (mirrorBoard_eq_some_iff.mp e)) h
  · have hs' : 64 ≤ s := by omega
    rw [hq.out s hs', mirrorBoard_out hp.out s hs']

/-- `Evaluate` is colour-blind as soon as `Mobility` is: the other three terms only need the mirrored board. -/
theorem evaluate_mirror_of {p q : Position} {c d : Color} (hp : WF p c) (hq : WF q c.opp)
    (habs : abs q c.opp = Spec.mirror (abs p c)) (hm : mobility q d.opp = mobility p d) (factor : Int) :
    evaluate q factor d.opp = evaluate p factor d := by
  have hb := mirrorBoard_of_abs hp.1 hq.1 habs
  have hq' : Rep q (mirrorBoard p.square) := hb ▸ hq.1
  have hu : OneKingB p.square d := fun s1 s2 h1 h2 => (wfb_of_wfc hp.1 hp.2).king_unique d s1 s2 h1 h2
  unfold evaluate
  rw [hm, control_mirror hp.1 hq' d, kingDefense_mirror hp.1 hq' hu, material_mirror hp.1 hq' d]

theorem evaluate_mirror {p q : Position} {c : Color} (hp : WF p c) (hq : WF q c.opp)
    (habs : abs q c.opp = Spec.mirror (abs p c)) (factor : Int) :
    evaluate q factor c.opp = evaluate p factor c :=
  evaluate_mirror_of hp hq habs (mobility_mirror hp hq habs) factor

end Morlock.Proofs.Bernstein
