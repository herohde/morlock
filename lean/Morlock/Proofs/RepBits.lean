import Morlock.Model.Position
/-!
# Bit-level lemmas about `bitMask`, `isSet` and single-bit xor (helpers for `Rep`)
-/
namespace Morlock.Proofs
open Morlock Morlock.Model

theorem M64_eq : M64 = 2 ^ 64 := by decide

theorem bitMask_lt {sq : Nat} (h : sq < 64) : bitMask sq = 2 ^ sq := by
  unfold bitMask shl64 u64
  rw [Nat.one_shiftLeft, M64_eq, Nat.mod_eq_of_lt (Nat.pow_lt_pow_right (by decide) h)]

theorem bitMask_ge {sq : Nat} (h : 64 ≤ sq) : bitMask sq = 0 := by
  unfold bitMask shl64 u64
  rw [Nat.one_shiftLeft, M64_eq]
  have : sq = 64 + (sq - 64) := by omega
  rw [this, Nat.pow_add]
  exact Nat.mul_mod_right _ _

theorem bitMask_lt_M64 (sq : Nat) : bitMask sq < 2 ^ 64 := by
  unfold bitMask shl64 u64
  rw [M64_eq]; exact Nat.mod_lt _ (by decide)

theorem and_two_pow_ne_zero (b sq : Nat) : ((b &&& 2 ^ sq) != 0) = b.testBit sq := by
  cases h : b.testBit sq
  · have : b &&& 2 ^ sq = 0 := by
      apply Nat.eq_of_testBit_eq
      intro i
      rw [Nat.testBit_and, Nat.testBit_two_pow, Nat.zero_testBit]
      by_cases e : sq = i
      · subst e; simp [h]
      · simp [e]
    simp [this]
  · have : b &&& 2 ^ sq ≠ 0 := by
      intro e
      have := congrArg (fun x => x.testBit sq) e
      simp [Nat.testBit_and, h] at this
    simp [this]

theorem isSet_lt (b : Nat) {sq : Nat} (h : sq < 64) : isSet b sq = b.testBit sq := by
  unfold isSet; rw [bitMask_lt h]; exact and_two_pow_ne_zero b sq

theorem isSet_ge (b : Nat) {sq : Nat} (h : 64 ≤ sq) : isSet b sq = false := by
  unfold isSet; rw [bitMask_ge h]; simp

theorem testBit_xor_bitMask (a : Nat) {k : Nat} (hk : k < 64) (j : Nat) :
    (a ^^^ bitMask k).testBit j = (a.testBit j != decide (j = k)) := by
  rw [bitMask_lt hk, Nat.testBit_xor, Nat.testBit_two_pow]
  cases a.testBit j <;> by_cases h : k = j <;> simp [h, eq_comm]

theorem xor_bitMask_lt {a : Nat} (ha : a < 2 ^ 64) (k : Nat) : a ^^^ bitMask k < 2 ^ 64 :=
  Nat.xor_lt_two_pow ha (bitMask_lt_M64 k)

theorem testBit_high {x i : Nat} (hx : x < 2 ^ 64) (hi : 64 ≤ i) : x.testBit i = false :=
  Nat.testBit_lt_two_pow (Nat.lt_of_lt_of_le hx (Nat.pow_le_pow_right (by decide : 2 > 0) hi))

theorem testBit_andNot (x y i : Nat) : (andNot x y).testBit i = (x.testBit i && !y.testBit i) := by
  unfold andNot; rw [Nat.testBit_xor, Nat.testBit_and]; cases x.testBit i <;> cases y.testBit i <;> rfl

end Morlock.Proofs

namespace Morlock.Model

theorem Color.opp_opp (c : Color) : c.opp.opp = c := by cases c <;> rfl

theorem popCountAux_le (n b : Nat) : popCountAux n b ≤ n := by
  induction n generalizing b with
  | zero => simp [popCountAux]
  | succ n ih =>
    simp only [popCountAux]
    have := ih (b / 2)
    omega

theorem popCount_le (b : Bitboard) : popCount b ≤ 64 := popCountAux_le 64 b

theorem toSquaresAux_length (fuel : Nat) (b : Bitboard) : (toSquaresAux fuel b).length ≤ fuel := by
  induction fuel generalizing b with
  | zero => simp [toSquaresAux]
  | succ n ih =>
    unfold toSquaresAux
    by_cases h : b = 0
    · simp [h]
    · simp only [h, if_false, List.length_cons]
      have := ih (b ^^^ bitMask (lastPopSquare b))
      omega

theorem toSquares_length (b : Bitboard) : (toSquares b).length ≤ 64 := toSquaresAux_length 64 b

end Morlock.Model
