import Morlock.Proofs.ArenaFork
/-!
# From views back to observations on the arena

Transfer lemmas used by `Morlock.Props.C08`: equal (or result-equivalent) views give equal observations,
runs from result-equivalent views stay in lock-step, single-board runs as special interleaved runs.
-/
namespace Morlock.Proofs.Arena
open Morlock Morlock.Model Morlock.Model.World

theorem same_of_view_eq {w1 w2 : World} {a b : Nat} (h1 : WFWorld w1) (h2 : WFWorld w2)
    (h : view w1 a = view w2 b) : obs w1 a = obs w2 b ∧ (w1.board a).result = (w2.board b).result :=
  ⟨by rw [obs_eq h1, obs_eq h2, h], congrArg View.result h⟩

theorem report_of_view_setResult {w1 w2 : World} {a b : Nat} {r : Result} (h1 : WFWorld w1) (h2 : WFWorld w2)
    (h : view w1 a = (view w2 b).setResult r) :
    obsNoResult w1 a = obsNoResult w2 b ∧
    (∀ k, repGet (w1.board a).repetitions k = repGet (w2.board b).repetitions k) ∧
    (w1.board a).result = r := by
  refine ⟨?_, fun k => ?_, congrArg View.result h⟩
  · rw [obsNoResult_eq h1, obsNoResult_eq h2, h, obsOfView_setResult]
  · rw [← view_reps, ← view_reps, h]
    rfl

theorem OptRel.of_map {α β : Type} {R : β → β → Prop} {f g : α → β} {o1 o2 : Option α}
    (h : OptRel R (o1.map f) (o2.map g)) : OptRel (fun a b => R (f a) (g b)) o1 o2 := by
  cases o1 <;> cases o2 <;> exact h

theorem OptRel.imp {α : Type} {R S : α → α → Prop} {o1 o2 : Option α} (h : OptRel R o1 o2)
    (hi : ∀ a b, o1 = some a → o2 = some b → R a b → S a b) : OptRel S o1 o2 := by
  cases o1 <;> cases o2 <;> simp only [OptRel] at h ⊢
  exact hi _ _ rfl rfl h

/-- Runs from result-equivalent views (possibly different boards in different worlds) stay in lock-step:
same success, same observations; after at least one operation also the same result. -/
theorem run_sim {z : ZTable} {w1 w2 : World} {a b : Nat} (h1 : WFWorld w1) (h2 : WFWorld w2)
    (ha : a < w1.boards.size) (hb : b < w2.boards.size) (h : SimW (view w1 a) (view w2 b)) (ops : List Op) :
    OptRel (fun wa wb => obsNoResult wa a = obsNoResult wb b ∧ blocked wa a = blocked wb b ∧
        (ops ≠ [] → obs wa a = obs wb b ∧ (wa.board a).result = (wb.board b).result))
      (run z a w1 ops) (run z b w2 ops) := by
  have hsw : OptRel (fun wa wb => SimW (view wa a) (view wb b)) (run z a w1 ops) (run z b w2 ops) := by
    apply OptRel.of_map
    rw [run_view ops h1 ha, run_view ops h2 hb]
    exact viewRun_simW ops h
  apply hsw.imp
  intro wa wb ea eb hs
  have hwa := (run_wf ops h1 ha ea).1
  have hwb := (run_wf ops h2 hb eb).1
  refine ⟨(report_of_view_setResult hwa hwb hs.eq_setResult).1, hs.2, fun hne => ?_⟩
  have hv := h.viewRun_eq (z := z) hne
  rw [← run_view ops h1 ha, ← run_view ops h2 hb, ea, eb] at hv
  exact same_of_view_eq hwa hwb (Option.some.inj hv)

/-- The mover does not castle with his has-castled flag already set (see `CastleFreshV`). -/
def CastleFresh (w : World) (b : Nat) (m : Move) : Prop :=
  m.isCastle = true →
    ((w.board b).turn = .white → (w.board b).castledW = false) ∧
    ((w.board b).turn = .black → (w.board b).castledB = false)

/-- Along the line `ms` played on board `b` from `w`, nobody castles with his has-castled flag already set. -/
def CastleOnce (z : ZTable) (b : Nat) : World → List Move → Prop
  | _, [] => True
  | w, m :: ms => CastleFresh w b m ∧ ∀ w', w.pushMove z b m = some w' → CastleOnce z b w' ms

theorem view_push_pop {w w' : World} {z : ZTable} {b : Nat} {m : Move} (hw : WFWorld w) (hb : b < w.boards.size)
    (hpush : w.pushMove z b m = some w') (hc : CastleFresh w b m) :
    ∃ w'', w'.popMove b = some (w'', m) ∧ WFWorld w'' ∧ b < w''.boards.size ∧
      view w'' b = (view w b).setResult { outcome := .undecided } := by
  have hw' := wf_push hw hb hpush
  have hb' : b < w'.boards.size := boards_size_push hpush ▸ hb
  have hv := viewPop_viewPush (push_view_some hw hb hpush) hc
  rw [← pop_view hw' hb'] at hv
  obtain ⟨⟨w'', m'⟩, hpop, hview⟩ := Option.map_eq_some_iff.mp hv
  obtain ⟨hv1, rfl⟩ := Prod.mk.inj hview
  exact ⟨w'', hpop, wf_pop hw' hpop, boards_size_pop hpop ▸ hb', hv1⟩

theorem popN_pushAll {z : ZTable} {b : Nat} (ms : List Move) :
    ∀ {w w' : World}, WFWorld w → b < w.boards.size → pushAll z b w ms = some w' → CastleOnce z b w ms →
      ∃ w'', popN b w' ms.length = some (w'', ms.reverse) ∧ WFWorld w'' ∧ b < w''.boards.size ∧
        view w'' b = (view w b).afterDetour ms := by
  induction ms with
  | nil => intro w w' hw hb h _; cases h; exact ⟨w, rfl, hw, hb, rfl⟩
  | cons m r ih =>
    intro w w' hw hb h hc
    obtain ⟨w1, hpush, hr⟩ := Option.bind_eq_some_iff.mp h
    obtain ⟨w2, hpop, hw2, hb2, hv2⟩ :=
      ih (wf_push hw hb hpush) (boards_size_push hpush ▸ hb) hr (hc.2 w1 hpush)
    -- the last take-back reads nothing of the result that the detour may have changed
    have hv := viewPop_viewPush (push_view_some hw hb hpush) hc.1
    rw [← viewPop_setResult, ← View.afterDetour, ← hv2, ← pop_view hw2 hb2] at hv
    obtain ⟨⟨w3, m'⟩, hpop3, h3⟩ := Option.map_eq_some_iff.mp hv
    obtain ⟨hv3, rfl⟩ := Prod.mk.inj h3
    refine ⟨w3, ?_, wf_pop hw2 hpop3, boards_size_pop hpop3 ▸ hb2, hv3.trans ?_⟩
    · rw [List.length_cons, popN_succ_last, hpop, Option.bind_some, hpop3, List.reverse_cons]
      rfl
    · simp [View.afterDetour]
theorem run_of_viewRun {z : ZTable} {ws w' : World} {r x : Nat} {ops : List Op} (hws : WFWorld ws)
    (hr : r < ws.boards.size) (hw' : WFWorld w') (h : viewRun z (view ws r) ops = some (view w' x)) :
    ∃ wb, run z r ws ops = some wb ∧ obs w' x = obs wb r ∧ (w'.board x).result = (wb.board r).result := by
  rw [← run_view ops hws hr] at h
  obtain ⟨wb, hrun, hv⟩ := Option.map_eq_some_iff.mp h
  exact ⟨wb, hrun, same_of_view_eq hw' (run_wf ops hws hr hrun).1 hv.symm⟩

/-- The board is never taken back below the point where it started (`d`: current height). -/
def above : Nat → List Op → Bool
  | _, [] => true
  | d, o :: r =>
    match o.depth d with
    | none => false
    | some d' => above d' r

theorem run2_snd {z : ZTable} {a b : Nat} (ops : List Op) (w : World) :
    run2 z a b w (ops.map fun o => (false, o)) = run z b w ops := by
  rw [run2_eq_foldlM, run_eq_foldlM, List.foldlM_map]
  rfl

theorem run2_fst {z : ZTable} {a b : Nat} (ops : List Op) (w : World) :
    run2 z a b w (ops.map fun o => (true, o)) = run z a w ops := by
  rw [run2_eq_foldlM, run_eq_foldlM, List.foldlM_map]
  rfl

theorem above2_snd (ops : List Op) : ∀ (da d : Nat), above2 da d (ops.map fun o => (false, o)) = above d ops := by
  induction ops with
  | nil => intro _ _; rfl
  | cons o r ih =>
    intro da d
    simp only [List.map_cons, above2, above]
    cases o.depth d with
    | none => rfl
    | some d' => exact ih da d'

theorem above2_fst (ops : List Op) : ∀ (d db : Nat), above2 d db (ops.map fun o => (true, o)) = above d ops := by
  induction ops with
  | nil => intro _ _; rfl
  | cons o r ih =>
    intro d db
    simp only [List.map_cons, above2, above]
    cases o.depth d with
    | none => rfl
    | some d' => exact ih d' db

theorem proj_map_same (s : Bool) (ops : List Op) : proj s (ops.map fun o => (s, o)) = ops := by
  induction ops with
  | nil => rfl
  | cons o r ih => simp only [List.map_cons, proj, if_true, ih]

theorem proj_map_other {s t : Bool} (h : t ≠ s) (ops : List Op) : proj s (ops.map fun o => (t, o)) = [] := by
  induction ops with
  | nil => rfl
  | cons o r ih => simp only [List.map_cons, proj, if_neg h, ih]

end Morlock.Proofs.Arena
