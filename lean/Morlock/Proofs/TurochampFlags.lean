import Morlock.Model.Turochamp
/-!
# `PositionPlay` with the results of loop (1) given, and its three later loops as one

Loop (1) of `PositionPlay` runs over the legal moves and leaves two flags and the mobility map; `mayCheckMate` plays every
legal move and tests the reply position for mate. On a concrete position these three are slow to evaluate and are needed
in several places (as facts of their own, inside `PositionPlay`, `Eval.Evaluate`, `idealPlay`): `playWith` is
`positionPlayOrd` with the three as arguments, so that a proved value is put in by rewriting.
-/
namespace Morlock.Proofs.Turochamp
open Morlock Morlock.Model Morlock.Model.Flt Morlock.Model.Turochamp

/-- `prePlay` with the two flags of loop (1) given -/
def preWith (pos : Position) (hasCastled : Bool) (turn : Color) (mate castle : Bool) : Option Q :=
  (addIf (pos.castling &&& castlingRights turn != 0) q1 q0).bind fun s =>
  (addIf hasCastled q1 s).bind fun s =>
  (addIf (pos.isChecked turn.opp) qHalf s).bind fun s =>
  (addIf mate q1 s).bind fun s =>
  addIf castle q1 s

/-- `positionPlayOrd` with the flags and the mobility map of loop (1) given -/
def playWith (order : List (Nat × Nat) → List (Nat × Nat)) (pos : Position) (hasCastled : Bool) (turn : Color)
    (mate castle : Bool) (mob : List (Nat × Nat)) : Option Q :=
  (preWith pos hasCastled turn mate castle).bind fun s => (mobSum (order mob) s).bind fun s => postPlay pos turn s

theorem kqrnb_eq : kqrnb = [.king, .queen, .rook, .knight, .bishop] := by decide

theorem positionPlayOrd_eq (order : List (Nat × Nat) → List (Nat × Nat)) (pos : Position) (hasCastled : Bool)
    (turn : Color) :
    positionPlayOrd order pos hasCastled turn =
      playWith order pos hasCastled turn (mayCheckMate pos turn) (mayCastle pos turn) (mobility pos turn) := rfl

theorem evaluateCoreOrd_eq (oS oO : List (Nat × Nat) → List (Nat × Nat)) (pos : Position) (cs co : Bool) (turn : Color) :
    evaluateCoreOrd oS oO pos cs co turn =
      (materialEvaluate pos turn).bind fun mat =>
      (positionPlayOrd oS pos cs turn).bind fun ppS =>
      (positionPlayOrd oO pos co turn.opp).bind fun ppO =>
      (sub f32 ppS ppO).bind fun pp => combine mat pp := rfl

theorem evaluate_eq_ord (w : World) (b : Nat) :
    evaluate w b = evaluateCoreOrd id id (w.cur b).pos (hasCastled w b (w.board b).turn)
      (hasCastled w b (w.board b).turn.opp) (w.board b).turn := rfl

/-- the shape of the loops over the mobility map, the officers and the pawns: one step per element, a failure ends it -/
def stepLoop {α : Type} (step : α → Q → Option Q) : List α → Q → Option Q
  | [], s => some s
  | a :: l, s => (step a s).bind (stepLoop step l)

def mobTerm (e : Nat × Nat) (s : Q) : Option Q := (sqrtTerm e.2).bind fun t => add f32 s t

def defenceStep (pos : Position) (turn : Color) (sq : Nat) (s : Q) : Option Q :=
  (defenders pos turn sq).bind fun d => (addIf (decide (d > 0)) q1 s).bind fun s => addIf (decide (d > 1)) qHalf s

def pawnStep (pos : Position) (turn : Color) (sq : Nat) (s : Q) : Option Q :=
  c02.bind fun k02 => (pawnsOfInt (pawnRanks turn sq)).bind fun r => (mul f32 k02 r).bind fun t =>
  (add f32 s t).bind fun s => (officerDefended pos turn sq kqrnb).bind fun d => c03.bind fun k03 => addIf d k03 s

theorem mobSum_eq : ∀ (l : List (Nat × Nat)) (s : Q), mobSum l s = stepLoop mobTerm l s
  | [], _ => rfl
  | (_, n) :: rest, s => by
    show ((sqrtTerm n).bind fun t => add f32 s t).bind (mobSum rest) = (mobTerm (_, n) s).bind (stepLoop mobTerm rest)
    congr 1
    funext s'
    exact mobSum_eq rest s'

theorem defenceLoop_eq (pos : Position) (turn : Color) :
    ∀ (l : List Nat) (s : Q), defenceLoop pos turn l s = stepLoop (defenceStep pos turn) l s
  | [], _ => rfl
  | sq :: rest, s => by
    have ih : defenceLoop pos turn rest = stepLoop (defenceStep pos turn) rest := funext (defenceLoop_eq pos turn rest)
    simp only [defenceLoop, stepLoop, defenceStep, Option.bind_assoc, ih]

theorem pawnLoop_eq (pos : Position) (turn : Color) :
    ∀ (l : List Nat) (s : Q), pawnLoop pos turn l s = stepLoop (pawnStep pos turn) l s
  | [], _ => rfl
  | sq :: rest, s => by
    have ih : pawnLoop pos turn rest = stepLoop (pawnStep pos turn) rest := funext (pawnLoop_eq pos turn rest)
    simp only [pawnLoop, stepLoop, pawnStep, Option.bind_assoc, ih]

end Morlock.Proofs.Turochamp
