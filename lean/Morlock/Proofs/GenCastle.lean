import Morlock.Proofs.GenPawnsSpec
/-!
# Stage D of C01: castling emissions
-/
namespace Morlock.Proofs.Gen
open Morlock Morlock.Model Morlock.Proofs.Attack

variable {p : Position} {b : Board} {turn : Color} {m : Move} {castling ep fr sq : Nat}

theorem foldl_mask_testBit (l : List Nat) (acc i : Nat) :
    (l.foldl (fun a sq => a ||| bitMask sq) acc).testBit i = true ↔
      acc.testBit i = true ∨ (i ∈ l ∧ i < 64) := by
  induction l generalizing acc with
  | nil => simp
  | cons s l ih =>
    rw [List.foldl_cons, ih, Nat.testBit_or, Bool.or_eq_true, bitMask_testBit', Bool.and_eq_true,
      decide_eq_true_eq, decide_eq_true_eq, List.mem_cons]
    constructor
    · rintro ((h1 | ⟨h2, rfl⟩) | ⟨h3, h4⟩)
      · exact Or.inl h1
      · exact Or.inr ⟨Or.inl rfl, h2⟩
      · exact Or.inr ⟨Or.inr h3, h4⟩
    · rintro (h1 | ⟨rfl | h3, h4⟩)
      · exact Or.inl (Or.inl h1)
      · exact Or.inl (Or.inr ⟨h4, rfl⟩)
      · exact Or.inr ⟨h3, h4⟩

theorem maskOf_testBit (l : List Nat) (i : Nat) :
    (Position.maskOf l).testBit i = true ↔ i ∈ l ∧ i < 64 := by
  unfold Position.maskOf
  rw [foldl_mask_testBit]; simp

/-- The "squares between are empty" test of the generator. -/
theorem maskOf_and_rot_eq_zero (h : Rep p b) (l : List Nat) (hl : ∀ s ∈ l, s < 64) :
    ((Position.maskOf l &&& p.rotated.rot) == 0) = true ↔ ∀ s ∈ l, b s = none := by
  rw [beq_iff_eq]
  constructor
  · intro h0 s hs
    cases hb : b s with
    | none => rfl
    | some x =>
      exfalso
      have h1 : (Position.maskOf l).testBit s = true := (maskOf_testBit l s).mpr ⟨hs, hl s hs⟩
      have h2 : p.rotated.rot.testBit s = true := by rw [h.rot s (hl s hs), hb]; rfl
      have := (and_ne_zero_iff _ _).mpr ⟨s, h1, h2⟩
      rw [h0] at this; simp at this
  · intro hall
    apply Classical.byContradiction
    intro hne
    obtain ⟨t, h1, h2⟩ := (and_ne_zero_iff _ _).mp (by simpa using hne)
    obtain ⟨h3, h4⟩ := (maskOf_testBit l t).mp h1
    rw [h.rot t h4, hall t h3] at h2
    cases h2

theorem mem_genCastle (h : Rep p b) (turn : Color) (fr right : Nat)
    (cmask : List Nat) (rookSq : Nat) (t : MoveType) (to : Nat) (hcm : ∀ s ∈ cmask, s < 64)
    (hto : to < 64) (ht : t ≠ .capture) (m : Move) :
    m ∈ genCastle p turn fr right cmask rookSq t to ↔
      (p.castling &&& right != 0) = true ∧ (∀ s ∈ cmask, b s = none) ∧ b rookSq = some (turn, .rook) ∧
      m.ty = t ∧ m.piece = .king ∧ m.from = fr ∧ m.to = to ∧ m.promotion = .none ∧ m.capture = .none := by
  unfold genCastle
  have hrook : (p.pieces turn .rook &&& bitMask rookSq != 0) = decide (b rookSq = some (turn, Piece.rook)) :=
    h.isSet_pieces turn (by simp) rookSq
  by_cases hc : ((p.castling &&& right != 0) && (Position.maskOf cmask &&& p.rotated.rot) == 0 &&
      (p.pieces turn .rook &&& bitMask rookSq != 0)) = true
  · rw [if_pos hc, mem_emitMove (bitMask_lt_M64 to), bitMask_testBit hto]
    simp only [Bool.and_eq_true, maskOf_and_rot_eq_zero h cmask hcm, hrook, decide_eq_true_eq] at hc
    simp only [ht, if_false, decide_eq_true_eq]
    constructor
    · rintro ⟨h1, h2, h3, h4, h5, h6⟩
      exact ⟨hc.1.1, hc.1.2, hc.2, h2, h3, h4, h1, h5, h6⟩
    · rintro ⟨_, _, _, h2, h3, h4, h1, h5, h6⟩
      exact ⟨h1, h2, h3, h4, h5, h6⟩
  · rw [if_neg hc]
    simp only [Bool.and_eq_true, maskOf_and_rot_eq_zero h cmask hcm, hrook, decide_eq_true_eq] at hc
    simp only [List.not_mem_nil, false_iff]
    rintro ⟨h1, h2, h3, _⟩
    exact hc ⟨⟨h1, h2⟩, h3⟩

structure CastleParams where
  right : Nat
  cmask : List Nat
  rookSq : Nat
  ty : MoveType
  to : Nat

/-- The castles of each colour, in generator order (king side, queen side). -/
def castleParams : Color → List CastleParams
  | .white => [⟨wK, Gen.whiteKingSideCastlingMask, H1, .kingSideCastle, G1⟩,
               ⟨wQ, Gen.whiteQueenSideCastlingMask, A1, .queenSideCastle, C1⟩]
  | .black => [⟨bK, Gen.blackKingSideCastlingMask, H8, .kingSideCastle, G8⟩,
               ⟨bQ, Gen.blackQueenSideCastlingMask, A8, .queenSideCastle, C8⟩]

def kingHomeSq : Color → Nat
  | .white => E1
  | .black => E8

theorem castlingRookMove_congr {m m' : Move} (h1 : m.ty = m'.ty) (h2 : m.from = m'.from) :
    m.castlingRookMove = m'.castlingRookMove := by
  unfold Move.castlingRookMove; rw [h1, h2]

/-- What the four rows of `castleParams` say about a castle from the king's home square (a fixed table,
    checked by evaluation): the destination is a real square among those that must be empty, the rook hops
    from its home square over the king to another of the empty squares, and king side / queen side is the
    g-file / c-file on the king's rank. -/
theorem castleParams_spec (turn : Color) : ∀ cs ∈ castleParams turn,
    cs.to < 64 ∧ cs.to ∈ cs.cmask ∧
    (⟨cs.ty, kingHomeSq turn, cs.to, .king, .none, .none⟩ : Move).castlingRookMove.1 = cs.rookSq ∧
    (⟨cs.ty, kingHomeSq turn, cs.to, .king, .none, .none⟩ : Move).castlingRookMove.2 ∈ cs.cmask ∧
    (⟨cs.ty, kingHomeSq turn, cs.to, .king, .none, .none⟩ : Move).castlingRookMove.2 ≠ cs.to ∧
    (cs.ty = .kingSideCastle ∧ cs.to % 8 = 1 ∨ cs.ty = .queenSideCastle ∧ cs.to % 8 = 5) ∧
    kingHomeSq turn % 8 = 3 ∧ kingHomeSq turn / 8 = cs.to / 8 ∧
    (⟨cs.ty, kingHomeSq turn, cs.to, .king, .none, .none⟩ : Move).castlingRookMove =
      (if cs.to % 8 = 1
       then (Spec.mkSq Spec.fH (kingHomeSq turn / 8), Spec.mkSq Spec.fF (kingHomeSq turn / 8))
       else (Spec.mkSq Spec.fA (kingHomeSq turn / 8), Spec.mkSq Spec.fD (kingHomeSq turn / 8))) := by
  cases turn <;> decide

theorem castleParams_ok (turn : Color) : ∀ cs ∈ castleParams turn,
    (∀ s ∈ cs.cmask, s < 64) ∧ cs.to < 64 ∧ cs.ty ≠ .capture := by
  cases turn <;> decide

/-- A castling move with its metadata, as the generator emits it: the right is present, the squares
    between king and rook are empty, an own rook is on the rook's home square. (The king's own
    square is *not* tested by the generator; `WF` supplies it.) -/
def CastleMove (b : Board) (castling : Nat) (turn : Color) (m : Move) : Prop :=
  ∃ cs ∈ castleParams turn,
    (castling &&& cs.right != 0) = true ∧ (∀ s ∈ cs.cmask, b s = none) ∧
    b cs.rookSq = some (turn, .rook) ∧
    m.ty = cs.ty ∧ m.piece = .king ∧ m.to = cs.to ∧ m.promotion = .none ∧ m.capture = .none

theorem genCastles_eq (p : Position) (turn : Color) (fr : Nat) :
    genCastles p turn fr =
      (castleParams turn).flatMap fun cs => genCastle p turn fr cs.right cs.cmask cs.rookSq cs.ty cs.to := by
  cases turn <;> simp only [genCastles, castleParams, List.flatMap_cons, List.flatMap_nil, List.append_nil]

theorem mem_genCastles (h : Rep p b) (turn : Color) (fr : Nat) (m : Move) :
    m ∈ genCastles p turn fr ↔ m.from = fr ∧ CastleMove b p.castling turn m := by
  rw [genCastles_eq, List.mem_flatMap]
  unfold CastleMove
  constructor
  · rintro ⟨cs, hcs, hm⟩
    obtain ⟨hcm, hto, hty⟩ := castleParams_ok turn cs hcs
    obtain ⟨h1, h2, h3, h4, h5, h6, h7, h8, h9⟩ := (mem_genCastle h turn fr _ _ _ _ _ hcm hto hty m).mp hm
    exact ⟨h6, cs, hcs, h1, h2, h3, h4, h5, h7, h8, h9⟩
  · rintro ⟨h6, cs, hcs, h1, h2, h3, h4, h5, h7, h8, h9⟩
    obtain ⟨hcm, hto, hty⟩ := castleParams_ok turn cs hcs
    exact ⟨cs, hcs, (mem_genCastle h turn fr _ _ _ _ _ hcm hto hty m).mpr ⟨h1, h2, h3, h4, h5, h6, h7, h8, h9⟩⟩

theorem CastleMove.kingHome {turn t : Color} (hw : WFb b castling ep t)
    (hm : CastleMove b castling turn m) : b (kingHomeSq turn) = some (turn, .king) := by
  obtain ⟨cs, hcs, hr, _⟩ := hm
  cases turn
  · apply hw.home_white
    simp only [castleParams, List.mem_cons, List.not_mem_nil, or_false] at hcs
    rcases hcs with rfl | rfl
    · simp only at hr; rw [hr]; rfl
    · simp only at hr; rw [hr]; simp
  · apply hw.home_black
    simp only [castleParams, List.mem_cons, List.not_mem_nil, or_false] at hcs
    rcases hcs with rfl | rfl
    · simp only at hr; rw [hr]; rfl
    · simp only at hr; rw [hr]; simp

def rightBit : Color → Bool → Nat
  | .white, true => wK
  | .white, false => wQ
  | .black, true => bK
  | .black, false => bQ

theorem abs_right (p : Position) (turn c : Color) (ks : Bool) :
    (abs p turn).right (absColor c) ks = (p.castling &&& rightBit c ks != 0) := by
  cases c <;> cases ks <;> rfl

theorem kingHomeSq_eq (turn : Color) :
    kingHomeSq turn = Spec.mkSq Spec.fE (Spec.homeRank (absColor turn)) := by cases turn <;> rfl

/-- The table in the reference's vocabulary: files on the home rank. -/
theorem castleParams_ref (turn : Color) :
    castleParams turn =
      [⟨rightBit turn true,
        [Spec.mkSq Spec.fG (Spec.homeRank (absColor turn)), Spec.mkSq Spec.fF (Spec.homeRank (absColor turn))],
        Spec.mkSq Spec.fH (Spec.homeRank (absColor turn)), .kingSideCastle,
        Spec.mkSq Spec.fG (Spec.homeRank (absColor turn))⟩,
       ⟨rightBit turn false,
        [Spec.mkSq Spec.fB (Spec.homeRank (absColor turn)), Spec.mkSq Spec.fC (Spec.homeRank (absColor turn)),
          Spec.mkSq Spec.fD (Spec.homeRank (absColor turn))],
        Spec.mkSq Spec.fA (Spec.homeRank (absColor turn)), .queenSideCastle,
        Spec.mkSq Spec.fC (Spec.homeRank (absColor turn))⟩] := by
  cases turn <;> rfl

theorem CastleMove.abs_mem (h : Rep p b)
    (hm : CastleMove b p.castling turn m) (hfr : m.from = kingHomeSq turn) :
    absMove m ∈ castlesFrom (abs p turn) (absColor turn) .king m.from := by
  obtain ⟨cs, hcs, hr, hempty, hrook, hty, hpc, hto, hpr, hcap⟩ := hm
  have hsm : absMove m = ⟨m.from, cs.to, none⟩ := by
    simp [absMove, hto, hpr, absKind]
  rw [hsm]
  unfold castlesFrom
  rw [kingHomeSq_eq] at hfr
  rw [if_pos ⟨rfl, hfr⟩, List.mem_append]
  have hR := (h.abs_at_iff turn cs.rookSq turn Spec.Kind.rook).mpr hrook
  have hE : ∀ s ∈ cs.cmask, ¬ (abs p turn).occ s = true := fun s hs => by
    rw [Bool.not_eq_true]; exact (occ_false_iff h turn s).mpr (hempty s hs)
  rw [castleParams_ref, List.mem_cons, List.mem_singleton] at hcs
  rcases hcs with rfl | rfl
  · left
    rw [if_pos ⟨by rw [abs_right]; exact hr, hR, hE _ (List.mem_cons_of_mem _ List.mem_cons_self),
      hE _ List.mem_cons_self⟩]
    exact List.mem_singleton.mpr rfl
  · right
    rw [if_pos ⟨by rw [abs_right]; exact hr, hR,
      hE _ (List.mem_cons_of_mem _ (List.mem_cons_of_mem _ List.mem_cons_self)),
      hE _ (List.mem_cons_of_mem _ List.mem_cons_self), hE _ List.mem_cons_self⟩]
    exact List.mem_singleton.mpr rfl

theorem exists_castleMove (h : Rep p b) {K : Spec.Kind}
    {sm : Spec.SMove} (hsm : sm ∈ castlesFrom (abs p turn) (absColor turn) K fr) :
    K = .king ∧ fr = kingHomeSq turn ∧
      ∃ m, m.from = fr ∧ CastleMove b p.castling turn m ∧ absMove m = sm := by
  unfold castlesFrom at hsm
  split at hsm
  · rename_i hc
    obtain ⟨hK, hfr⟩ := hc
    rw [← kingHomeSq_eq] at hfr
    refine ⟨hK, hfr, ?_⟩
    have hocc : ∀ s, ¬ (abs p turn).occ s = true → b s = none := fun s hs =>
      (occ_false_iff h turn s).mp (by simpa using hs)
    -- the generated castle: the king's move of row `cs`
    have hex : ∀ {right cmask rookSq ty to}, (⟨right, cmask, rookSq, ty, to⟩ : CastleParams) ∈ castleParams turn →
        (p.castling &&& right != 0) = true → (∀ s ∈ cmask, b s = none) → b rookSq = some (turn, .rook) →
        sm = ⟨fr, to, none⟩ → ∃ m, m.from = fr ∧ CastleMove b p.castling turn m ∧ absMove m = sm :=
      fun {_ _ _ ty to} hcs h1 h2 h3 e =>
        ⟨⟨ty, fr, to, .king, .none, .none⟩, rfl, ⟨_, hcs, h1, h2, h3, rfl, rfl, rfl, rfl, rfl⟩, e.symm⟩
    rw [List.mem_append] at hsm
    rcases hsm with hsm | hsm <;> split at hsm
    · rename_i hc
      obtain ⟨h1, h2, h3, h4⟩ := hc
      rw [abs_right] at h1
      refine hex (by rw [castleParams_ref]; exact List.mem_cons_self) h1 ?_
        ((h.abs_at_iff turn _ turn .rook).mp h2) (List.mem_singleton.mp hsm)
      intro s hs
      rw [List.mem_cons, List.mem_singleton] at hs
      rcases hs with rfl | rfl
      · exact hocc _ h4
      · exact hocc _ h3
    · cases hsm
    · rename_i hc
      obtain ⟨h1, h2, h3, h4, h5⟩ := hc
      rw [abs_right] at h1
      refine hex (by rw [castleParams_ref]; exact List.mem_cons_of_mem _ List.mem_cons_self) h1 ?_
        ((h.abs_at_iff turn _ turn .rook).mp h2) (List.mem_singleton.mp hsm)
      intro s hs
      rw [List.mem_cons, List.mem_cons, List.mem_singleton] at hs
      rcases hs with rfl | rfl | rfl
      · exact hocc _ h5
      · exact hocc _ h4
      · exact hocc _ h3
    · cases hsm
  · cases hsm

end Morlock.Proofs.Gen
