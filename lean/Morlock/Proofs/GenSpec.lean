import Morlock.Proofs.GenSym
/-!
# The reference `Spec.pseudoMoves`, taken apart (pure reference-side lemmas for C01)

`pseudoMoves` is the concatenation over the 64 squares of `movesFrom`; the moves of one square are
split into pawn pushes, pawn captures, officer steps and castles, each with a membership lemma.
-/
namespace Morlock.Proofs.Gen
open Morlock Morlock.Spec

variable {p : Pos} {c : Spec.Color} {s : Sq} {sm : SMove}

/-- A pawn move to `t`, expanded into the four promotions when `t` is on the last rank. -/
def withPromo (c : Spec.Color) (s t : Sq) : List SMove :=
  if rankOf t = lastRank c then promoKinds.map fun k => ⟨s, t, some k⟩ else [⟨s, t, none⟩]

def pawnPushes (p : Pos) (c : Spec.Color) (s : Sq) : List SMove :=
  match step s 0 (fwd c) with
  | some t =>
    if p.occ t then [] else
      withPromo c s t ++
      (if rankOf s = startRank c then
        match step t 0 (fwd c) with
        | some t2 => if p.occ t2 then [] else [⟨s, t2, none⟩]
        | none => []
       else [])
  | none => []

def pawnCaps (p : Pos) (c : Spec.Color) (s : Sq) : List SMove :=
  (pawnTargets c s).flatMap fun t =>
    match p.at t with
    | some (c2, _) => if c2 = c.opp then withPromo c s t else []
    | none => if p.ep = some t then [⟨s, t, none⟩] else []

def officerNormal (p : Pos) (c : Spec.Color) (k : Kind) (s : Sq) : List SMove :=
  (officerTargets p.occ k s).filterMap fun t =>
    match p.at t with
    | some (c2, _) => if c2 = c then none else some ⟨s, t, none⟩
    | none => some ⟨s, t, none⟩

def castlesFrom (p : Pos) (c : Spec.Color) (k : Kind) (s : Sq) : List SMove :=
  if k = .king ∧ s = mkSq fE (homeRank c) then
    (if p.right c true ∧ p.at (mkSq fH (homeRank c)) = some (c, .rook) ∧
        ¬ p.occ (mkSq fF (homeRank c)) ∧ ¬ p.occ (mkSq fG (homeRank c))
      then [⟨s, mkSq fG (homeRank c), none⟩] else []) ++
    (if p.right c false ∧ p.at (mkSq fA (homeRank c)) = some (c, .rook) ∧
        ¬ p.occ (mkSq fD (homeRank c)) ∧ ¬ p.occ (mkSq fC (homeRank c)) ∧ ¬ p.occ (mkSq fB (homeRank c))
      then [⟨s, mkSq fC (homeRank c), none⟩] else [])
  else []

def movesFrom (p : Pos) (s : Sq) : List SMove :=
  match p.at s with
  | some (c', k) =>
    if c' ≠ p.turn then [] else
    match k with
    | .pawn => pawnPushes p p.turn s ++ pawnCaps p p.turn s
    | k => officerNormal p p.turn k s ++ castlesFrom p p.turn k s
  | none => []

theorem pseudoMoves_eq (p : Pos) : pseudoMoves p = allSquares.flatMap (movesFrom p) := by
  unfold pseudoMoves
  show List.flatMap _ allSquares = List.flatMap _ allSquares
  congr 1
  funext s
  unfold movesFrom pawnPushes pawnCaps officerNormal castlesFrom withPromo
  cases p.at s with
  | none => rfl
  | some x =>
    obtain ⟨c', k⟩ := x
    cases k <;> rfl

theorem mem_withPromo {s t : Sq} :
    sm ∈ withPromo c s t ↔ sm.from = s ∧ sm.to = t ∧
      ((rankOf t = lastRank c ∧ ∃ k ∈ promoKinds, sm.promo = some k) ∨
       (rankOf t ≠ lastRank c ∧ sm.promo = none)) := by
  unfold withPromo
  split
  · rename_i hr
    simp only [List.mem_map]
    constructor
    · rintro ⟨k, hk, rfl⟩; exact ⟨rfl, rfl, Or.inl ⟨hr, k, hk, rfl⟩⟩
    · rintro ⟨h1, h2, h3 | h3⟩
      · obtain ⟨_, k, hk, hp⟩ := h3
        refine ⟨k, hk, ?_⟩
        cases sm; simp only at h1 h2 hp; subst h1 h2 hp; rfl
      · exact absurd hr h3.1
  · rename_i hr
    simp only [List.mem_singleton]
    constructor
    · rintro rfl; exact ⟨rfl, rfl, Or.inr ⟨hr, rfl⟩⟩
    · rintro ⟨h1, h2, h3 | h3⟩
      · exact absurd h3.1 hr
      · cases sm; simp only at h1 h2 h3; subst h1 h2; rw [h3.2]

theorem mem_pawnPushes :
    sm ∈ pawnPushes p c s ↔
      ∃ t, step s 0 (fwd c) = some t ∧ p.occ t = false ∧
        (sm ∈ withPromo c s t ∨
         (rankOf s = startRank c ∧ ∃ t2, step t 0 (fwd c) = some t2 ∧ p.occ t2 = false ∧ sm = ⟨s, t2, none⟩)) := by
  unfold pawnPushes
  cases hst : step s 0 (fwd c) with
  | none => simp
  | some t =>
    simp only [Option.some.injEq, exists_eq_left']
    by_cases ho : p.occ t = true
    · simp [ho]
    · have ho' : p.occ t = false := by simpa using ho
      rw [if_neg ho, List.mem_append]
      simp only [ho', true_and]
      apply or_congr Iff.rfl
      by_cases hr : rankOf s = startRank c
      · rw [if_pos hr]
        simp only [hr, true_and]
        cases hst2 : step t 0 (fwd c) with
        | none => simp
        | some t2 =>
          simp only [Option.some.injEq, exists_eq_left']
          by_cases ho2 : p.occ t2 = true
          · simp [ho2]
          · have ho2' : p.occ t2 = false := by simpa using ho2
            rw [if_neg ho2]
            simp [ho2']
      · rw [if_neg hr]; simp [hr]

theorem mem_pawnCaps :
    sm ∈ pawnCaps p c s ↔
      ∃ t, t ∈ pawnTargets c s ∧
        (((∃ k, p.at t = some (c.opp, k)) ∧ sm ∈ withPromo c s t) ∨
         (p.at t = none ∧ p.ep = some t ∧ sm = ⟨s, t, none⟩)) := by
  unfold pawnCaps
  simp only [List.mem_flatMap]
  apply exists_congr
  intro t
  apply and_congr Iff.rfl
  cases hat : p.at t with
  | none =>
    by_cases he : p.ep = some t
    · simp [he]
    · simp [he]
  | some x =>
    obtain ⟨c2, k⟩ := x
    by_cases hc : c2 = c.opp
    · subst hc; simp
    · simp [hc]

theorem mem_officerNormal {k : Kind} :
    sm ∈ officerNormal p c k s ↔
      sm.from = s ∧ sm.promo = none ∧ sm.to ∈ officerTargets p.occ k s ∧
      ∀ k2, p.at sm.to ≠ some (c, k2) := by
  unfold officerNormal
  simp only [List.mem_filterMap]
  constructor
  · rintro ⟨t, ht, hm⟩
    split at hm
    · rename_i c2 k2 hat
      split at hm
      · cases hm
      · rename_i hne
        simp only [Option.some.injEq] at hm; subst hm
        refine ⟨rfl, rfl, ht, fun k3 hk3 => ?_⟩
        simp only at hk3
        rw [hat] at hk3
        simp only [Option.some.injEq, Prod.mk.injEq] at hk3
        exact hne hk3.1
    · rename_i hat
      simp only [Option.some.injEq] at hm; subst hm
      refine ⟨rfl, rfl, ht, fun k3 hk3 => ?_⟩
      simp only at hk3
      rw [hat] at hk3; cases hk3
  · rintro ⟨h1, h2, h3, h4⟩
    refine ⟨sm.to, h3, ?_⟩
    have e : sm = ⟨s, sm.to, none⟩ := by
      cases sm; simp only at h1 h2; subst h1 h2; rfl
    split
    · rename_i c2 k2 hat
      split
      · rename_i hc; subst hc; exact absurd hat (h4 k2)
      · rw [e]
    · rw [e]

theorem from_of_mem_castlesFrom {k : Kind}
    (h : sm ∈ castlesFrom p c k s) : sm.from = s := by
  unfold castlesFrom at h
  split at h
  · rw [List.mem_append] at h
    rcases h with h | h <;> split at h <;>
      first | (simp only [List.mem_singleton] at h; subst h; rfl) | cases h
  · cases h

theorem from_of_mem_movesFrom (h : sm ∈ movesFrom p s) : sm.from = s := by
  unfold movesFrom at h
  split at h
  · split at h
    · cases h
    · split at h
      · rw [List.mem_append] at h
        rcases h with h | h
        · obtain ⟨t, _, _, h | ⟨_, t2, _, _, rfl⟩⟩ := mem_pawnPushes.mp h
          · exact (mem_withPromo.mp h).1
          · rfl
        · obtain ⟨t, _, ⟨_, h⟩ | ⟨_, _, rfl⟩⟩ := mem_pawnCaps.mp h
          · exact (mem_withPromo.mp h).1
          · rfl
      · rw [List.mem_append] at h
        rcases h with h | h
        · exact (mem_officerNormal.mp h).1
        · exact from_of_mem_castlesFrom h
  · cases h

theorem mem_pseudoMoves :
    sm ∈ pseudoMoves p ↔ sm.from < 64 ∧ sm ∈ movesFrom p sm.from := by
  rw [pseudoMoves_eq]
  simp only [List.mem_flatMap, allSquares, List.mem_range]
  constructor
  · rintro ⟨s, hs, hm⟩
    have := from_of_mem_movesFrom hm
    subst this
    exact ⟨hs, hm⟩
  · rintro ⟨hs, hm⟩
    exact ⟨sm.from, hs, hm⟩

theorem movesFrom_officer {k : Kind} (hat : p.at s = some (p.turn, k)) (hk : k ≠ .pawn) :
    movesFrom p s = officerNormal p p.turn k s ++ castlesFrom p p.turn k s := by
  unfold movesFrom
  rw [hat]
  cases k <;> simp at hk ⊢

theorem movesFrom_pawn (hat : p.at s = some (p.turn, .pawn)) :
    movesFrom p s = pawnPushes p p.turn s ++ pawnCaps p p.turn s := by
  unfold movesFrom
  rw [hat]
  simp

theorem at_of_mem_movesFrom (h : sm ∈ movesFrom p s) :
    ∃ k, p.at s = some (p.turn, k) := by
  unfold movesFrom at h
  split at h
  · rename_i c' k hat
    split at h
    · cases h
    · rename_i hc
      have : c' = p.turn := Classical.byContradiction hc
      exact ⟨k, by rw [hat, this]⟩
  · cases h

end Morlock.Proofs.Gen
