import Morlock.Proofs.TurochampOrder
import Morlock.Proofs.TurochampMob
/-!
# `Eval.Evaluate` does not depend on the iteration order of the mobility maps (C18)

`PositionPlay` is order dependent in its last bits, but stays within `2^-10` of the exact value `idealPlay/10`
(`positionPlayOrdN`); the difference of the two calls is within `2^-9 + 2^-15` of a multiple of 1/10, so
`math.Round(float64(pp)*100)` is the same integer `10·(idealPlay(self) − idealPlay(opponent))` whatever the orders, and
everything after it is a function of that integer and the material.
-/
namespace Morlock.Proofs.Turochamp
open Morlock Morlock.Model Morlock.Model.Flt Morlock.Model.Turochamp Morlock.Proofs.Gen

/-- what `Eval.Evaluate` computes from the material ratio and the rounded position-play difference `r` (hundredths) -/
def combineR (mat : Q) (r : Int) : Option Q :=
  (mul f64 mat (Q.ofInt 100)).bind fun m100 =>
  (mul f64 (Q.ofInt m100.roundAway) (Q.ofInt 10)).bind fun m64 =>
  (rnd f32 m64).bind fun m =>
  (div f64 (Q.ofInt r) (Q.ofInt 1000)).bind fun p64 =>
  (rnd f32 p64).bind fun p =>
  add f32 m p

theorem combine_of_round {mat pp y : Q} (hy : mul f64 pp (Q.ofInt 100) = some y) :
    combine mat pp = combineR mat y.roundAway := by
  unfold combine combineR
  simp only [hy, Option.bind_some]

/-- the rounded difference is determined by the exact values -/
theorem round_pp {pp : Q} {d : Int} {E : Nat} (h : Near pp d E) (hd : d.natAbs ≤ 5080) (hE : E ≤ 2181038080) :
    ∃ y, mul f64 pp (Q.ofInt 100) = some y ∧ y.roundAway = 10 * d := by
  have hz : Near (Q.mul pp (Q.ofInt ((100 : Nat) : Int))) (d * ((100 : Nat) : Int)) (E * 100) := h.mul_nat 100
  have hE100 : E * 100 ≤ 218103808000 := Nat.mul_le_mul_right _ hE
  have hb : Bd (Q.mul pp (Q.ofInt ((100 : Nat) : Int))) 65536 := hz.bd (by omega) (by omega)
  obtain ⟨y, hy, _⟩ := fltFacts.abs_le64 _ 65536 (by decide) hb
  have hy' : mul f64 pp (Q.ofInt 100) = some y := hy
  refine ⟨y, hy', ?_⟩
  have hn := hz.rnd64 (by simpa using hb.2) hy
  have e : d * ((100 : Nat) : Int) = 10 * (10 * d) := by omega
  rw [e] at hn
  exact hn.roundAway (by omega)

theorem evaluateCoreOrd_closed {pos : Position} {turn : Color} (hS : Small pos turn) (hO : Small pos turn.opp)
    (cs co : Bool) (oS oO : List (Nat × Nat) → List (Nat × Nat))
    (hpS : ∀ l, (oS l).Perm l) (hpO : ∀ l, (oO l).Perm l) :
    evaluateCoreOrd oS oO pos cs co turn =
      (materialEvaluate pos turn).bind fun mat =>
        combineR mat (10 * (idealPlay pos cs turn - idealPlay pos co turn.opp)) := by
  obtain ⟨ppS, hS1, nS, bS⟩ := positionPlayOrdN hS cs oS hpS
  obtain ⟨ppO, hO1, nO, bO⟩ := positionPlayOrdN hO co oO hpO
  obtain ⟨pp, hpp, npp⟩ := sub32N' nS nO (by omega) (by decide)
  obtain ⟨y, hy, hr⟩ := round_pp npp (by omega) (by decide)
  unfold evaluateCoreOrd
  cases hm : materialEvaluate pos turn with
  | none => rfl
  | some mat =>
    rw [Option.bind_some, Option.bind_some, hS1, Option.bind_some, hO1, Option.bind_some, hpp, Option.bind_some,
      combine_of_round hy, hr]

/-- at most 16 men, at most 15 of them rooks, knights, bishops and pawns, no pawn on the first or last rank -/
structure Sane (pos : Position) (c : Color) : Prop where
  men : (toSquares (pos.pieces c .none)).length ≤ 16
  officers : (toSquares (middle pos c)).length + (toSquares (pos.pieces c .pawn)).length ≤ 15
  ranks : ∀ sq ∈ toSquares (pos.pieces c .pawn), pawnRanks c sq ≤ 5

/-- the three conditions are decidable: on a concrete position `Sane` is shown by evaluation -/
instance (pos : Position) (c : Color) : Decidable (Sane pos c) :=
  decidable_of_iff ((toSquares (pos.pieces c .none)).length ≤ 16 ∧
      (toSquares (middle pos c)).length + (toSquares (pos.pieces c .pawn)).length ≤ 15 ∧
      ∀ sq ∈ toSquares (pos.pieces c .pawn), pawnRanks c sq ≤ 5)
    ⟨fun h => ⟨h.1, h.2.1, h.2.2⟩, fun h => ⟨h.men, h.officers, h.ranks⟩⟩

theorem small_of_sane {pos : Position} {t c : Color} (hw : WF pos t) (hs : Sane pos c) : Small pos c := by
  refine ⟨?_, (mobOK_of_wf hw).2, hs.officers, hs.ranks⟩
  have := mobility_keys (turn := c) hw
  have hm := hs.men
  simp only [List.length_map] at this
  omega

end Morlock.Proofs.Turochamp
