import Morlock.Proofs.GenLegal
/-!
# Chain (C01 + C02): the play invariant `WFplay` and its preservation by generated moves

`WF p turn` alone is **not** preserved by `Position.move` on generated moves: when the side *not* to move is
in check, the generator emits the capture of its king, `Position.move` accepts it (the mover's king is safe),
and afterwards a castling right may survive without its king (`KingHome` fails; see `wf_not_preserved`).

`WFplay p turn := WF p turn ∧ p.isChecked turn.opp = false` — the side not to move is not in check — *is*
preserved (`wf_preserved`):

* no generated move captures a king (`pseudo_noKingCapture`: a capture of the king is an attack on its square);
* `Rep` by C02 `move_rep`; at most one king per side because no king appears (promotion pieces are Q, R, N, B)
  and the moved king leaves its origin; `KingHome` by C02 `kingHome_move`;
* the en-passant clause: the only type-`jump` moves are double pushes from the start rank, whose skipped square is
  empty, on rank 3 / 6, with the pawn just moved directly behind it;
* after an accepted move the mover's king is not attacked: that is the test `Position.move` makes.
-/
namespace Morlock.Proofs.Chain
open Morlock Morlock.Model Morlock.Proofs Morlock.Proofs.Gen Morlock.Proofs.Attack

variable {p : Position} {b : Board} {turn : Color} {m : Move} {castling ep fr sq : Nat}

/-- **The play invariant.** `WF` (C01) and the side not to move is not in check. -/
def WFplay (p : Position) (turn : Color) : Prop := WF p turn ∧ p.isChecked turn.opp = false

theorem WFplay.wf (h : WFplay p turn) : WF p turn := h.1

theorem pseudoMove_capture_att
    (hm : PseudoMove b castling ep turn m) (hcap : m.capture ≠ .none) :
    b m.to = some (turn.opp, m.capture) ∧ Att b turn m.to := by
  refine hm.elim (fun pc hpw hs => ?_) (fun hp => ?_) (fun _ hc => ?_)
  · obtain ⟨hsq, _, _, ht, hd⟩ := hs
    rcases hd with ⟨_, _, hc⟩ | ⟨k, hk, _, hc⟩
    · exact absurd hc hcap
    · exact ⟨by rw [hc]; exact hk, m.from, pc, hsq, Or.inr ⟨hpw, ht⟩⟩
  · obtain ⟨hsq, _, hk⟩ := hp
    rcases hk with ⟨_, _, hc, _⟩ | ⟨_, _, _, _, _, _, _, _, hc⟩ | ⟨ht, k, hk, hc, _⟩ | ⟨_, _, _, _, _, _, hc⟩
    · exact absurd hc hcap
    · exact absurd hc hcap
    · exact ⟨by rw [hc]; exact hk, m.from, .pawn, hsq, Or.inl ⟨rfl, ht⟩⟩
    · exact absurd hc hcap
  · obtain ⟨_, _, _, _, _, _, _, _, _, hc⟩ := hc
    exact absurd hc hcap

theorem isChecked_of_att (h : Rep p b) {c : Color}
    (hu : ∀ s1 s2, b s1 = some (c, Piece.king) → b s2 = some (c, Piece.king) → s1 = s2)
    (hk : b sq = some (c, Piece.king)) (hatt : Att b c.opp sq) : p.isChecked c = true := by
  have h0 : p.pieces c .king ≠ 0 := fun e => (king_zero_iff h c).mp e sq hk
  have hsq : lastPopSquare (p.pieces c .king) = sq := hu _ _ (kingSquare_spec h c h0).1 hk
  rw [isChecked_of_king h h0, hsq]
  exact (isAttacked_iff_att h c (h.lt_of_some hk)).mpr hatt

theorem pseudo_noKingCapture (hw : WFplay p turn) :
    ∀ m ∈ p.pseudoLegalMoves turn, m.capture ≠ .king := by
  intro m hm hcap
  have hps := (mem_pseudoLegalMoves hw.1.rep hw.1.wfb m).mp hm
  obtain ⟨hto, hatt⟩ := pseudoMove_capture_att hps (by rw [hcap]; simp)
  rw [hcap] at hto
  have := isChecked_of_att hw.1.rep (c := turn.opp) (hw.1.wfb.king_unique turn.opp) hto
    (by rw [Color.opp_opp]; exact hatt)
  rw [hw.2] at this
  cases this

theorem length_le_one_of_all_eq {α : Type} {l : List α} (hnd : l.Nodup) (h : ∀ a ∈ l, ∀ b ∈ l, a = b) :
    l.length ≤ 1 := by
  match l, hnd, h with
  | [], _, _ => simp
  | [_], _, _ => simp
  | x :: y :: r, hnd, h =>
    have e : x = y := h x List.mem_cons_self y (List.mem_cons_of_mem _ List.mem_cons_self)
    subst e
    simp at hnd

theorem king_length_le_one (h : Rep p b) (c : Color)
    (hu : ∀ s1 s2, b s1 = some (c, Piece.king) → b s2 = some (c, Piece.king) → s1 = s2) :
    (toSquares (p.pieces c .king)).length ≤ 1 := by
  apply length_le_one_of_all_eq (toSquares_nodup (h.piecesLt c .king))
  intro s1 h1 s2 h2
  exact hu s1 s2 ((h.mem_toSquares_pieces c (by simp) s1).mp h1) ((h.mem_toSquares_pieces c (by simp) s2).mp h2)

theorem wfc_intro (h : Rep p b) (t : Color)
    (hu : ∀ c s1 s2, b s1 = some (c, Piece.king) → b s2 = some (c, Piece.king) → s1 = s2)
    (hkh : KingHome p = true)
    (hep : p.enpassant ≠ 0 → p.enpassant < 64 ∧ b p.enpassant = none ∧ p.enpassant / 8 = epRank t ∧
      b (epVictim t p.enpassant) = some (t.opp, Piece.pawn)) : WFc p t = true := by
  unfold WFc
  simp only [Bool.and_eq_true, decide_eq_true_eq, Bool.or_eq_true, beq_iff_eq, h.square_eq]
  refine ⟨⟨⟨king_length_le_one h .white (hu .white), king_length_le_one h .black (hu .black)⟩, hkh⟩, ?_⟩
  by_cases h0 : p.enpassant = 0
  · exact Or.inl h0
  · obtain ⟨a, b', c, d⟩ := hep h0
    exact Or.inr ⟨⟨⟨a, b'⟩, c⟩, d⟩

theorem boardAfter_king_inv {pc : Piece} (hok : MetaOKb b m = true)
    (hsq : b m.from = some (turn, pc)) {c : Color}
    (hk : boardAfter b m sq = some (c, Piece.king)) :
    (sq ≠ m.from ∧ sq ≠ m.to ∧ b sq = some (c, Piece.king)) ∨ (sq = m.to ∧ c = turn ∧ pc = .king) := by
  obtain ⟨a1, a2, a3, a4, a5⟩ := boardAfter_spec hok hsq
  have hok' := hok
  unfold MetaOKb at hok'; rw [hsq] at hok'
  simp only [Bool.and_eq_true, beq_iff_eq, decide_eq_true_eq] at hok'
  obtain ⟨_, hty⟩ := hok'
  by_cases e1 : sq = m.from
  · rw [e1, a1] at hk; cases hk
  by_cases e2 : sq = m.to
  · right
    rw [e2, a2] at hk
    have hk' := Prod.mk.inj (Option.some.inj hk)
    refine ⟨e2, hk'.1.symm, ?_⟩
    have hmp := hk'.2
    unfold movedPiece at hmp
    by_cases hp : m.isPromotion = true
    · -- a promotion piece is never a king (`promoOK`)
      exfalso
      rw [if_pos hp] at hmp
      simp only [Move.isPromotion, Bool.or_eq_true, decide_eq_true_eq] at hp
      rcases hp with ety | ety <;> rw [ety] at hty <;> simp [promoOK, hmp] at hty
    · rw [if_neg hp] at hmp; exact hmp
  · left
    refine ⟨e1, e2, ?_⟩
    by_cases e3 : m.ty = .enPassant ∧ sq = m.enPassantCapture
    · rw [e3.2, a3 e3.1] at hk; cases hk
    by_cases e4 : m.isCastle = true ∧ (sq = m.castlingRookMove.1 ∨ sq = m.castlingRookMove.2)
    · obtain ⟨r1, r2⟩ := a4 e4.1
      rcases e4.2 with e | e
      · rw [e, r1] at hk; cases hk
      · rw [e, r2] at hk; cases hk
    rw [a5 sq e1 e2 (fun hty' hsq' => e3 ⟨hty', hsq'⟩)
      (fun hc => ⟨fun e => e4 ⟨hc, Or.inl e⟩, fun e => e4 ⟨hc, Or.inr e⟩⟩)] at hk
    exact hk

theorem king_unique_boardAfter (hok : MetaOKb b m = true)
    (hu : ∀ c s1 s2, b s1 = some (c, Piece.king) → b s2 = some (c, Piece.king) → s1 = s2) :
    ∀ c s1 s2, boardAfter b m s1 = some (c, Piece.king) → boardAfter b m s2 = some (c, Piece.king) → s1 = s2 := by
  intro c s1 s2 h1 h2
  obtain ⟨turn, pc, hsq⟩ := metaOKb_from hok
  rcases boardAfter_king_inv hok hsq h1 with ⟨n1, _, k1⟩ | ⟨e1, c1, p1⟩ <;>
    rcases boardAfter_king_inv hok hsq h2 with ⟨n2, _, k2⟩ | ⟨e2, c2, p2⟩
  · exact hu c s1 s2 k1 k2
  · exfalso
    subst c2 p2
    exact n1 (hu c s1 m.from k1 hsq)
  · exfalso
    subst c1 p1
    exact n2 (hu c s2 m.from k2 hsq)
  · rw [e1, e2]

theorem castleMove_isCastle {castling : Nat}
    (hm : CastleMove b castling turn m) : m.isCastle = true := by
  obtain ⟨cs, hcs, _, _, _, hty, _⟩ := hm
  rcases (castleParams_spec turn cs hcs).2.2.2.2.2.1 with ⟨e, _⟩ | ⟨e, _⟩ <;> simp [Move.isCastle, hty, e]

theorem pseudoMove_jump
    (hm : PseudoMove b castling ep turn m) (hj : m.ty = .jump) :
    b m.from = some (turn, .pawn) ∧ ∃ t1, Spec.step m.from 0 (Spec.fwd (absColor turn)) = some t1 ∧
      Spec.step t1 0 (Spec.fwd (absColor turn)) = some m.to ∧
      Spec.rankOf m.from = Spec.startRank (absColor turn) ∧ b t1 = none ∧ b m.to = none := by
  refine hm.elim (fun _ _ hs => ?_) (fun hp => ?_) (fun _ hc => ?_)
  · rcases hs.2.2.2.2 with ⟨_, hty, _⟩ | ⟨_, _, hty, _⟩ <;> rw [hj] at hty <;> cases hty
  · obtain ⟨hsq, _, hk⟩ := hp
    rcases hk with ⟨_, _, _, ⟨_, hty, _⟩ | ⟨_, hty, _⟩⟩ | ⟨t1, h1, h2, h3, h4, h5, _⟩ |
      ⟨_, _, _, _, ⟨_, hty, _⟩ | ⟨_, hty, _⟩⟩ | ⟨_, _, _, _, hty, _⟩
    · rw [hj] at hty; cases hty
    · rw [hj] at hty; cases hty
    · exact ⟨hsq, t1, h1, h2, h3, h4, h5⟩
    · rw [hj] at hty; cases hty
    · rw [hj] at hty; cases hty
    · rw [hj] at hty; cases hty
  · have := castleMove_isCastle hc
    simp [Move.isCastle, hj] at this

theorem kingHome_of_wf {t : Color} (hw : WF p t) : KingHome p = true := by
  have := hw.2
  unfold WFc at this
  simp only [Bool.and_eq_true] at this
  exact this.1.2

theorem pseudo_mover (hw : WF p turn) :
    ∀ m ∈ p.pseudoLegalMoves turn, p.square m.from = some (turn, m.piece) :=
  fun m hm => (((mem_pseudoLegalMoves hw.rep hw.wfb m).mp hm).features hw.wfb).1

theorem wf_preserved {p q : Position} {turn : Color} {m : Move} (hw : WFplay p turn)
    (hm : m ∈ p.pseudoLegalMoves turn) (hq : p.move m = some q) : WFplay q turn.opp := by
  have hrep := hw.1.rep
  have hwfb := hw.1.wfb
  have hps := (mem_pseudoLegalMoves hrep hwfb m).mp hm
  obtain ⟨hok, _⟩ := hps.metaOK_classOK hrep hwfb
  have hsq : p.square m.from = some (turn, m.piece) := (hps.features hwfb).1
  have hcap := pseudo_noKingCapture hw m hm
  refine ⟨?_, ?_⟩
  · obtain ⟨hrep', _, hep'⟩ := move_rep hrep hok hq
    have hokb : MetaOKb p.square m = true := by rw [← hrep.metaOK_iff]; exact hok
    refine ⟨hrep'.self, ?_⟩
    apply wfc_intro hrep' turn.opp (king_unique_boardAfter hokb hwfb.king_unique)
      (kingHome_move hrep hok (kingHome_of_wf hw.1) hcap hq)
    intro hne
    rw [hep'] at hne ⊢
    have hj : m.ty = .jump := by
      apply Classical.byContradiction
      intro hnj
      apply hne
      unfold Move.enPassantTarget
      simp [hnj]
    obtain ⟨hpawn, t1, h1, h2, hstart, hb1, hb2⟩ := pseudoMove_jump hps hj
    have hfr : m.from < 64 := hrep.lt_of_some hpawn
    obtain ⟨g1, g3, g4, g5, g6, g7⟩ := jump_target hj hfr h1 h2 hstart
    obtain ⟨_, a2, _, _, a5⟩ := boardAfter_spec hokb hpawn
    rw [g1, g7]
    refine ⟨g3, ?_, g6, ?_⟩
    · rw [a5 t1 g4 g5 (fun h => by rw [hj] at h; cases h) (fun h => by simp [Move.isCastle, hj] at h)]
      exact hb1
    · rw [a2, Color.opp_opp]
      have : m.isPromotion = false := by simp [Move.isPromotion, hj]
      simp [movedPiece, this]
  · -- the mover's king is not attacked afterwards: the test `Position.move` makes
    rw [Color.opp_opp]
    have e := move_eq_some hsq hq
    have hs : (p.move m).isSome = true := by rw [hq]; rfl
    rw [move_isSome_eq hsq] at hs
    simp only [Bool.and_eq_true, Bool.not_eq_true'] at hs
    rw [e]
    exact hs.2

theorem wf_after {p q : Position} {turn : Color} {m : Move} (hw : WFplay p turn)
    (hm : m ∈ p.pseudoLegalMoves turn) (hq : p.move m = some q) : WF q turn.opp :=
  (wf_preserved hw hm hq).1

end Morlock.Proofs.Chain
