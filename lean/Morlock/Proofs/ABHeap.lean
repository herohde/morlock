import Morlock.Model.MoveList
/-!
# `heapOrder` returns a permutation of its input

`heapDown` only ever swaps in-bounds positions, `heapPop` removes exactly the last element after such
swaps, and `heapOrder.drain` has enough fuel to empty the heap.
-/
namespace Morlock.Proofs.ABHeap
open Morlock.Model

theorem swapIfInBounds_perm {α : Type} (xs : Array α) (i j : Nat) :
    (xs.swapIfInBounds i j).Perm xs := by
  rw [Array.swapIfInBounds_def]
  split
  · split
    · exact Array.swap_perm _ _
    · exact Array.Perm.refl _
  · exact Array.Perm.refl _

theorem heapDown_go_perm (n : Nat) (fuel : Nat) (h : Array Elm) (i : Nat) :
    (heapDown.go n fuel h i).Perm h := by
  induction fuel generalizing h i with
  | zero => simp [heapDown.go]
  | succ fuel ih =>
    -- whichever child `j` is the larger one
    have key (j : Nat) : (if !((h.getD j default).val > (h.getD i default).val) then h
        else heapDown.go n fuel (h.swapIfInBounds i j) j).Perm h := by
      split
      · exact Array.Perm.refl _
      · exact (ih _ _).trans (swapIfInBounds_perm _ _ _)
    unfold heapDown.go
    dsimp only
    split
    · exact Array.Perm.refl _
    · exact key _

theorem heapDown_perm (h : Array Elm) (i n : Nat) : (heapDown h i n).Perm h := by
  unfold heapDown
  exact heapDown_go_perm _ _ _ _

theorem foldl_heapDown_perm (n : Nat) (is : List Nat) (h : Array Elm) :
    (is.foldl (fun h i => heapDown h i n) h).Perm h := by
  induction is generalizing h with
  | nil => simp
  | cons i is ih =>
    simp only [List.foldl_cons]
    exact (ih _).trans (heapDown_perm _ _ _)

theorem heapInit_perm (h : Array Elm) : (heapInit h).Perm h := by
  unfold heapInit
  exact foldl_heapDown_perm _ _ _

theorem pop_push_getD (a : Array Elm) (hne : a.size ≠ 0) :
    a.pop.push (a.getD (a.size - 1) default) = a := by
  have h1 := Array.eq_push_pop_back!_of_size_ne_zero hne
  have h2 : a.back! = a.getD (a.size - 1) default := by
    simp [Array.back!, Array.getD]
    have : a.size - 1 < a.size := by omega
    simp [this]
  rw [← h2]; exact h1.symm

theorem heapPop_none (h : Array Elm) : heapPop h = none ↔ h.size = 0 := by
  unfold heapPop
  split <;> simp_all

theorem heapPop_some (h h' : Array Elm) (e : Elm) (hp : heapPop h = some (e, h')) :
    (e :: h'.toList).Perm h.toList ∧ h'.size + 1 = h.size := by
  unfold heapPop at hp
  split at hp
  · simp at hp
  · rename_i hne
    simp only [Option.some.injEq, Prod.mk.injEq] at hp
    obtain ⟨rfl, rfl⟩ := hp
    generalize hg : heapDown (h.swapIfInBounds 0 (h.size - 1)) 0 (h.size - 1) = g
    have hperm : g.Perm h := by
      rw [← hg]
      exact (heapDown_perm _ _ _).trans (swapIfInBounds_perm _ _ _)
    have hsz : g.size = h.size := hperm.size_eq
    have hgne : g.size ≠ 0 := by omega
    have hpush := pop_push_getD g hgne
    rw [hsz] at hpush
    constructor
    · have : (g.pop.toList ++ [g.getD (h.size - 1) default]).Perm h.toList := by
        have := hperm.toList
        rw [← hpush] at this
        simpa using this
      exact (List.perm_append_comm).trans this
    · simp; omega

theorem drain_perm (fuel : Nat) (h : Array Elm) (acc : List Move) (hf : h.size < fuel) :
    (heapOrder.drain fuel h acc).Perm (acc.reverse ++ h.toList.map (·.m)) := by
  induction fuel generalizing h acc with
  | zero => omega
  | succ fuel ih =>
    unfold heapOrder.drain
    split
    · rename_i hn
      have := (heapPop_none h).1 hn
      have : h = #[] := Array.eq_empty_of_size_eq_zero this
      subst this
      simp
    · rename_i e h' hs
      obtain ⟨hp, hsz⟩ := heapPop_some h h' e hs
      refine (ih h' (e.m :: acc) (by omega)).trans ?_
      simp only [List.reverse_cons, List.append_assoc, List.singleton_append]
      refine List.Perm.append_left _ ?_
      have := hp.map (·.m)
      simpa using this

theorem heapOrder_perm (l : List Move) (prio : Move → Int) : (heapOrder l prio).Perm l := by
  unfold heapOrder
  refine (drain_perm _ _ _ ?_).trans ?_
  · have := (heapInit_perm (l.map fun m => ({ m := m, val := prio m } : Elm)).toArray).size_eq
    simp at this
    omega
  · have := ((heapInit_perm (l.map fun m => ({ m := m, val := prio m } : Elm)).toArray).toList).map
      (·.m)
    simp only [List.reverse_nil, List.nil_append]
    refine this.trans ?_
    simp [List.map_map, Function.comp_def]

end Morlock.Proofs.ABHeap
