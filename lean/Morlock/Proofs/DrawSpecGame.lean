import Morlock.Spec.Game
/-!
# C05: the reference game (`Spec.Game`) one move at a time

`gsnoc g m` appends a move to a game; positions, current position, half-move clock and the draw reasons of
the longer game in terms of the shorter one.
-/
namespace Morlock.Proofs.Draw
open Morlock

def gsnoc (g : Spec.Game) (m : Spec.SMove) : Spec.Game := { g with moves := g.moves ++ [m] }

@[simp] theorem gsnoc_start (g : Spec.Game) (m : Spec.SMove) : (gsnoc g m).start = g.start := rfl
@[simp] theorem gsnoc_moves (g : Spec.Game) (m : Spec.SMove) : (gsnoc g m).moves = g.moves ++ [m] := rfl

theorem positions_snoc (g : Spec.Game) (m : Spec.SMove) :
    (gsnoc g m).positions = g.positions ++ [Spec.apply g.current m] := by
  unfold Spec.Game.positions Spec.Game.current Spec.Game.positions
  simp only [gsnoc_moves, gsnoc_start, List.foldl_append, List.foldl_cons, List.foldl_nil]

theorem current_snoc (g : Spec.Game) (m : Spec.SMove) : (gsnoc g m).current = Spec.apply g.current m := by
  unfold Spec.Game.current
  rw [positions_snoc]
  simp [Spec.Game.current]

theorem game_induction {P : Spec.Game → Prop} (base : ∀ s, P { start := s, moves := [] })
    (step : ∀ g m, P g → P (gsnoc g m)) (g : Spec.Game) : P g := by
  obtain ⟨s, ms⟩ := g
  have : ∀ r : List Spec.SMove, P { start := s, moves := r.reverse } := by
    intro r
    induction r with
    | nil => exact base s
    | cons m r ih => rw [List.reverse_cons]; exact step _ m ih
  have h := this ms.reverse
  rwa [List.reverse_reverse] at h

theorem positions_ne_nil (g : Spec.Game) : g.positions ≠ [] := by
  induction g using game_induction with
  | base s => exact List.cons_ne_nil _ _
  | step g m _ => rw [positions_snoc]; simp

theorem positions_length (g : Spec.Game) : g.positions.length = g.moves.length + 1 := by
  induction g using game_induction with
  | base s => rfl
  | step g m ih => rw [positions_snoc, List.length_append, ih, gsnoc_moves, List.length_append]; rfl

theorem positions_head (g : Spec.Game) : g.positions.head? = some g.start.pos := by
  induction g using game_induction with
  | base s => rfl
  | step g m ih => rw [positions_snoc, List.head?_append, ih]; rfl

theorem fold_fst {β : Type} (f : Spec.Pos → β → Spec.SMove → β) (ms : List Spec.SMove) :
    ∀ (s : Spec.Pos) (x : β),
      (ms.foldl (fun (acc : Spec.Pos × β) m => (Spec.apply acc.1 m, f acc.1 acc.2 m)) (s, x)).1 =
        ms.foldl Spec.apply s := by
  induction ms with
  | nil => intro s x; rfl
  | cons m r ih => intro s x; simp only [List.foldl_cons]; exact ih _ _

theorem current_eq_foldl (g : Spec.Game) : g.current = g.moves.foldl Spec.apply g.start.pos := by
  induction g using game_induction with
  | base s => rfl
  | step g m ih => rw [current_snoc, ih, gsnoc_moves, List.foldl_append]; rfl

theorem halfmove_snoc (g : Spec.Game) (m : Spec.SMove) :
    (gsnoc g m).halfmove = if Spec.isPawnMoveOrCapture g.current m then 0 else g.halfmove + 1 := by
  unfold Spec.Game.halfmove
  simp only [gsnoc_moves, gsnoc_start, List.foldl_append, List.foldl_cons, List.foldl_nil]
  rw [fold_fst (fun p h m => if Spec.isPawnMoveOrCapture p m then 0 else h + 1), ← current_eq_foldl]

theorem drawReasons_snoc (g : Spec.Game) (m : Spec.SMove) :
    (gsnoc g m).drawReasons =
      (if (gsnoc g m).repetitions ≥ 5 then [Spec.DrawReason.repetition5]
        else if (gsnoc g m).repetitions ≥ 3 then [Spec.DrawReason.repetition3] else []) ++
      (if (gsnoc g m).halfmove ≥ 100 then [Spec.DrawReason.noProgress] else []) ++
      (if (g.current.occ m.to || (m.promo.isSome && m.promo ≠ some .queen)) &&
          Spec.insufficientMaterial (gsnoc g m).current then [Spec.DrawReason.material] else []) := by
  unfold Spec.Game.drawReasons
  have h1 : (gsnoc g m).moves.getLast? = some m := by simp
  have h2 : ((gsnoc g m).positions.dropLast).getLastD (gsnoc g m).start.pos = g.current := by
    rw [positions_snoc]
    simp [Spec.Game.current]
  rw [h1]
  simp only [h2]

theorem repetitions_eq (g : Spec.Game) :
    g.repetitions = g.positions.reverse.countP (fun p => p == g.current) := by
  unfold Spec.Game.repetitions
  rw [List.countP_reverse, List.countP_eq_length_filter]

/-- `o` the repetition count, `N` "clock ≥ 100", `M` the material test, as in `drawReasons_snoc`. -/
theorem drawReasons_spec {o : Nat} {N M : Prop} [Decidable N] [Decidable M] {dr : List Spec.DrawReason}
    (h : dr = (if o ≥ 5 then [Spec.DrawReason.repetition5] else if o ≥ 3 then [Spec.DrawReason.repetition3] else []) ++
      (if N then [Spec.DrawReason.noProgress] else []) ++ (if M then [Spec.DrawReason.material] else [])) :
    (dr ≠ [] ↔ o ≥ 3 ∨ N ∨ M) ∧ (Spec.DrawReason.material ∈ dr ↔ M) ∧ (Spec.DrawReason.noProgress ∈ dr ↔ N) ∧
    (Spec.DrawReason.repetition5 ∈ dr ↔ o ≥ 5) ∧ (Spec.DrawReason.repetition3 ∈ dr ↔ o = 3 ∨ o = 4) := by
  subst h
  by_cases h5 : o ≥ 5 <;> by_cases h3 : o ≥ 3 <;> by_cases hN : N <;> by_cases hM : M <;>
    simp [h5, h3, hN, hM] <;> omega

end Morlock.Proofs.Draw
