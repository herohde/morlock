import Morlock.Proofs.MirrorSpec
import Morlock.Proofs.DrawMaterial
import Morlock.Model.BoardGame
/-!
# C20: `eval.Material` on bitboards is the reference material balance, and is colour-blind

Under `Rep p b` every `popCount` of a piece set is a count over the 64 squares of the mailbox board `b`;
summing `(own − opponent) · nominal value` over the six piece kinds is the sum over the squares of the
signed value of the man standing there, which is `Spec.material` of the abstraction.
-/
namespace Morlock.Proofs.Mirror
open Morlock Morlock.Model Morlock.Proofs Morlock.Proofs.Material

theorem nominalValue_pawn : nominalValue .pawn = 1 := by decide +kernel
theorem nominalValue_bishop : nominalValue .bishop = 3 := by decide +kernel
theorem nominalValue_knight : nominalValue .knight = 3 := by decide +kernel
theorem nominalValue_rook : nominalValue .rook = 5 := by decide +kernel
theorem nominalValue_queen : nominalValue .queen = 9 := by decide +kernel
theorem nominalValue_king : nominalValue .king = 100 := by decide +kernel
theorem nominalValue_none : nominalValue .none = 0 := by decide +kernel

theorem nominalValue_eq_kindValue {k : Piece} (hk : k ≠ .none) : nominalValue k = Spec.kindValue (kindOf k) := by
  cases k
  · exact absurd rfl hk
  · exact nominalValue_pawn
  · exact nominalValue_bishop
  · exact nominalValue_knight
  · exact nominalValue_rook
  · exact nominalValue_queen
  · exact nominalValue_king

def cntB (b : Board) (c : Color) (k : Piece) (l : List Nat) : Int :=
  ((l.countP fun sq => decide (b sq = some (c, k)) : Nat) : Int)

theorem cntB_nil (b : Board) (c : Color) (k : Piece) : cntB b c k [] = 0 := rfl

theorem cntB_cons (b : Board) (c : Color) (k : Piece) (x : Nat) (l : List Nat) :
    cntB b c k (x :: l) = (if b x = some (c, k) then 1 else 0) + cntB b c k l := by
  unfold cntB
  rw [List.countP_cons]
  by_cases h : b x = some (c, k)
  · simp [h]; omega
  · simp [h]

theorem popCount_pieces {p : Position} {b : Board} (h : Rep p b) (c : Color) {k : Piece} (hk : k ≠ .none) :
    (popCount (p.pieces c k) : Int) = cntB b c k (List.range 64) := by
  unfold cntB
  rw [popCount_eq]
  congr 1
  exact countP_range_congr fun i hi => h.one c k i hk hi

/-- The fold of `materialPawns`, with the counts taken over a list of squares of a mailbox board. -/
def matB (b : Board) (t : Color) (l : List Nat) : Int :=
  Position.piecesInOrder.foldl (fun acc k => acc + (cntB b t k l - cntB b t.opp k l) * nominalValue k) 0

theorem foldl_add_add {α : Type} (F f g : α → Int) (ks : List α) (h : ∀ k, F k = f k + g k) (a a' : Int) :
    ks.foldl (fun acc k => acc + F k) (a + a') =
      ks.foldl (fun acc k => acc + f k) a + ks.foldl (fun acc k => acc + g k) a' := by
  induction ks generalizing a a' with
  | nil => rfl
  | cons k r ih =>
    rw [List.foldl_cons, List.foldl_cons, List.foldl_cons, ← ih, h k]
    congr 1; omega

theorem matB_cons (b : Board) (t : Color) (x : Nat) (l : List Nat) :
    matB b t (x :: l) = matB b t [x] + matB b t l := by
  apply foldl_add_add _ _ _ _ _ 0 0
  intro k
  rw [cntB_cons, cntB_cons, ← Int.add_mul, cntB_cons _ _ _ _ [], cntB_cons _ _ _ _ [], cntB_nil, cntB_nil]
  congr 1; omega

/-- A check of the 2 × 15 (colour, cell) pairs. -/
theorem matB_single (b : Board) (t : Color) (x : Nat) :
    matB b t [x] = Spec.cellValue (absColor t) (absCellB (b x)) := by
  simp only [matB, cntB_cons, cntB_nil, Int.add_zero]
  generalize b x = v
  cases t <;> rcases v with _ | ⟨c, k⟩
  · rfl
  · cases c <;> cases k <;> rfl
  · rfl
  · cases c <;> cases k <;> rfl

theorem matB_eq_sum (b : Board) (t : Color) (l : List Nat) :
    matB b t l = Spec.sumOver (fun s => Spec.cellValue (absColor t) (absCellB (b s))) l := by
  induction l with
  | nil => simp only [matB, cntB_nil, Int.sub_self, Int.zero_mul, Int.add_zero]; rfl
  | cons x r ih => rw [matB_cons, matB_single, ih, Spec.sumOver_cons]

theorem materialPawns_eq_material {p : Position} {b : Board} (h : Rep p b) (t : Color) :
    materialPawns p t = Spec.material (abs p t) := by
  have hm : materialPawns p t = matB b t (List.range 64) := by
    simp only [materialPawns, matB, Position.piecesInOrder, List.foldl_cons, List.foldl_nil, popCount_pieces h,
      ne_eq, reduceCtorEq, not_false_eq_true]
  rw [hm, matB_eq_sum, Spec.material_eq_sum]
  exact Spec.sumOver_congr fun s _ => congrArg _ (h.abs_at t s).symm

/-- Colour-swapped vertical mirror image of a mailbox board. -/
def mirrorBoard (b : Board) : Board := fun sq =>
  match b (Spec.mirrorSq sq) with
  | some (c, k) => some (c.opp, k)
  | none => none

theorem mirrorBoard_apply (b : Board) (sq : Nat) :
    mirrorBoard b sq = (b (Spec.mirrorSq sq)).map fun v => (v.1.opp, v.2) := by
  unfold mirrorBoard
  cases b (Spec.mirrorSq sq) with
  | none => rfl
  | some v => rfl

theorem mirrorBoard_eq_some_iff {b : Board} {sq : Nat} {c : Color} {k : Piece} :
    mirrorBoard b sq = some (c, k) ↔ b (Spec.mirrorSq sq) = some (c.opp, k) := by
  rw [mirrorBoard_apply]
  cases b (Spec.mirrorSq sq) with
  | none => simp
  | some v => obtain ⟨c', k'⟩ := v; cases c <;> cases c' <;> simp [Color.opp]

theorem absColor_opp' (c : Color) : absColor c.opp = (absColor c).opp := absColor_opp c

theorem absCellB_mirrorBoard (b : Board) (sq : Nat) :
    absCellB (mirrorBoard b sq) = Spec.mirrorCell (absCellB (b (Spec.mirrorSq sq))) := by
  unfold mirrorBoard
  cases b (Spec.mirrorSq sq) with
  | none => rfl
  | some v =>
    obtain ⟨c, k⟩ := v
    cases k <;> simp [absCellB, absKind, absColor_opp]

theorem abs_at_mirror {p q : Position} {b : Board} (hp : Rep p b) (hq : Rep q (mirrorBoard b)) (t : Color)
    {s : Nat} (hs : s < 64) : (abs q t.opp).at s = (Spec.mirror (abs p t)).at s := by
  rw [hq.abs_at, Spec.mirror_at hs, hp.abs_at, absCellB_mirrorBoard]

theorem materialPawns_mirror {p q : Position} {b : Board} (hp : Rep p b) (hq : Rep q (mirrorBoard b)) (t : Color) :
    materialPawns q t.opp = materialPawns p t := by
  rw [materialPawns_eq_material hq, materialPawns_eq_material hp, ← Spec.material_mirror (abs p t)]
  apply Spec.material_congr
  · intro s hs; exact abs_at_mirror hp hq t hs
  · show absColor t.opp = (absColor t).opp
    exact absColor_opp t

/-- The men of a mailbox board as a `NewPosition` placement list. -/
def placements (b : Board) (l : List Nat) : List (Nat × Color × Piece) :=
  l.filterMap fun sq => (b sq).map fun v => (sq, v.1, v.2)

theorem mem_placements {b : Board} {l : List Nat} {x : Nat × Color × Piece} :
    x ∈ placements b l ↔ x.1 ∈ l ∧ b x.1 = some x.2 := by
  unfold placements
  rw [List.mem_filterMap]
  constructor
  · rintro ⟨sq, hsq, hx⟩
    obtain ⟨v, hb, rfl⟩ := Option.map_eq_some_iff.mp hx
    exact ⟨hsq, hb⟩
  · rintro ⟨h1, h2⟩
    exact ⟨x.1, h1, by rw [h2]; rfl⟩

theorem placements_fst (b : Board) (l : List Nat) :
    (placements b l).map (·.1) = l.filter fun sq => (b sq).isSome := by
  rw [placements, List.map_filterMap, ← List.filterMap_eq_filter]
  congr 1
  funext sq
  cases h : b sq <;> simp [Option.guard, h]

/-- The position is the one `NewPosition` builds. -/
theorem exists_rep (b : Board) (hwf : ∀ sq c, b sq ≠ some (c, .none)) (hout : ∀ sq, 64 ≤ sq → b sq = none)
    (castling ep : Nat) : ∃ q : Position, Rep q b ∧ q.castling = castling ∧ q.enpassant = ep := by
  have hv : ValidPlacements (placements b (List.range 64)) := by
    intro x hx
    obtain ⟨h1, h2⟩ := mem_placements.mp hx
    refine ⟨List.mem_range.mp h1, fun e => hwf x.1 x.2.1 ?_⟩
    rw [h2, ← e]
  have hnd : ((placements b (List.range 64)).map (·.1)).Nodup := by
    rw [placements_fst]; exact List.nodup_range.filter _
  have hs := (newPosition_isSome_iff castling ep hv).mpr hnd
  obtain ⟨q, hq⟩ := Option.isSome_iff_exists.mp hs
  obtain ⟨h1, h2, h3⟩ := newPosition_rep hv hq
  refine ⟨q, ?_, h2, h3⟩
  have hb : placeAll emptyBoard (placements b (List.range 64)) = b := by
    funext sq
    cases hsq : b sq with
    | none =>
      rw [placeAll_not_mem]
      · rfl
      · rw [placements_fst, List.mem_filter]
        rintro ⟨_, h⟩
        rw [hsq] at h; cases h
    | some v =>
      obtain ⟨c, k⟩ := v
      apply placeAll_mem hnd
      apply mem_placements.mpr
      refine ⟨List.mem_range.mpr (Nat.lt_of_not_le fun hge => ?_), hsq⟩
      rw [hout sq hge] at hsq; cases hsq
  rw [hb] at h1
  exact h1

theorem mirrorBoard_wf {b : Board} (hwf : ∀ sq c, b sq ≠ some (c, .none)) :
    ∀ sq c, mirrorBoard b sq ≠ some (c, .none) :=
  fun _ _ h => hwf _ _ (mirrorBoard_eq_some_iff.mp h)

theorem mirrorBoard_out {b : Board} (hout : ∀ sq, 64 ≤ sq → b sq = none) :
    ∀ sq, 64 ≤ sq → mirrorBoard b sq = none := by
  intro sq h
  rw [mirrorBoard_apply, Spec.mirrorSq_of_ge h, hout sq h]
  rfl

/-- So `materialPawns_mirror` is not vacuous. -/
theorem exists_mirror_rep {p : Position} {b : Board} (h : Rep p b) (castling ep : Nat) :
    ∃ q : Position, Rep q (mirrorBoard b) ∧ q.castling = castling ∧ q.enpassant = ep :=
  exists_rep _ (mirrorBoard_wf h.wf) (mirrorBoard_out h.out) castling ep

end Morlock.Proofs.Mirror
