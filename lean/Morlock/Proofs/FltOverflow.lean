import Morlock.Proofs.FltOrder
/-! # The overflow threshold, exactly: `rnd f x = none ↔ |x| ≥ (2^p − 1/2)·2^(emax−p+1)` -/
namespace Morlock.Model.Flt

/-- the threshold is the midpoint between `(2^p − 1)·2^E` and `2^p·2^E`, `E = emax − (p−1)`; the midpoint itself is a tie that goes
to the even significand `2^p`, i.e. overflows -/
theorem rndPos_eq_none_iff (f : Fmt) (wf : f.WF) {a b : Nat} (ha : 0 < a) (hb : 0 < b) :
    rndPos f a b = none ↔
      (2 ^ (f.p + 1) - 1) * b * pn (f.emax - ((f.p : Int) - 1)) ≤ 2 * a * pd (f.emax - ((f.p : Int) - 1)) := by
  have hp := wf.p_pos
  constructor
  · intro hnone
    apply Nat.le_of_not_lt
    intro hlt
    have := rndPos_isSome_of_lt f wf ha hb hlt
    rw [hnone] at this
    exact absurd this (by simp)
  · -- a finite result `(m, e)` has `e ≤ E`, `m ≤ 2^p − 1` and `a/b ≤ (m + 1/2)·2^e`; from the threshold on this forces
    -- `e = E` and equality: a tie with the odd significand `2^p − 1`
    intro hth
    cases hr : rndPos f a b with
    | none => rfl
    | some me =>
      exfalso
      obtain ⟨m, e⟩ := me
      obtain ⟨hm, _, hemax, _, hhalf, htie⟩ := rndPos_spec f hp ha hb hr
      generalize hEE : f.emax - ((f.p : Int) - 1) = E at hth
      have hP : 2 ^ (f.p + 1) = 2 * (2 * 2 ^ (f.p - 1)) := by rw [Nat.pow_succ, Nat.mul_comm, two_pow_pred hp]
      have hPpos := Nat.two_pow_pos (f.p - 1)
      have hs2 : 0 < b * pn e := Nat.mul_pos hb (pn_pos _)
      have h1 : 2 * a * pd e ≤ (2 * m + 1) * (b * pn e) := by
        rw [Nat.mul_assoc, Nat.add_mul, Nat.one_mul]; exact hhalf.2
      have h2 : (2 * m + 1) * (b * pn e) ≤ (2 ^ (f.p + 1) - 1) * (b * pn e) :=
        Nat.mul_le_mul_right _ (by rw [← two_pow_pred hp] at hm; omega)
      have heq : e = E := by
        have := exp_le_of_le_of_le (X := 2 * a) (Y := (2 ^ (f.p + 1) - 1) * b) (j := 0) (j' := 0) (Nat.mul_pos (by omega) hb)
          (by rw [Nat.pow_zero, Nat.one_mul]; exact hth)
          (by rw [Nat.pow_zero, Nat.one_mul, Nat.mul_assoc _ b]; exact Nat.le_trans h1 h2)
        omega
      subst heq
      rw [Nat.mul_assoc] at hth
      have hm2 : 2 * m + 1 = 2 ^ (f.p + 1) - 1 := Nat.eq_of_mul_eq_mul_right hs2 (by omega)
      rw [← hm2] at hth
      have ht := Nat.le_antisymm h1 hth
      rw [Nat.mul_assoc, Nat.add_mul, Nat.one_mul] at ht
      have := htie (Or.inr ht)
      omega

theorem rnd_eq_none_iff (f : Fmt) (wf : f.WF) (x : Q) (hd : 0 < x.den) :
    rnd f x = none ↔
      (2 ^ (f.p + 1) - 1) * x.den * pn (f.emax - ((f.p : Int) - 1)) ≤
        2 * x.num.natAbs * pd (f.emax - ((f.p : Int) - 1)) := by
  by_cases h0 : x.num = 0
  · rw [rnd_of_num_eq_zero f h0, h0]
    have hpos : 0 < (2 ^ (f.p + 1) - 1) * x.den * pn (f.emax - ((f.p : Int) - 1)) := by
      have : 2 ≤ 2 ^ (f.p + 1) := two_le_two_pow (by omega)
      exact Nat.mul_pos (Nat.mul_pos (by omega) hd) (pn_pos _)
    simp; omega
  · rw [rnd_of_num_ne_zero f h0, ← rndPos_eq_none_iff f wf (a := x.num.natAbs) (b := x.den) (by omega) hd]
    cases rndPos f x.num.natAbs x.den <;> simp

/-- when the last place of the largest binade is `2^(k+1) ≥ 2`, the threshold is the natural number `(2^(p+1) − 1)·2^k` -/
theorem rnd_eq_none_iff_nat (f : Fmt) (wf : f.WF) (k : Nat) (hk : (k : Int) + 1 = f.emax - ((f.p : Int) - 1)) (x : Q)
    (hd : 0 < x.den) : rnd f x = none ↔ (2 ^ (f.p + 1) - 1) * 2 ^ k * x.den ≤ x.num.natAbs := by
  rw [rnd_eq_none_iff f wf x hd, ← hk, pd_of_nonneg (by omega), Nat.mul_one]
  have : pn ((k : Int) + 1) = 2 * 2 ^ k := by
    unfold pn; rw [show ((k : Int) + 1).toNat = k + 1 by omega, Nat.pow_succ, Nat.mul_comm]
  rw [this, show (2 ^ (f.p + 1) - 1) * x.den * (2 * 2 ^ k) = 2 * ((2 ^ (f.p + 1) - 1) * 2 ^ k * x.den) by ac_rfl]
  omega

theorem rnd32_eq_none_iff (x : Q) (hd : 0 < x.den) :
    rnd f32 x = none ↔ (2 ^ 25 - 1) * 2 ^ 103 * x.den ≤ x.num.natAbs :=
  rnd_eq_none_iff_nat f32 f32_wf 103 (by decide) x hd

set_option exponentiation.threshold 2048 in
theorem rnd64_eq_none_iff (x : Q) (hd : 0 < x.den) :
    rnd f64 x = none ↔ (2 ^ 54 - 1) * 2 ^ 970 * x.den ≤ x.num.natAbs :=
  rnd_eq_none_iff_nat f64 f64_wf 970 (by decide) x hd

end Morlock.Model.Flt
