import Morlock.Proofs.FltRnd
/-! # Small integers, half-integers and other short dyadic rationals are exact -/
namespace Morlock.Model.Flt

/-- the bound `m = 2^p` included: `2^p·2^e = 2^(p-1)·2^(e+1)` -/
theorem rep_of_le (f : Fmt) (hp : 1 ≤ f.p) {x : Q} {m : Nat} {e : Int} (hm : m ≤ 2 ^ f.p) (he : f.emin ≤ e)
    (hmax : e + (f.p : Int) ≤ f.emax) (hv : x.num.natAbs * pd e = m * x.den * pn e) : Rep f x := by
  rcases Nat.lt_or_eq_of_le hm with hlt | rfl
  · exact ⟨m, e, hlt, he, by omega, hv⟩
  · refine ⟨2 ^ (f.p - 1), e + 1, two_pow_pred_lt hp, by omega, by omega, ?_⟩
    apply (eq_shift (show e + 1 = e + (1 : Nat) by omega) _ _).mp
    rw [hv, ← Nat.mul_assoc, Nat.pow_one, two_pow_pred hp]

theorem rep_dyadic (f : Fmt) (wf : f.WF) (n : Int) (k : Nat) (h : n.natAbs ≤ 2 ^ f.p) (hk : f.emin ≤ -(k : Int))
    (hmax : (f.p : Int) ≤ f.emax) : Rep f ⟨n, 2 ^ k⟩ := by
  refine rep_of_le f wf.p_pos h hk (by omega) ?_
  simp only [pd, pn]
  rw [show (- -(k : Int)).toNat = k by omega, show (-(k : Int)).toNat = 0 by omega]
  simp

theorem rnd_int (f : Fmt) (wf : f.WF) (h0 : f.emin ≤ 0) (hmax : (f.p : Int) ≤ f.emax) (n : Int)
    (h : n.natAbs ≤ 2 ^ f.p) : rnd f (Q.ofInt n) = some (Q.ofInt n) := by
  apply rnd_exact_canon f wf (Q.canon_ofInt n)
  exact rep_dyadic f wf n 0 h (by simpa using h0) hmax

theorem rnd_dyadic (f : Fmt) (wf : f.WF) (n : Int) (k : Nat) (h : n.natAbs ≤ 2 ^ f.p) (hk : f.emin ≤ -(k : Int))
    (hmax : (f.p : Int) ≤ f.emax) : rnd f ⟨n, 2 ^ k⟩ = some (Q.norm ⟨n, 2 ^ k⟩) :=
  rnd_exact_norm f wf (Nat.two_pow_pos k) (rep_dyadic f wf n k h hk hmax)

theorem rnd_half (f : Fmt) (wf : f.WF) (h0 : f.emin ≤ -1) (hmax : (f.p : Int) ≤ f.emax) (n : Int)
    (h : n.natAbs ≤ 2 ^ f.p) : rnd f (Q.halves n) = some (Q.norm (Q.halves n)) :=
  rnd_dyadic f wf n 1 h (by simpa using h0) hmax

theorem rnd32_int (n : Int) (h : n.natAbs ≤ 2 ^ 24) : rnd f32 (Q.ofInt n) = some (Q.ofInt n) :=
  rnd_int f32 f32_wf (by decide) (by decide) n h

theorem rnd64_int (n : Int) (h : n.natAbs ≤ 2 ^ 53) : rnd f64 (Q.ofInt n) = some (Q.ofInt n) :=
  rnd_int f64 f64_wf (by decide) (by decide) n h

theorem rnd32_half (n : Int) (h : n.natAbs ≤ 2 ^ 24) : rnd f32 (Q.halves n) = some (Q.norm (Q.halves n)) :=
  rnd_half f32 f32_wf (by decide) (by decide) n h

theorem rnd64_half (n : Int) (h : n.natAbs ≤ 2 ^ 53) : rnd f64 (Q.halves n) = some (Q.norm (Q.halves n)) :=
  rnd_half f64 f64_wf (by decide) (by decide) n h

theorem rnd_isSome_of_le_nat (f : Fmt) (wf : f.WF) (hmax : 0 ≤ f.emax) (x : Q) (hd : 0 < x.den)
    (h : x.num.natAbs ≤ 2 ^ f.emax.toNat * x.den) : (rnd f x).isSome := by
  apply rnd_isSome_of_le f wf x hd
  rw [pd_of_nonneg hmax, Nat.mul_one, Nat.mul_comm]
  exact h

theorem rnd32_isSome_of_le (x : Q) (hd : 0 < x.den) (h : x.num.natAbs ≤ 2 ^ 127 * x.den) : (rnd f32 x).isSome :=
  rnd_isSome_of_le_nat f32 f32_wf (by decide) x hd h

set_option exponentiation.threshold 2048 in
theorem rnd64_isSome_of_le (x : Q) (hd : 0 < x.den) (h : x.num.natAbs ≤ 2 ^ 1023 * x.den) : (rnd f64 x).isSome :=
  rnd_isSome_of_le_nat f64 f64_wf (by decide) x hd h

theorem rnd32_isSome_of_abs_le (x : Q) (B : Nat) (hd : 0 < x.den) (h : x.num.natAbs ≤ B * x.den) (hB : B ≤ 2 ^ 127) :
    (rnd f32 x).isSome := by
  apply rnd32_isSome_of_le x hd
  exact Nat.le_trans h (Nat.mul_le_mul_right _ hB)

end Morlock.Model.Flt
