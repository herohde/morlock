import Morlock.Proofs.GenSpec
/-!
# The reference rules (`Spec.Chess`), characterised

What each definition of the reference computes, independent of mirror and promotion: a cell of an updated
board; `attackedBy` in terms of the attacking man and what it depends on; the conditions of a castle in
`pseudoMoves`; `apply` field by field and where a king can stand after it; legality of a non-castle.
-/
namespace Morlock.Spec
open Morlock.Proofs.Gen

theorem getD_setCell (b : Array (Option (Color × Kind))) (sq s : Nat) (v : Option (Color × Kind)) :
    (setCell b sq v).getD s none = if sq = s ∧ s < b.size then v else b.getD s none := by
  unfold setCell
  rw [Array.getD_eq_getD_getElem?, Array.getElem?_setIfInBounds, Array.getD_eq_getD_getElem?]
  by_cases h : sq = s
  · subst h
    by_cases h2 : sq < b.size
    · simp [h2]
    · simp [h2]
  · simp [h]

@[simp] theorem size_setCell (b : Array (Option (Color × Kind))) (sq : Nat) (v : Option (Color × Kind)) :
    (setCell b sq v).size = b.size := by
  unfold setCell; simp

theorem kingSquare_congr {q1 q2 : Pos} {c : Color}
    (h : ∀ s, q1.at s = some (c, .king) ↔ q2.at s = some (c, .king)) :
    kingSquare? q1 c = kingSquare? q2 c := by
  unfold kingSquare?
  congr 1
  funext s
  exact decide_eq_decide.mpr (h s)

theorem attackedBy_iff {p : Pos} {c : Color} {t : Sq} :
    attackedBy p c t = true ↔ ∃ s, s < 64 ∧ ∃ k, p.at s = some (c, k) ∧
      t ∈ (if k = .pawn then pawnTargets c s else officerTargets p.occ k s) := by
  unfold attackedBy allSquares
  simp only [List.any_eq_true, List.mem_range]
  refine exists_congr fun s => and_congr_right fun _ => ?_
  cases p.at s with
  | none => simp
  | some v =>
    obtain ⟨c', k⟩ := v
    by_cases hc : c' = c
    · subst hc; by_cases hk : k = .pawn <;> simp [hk]
    · simp [hc]

theorem attackedBy_congr {q1 q2 : Pos} {c : Color}
    (hocc : ∀ s, q1.occ s = q2.occ s)
    (hmen : ∀ s k, q1.at s = some (c, k) ↔ q2.at s = some (c, k)) (t : Sq) :
    attackedBy q1 c t = attackedBy q2 c t := by
  rw [Bool.eq_iff_iff, attackedBy_iff, attackedBy_iff, funext hocc]
  simp only [hmen]

theorem inCheck_congr_own {q1 q2 : Pos} {c : Color}
    (h : ∀ s, q1.at s = q2.at s ∨
      ∃ k1 k2, q1.at s = some (c, k1) ∧ q2.at s = some (c, k2) ∧ k1 ≠ .king ∧ k2 ≠ .king) :
    inCheck q1 c = inCheck q2 c := by
  -- the two positions show the same kings of `c` and the same men of the other colour
  have view : ∀ s c' k, (c' = c → k = .king) → (q1.at s = some (c', k) ↔ q2.at s = some (c', k)) := by
    intro s c' k hk
    rcases h s with e | ⟨k1, k2, e1, e2, n1, n2⟩
    · rw [e]
    · rw [e1, e2]
      simp only [Option.some.injEq, Prod.mk.injEq]
      exact ⟨fun e => absurd (e.2 ▸ hk e.1.symm) n1, fun e => absurd (e.2 ▸ hk e.1.symm) n2⟩
  have occ : ∀ s, q1.occ s = q2.occ s := by
    intro s
    unfold Pos.occ
    rcases h s with e | ⟨k1, k2, e1, e2, _, _⟩
    · rw [e]
    · rw [e1, e2]; rfl
  unfold inCheck
  rw [kingSquare_congr fun s => view s c .king fun _ => rfl]
  cases kingSquare? q2 c with
  | none => rfl
  | some ks => exact attackedBy_congr occ (fun s k => view s c.opp k fun e => by cases c <;> cases e) ks

/-- What `pseudoMoves` asks of a castle of `c` (king side iff `ks`): the right, the rook at home, the
    squares between king and rook empty. -/
def CastleReady (p : Pos) (c : Color) (ks : Bool) : Prop :=
  if ks then
    p.right c true ∧ p.at (mkSq fH (homeRank c)) = some (c, .rook) ∧
      ¬ p.occ (mkSq fF (homeRank c)) ∧ ¬ p.occ (mkSq fG (homeRank c))
  else
    p.right c false ∧ p.at (mkSq fA (homeRank c)) = some (c, .rook) ∧
      ¬ p.occ (mkSq fD (homeRank c)) ∧ ¬ p.occ (mkSq fC (homeRank c)) ∧ ¬ p.occ (mkSq fB (homeRank c))

theorem mem_castlesFrom {p : Pos} {c : Color} {k : Kind} {s : Sq} {m : SMove} :
    m ∈ castlesFrom p c k s ↔ k = .king ∧ s = mkSq fE (homeRank c) ∧
      ∃ ks, CastleReady p c ks ∧ m = ⟨s, mkSq (if ks then fG else fC) (homeRank c), none⟩ := by
  unfold castlesFrom
  by_cases h : k = .king ∧ s = mkSq fE (homeRank c)
  · rw [if_pos h, List.mem_append, List.mem_ite_nil_right, List.mem_ite_nil_right, List.mem_singleton,
      List.mem_singleton]
    refine ⟨fun hm => ⟨h.1, h.2, ?_⟩, fun ⟨_, _, ks, hr, e⟩ => ?_⟩
    · exact hm.elim (fun hm => ⟨true, hm⟩) (fun hm => ⟨false, hm⟩)
    · cases ks
      · exact Or.inr ⟨hr, e⟩
      · exact Or.inl ⟨hr, e⟩
  · rw [if_neg h]
    exact ⟨fun hm => (List.not_mem_nil hm).elim, fun hm => absurd ⟨hm.1, hm.2.1⟩ h⟩

/-- The board after a move, before the moved (or promoted) man is put on the destination square. It
    does not depend on the promotion piece. -/
def baseBoard (p : Pos) (m : SMove) (c : Color) : Array (Option (Color × Kind)) :=
  let b := p.board
  let b := if isEnPassant p m then setCell b (mkSq (fileOf m.to) (rankOf m.from)) none else b
  let b :=
    if isCastle p m then
      if fileOf m.to = fG then
        setCell (setCell b (mkSq fH (rankOf m.from)) none) (mkSq fF (rankOf m.from)) (some (c, .rook))
      else
        setCell (setCell b (mkSq fA (rankOf m.from)) none) (mkSq fD (rankOf m.from)) (some (c, .rook))
    else b
  setCell b m.from none

/-- The move leaves or enters `sq` (the local `touches` of `apply`). -/
def touches (m : SMove) (sq : Sq) : Bool := m.from = sq || m.to = sq

theorem apply_none {p : Pos} {m : SMove} (hat : p.at m.from = none) : apply p m = p := by
  unfold apply; simp only [hat]

/-- The one place where `apply` is unfolded; the projections below are read off it. -/
theorem apply_some {p : Pos} {m : SMove} {c : Color} {k : Kind} (hat : p.at m.from = some (c, k)) :
    apply p m =
      { board := setCell (baseBoard p m c) m.to (some (c, match m.promo with | some pk => pk | none => k))
        turn := c.opp
        wk := p.wk && !(touches m (mkSq fE 0)) && !(touches m (mkSq fH 0))
        wq := p.wq && !(touches m (mkSq fE 0)) && !(touches m (mkSq fA 0))
        bk := p.bk && !(touches m (mkSq fE 7)) && !(touches m (mkSq fH 7))
        bq := p.bq && !(touches m (mkSq fE 7)) && !(touches m (mkSq fA 7))
        ep := if isDoubleStep p m then some (mkSq (fileOf m.from) ((rankOf m.from + rankOf m.to) / 2)) else none } := by
  unfold apply
  simp only [hat]
  rfl

theorem apply_board_eq {p : Pos} {m : SMove} {c : Color} {k : Kind} (hat : p.at m.from = some (c, k)) :
    (apply p m).board =
      setCell (baseBoard p m c) m.to (some (c, match m.promo with | some pk => pk | none => k)) := by
  rw [apply_some hat]

theorem apply_turn {p : Pos} {m : SMove} {c : Color} {k : Kind} (hat : p.at m.from = some (c, k)) :
    (apply p m).turn = c.opp := by
  rw [apply_some hat]

/-- The four castling-right fields of `apply` as one statement. -/
theorem apply_right {p : Pos} {m : SMove} {c0 : Color} {k : Kind} (hat : p.at m.from = some (c0, k))
    (c : Color) (ks : Bool) :
    (apply p m).right c ks =
      (p.right c ks && !(touches m (mkSq fE (homeRank c))) && !(touches m (mkSq (if ks then fH else fA) (homeRank c)))) := by
  rw [apply_some hat]
  cases c <;> cases ks <;> rfl

theorem apply_ep {p : Pos} {m : SMove} {c : Color} {k : Kind} (hat : p.at m.from = some (c, k)) :
    (apply p m).ep =
      if isDoubleStep p m then some (mkSq (fileOf m.from) ((rankOf m.from + rankOf m.to) / 2)) else none := by
  rw [apply_some hat]

theorem baseBoard_size (p : Pos) (m : SMove) (c : Color) : (baseBoard p m c).size = p.board.size := by
  simp only [baseBoard, size_setCell, apply_ite Array.size, ite_self]

theorem apply_board_size {p : Pos} (m : SMove) : (apply p m).board.size = p.board.size := by
  cases hat : p.at m.from with
  | none => rw [apply_none hat]
  | some v =>
    obtain ⟨c, k⟩ := v
    rw [apply_board_eq hat, size_setCell, baseBoard_size]

theorem apply_at {p : Pos} {m : SMove} {c : Color} {k : Kind} (hat : p.at m.from = some (c, k)) (s : Nat) :
    (apply p m).at s =
      if m.to = s ∧ s < (baseBoard p m c).size then some (c, match m.promo with | some pk => pk | none => k)
      else (baseBoard p m c).getD s none := by
  unfold Pos.at
  rw [apply_board_eq hat, getD_setCell]

theorem king_of_setCell {b : Array (Option (Color × Kind))} {sq s : Nat} {v : Option (Color × Kind)} {c' : Color}
    (hv : v ≠ some (c', .king)) (h : (setCell b sq v).getD s none = some (c', .king)) :
    b.getD s none = some (c', .king) := by
  rw [getD_setCell] at h
  by_cases hc : sq = s ∧ s < b.size
  · rw [if_pos hc] at h; exact absurd h hv
  · rw [if_neg hc] at h; exact h

theorem baseBoard_king {p : Pos} {m : SMove} {c c' : Color} {s : Nat}
    (h : (baseBoard p m c).getD s none = some (c', .king)) : p.at s = some (c', .king) := by
  unfold baseBoard at h
  simp only [] at h
  have hn : (none : Option (Color × Kind)) ≠ some (c', .king) := by simp
  have hr : (some (c, Kind.rook) : Option (Color × Kind)) ≠ some (c', .king) := by simp
  have h := king_of_setCell hn h
  have e1 : (if isEnPassant p m = true then setCell p.board (mkSq (fileOf m.to) (rankOf m.from)) none
      else p.board).getD s none = some (c', .king) → p.at s = some (c', .king) := by
    intro hb
    by_cases he : isEnPassant p m = true
    · rw [if_pos he] at hb; exact king_of_setCell hn hb
    · rw [if_neg he] at hb; exact hb
  by_cases hc : isCastle p m = true
  · rw [if_pos hc] at h
    by_cases hg : fileOf m.to = fG
    · rw [if_pos hg] at h
      exact e1 (king_of_setCell hn (king_of_setCell hr h))
    · rw [if_neg hg] at h
      exact e1 (king_of_setCell hn (king_of_setCell hr h))
  · rw [if_neg hc] at h
    exact e1 h

theorem baseBoard_from (p : Pos) (m : SMove) (c : Color) : (baseBoard p m c).getD m.from none = none := by
  by_cases hlt : m.from < (baseBoard p m c).size
  · unfold baseBoard at hlt ⊢
    simp only [] at hlt ⊢
    rw [size_setCell] at hlt
    rw [getD_setCell, if_pos ⟨rfl, hlt⟩]
  · rw [Array.getD, dif_neg hlt]

theorem apply_king {p : Pos} {m : SMove} {c : Color} {k : Kind} (hat : p.at m.from = some (c, k))
    (hpromo : ∀ pk, m.promo = some pk → pk ≠ .king) {c' : Color} {s : Nat}
    (ha : (apply p m).at s = some (c', .king)) :
    (s = m.to ∧ c' = c ∧ k = .king) ∨ (p.at s = some (c', .king) ∧ s ≠ m.from) := by
  rw [apply_at hat] at ha
  split at ha
  · rename_i hcond
    simp only [Option.some.injEq, Prod.mk.injEq] at ha
    cases hp : m.promo with
    | none => rw [hp] at ha; exact Or.inl ⟨hcond.1.symm, ha.1.symm, ha.2⟩
    | some pk => rw [hp] at ha; exact absurd ha.2 (hpromo pk hp)
  · exact Or.inr ⟨baseBoard_king ha, fun e => by rw [e, baseBoard_from] at ha; cases ha⟩

theorem mem_legalMoves {p : Pos} {m : SMove} : m ∈ legalMoves p ↔ m ∈ pseudoMoves p ∧ isLegal p m = true :=
  List.mem_filter

theorem isCastle_eq_false {p : Pos} {m : SMove} {c : Color} {k : Kind} (hat : p.at m.from = some (c, k))
    (hk : k ≠ .king) : isCastle p m = false := by
  unfold isCastle
  rw [hat]
  cases k with
  | king => exact absurd rfl hk
  | _ => rfl

theorem isLegal_of_not_castle {p : Pos} {m : SMove} (h : isCastle p m = false) :
    isLegal p m = !(inCheck (apply p m) p.turn) := by
  unfold isLegal
  rw [h]
  rfl

end Morlock.Spec
