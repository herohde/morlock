import Morlock.Model.Board
/-!
# The game-history arena (`Morlock.Model.World`)

The operations of `pkg/board/board.go` in explicit form, the repetition map as a function, and the invariant
`WFWorld` (`prev` points strictly down) under which the chain of a node does not depend on the fuel.
-/
namespace Morlock.Proofs.Arena
open Morlock Morlock.Model Morlock.Model.World

theorem node_of_lt {w : World} {i : Nat} (h : i < w.nodes.size) : w.node i = w.nodes[i] := by
  simp [node, Array.getD, h]

theorem node_of_ge {w : World} {i : Nat} (h : w.nodes.size ≤ i) : w.node i = default := by
  simp [node, Array.getD, Nat.not_lt.mpr h]

theorem board_of_ge {w : World} {b : Nat} (h : w.boards.size ≤ b) : w.board b = default := by
  simp [board, Array.getD, Nat.not_lt.mpr h]

theorem node_mk (ns : Array Node) (bs : Array Board) (i : Nat) :
    (World.mk ns bs).node i = ns.getD i default := rfl

theorem board_mk (ns : Array Node) (bs : Array Board) (i : Nat) :
    (World.mk ns bs).board i = bs.getD i default := rfl

theorem getD_push {α} (a : Array α) (x d : α) (j : Nat) :
    (a.push x).getD j d = if j = a.size then x else a.getD j d := by
  simp only [Array.getD_eq_getD_getElem?, Array.getElem?_push]
  split <;> rfl

theorem getD_setIfInBounds {α} (a : Array α) (i : Nat) (x d : α) (j : Nat) :
    (a.setIfInBounds i x).getD j d = if i = j ∧ j < a.size then x else a.getD j d := by
  simp only [Array.getD_eq_getD_getElem?, Array.getElem?_setIfInBounds]
  by_cases h : i = j
  · subst h
    by_cases h2 : i < a.size
    · simp [h2]
    · simp [h2]
  · simp [h]

@[simp] theorem setNode_boards (w : World) (i : Nat) (n : Node) : (w.setNode i n).boards = w.boards := rfl
@[simp] theorem setBoard_nodes (w : World) (b : Nat) (bd : Board) : (w.setBoard b bd).nodes = w.nodes := rfl
@[simp] theorem setNode_size (w : World) (i : Nat) (n : Node) : (w.setNode i n).nodes.size = w.nodes.size := by
  simp [setNode]
@[simp] theorem setBoard_size (w : World) (b : Nat) (bd : Board) : (w.setBoard b bd).boards.size = w.boards.size := by
  simp [setBoard]

theorem setNode_node (w : World) (i : Nat) (n : Node) (j : Nat) :
    (w.setNode i n).node j = if i = j ∧ j < w.nodes.size then n else w.node j := by
  show (w.nodes.setIfInBounds i n).getD j default = _
  rw [getD_setIfInBounds]; rfl

@[simp] theorem setNode_board (w : World) (i : Nat) (n : Node) (b : Nat) : (w.setNode i n).board b = w.board b := rfl
@[simp] theorem setBoard_node (w : World) (b : Nat) (bd : Board) (i : Nat) : (w.setBoard b bd).node i = w.node i := rfl

theorem setBoard_board (w : World) (b : Nat) (bd : Board) (j : Nat) :
    (w.setBoard b bd).board j = if b = j ∧ j < w.boards.size then bd else w.board j := by
  show (w.boards.setIfInBounds b bd).getD j default = _
  rw [getD_setIfInBounds]; rfl

theorem repGet_nil (h : Nat) : repGet [] h = 0 := rfl

theorem repGet_cons (e : Nat × Int) (r : List (Nat × Int)) (h : Nat) :
    repGet (e :: r) h = if e.1 = h then e.2 else repGet r h := by
  unfold repGet
  rw [List.find?_cons]
  by_cases c : e.1 = h
  · rw [if_pos c, beq_iff_eq.mpr c]; rfl
  · rw [if_neg c, beq_eq_false_iff_ne.mpr c]

theorem repGet_of_not_any (r : List (Nat × Int)) (h : Nat) (hn : r.any (fun e => e.1 == h) = false) :
    repGet r h = 0 := by
  induction r with
  | nil => rfl
  | cons e r ih =>
    simp only [List.any_cons, Bool.or_eq_false_iff, beq_eq_false_iff_ne] at hn
    rw [repGet_cons, if_neg hn.1, ih hn.2]

theorem repGet_repSet (r : List (Nat × Int)) (h : Nat) (v : Int) (h' : Nat) :
    repGet (repSet r h v) h' = if h' = h then v else repGet r h' := by
  unfold repSet
  split
  · rename_i ha
    -- rewriting the entries with key `h` keeps every key
    have hkey : ((fun e : Nat × Int => e.1 == h') ∘ fun e => if e.1 == h then (h, v) else e) = fun e => e.1 == h' := by
      funext e
      by_cases c : e.1 = h <;> simp [c]
    unfold repGet
    rw [List.find?_map, hkey]
    cases hf : r.find? (fun e => e.1 == h') with
    | none =>
      rw [if_neg]
      · rfl
      · rintro rfl
        obtain ⟨e, he, hh⟩ := List.any_eq_true.mp ha
        exact absurd hh (by simpa using List.find?_eq_none.mp hf e he)
    | some e =>
      have he : e.1 = h' := by simpa using List.find?_some hf
      by_cases c : h' = h <;> simp [he, c]
  · rw [repGet_cons]
    by_cases c : h' = h
    · rw [if_pos c.symm, if_pos c]
    · rw [if_neg (Ne.symm c), if_neg c]
/-- The node appended by `pushMove`. -/
def pushNode (w : World) (z : ZTable) (b : Nat) (m : Move) (next : Position) : Node :=
  { pos := next, hash := z.move (w.cur b).hash (w.cur b).pos m,
    noprogress := updateNoProgress (w.cur b).noprogress m, prev := some (w.board b).current }

/-- The arena after `pushMove`: `next` of the current node set, new node appended. -/
def pushArena (w : World) (b : Nat) (m : Move) (n : Node) : World :=
  { w.setNode (w.board b).current { w.cur b with next := m } with
    nodes := (w.setNode (w.board b).current { w.cur b with next := m }).nodes.push n }

/-- The result computed by `pushMove` (it does not depend on the old result, which is re-opened first);
`actual` is the `identicalPositionCount` of the new node. -/
def pushResult (rep : Int) (actual : Int) (noprogress : Int) (pos : Position) (m : Move) : Result :=
  let result : Result := {}
  let result :=
    if rep ≥ (Gen.repetition3Limit : Int) then
      if actual ≥ (Gen.repetition5Limit : Int) then { outcome := .draw, reason := .repetition5 }
      else if actual ≥ (Gen.repetition3Limit : Int) then { outcome := .draw, reason := .repetition3 }
      else result
    else result
  let result := if noprogress ≥ (Gen.noprogressPlyLimit : Int) then { outcome := .draw, reason := .noProgress } else result
  if (m.ty = .capture || ((m.ty = .capturePromotion || m.ty = .promotion) && (m.promotion = .bishop || m.promotion = .knight)))
      && pos.hasInsufficientMaterial
  then { outcome := .draw, reason := .insufficientMaterial } else result

/-- The board record written by `pushMove`. -/
def pushBoard (w : World) (b : Nat) (m : Move) (n : Node) : Board :=
  let bd := w.board b
  let reps := repSet bd.repetitions n.hash (repGet bd.repetitions n.hash + 1)
  { repetitions := reps,
    castledW := if m.isCastle && bd.turn = .white then true else bd.castledW,
    castledB := if m.isCastle && bd.turn = .black then true else bd.castledB,
    ply := bd.ply + 1,
    moves := if bd.turn.opp = .white then bd.moves + 1 else bd.moves,
    turn := bd.turn.opp,
    result := pushResult (repGet reps n.hash)
      (identicalPositionCount (pushArena w b m n) n bd.turn.opp bd.turn.opp.opp n.noprogress) n.noprogress n.pos m,
    current := w.nodes.size }

def pushBlocked (w : World) (b : Nat) : Bool :=
  (w.board b).result.reason = .checkmate || (w.board b).result.reason = .stalemate

theorem pushMove_eq (w : World) (z : ZTable) (b : Nat) (m : Move) :
    w.pushMove z b m =
      if pushBlocked w b then none else
      match (w.cur b).pos.move m with
      | none => none
      | some next =>
        some ((pushArena w b m (pushNode w z b m next)).setBoard b (pushBoard w b m (pushNode w z b m next))) := by
  unfold pushMove
  simp only [setNode_size]
  rfl

theorem pushMove_some {w w' : World} {z : ZTable} {b : Nat} {m : Move} (h : w.pushMove z b m = some w') :
    pushBlocked w b = false ∧ ∃ next, (w.cur b).pos.move m = some next ∧
      w' = (pushArena w b m (pushNode w z b m next)).setBoard b (pushBoard w b m (pushNode w z b m next)) := by
  rw [pushMove_eq] at h
  split at h
  · cases h
  · rename_i hb
    split at h
    · cases h
    · rename_i next hn
      exact ⟨Bool.eq_false_iff.mpr hb, next, hn, by cases h; rfl⟩

/-- The board record written by `popMove`; `pi` is the index of the previous node. -/
def popBoard (w : World) (b : Nat) (pi : Nat) : Board :=
  let bd := w.board b
  let c := w.cur b
  let p := w.node pi
  { repetitions := repSet bd.repetitions c.hash (repGet bd.repetitions c.hash - 1),
    castledW := if p.next.isCastle && bd.turn.opp = .white then false else bd.castledW,
    castledB := if p.next.isCastle && bd.turn.opp = .black then false else bd.castledB,
    ply := bd.ply - 1,
    moves := if bd.turn.opp = .black then bd.moves - 1 else bd.moves,
    turn := bd.turn.opp,
    result := { outcome := .undecided },
    current := pi }

theorem popMove_eq (w : World) (b : Nat) :
    w.popMove b =
      match (w.cur b).prev with
      | none => none
      | some pi => some ((w.setNode pi { w.node pi with next := {} }).setBoard b (popBoard w b pi), (w.node pi).next) := by
  rfl

theorem popMove_some {w w' : World} {b : Nat} {m : Move} (h : w.popMove b = some (w', m)) :
    ∃ pi, (w.cur b).prev = some pi ∧ m = (w.node pi).next ∧
      w' = (w.setNode pi { w.node pi with next := {} }).setBoard b (popBoard w b pi) := by
  rw [popMove_eq] at h
  cases hp : (w.cur b).prev with
  | none => rw [hp] at h; cases h
  | some pi => rw [hp] at h; cases h; exact ⟨pi, rfl, rfl, rfl⟩

/-- Well-formed arena: every board's current node exists, and `prev` always points to a strictly
smaller index (the arena is append-only, so this also puts every `prev` in bounds: a node outside the
arena reads as the default node, whose `prev` is `none`). -/
structure WFWorld (w : World) : Prop where
  cur_lt : ∀ b, b < w.boards.size → (w.board b).current < w.nodes.size
  prev_lt : ∀ i p, (w.node i).prev = some p → p < i

theorem default_prev : (default : Node).prev = none := rfl

theorem WFWorld.lt_size {w : World} (_h : WFWorld w) {i p : Nat} (hp : (w.node i).prev = some p) :
    i < w.nodes.size := by
  apply Classical.byContradiction
  intro hn
  rw [node_of_ge (Nat.le_of_not_lt hn), default_prev] at hp
  cases hp

theorem WFWorld.prev_lt_size {w : World} (h : WFWorld w) {i p : Nat} (hp : (w.node i).prev = some p) :
    p < w.nodes.size :=
  Nat.lt_trans (h.prev_lt i p hp) (h.lt_size hp)

/-- Indices reached from `o` by following `prev` (at most `fuel` of them), nearest first. -/
def path (w : World) : Nat → Option Nat → List Nat
  | 0, _ => []
  | _ + 1, none => []
  | f + 1, some i => i :: path w f (w.node i).prev

/-- Enough fuel to follow a well-formed chain from `o` to its root. -/
def bound : Option Nat → Nat
  | none => 0
  | some i => i + 1

@[simp] theorem path_zero (w : World) (o : Option Nat) : path w 0 o = [] := by
  cases o <;> rfl
@[simp] theorem path_none (w : World) (f : Nat) : path w f none = [] := by
  cases f <;> rfl
@[simp] theorem path_succ_some (w : World) (f i : Nat) :
    path w (f + 1) (some i) = i :: path w f (w.node i).prev := rfl

theorem bound_prev_le {w : World} (hw : ∀ i p, (w.node i).prev = some p → p < i) (i : Nat) :
    bound (w.node i).prev ≤ i := by
  cases h : (w.node i).prev with
  | none => exact Nat.zero_le _
  | some p => exact hw i p h

theorem path_lt {w : World} (hw : ∀ i p, (w.node i).prev = some p → p < i) :
    ∀ (f : Nat) (o : Option Nat) (j : Nat), j ∈ path w f o → j < bound o := by
  intro f
  induction f with
  | zero => intro o j h; simp at h
  | succ f ih =>
    intro o j h
    cases o with
    | none => simp at h
    | some i =>
      simp only [path_succ_some, List.mem_cons] at h
      rcases h with h | h
      · exact h ▸ Nat.lt_succ_self i
      · exact Nat.lt_succ_of_lt (Nat.lt_of_lt_of_le (ih _ _ h) (bound_prev_le hw i))

theorem path_fuel {w : World} (hw : ∀ i p, (w.node i).prev = some p → p < i) :
    ∀ (f1 f2 : Nat) (o : Option Nat), bound o ≤ f1 → bound o ≤ f2 → path w f1 o = path w f2 o := by
  intro f1
  induction f1 with
  | zero =>
    intro f2 o h1 _
    cases o with
    | none => simp
    | some i => simp [bound] at h1
  | succ f1 ih =>
    intro f2 o h1 h2
    cases o with
    | none => simp
    | some i =>
      cases f2 with
      | zero => simp [bound] at h2
      | succ f2 =>
        have hb := bound_prev_le hw i
        rw [path_succ_some, path_succ_some,
          ih f2 _ (Nat.le_trans hb (Nat.le_of_succ_le_succ h1)) (Nat.le_trans hb (Nat.le_of_succ_le_succ h2))]

theorem path_congr {w1 w2 : World} :
    ∀ (f : Nat) (o : Option Nat), (∀ j ∈ path w1 f o, (w2.node j).prev = (w1.node j).prev) →
      path w2 f o = path w1 f o := by
  intro f
  induction f with
  | zero => intro o _; simp
  | succ f ih =>
    intro o h
    cases o with
    | none => simp
    | some i =>
      simp only [path_succ_some]
      have hi : (w2.node i).prev = (w1.node i).prev := h i (by simp)
      rw [hi, ih]
      intro j hj
      exact h j (by simp [hj])

/-- Indices of the chain starting at `o` (`o` itself included), nearest first. -/
def ancIdx (w : World) (o : Option Nat) : List Nat := path w (bound o) o

def anc (w : World) (o : Option Nat) : List Node := (ancIdx w o).map w.node

@[simp] theorem ancIdx_none (w : World) : ancIdx w none = [] := rfl
@[simp] theorem anc_none (w : World) : anc w none = [] := rfl

theorem path_eq_ancIdx {w : World} (hw : WFWorld w) {f : Nat} {o : Option Nat} (h : bound o ≤ f) :
    path w f o = ancIdx w o :=
  path_fuel hw.prev_lt f (bound o) o h (Nat.le_refl _)

theorem ancIdx_some {w : World} (hw : WFWorld w) (i : Nat) :
    ancIdx w (some i) = i :: ancIdx w (w.node i).prev := by
  show path w (i + 1) (some i) = _
  rw [path_succ_some, path_eq_ancIdx hw (bound_prev_le hw.prev_lt i)]

theorem anc_some {w : World} (hw : WFWorld w) (i : Nat) :
    anc w (some i) = w.node i :: anc w (w.node i).prev := by
  simp [anc, ancIdx_some hw]

theorem ancIdx_lt {w : World} (hw : WFWorld w) {o : Option Nat} {j : Nat} (h : j ∈ ancIdx w o) : j < bound o :=
  path_lt hw.prev_lt _ _ _ h

theorem anc_congr {w1 w2 : World} {o : Option Nat} (h : ∀ j ∈ ancIdx w1 o, w2.node j = w1.node j) :
    ancIdx w2 o = ancIdx w1 o ∧ anc w2 o = anc w1 o := by
  have h1 : ancIdx w2 o = ancIdx w1 o := path_congr _ _ (fun j hj => by rw [h j hj])
  refine ⟨h1, ?_⟩
  unfold anc
  rw [h1]
  apply List.map_congr_left
  intro j hj
  exact h j hj

/-- A chain only reads below `bound o`: worlds with the same `prev` fields there have the same chain from `o`. -/
theorem ancIdx_eq_of_prev {w1 w2 : World} (hw : WFWorld w1) {o : Option Nat}
    (h : ∀ j, j < bound o → (w2.node j).prev = (w1.node j).prev) : ancIdx w2 o = ancIdx w1 o :=
  path_congr _ _ fun j hj => h j (ancIdx_lt hw hj)

theorem anc_eq_of_node {w1 w2 : World} (hw : WFWorld w1) {o : Option Nat}
    (h : ∀ j, j < bound o → w2.node j = w1.node j) : anc w2 o = anc w1 o :=
  (anc_congr fun j hj => h j (ancIdx_lt hw hj)).2

theorem bound_prev_le_size {w : World} (hw : WFWorld w) (i : Nat) : bound (w.node i).prev ≤ w.nodes.size := by
  cases h : (w.node i).prev with
  | none => exact Nat.zero_le _
  | some p => exact hw.prev_lt_size h

@[simp] theorem pushArena_size (w : World) (b : Nat) (m : Move) (n : Node) :
    (pushArena w b m n).nodes.size = w.nodes.size + 1 := by
  simp [pushArena]

@[simp] theorem pushArena_boards (w : World) (b : Nat) (m : Move) (n : Node) :
    (pushArena w b m n).boards = w.boards := by
  simp only [pushArena, setNode_boards]

@[simp] theorem pushArena_board (w : World) (b : Nat) (m : Move) (n : Node) (j : Nat) :
    (pushArena w b m n).board j = w.board j := by
  unfold pushArena; rfl

theorem pushArena_node (w : World) (b : Nat) (m : Move) (n : Node) (j : Nat) :
    (pushArena w b m n).node j =
      if j = w.nodes.size then n
      else if (w.board b).current = j ∧ j < w.nodes.size then { w.cur b with next := m } else w.node j := by
  show ((w.setNode (w.board b).current { w.cur b with next := m }).nodes.push n).getD j default = _
  rw [getD_push, setNode_size]
  by_cases h : j = w.nodes.size
  · simp [h]
  · simp only [h, if_false]
    exact setNode_node w _ _ j

theorem pushArena_node_new (w : World) (b : Nat) (m : Move) (n : Node) :
    (pushArena w b m n).node w.nodes.size = n := by
  rw [pushArena_node]; simp

theorem pushArena_node_old (w : World) (b : Nat) (m : Move) (n : Node) {j : Nat} (hj : j < w.nodes.size) :
    (pushArena w b m n).node j = if (w.board b).current = j then { w.node j with next := m } else w.node j := by
  rw [pushArena_node, if_neg (Nat.ne_of_lt hj)]
  by_cases h : (w.board b).current = j
  · simp [h, hj, cur]
  · simp [h]

/-- Every operation appends at most one node and otherwise leaves every `prev` alone. -/
theorem prev_lt_of_old {w w' : World} (hw : WFWorld w)
    (hold : ∀ i, i ≠ w.nodes.size → (w'.node i).prev = (w.node i).prev)
    (hnew : ∀ p, (w'.node w.nodes.size).prev = some p → p < w.nodes.size) :
    ∀ i p, (w'.node i).prev = some p → p < i := by
  intro i p hp
  by_cases hi : i = w.nodes.size
  · subst hi; exact hnew p hp
  · rw [hold i hi] at hp; exact hw.prev_lt i p hp

theorem wf_empty : WFWorld {} := by
  constructor
  · intro b hb; simp at hb
  · intro i p h; rw [node_of_ge (by simp), default_prev] at h; cases h

/-- The hypothesis is only needed for `b` in range: otherwise nothing is written. -/
theorem wf_setBoard {w : World} (hw : WFWorld w) (b : Nat) (bd : Board)
    (hc : b < w.boards.size → bd.current < w.nodes.size) : WFWorld (w.setBoard b bd) := by
  constructor
  · intro j hj
    rw [setBoard_size] at hj
    rw [setBoard_board, setBoard_nodes]
    split
    · rename_i h; exact hc (h.1 ▸ hj)
    · exact hw.cur_lt j hj
  · exact hw.prev_lt

theorem setNode_prev (w : World) {i : Nat} {n : Node} (hn : n.prev = (w.node i).prev) (j : Nat) :
    ((w.setNode i n).node j).prev = (w.node j).prev := by
  rw [setNode_node]
  split
  · rename_i h; rw [hn, h.1]
  · rfl

theorem wf_setNode {w : World} (hw : WFWorld w) {i : Nat} {n : Node} (hn : n.prev = (w.node i).prev) :
    WFWorld (w.setNode i n) :=
  ⟨fun j hj => by simpa using hw.cur_lt j hj, fun j p hp => hw.prev_lt j p (setNode_prev w hn j ▸ hp)⟩

theorem pushArena_prev_old (w : World) (b : Nat) (m : Move) (n : Node) {j : Nat} (hj : j ≠ w.nodes.size) :
    ((pushArena w b m n).node j).prev = (w.node j).prev := by
  rw [pushArena_node, if_neg hj]
  split
  · rename_i h; rw [← h.1]; rfl
  · rfl

theorem wf_pushArena {w : World} (hw : WFWorld w) {b : Nat} (hb : b < w.boards.size) (m : Move) {n : Node}
    (hn : n.prev = some (w.board b).current) : WFWorld (pushArena w b m n) := by
  constructor
  · intro j hj
    rw [pushArena_board, pushArena_size]
    exact Nat.lt_succ_of_lt (hw.cur_lt j hj)
  · apply prev_lt_of_old hw (fun j => pushArena_prev_old w b m n)
    intro p hp
    rw [pushArena_node_new, hn, Option.some.injEq] at hp
    exact hp ▸ hw.cur_lt b hb

theorem wf_push {w w' : World} {z : ZTable} {b : Nat} {m : Move} (hw : WFWorld w) (hb : b < w.boards.size)
    (h : w.pushMove z b m = some w') : WFWorld w' := by
  obtain ⟨_, next, _, rfl⟩ := pushMove_some h
  exact wf_setBoard (wf_pushArena hw hb m rfl) _ _ fun _ => by simp [pushBoard]

theorem wf_pop {w w' : World} {b : Nat} {m : Move} (hw : WFWorld w) (h : w.popMove b = some (w', m)) :
    WFWorld w' := by
  obtain ⟨pi, hp, _, rfl⟩ := popMove_some h
  refine wf_setBoard (wf_setNode hw (i := pi) (n := { w.node pi with next := {} }) rfl) b (popBoard w b pi) fun _ => ?_
  rw [setNode_size]
  exact hw.prev_lt_size hp

/-- The node appended by `fork`. -/
def forkNode (w : World) (b : Nat) : Node :=
  { pos := (w.cur b).pos, hash := (w.cur b).hash, noprogress := (w.cur b).noprogress, prev := (w.cur b).prev }

theorem fork_eq (w : World) (b : Nat) :
    w.fork b = ({ nodes := w.nodes.push (forkNode w b),
                  boards := w.boards.push { w.board b with current := w.nodes.size } }, w.boards.size) := rfl

theorem fork_node (w : World) (b : Nat) (j : Nat) :
    (w.fork b).1.node j = if j = w.nodes.size then forkNode w b else w.node j := by
  rw [fork_eq]; exact getD_push _ _ _ _

theorem fork_board (w : World) (b : Nat) (j : Nat) :
    (w.fork b).1.board j = if j = w.boards.size then { w.board b with current := w.nodes.size } else w.board j := by
  rw [fork_eq]; exact getD_push _ _ _ _

@[simp] theorem fork_nodes_size (w : World) (b : Nat) : (w.fork b).1.nodes.size = w.nodes.size + 1 := by
  simp [fork_eq]
@[simp] theorem fork_boards_size (w : World) (b : Nat) : (w.fork b).1.boards.size = w.boards.size + 1 := by
  simp [fork_eq]
@[simp] theorem fork_id (w : World) (b : Nat) : (w.fork b).2 = w.boards.size := rfl

theorem fork_new_lt (w : World) (b : Nat) : (w.fork b).2 < (w.fork b).1.boards.size :=
  fork_boards_size w b ▸ Nat.lt_succ_self _

theorem fork_old_lt {w : World} (b : Nat) {a : Nat} (ha : a < w.boards.size) : a < (w.fork b).1.boards.size :=
  fork_boards_size w b ▸ Nat.lt_succ_of_lt ha

/-- `fork` and `newBoard` both push one node, pointing into the arena, and one board record standing on it. -/
theorem wf_push_board {w : World} (hw : WFWorld w) {n : Node} {bd : Board}
    (hn : ∀ p, n.prev = some p → p < w.nodes.size) (hbd : bd.current = w.nodes.size) :
    WFWorld { nodes := w.nodes.push n, boards := w.boards.push bd } := by
  constructor
  · intro j hj
    rw [board_mk, getD_push]
    show _ < (w.nodes.push n).size
    rw [Array.size_push]
    split
    · rw [hbd]; exact Nat.lt_succ_self _
    · have hj : j < w.boards.size + 1 := by simpa using hj
      exact Nat.lt_succ_of_lt (hw.cur_lt j (Nat.lt_of_le_of_ne (Nat.le_of_lt_succ hj) ‹_›))
  · refine prev_lt_of_old hw (fun i hi => ?_) fun p hp => hn p ?_
    · rw [node_mk, getD_push, if_neg hi]; rfl
    · rwa [node_mk, getD_push, if_pos rfl] at hp

theorem wf_fork {w : World} (hw : WFWorld w) (b : Nat) : WFWorld (w.fork b).1 :=
  wf_push_board hw (fun _ hp => hw.prev_lt_size hp) rfl

theorem newBoard_node (w : World) (z : ZTable) (pos : Position) (turn : Color) (np fm : Int) (j : Nat) :
    (w.newBoard z pos turn np fm).1.node j =
      if j = w.nodes.size then { pos := pos, noprogress := np, hash := z.hash pos turn } else w.node j :=
  getD_push _ _ _ _

theorem newBoard_board (w : World) (z : ZTable) (pos : Position) (turn : Color) (np fm : Int) (j : Nat) :
    (w.newBoard z pos turn np fm).1.board j =
      if j = w.boards.size then
        { repetitions := [(z.hash pos turn, 1)], ply := 1, moves := fm, turn := turn, current := w.nodes.size }
      else w.board j :=
  getD_push _ _ _ _

theorem newBoard_boards_size (w : World) (z : ZTable) (pos : Position) (turn : Color) (np fm : Int) :
    (w.newBoard z pos turn np fm).1.boards.size = w.boards.size + 1 := by simp [newBoard]

theorem wf_newBoard {w : World} (hw : WFWorld w) (z : ZTable) (pos : Position) (turn : Color) (np fm : Int) :
    WFWorld (w.newBoard z pos turn np fm).1 :=
  wf_push_board hw (fun _ hp => nomatch hp) rfl

/-- The result written by `AdjudicateNoLegalMoves`. -/
def adjResult (pos : Position) (turn : Color) : Result :=
  if pos.isChecked turn then
    { outcome := (match turn with | .white => .blackWins | .black => .whiteWins), reason := .checkmate }
  else { outcome := .draw, reason := .stalemate }

theorem adjudicate_def (w : World) (b : Nat) :
    w.adjudicateNoLegalMoves b =
      (w.setBoard b { w.board b with result := adjResult (w.cur b).pos (w.board b).turn },
        adjResult (w.cur b).pos (w.board b).turn) := rfl

theorem adjudicate_eq (w : World) (b : Nat) :
    (w.adjudicateNoLegalMoves b).1 =
      w.setBoard b { w.board b with result := adjResult (w.cur b).pos (w.board b).turn } :=
  congrArg Prod.fst (adjudicate_def w b)

/-- Also for `b` out of range, where the world is unchanged. -/
theorem wf_adjudicate' {w : World} (hw : WFWorld w) (b : Nat) : WFWorld (w.adjudicateNoLegalMoves b).1 := by
  rw [adjudicate_eq]
  exact wf_setBoard hw _ _ (hw.cur_lt b)

theorem wf_adjudicate {w : World} (hw : WFWorld w) (b : Nat) (_hb : b < w.boards.size) :
    WFWorld (w.adjudicateNoLegalMoves b).1 :=
  wf_adjudicate' hw b

end Morlock.Proofs.Arena
