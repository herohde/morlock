import Morlock.Proofs.FenRoundtrip
import Morlock.Proofs.ChainReach
import Morlock.Proofs.ChainExample
import Morlock.Model.Book
/-!
# Lemmas about the opening-book model (`Model/Book.lean`)

`Strip` on blank-separated fields and on an encoded position; the association-list operations `Table.get/add/set`.
-/
namespace Morlock.Proofs.Book
open Morlock Morlock.Model Morlock.Model.Fen Morlock.Model.Book Morlock.Proofs Morlock.Proofs.Fen
open Morlock.Proofs.Gen Morlock.Proofs.Chain

def join4 (f0 f1 f2 f3 : List Char) : List Char := f0 ++ ' ' :: (f1 ++ ' ' :: (f2 ++ ' ' :: f3))

theorem strip_fields {f0 f1 f2 f3 : List Char} (rest : List Char)
    (h0 : NS f0) (h1 : NS f1) (h2 : NS f2) (h3 : NS f3) :
    strip (f0 ++ ' ' :: (f1 ++ ' ' :: (f2 ++ ' ' :: (f3 ++ ' ' :: rest)))) = some (join4 f0 f1 f2 f3) := by
  unfold strip splitSpaces
  rw [go_field _ _ _ h0.ne_space, go_field _ _ _ h1.ne_space, go_field _ _ _ h2.ne_space,
    go_field _ _ _ h3.ne_space]
  simp [joinSpaces, join4]

theorem strip_join4 {f0 f1 f2 f3 : List Char} (h0 : NS f0) (h1 : NS f1) (h2 : NS f2) (h3 : NS f3) :
    strip (join4 f0 f1 f2 f3) = some (join4 f0 f1 f2 f3) := by
  unfold strip splitSpaces join4
  rw [go_field _ _ _ h0.ne_space, go_field _ _ _ h1.ne_space, go_field _ _ _ h2.ne_space,
    go_last _ _ h3.ne_space]
  simp [joinSpaces]

theorem strip_congr {a b : List Char} (h : (splitSpaces a).take 4 = (splitSpaces b).take 4)
    (hl : (splitSpaces a).length < 4 ↔ (splitSpaces b).length < 4) : strip a = strip b := by
  unfold strip
  simp only [h]
  by_cases ha : (splitSpaces a).length < 4
  · rw [if_pos ha, if_pos (hl.mp ha)]
  · rw [if_neg ha, if_neg (fun hb => ha (hl.mpr hb))]

/-- The four fields `Encode` writes first. -/
def keyOf (p : Position) (c : Color) : List Char :=
  join4 (boardStr p.square).toList (printColor c).toList (printCastling p.castling).toList (epStr p.enpassant).toList

theorem strip_encode {p : Position} {b : Board} (h : Rep p b) (hc : p.castling < 16) (he : p.enpassant < 64)
    (c : Color) (np fm : Int) : strip (encode p c np fm).toList = some (keyOf p c) := by
  have hsq : p.square = b := h.board_eq.symm
  rw [encode_toList, hsq]
  unfold join6 keyOf
  rw [hsq]
  exact strip_fields _ (NS_boardStr h) (color_NS c) (NS_of_nsb (castling_nsb _ hc)) (NS_of_nsb (ep_nsb _ he))

theorem strip_keyOf {p : Position} {b : Board} (h : Rep p b) (hc : p.castling < 16) (he : p.enpassant < 64)
    (c : Color) : strip (keyOf p c) = some (keyOf p c) := by
  unfold keyOf
  rw [h.board_eq.symm]
  exact strip_join4 (NS_boardStr h) (color_NS c) (NS_of_nsb (castling_nsb _ hc)) (NS_of_nsb (ep_nsb _ he))

theorem get_nil_or_mem (t : Table) (k : List Char) : t.get k = [] ∨ (k, t.get k) ∈ t := by
  induction t with
  | nil => exact Or.inl rfl
  | cons e rest ih =>
    obtain ⟨k0, ms0⟩ := e
    unfold Table.get
    by_cases hk : k0 = k
    · rw [if_pos hk, ← hk]; exact Or.inr (List.mem_cons_self ..)
    · rw [if_neg hk]; exact ih.imp_right (List.mem_cons_of_mem _)

theorem mem_get_of_mem {t : Table} (hnd : (t.map (·.1)).Nodup) {k : List Char} {ms : List Move} (h : (k, ms) ∈ t) :
    t.get k = ms := by
  induction t with
  | nil => cases h
  | cons e rest ih =>
    obtain ⟨k0, ms0⟩ := e
    simp only [List.map_cons, List.nodup_cons] at hnd
    unfold Table.get
    rcases List.mem_cons.mp h with h | h
    · simp only [Prod.mk.injEq] at h
      obtain ⟨rfl, rfl⟩ := h
      rw [if_pos rfl]
    · have hne : k0 ≠ k := by
        intro e; subst e
        exact hnd.1 (List.mem_map.mpr ⟨(k0, ms), h, rfl⟩)
      rw [if_neg hne]; exact ih hnd.2 h

/-- Append `a` unless it is there: what `add` does to the replies of a key, and `add` and `set` to the keys. -/
def insertNew {α : Type} [DecidableEq α] (l : List α) (a : α) : List α := if a ∈ l then l else l ++ [a]

theorem insertNew_nodup {α : Type} [DecidableEq α] {l : List α} (h : l.Nodup) (a : α) : (insertNew l a).Nodup := by
  unfold insertNew
  split
  · exact h
  · rename_i hin
    exact List.nodup_append.mpr ⟨h, by simp, fun x hx b hb e =>
      hin (by rw [← List.mem_singleton.mp hb, ← e]; exact hx)⟩

/-- An entry is only created together with its first reply. -/
theorem insertNew_ne_nil {α : Type} [DecidableEq α] (l : List α) (a : α) : insertNew l a ≠ [] := by
  unfold insertNew
  split
  · rename_i hin; exact List.ne_nil_of_mem hin
  · simp

/-- An entry after `add` is an old entry, or the entry of `k`: the replies `t` has for `k`, and `mv`. -/
theorem mem_add {t : Table} {k : List Char} {mv : Move} {k' : List Char} {ms' : List Move}
    (h : (k', ms') ∈ t.add k mv) : (k', ms') ∈ t ∨ (k' = k ∧ ms' = insertNew (t.get k) mv) := by
  induction t with
  | nil =>
    simp only [Table.add, List.mem_singleton, Prod.mk.injEq] at h
    exact Or.inr ⟨h.1, h.2⟩
  | cons e rest ih =>
    obtain ⟨k0, ms0⟩ := e
    unfold Table.add at h
    unfold Table.get
    by_cases hk : k0 = k
    · rw [if_pos hk] at h ⊢
      rcases List.mem_cons.mp h with h | h
      · simp only [Prod.mk.injEq] at h
        exact Or.inr ⟨h.1.trans hk, h.2⟩
      · exact Or.inl (List.mem_cons_of_mem _ h)
    · rw [if_neg hk] at h ⊢
      rcases List.mem_cons.mp h with h | h
      · exact Or.inl (h ▸ List.mem_cons_self ..)
      · exact (ih h).imp_left (List.mem_cons_of_mem _)

theorem mem_set {t : Table} {k : List Char} {ms : List Move} {k' : List Char} {ms' : List Move}
    (h : (k', ms') ∈ t.set k ms) : (k', ms') ∈ t ∨ (k' = k ∧ ms' = ms) := by
  induction t with
  | nil =>
    simp only [Table.set, List.mem_singleton, Prod.mk.injEq] at h
    exact Or.inr h
  | cons e rest ih =>
    obtain ⟨k0, ms0⟩ := e
    unfold Table.set at h
    by_cases hk : k0 = k
    · rw [if_pos hk] at h
      rcases List.mem_cons.mp h with h | h
      · simp only [Prod.mk.injEq] at h
        exact Or.inr h
      · exact Or.inl (List.mem_cons_of_mem _ h)
    · rw [if_neg hk] at h
      rcases List.mem_cons.mp h with h | h
      · exact Or.inl (h ▸ List.mem_cons_self ..)
      · exact (ih h).imp_left (List.mem_cons_of_mem _)

def TableAll (G : List Char → Move → Prop) (t : Table) : Prop :=
  ∀ k ms, (k, ms) ∈ t → ∀ m ∈ ms, G k m

theorem tableAll_set {G : List Char → Move → Prop} {t : Table} (ht : TableAll G t) {k : List Char} {ms : List Move}
    (hg : ∀ m ∈ ms, G k m) : TableAll G (t.set k ms) := by
  intro k' ms' h m hm
  rcases mem_set h with h | ⟨rfl, rfl⟩
  · exact ht k' ms' h m hm
  · exact hg m hm

theorem mem_insertNew {α : Type} [DecidableEq α] {l : List α} {a x : α} : x ∈ insertNew l a ↔ x ∈ l ∨ x = a := by
  unfold insertNew
  split
  · rename_i hin
    exact ⟨Or.inl, fun h => h.elim id (fun e => e ▸ hin)⟩
  · rw [List.mem_append, List.mem_singleton]

theorem mem_get_add {t : Table} {k k' : List Char} {mv m : Move} :
    m ∈ (t.add k mv).get k' ↔ m ∈ t.get k' ∨ (k' = k ∧ m = mv) := by
  induction t with
  | nil =>
    unfold Table.add Table.get
    by_cases hk : k = k'
    · rw [if_pos hk]; simp [hk]
    · have e : ¬ k' = k := fun e => hk e.symm
      rw [if_neg hk]; simp [Table.get, e]
  | cons e rest ih =>
    obtain ⟨k0, ms0⟩ := e
    unfold Table.add
    by_cases hk : k0 = k
    · rw [if_pos hk]
      unfold Table.get
      by_cases hk' : k0 = k'
      · rw [if_pos hk', if_pos hk']
        have e : k' = k := hk'.symm.trans hk
        simp only [e, true_and]
        exact mem_insertNew
      · rw [if_neg hk', if_neg hk']
        have e : ¬ k' = k := fun e => hk' (hk.trans e.symm)
        simp [e]
    · rw [if_neg hk]
      unfold Table.get
      by_cases hk' : k0 = k'
      · rw [if_pos hk', if_pos hk']
        have e : ¬ k' = k := fun e => hk (hk'.trans e)
        simp [e]
      · rw [if_neg hk', if_neg hk']; exact ih

theorem keys_add (t : Table) (k : List Char) (mv : Move) : (t.add k mv).map (·.1) = insertNew (t.map (·.1)) k := by
  unfold insertNew
  induction t with
  | nil => simp [Table.add]
  | cons e rest ih =>
    obtain ⟨k0, ms0⟩ := e
    unfold Table.add
    by_cases hk : k0 = k
    · rw [if_pos hk]; simp [hk]
    · rw [if_neg hk]
      simp only [List.map_cons, List.mem_cons, ih]
      have hk' : ¬ k = k0 := fun e => hk e.symm
      by_cases hin : k ∈ rest.map (·.1)
      · simp [hin]
      · simp [hin, hk']

end Morlock.Proofs.Book
