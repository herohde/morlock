import Morlock.Proofs.TuroMirror
/-!
# The loop-(1) terms through the reference semantics, and `MirrorGap` from an equation between abstractions

`mayCastle` and `mayCheckMate` of a well-formed position are read off the abstract legal moves (`mayCastle_abs`,
`mayCheckMate_abs`; the latter needs `WFplay`: the opponent of the colour not in check). Their colour-blindness, and that of
the mobility map, is the bitboard theorem `mirrorGap_bits`: a position whose abstraction is the mirror image of the
abstraction of `p` represents the mirrored board (`rep_mirror_of_abs`), with castling rights exchanged and en-passant target
mirrored, hence is the bit-level mirror image of `p`.
-/
namespace Morlock.Proofs.Turochamp
open Morlock Morlock.Model Morlock.Model.Flt Morlock.Model.Turochamp Morlock.Proofs.Gen Morlock.Proofs.Mirror
open Morlock.Proofs.TuroMirror

theorem pseudo_abs {p : Position} {c : Color} (hw : WF p c) {m : Move} (hm : m ∈ p.pseudoLegalMoves c) :
    m.isCastle = Spec.isCastle (abs p c) (absMove m) := by
  have hps := (mem_pseudoLegalMoves hw.rep hw.wfb m).mp hm
  obtain ⟨_, hclass⟩ := hps.metaOK_classOK hw.rep hw.wfb
  exact (classOK_iff.mp hclass).2.1.symm

theorem mayCastle_abs {r : Position} {d : Color} (hr : WF r d) :
    mayCastle r d = true ↔ ∃ sm ∈ (r.legalMoves d).map absMove, Spec.isCastle (abs r d) sm = true := by
  unfold mayCastle
  rw [List.any_eq_true]
  have hml : ∀ m ∈ r.legalMoves d, m ∈ r.pseudoLegalMoves d := fun _ hm => Chain.mem_pseudo_of_legal hm
  constructor
  · rintro ⟨m, hm, hc⟩
    exact ⟨absMove m, List.mem_map.mpr ⟨m, hm, rfl⟩, by rw [← pseudo_abs hr (hml m hm)]; exact hc⟩
  · rintro ⟨sm, hsm, hc⟩
    obtain ⟨m, hm, rfl⟩ := List.mem_map.mp hsm
    exact ⟨m, hm, by rw [pseudo_abs hr (hml m hm)]; exact hc⟩

/-- the mate-threat flag of loop (1), read off the abstract legal moves: some legal move leads to a position of the
reference semantics whose side to move is in check and has no legal move -/
theorem mayCheckMate_abs {r : Position} {d : Color} (hr : Chain.WFplay r d) :
    mayCheckMate r d = true ↔
      ∃ sm ∈ (r.legalMoves d).map absMove,
        (Spec.inCheck (Spec.apply (abs r d) sm) (Spec.apply (abs r d) sm).turn &&
          (Spec.legalMoves (Spec.apply (abs r d) sm)).isEmpty) = true := by
  unfold mayCheckMate
  rw [List.any_eq_true]
  have key : ∀ m ∈ r.legalMoves d, ∃ next, r.move m = some next ∧
      next.isCheckMate d.opp = (Spec.inCheck (Spec.apply (abs r d) (absMove m)) (Spec.apply (abs r d) (absMove m)).turn &&
        (Spec.legalMoves (Spec.apply (abs r d) (absMove m))).isEmpty) := by
    intro m hm
    unfold Position.legalMoves at hm
    obtain ⟨hml, hsome⟩ := List.mem_filter.mp hm
    obtain ⟨next, hn⟩ := Option.isSome_iff_exists.mp hsome
    refine ⟨next, hn, ?_⟩
    have hwn := (Chain.wf_preserved hr hml hn).1
    have habs := Chain.step_refines hr hml hn
    rw [Bool.eq_iff_iff, Props.C01.isCheckMate_iff_spec hwn, habs]
    have ht : (Spec.apply (abs r d) (absMove m)).turn = absColor d.opp := by rw [← habs]; rfl
    rw [ht, Bool.and_eq_true, List.isEmpty_iff]
  constructor
  · rintro ⟨m, hm, hc⟩
    obtain ⟨next, hn, hk⟩ := key m hm
    rw [hn] at hc
    simp only [] at hc
    exact ⟨absMove m, List.mem_map.mpr ⟨m, hm, rfl⟩, by rw [← hk]; exact hc⟩
  · rintro ⟨sm, hsm, hc⟩
    obtain ⟨m, hm, rfl⟩ := List.mem_map.mp hsm
    obtain ⟨next, hn, hk⟩ := key m hm
    refine ⟨m, hm, ?_⟩
    rw [hn]
    simp only []
    rw [hk]; exact hc

theorem rep_mirror_of_abs {p q : Position} {c : Color} {b : Board} (hp : Rep p b) (hq : Rep q q.square)
    (habs : abs q c.opp = Spec.mirror (abs p c)) : Rep q (mirrorBoard b) := by
  apply repM_of_square hp hq
  intro s hs
  have h : (abs q c.opp).at s = (Spec.mirror (abs p c)).at s := congrArg (fun P => P.at s) habs
  rw [hq.abs_at, Spec.mirror_at hs, hp.abs_at, ← absCellB_mirrorBoard] at h
  refine absCellB_inj (fun d e => hq.ne_none_of_some e rfl) (fun d e => ?_) h
  have := mirrorBoard_eq_some_iff.mp e
  exact hp.ne_none_of_some this rfl

theorem bits_of_abs {p q : Position} {c : Color} (hp : WF p c) (hq : WF q c.opp)
    (habs : abs q c.opp = Spec.mirror (abs p c)) : MP p q ∧ Tri p ∧ ∀ d, One (p.pieces d .king) := by
  have hep := congrArg Spec.Pos.ep habs
  have hep' : (if q.enpassant = 0 then none else some q.enpassant) =
      (if p.enpassant = 0 then none else some p.enpassant).map Spec.mirrorSq := hep
  refine ⟨MP.of_rep hp hp.rep (rep_mirror_of_abs hp.rep hq.rep habs) (congrArg Spec.Pos.wk habs)
    (congrArg Spec.Pos.wq habs) (congrArg Spec.Pos.bk habs) (congrArg Spec.Pos.bq habs) ?_ ?_,
    Tri.of_rep hp.rep, one_king_of_wfb hp.rep hp.wfb⟩
  · intro h0
    rw [if_pos h0] at hep'
    by_cases hq0 : q.enpassant = 0
    · exact hq0
    · rw [if_neg hq0] at hep'; cases hep'
  · intro h0
    rw [if_neg h0] at hep'
    by_cases hq0 : q.enpassant = 0
    · rw [if_pos hq0] at hep'; cases hep'
    · rw [if_neg hq0] at hep'
      exact ⟨Option.some.inj hep', hq0⟩

theorem mobility_mirror_perm {p q : Position} {c : Color} (hp : WF p c) (hq : WF q c.opp)
    (habs : abs q c.opp = Spec.mirror (abs p c)) :
    (mobility q c.opp).Perm ((mobility p c).map fun e => (Spec.mirrorSq e.1, e.2)) := by
  obtain ⟨h, ht, hk⟩ := bits_of_abs hp hq habs
  exact mobility_perm_of_wsum (wsum_bits h ht hk c)

/-- **`MirrorGap` is closed** for a colour `c` with `WFplay p c`, `WFplay q c.opp` (well-formed for that colour to move,
its opponent not in check) and `abs q c.opp = mirror (abs p c)`. (`WF` of the two would do: `mirrorGap_bits`.) -/
theorem mirrorGap_closed {p q : Position} {c : Color} (hp : Chain.WFplay p c) (hq : Chain.WFplay q c.opp)
    (habs : abs q c.opp = Spec.mirror (abs p c)) : MirrorGap p q c := by
  obtain ⟨h, _, hk⟩ := bits_of_abs hp.1 hq.1 habs
  exact mirrorGap_bits h hp.1.rep hk c

end Morlock.Proofs.Turochamp
