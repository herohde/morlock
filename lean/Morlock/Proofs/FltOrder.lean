import Morlock.Proofs.FltRnd
/-! # `rnd` is monotone, preserves the sign, and keeps representable bounds -/
namespace Morlock.Model.Flt

theorem rnd_sign (f : Fmt) {x y : Q} (h : rnd f x = some y) :
    (0 ≤ x.num → 0 ≤ y.num) ∧ (x.num ≤ 0 → y.num ≤ 0) := by
  rcases (rnd_eq_some_iff f x y).mp h with ⟨_, rfl⟩ | ⟨h0, m, e, _, rfl⟩
  · simp
  · obtain ⟨_, _, hs, hz⟩ := ofME_spec (decide (x.num < 0)) m e
    rw [decide_eq_true_iff] at hs
    omega

theorem ofME_le_of_ple {m m' : Nat} {e e' : Int} (h : m * pn e * pd e' ≤ m' * pn e' * pd e) :
    Q.Le (ofME false m e) (ofME false m' e') := by
  have hmid : Q.Le ⟨(m * pn e : Nat), pd e⟩ ⟨(m' * pn e' : Nat), pd e'⟩ := by
    simp only [Q.Le]; exact_mod_cast h
  exact Q.Le.trans (pd_pos e') (Q.Le.trans (pd_pos e) (ofME_false_eqv m e).le hmid) (ofME_false_eqv m' e').ge

theorem rnd_mono_pos (f : Fmt) (wf : f.WF) {x y x' y' : Q} (hx : 0 < x.den) (hy : 0 < y.den) (hpos : 0 < x.num)
    (hle : Q.Le x y) (h : rnd f x = some x') (h' : rnd f y = some y') : Q.Le x' y' := by
  have hypos := hle.pos hy hpos
  obtain ⟨m, e, hr, rfl⟩ := rnd_eq_some f (by omega) h
  obtain ⟨m', e', hr', rfl⟩ := rnd_eq_some f (by omega) h'
  rw [decide_eq_false (by omega : ¬ x.num < 0), decide_eq_false (by omega : ¬ y.num < 0)]
  exact ofME_le_of_ple (rndPos_mono f wf.p_pos (by omega) hx (by omega) hy
    (hle.nat (by omega) (by omega)) hr hr')

theorem rnd_mono (f : Fmt) (wf : f.WF) {x y x' y' : Q} (hx : 0 < x.den) (hy : 0 < y.den)
    (hle : Q.Le x y) (h : rnd f x = some x') (h' : rnd f y = some y') : Q.Le x' y' := by
  rcases Int.lt_or_le 0 x.num with hpos | hx0
  · exact rnd_mono_pos f wf hx hy hpos hle h h'
  rcases Int.lt_or_le y.num 0 with hyneg | hynn
  · -- both negative: mirror
    have h1 : rnd f y.neg = some y'.neg := by rw [rnd_neg, h']; rfl
    have h2 : rnd f x.neg = some x'.neg := by rw [rnd_neg, h]; rfl
    have := (rnd_mono_pos f wf (x := y.neg) (y := x.neg) hy hx (by simp [Q.neg]; omega) hle.neg h1 h2).neg
    rwa [Q.neg_neg, Q.neg_neg] at this
  · -- `x' ≤ 0 ≤ y'`
    have a1 := Int.mul_nonpos_of_nonpos_of_nonneg ((rnd_sign f h).2 hx0) (Int.natCast_nonneg y'.den)
    have a2 := Int.mul_nonneg ((rnd_sign f h').1 hynn) (Int.natCast_nonneg x'.den)
    unfold Q.Le
    omega

theorem rnd_isSome_of_abs_le (f : Fmt) (wf : f.WF) {x B : Q} (hx : 0 < x.den) (hB : 0 < B.den)
    (hle : x.num.natAbs * B.den ≤ B.num.natAbs * x.den) (h : (rnd f B).isSome) : (rnd f x).isSome := by
  refine rnd_isSome_of_pos f fun h0 => ?_
  have hB0 : B.num ≠ 0 := by
    intro c
    rw [c, Int.natAbs_zero, Nat.zero_mul, Nat.le_zero_eq, Nat.mul_eq_zero] at hle
    omega
  rw [rnd_of_num_ne_zero f hB0, Option.isSome_map] at h
  exact rndPos_isSome_mono f wf.p_pos (by omega) hx (by omega) hB hle h

theorem rnd_abs_le (f : Fmt) (wf : f.WF) {x B : Q} (hx : 0 < x.den) (hB : 0 < B.den) (hrep : Rep f B)
    (hlo : Q.Le B.neg x) (hhi : Q.Le x B) :
    ∃ x', rnd f x = some x' ∧ Q.Le B.neg x' ∧ Q.Le x' B := by
  obtain ⟨B', hB', heq, hcan⟩ := rnd_exact f wf hB hrep
  have hnegB : rnd f B.neg = some B'.neg := by rw [rnd_neg, hB']; rfl
  have habs : x.num.natAbs * B.den ≤ B.num.natAbs * x.den := by
    simp only [Q.Le, Q.neg, Int.neg_mul] at hlo hhi
    have : (x.num * B.den).natAbs ≤ (B.num * x.den).natAbs := by omega
    simpa [Int.natAbs_mul] using this
  have hsome := rnd_isSome_of_abs_le f wf hx hB habs (by rw [hB']; rfl)
  obtain ⟨x', hx'⟩ := Option.isSome_iff_exists.mp hsome
  refine ⟨x', hx', ?_, ?_⟩
  · have h1 := rnd_mono f wf (x := B.neg) (y := x) hB hx hlo hnegB hx'
    exact Q.Le.trans (y := B'.neg) hcan.1 (heq.neg.ge) h1
  · have h1 := rnd_mono f wf hx hB hhi hx' hB'
    exact Q.Le.trans hcan.1 h1 heq.le

end Morlock.Model.Flt
