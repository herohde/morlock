import Morlock.Proofs.GenOfficers
/-!
# The well-formedness predicate `WF` of C01

`WF p turn` = the views invariant `Rep` plus the chess-level conditions the move-generation theorems
need, the latter as a decidable (`Bool`) predicate `WFc`:

* at most one king per side (the generator moves only the lowest-numbered king);
* castling rights imply the king on its home square (`KingHome`; the generator tests the rook, the
  right and the empty squares, but never where the king stands);
* an en-passant target is a real square, empty, on the sixth rank of the side to move, with an enemy
  pawn directly behind it (the generator only tests that the target is a capture square of the pawn
  not holding an own piece; `Move.EnPassantCapture` assumes the victim's rank).

Not needed (and not assumed): a king on each side, no pawns on the first/last rank, rooks at home.
-/
namespace Morlock.Proofs.Gen
open Morlock Morlock.Model

variable {p : Position} {b : Board} {turn : Color} {m : Move}

/-- The square of the pawn an en-passant capture by `turn` onto `ep` removes. -/
def epVictim (turn : Color) (ep : Nat) : Nat :=
  match turn with
  | .white => ep - 8
  | .black => ep + 8

/-- The (0-based) rank of an en-passant target when `turn` is to move. -/
def epRank : Color → Nat
  | .white => 5
  | .black => 2

/-- The decidable chess-level part of `WF`. -/
def WFc (p : Position) (turn : Color) : Bool :=
  decide ((toSquares (p.pieces .white .king)).length ≤ 1) &&
  decide ((toSquares (p.pieces .black .king)).length ≤ 1) &&
  KingHome p &&
  (p.enpassant == 0 ||
    (decide (p.enpassant < 64) && p.square p.enpassant == none &&
      decide (p.enpassant / 8 = epRank turn) &&
      p.square (epVictim turn p.enpassant) == some (turn.opp, Piece.pawn)))

/-- **`WF`**: all views of `p` agree with a mailbox board (necessarily `p.square`), and the
    chess-level conditions `WFc` hold. -/
def WF (p : Position) (turn : Color) : Prop := Rep p p.square ∧ WFc p turn = true

theorem length_ge_two_of_mem {α : Type} {l : List α} {a b : α} (ha : a ∈ l) (hb : b ∈ l) (hne : a ≠ b) :
    2 ≤ l.length := by
  match l, ha, hb with
  | [x], ha, hb =>
    simp only [List.mem_singleton] at ha hb
    exact absurd (ha.trans hb.symm) hne
  | _ :: _ :: _, _, _ => simp

/-- The mailbox-level content of `WFc`. -/
structure WFb (b : Board) (castling ep : Nat) (turn : Color) : Prop where
  king_unique : ∀ c s1 s2, b s1 = some (c, Piece.king) → b s2 = some (c, Piece.king) → s1 = s2
  home_white : (castling &&& wK != 0 || castling &&& wQ != 0) = true → b E1 = some (Color.white, Piece.king)
  home_black : (castling &&& bK != 0 || castling &&& bQ != 0) = true → b E8 = some (Color.black, Piece.king)
  ep_ok : ep ≠ 0 → ep < 64 ∧ b ep = none ∧ ep / 8 = epRank turn ∧
    b (epVictim turn ep) = some (turn.opp, Piece.pawn)

theorem wfb_of_wfc (h : Rep p b) (hw : WFc p turn = true) :
    WFb b p.castling p.enpassant turn := by
  unfold WFc at hw
  simp only [Bool.and_eq_true, decide_eq_true_eq, Bool.or_eq_true, beq_iff_eq, h.square_eq] at hw
  obtain ⟨⟨⟨hkw, hkb⟩, hkh⟩, hep⟩ := hw
  have hone : ∀ c, (toSquares (p.pieces c .king)).length ≤ 1 := by
    intro c; cases c <;> assumption
  refine ⟨?_, ?_, ?_, ?_⟩
  · intro c s1 s2 h1 h2
    apply Classical.byContradiction
    intro hne
    have := length_ge_two_of_mem ((h.mem_toSquares_pieces c (by simp) s1).mpr h1)
      ((h.mem_toSquares_pieces c (by simp) s2).mpr h2) hne
    have := hone c
    omega
  · intro hr
    unfold KingHome at hkh
    simp only [Bool.and_eq_true, Bool.or_eq_true, Bool.not_eq_true', beq_iff_eq, h.square_eq] at hkh
    rcases hkh.1 with h1 | h1
    · rw [h1] at hr; cases hr
    · exact h1
  · intro hr
    unfold KingHome at hkh
    simp only [Bool.and_eq_true, Bool.or_eq_true, Bool.not_eq_true', beq_iff_eq, h.square_eq] at hkh
    rcases hkh.2 with h1 | h1
    · rw [h1] at hr; cases hr
    · exact h1
  · intro hne
    rcases hep with h0 | ⟨⟨⟨h1, h2⟩, h3⟩, h4⟩
    · exact absurd h0 hne
    · exact ⟨h1, h2, h3, h4⟩

theorem WF.rep (h : WF p turn) : Rep p p.square := h.1

theorem WF.wfb (h : WF p turn) :
    WFb p.square p.castling p.enpassant turn := wfb_of_wfc h.1 h.2

end Morlock.Proofs.Gen
