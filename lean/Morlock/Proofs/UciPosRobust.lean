import Morlock.Proofs.UciPos
/-!
# C10: when the extension path can be trusted

`Good eng (e, last)`: whenever a well-formed playable line is recognised as an extension of `last`
and the extra words can all be played from `e`, the result is the game of that line. A state that
holds the game of a well-formed line is good; and every state the handlers can reach from
`lastPosition = ""` is good, provided the engine is `Strict`.
-/
namespace Morlock.Proofs.UciPos
open Morlock.Model Morlock.Model.UciSeq Morlock.Model.UciPos Morlock.Proofs.UciPosText

variable {E : Type}

def Good (eng : Eng E) (st : E × List Char) : Prop :=
  ∀ (c : Cmd) (d e' : E) (rest : List (List Char)), c.Ok → denoteC eng c = some d →
    continuation st.2 c.render = some rest → extend eng st.1 rest = (e', true) → e' = d

theorem good_nil (eng : Eng E) (st : E × List Char) (h : st.2 = []) : Good eng st := by
  intro c d e' rest _ _ hc _
  rw [h, continuation_nil] at hc
  cases hc

theorem argsOf_extension (c : Cmd) (hc : c.Ok) (last : List Char) (rest : List (List Char))
    (h : continuation last c.render = some rest) : c.header ++ c.tail = argsOf last ++ rest := by
  rw [← argsOf_render c hc]
  refine argsOf_continuation _ _ _ h ?_
  rw [trimSpace_render c hc, splitSpaces_render c hc]
  exact words_word c hc

theorem good_long (eng : Eng E) (e e' d : E) (c : Cmd) (hc : c.Ok) (as rest : List (List Char))
    (htl : c.tail = as ++ rest) (hs : scratch eng (c.header ++ as) = some e)
    (hd : denoteC eng c = some d) (hx : extend eng e rest = (e', true)) : e' = d := by
  have := scratch_bind_rest eng c hc as rest htl
  rw [hs, hd, Option.bind_some, (extend_ok_iff eng e e' rest).1 hx] at this
  exact Option.some.inj this

theorem good_of_denote (eng : Eng E) (c1 : Cmd) (e : E) (h1 : c1.Ok) (hd1 : denoteC eng c1 = some e) :
    Good eng (e, c1.render) := by
  intro c d e' rest hc hd hcont hx
  have ha := argsOf_extension c hc _ rest hcont
  rw [argsOf_render c1 h1, List.append_assoc] at ha
  have hh := header_inj c c1 hc h1 _ _ ha
  rw [hh] at ha
  refine good_long eng e e' d c hc c1.tail rest (List.append_cancel_left ha) ?_ hd hx
  rw [hh, ← argsOf_render c1 h1, scratch_render eng c1 h1, hd1]

theorem header_last (eng : Eng E) (hS : eng.Strict) (c : Cmd) (hc : c.Ok) (hr : (eng.reset (fenStr c)).isSome) :
    ∀ z ∈ c.header.getLast?, ∀ e, eng.move e z = none := by
  unfold Cmd.header
  unfold fenStr at hr
  cases hf : c.fen with
  | none => intro z hz; cases hz; exact hS.startpos
  | some fs =>
    rw [hf] at hr
    have hl := (hc.1 fs hf).1
    rcases List.eq_nil_or_concat fs with h | ⟨fs', f, h⟩
    · subst h; simp at hl
    · rw [List.concat_eq_append] at h
      subst h
      intro z hz
      simp only [] at hz hr
      rw [← List.cons_append, List.getLast?_concat] at hz
      cases hz
      exact hS.lastField fs' f (by simp at hl; omega) hr

/-- The new-position path leaves a good state, whatever the line was: if it remembers the line, the line has either
    all the words of the header of the well-formed line that extends it (`good_long`), or fewer, and then the
    extension would have to play the last word of that header. -/
theorem fresh_good (eng : Eng E) (hS : eng.Strict) (ex : E) (line : List Char) : Good eng (fresh eng ex line) := by
  cases hs : scratch eng (argsOf line) with
  | none => exact good_nil eng _ ((fresh_spec eng ex line).2 hs)
  | some e =>
    rw [(fresh_spec eng ex line).1 e hs]
    intro c d e' rest hc hd hcont hx2
    simp only [] at hcont hx2
    have ha := argsOf_extension c hc _ rest hcont
    rcases List.append_eq_append_iff.1 ha with ⟨as, h1, h2⟩ | ⟨bs, h1, h2⟩
    · exact good_long eng e e' d c hc as rest h2 (h1 ▸ hs) hd hx2
    · rcases List.eq_nil_or_concat bs with hb | ⟨bs', z', hb⟩
      · subst hb
        rw [List.append_nil] at h1
        exact good_long eng e e' d c hc [] rest h2.symm (by rw [List.append_nil, h1]; exact hs) hd hx2
      · exfalso
        rw [List.concat_eq_append] at hb
        subst hb
        have hres : (eng.reset (fenStr c)).isSome := by
          unfold denoteC at hd
          cases h : eng.reset (fenStr c) with
          | none => simp [h] at hd
          | some _ => rfl
        have hrefuse := header_last eng hS c hc hres z' (by rw [h1]; simp)
        have hzm : z' ≠ kwMoves := header_no_moves c hc z' (by rw [h1]; simp)
        have hp := (extend_ok_iff _ _ _ _).1 hx2
        rw [h2, List.append_assoc, playSkip_append] at hp
        cases hq : playSkip eng e bs' with
        | none => simp [hq] at hp
        | some e1 =>
          rw [hq, Option.bind_some, List.singleton_append, playSkip_cons eng e1 z' _ hzm, hrefuse e1] at hp
          cases hp

theorem position_good (eng : Eng E) (hS : eng.Strict) (st : E × List Char) (hg : Good eng st) (line : List Char) :
    Good eng (position eng st line) := by
  rcases position_cases eng st line with ⟨e1, h⟩ | ⟨rest1, e1, hcont, hx, h⟩
  · rw [h]; exact fresh_good eng hS e1 line
  · rw [h]
    intro c d e' rest2 hc hd hcont2 hx2
    refine hg c d e' (rest1 ++ rest2) hc hd (continuation_trans _ _ _ _ _ hcont hcont2) ?_
    rw [extend_ok_iff, playSkip_append, (extend_ok_iff _ _ _ _).1 hx]
    exact (extend_ok_iff _ _ _ _).1 hx2

theorem run_good (eng : Eng E) (hS : eng.Strict) (st : E × List Char) (hg : Good eng st) (cmds : List Command) :
    Good eng (run eng st cmds) := by
  unfold run
  induction cmds generalizing st with
  | nil => exact hg
  | cons c cs ih =>
    refine ih (step eng st c) ?_
    cases c with
    | newgame => exact good_nil eng _ rfl
    | position line => exact position_good eng hS st hg line

end Morlock.Proofs.UciPos
