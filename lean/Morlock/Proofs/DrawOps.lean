import Morlock.Proofs.DrawWorld
/-!
# C05, arena level: the result written by `pushMove`, and what each operation does to the line of every board
-/
namespace Morlock.Proofs.Draw
open Morlock Morlock.Model Morlock.Model.World Morlock.Proofs.Arena

/-- The result `pushMove` computes, as a precedence chain: material > clock > five-fold > three-fold. -/
theorem pushResult_spec (rep actual np : Int) (pos : Position) (m : Move) :
    pushResult rep actual np pos m =
      if materialTrigger m = true ∧ pos.hasInsufficientMaterial = true then
        { outcome := .draw, reason := .insufficientMaterial }
      else if np ≥ 100 then { outcome := .draw, reason := .noProgress }
      else if rep ≥ 3 ∧ actual ≥ 5 then { outcome := .draw, reason := .repetition5 }
      else if rep ≥ 3 ∧ actual ≥ 3 then { outcome := .draw, reason := .repetition3 }
      else {} := by
  have h3 : ((Gen.repetition3Limit : Nat) : Int) = 3 := rfl
  have h5 : ((Gen.repetition5Limit : Nat) : Int) = 5 := rfl
  have h100 : ((Gen.noprogressPlyLimit : Nat) : Int) = 100 := rfl
  unfold pushResult materialTrigger
  simp only [h3, h5, h100, Bool.and_eq_true]
  by_cases hr : rep ≥ 3
  · simp only [hr, if_true, true_and]
  · simp only [hr, if_false, false_and]

theorem precedence_chain_spec {M N R5 R3 : Prop} [Decidable M] [Decidable N] [Decidable R5] [Decidable R3] {r : Result}
    (hr : r = if M then { outcome := .draw, reason := .insufficientMaterial }
      else if N then { outcome := .draw, reason := .noProgress }
      else if R5 then { outcome := .draw, reason := .repetition5 }
      else if R3 then { outcome := .draw, reason := .repetition3 } else {}) (h53 : R5 → R3) :
    (r.outcome = .draw ↔ R3 ∨ N ∨ M) ∧ (r.reason = .insufficientMaterial ↔ M) ∧
    (r.reason = .noProgress ↔ N ∧ ¬ M) ∧ (r.reason = .repetition5 ↔ R5 ∧ ¬ N ∧ ¬ M) ∧
    (r.reason = .repetition3 ↔ (R3 ∧ ¬ R5) ∧ ¬ N ∧ ¬ M) ∧ (r.outcome ≠ .draw → r = {}) := by
  subst hr
  by_cases hM : M <;> by_cases hN : N <;> by_cases h5 : R5 <;> by_cases h3 : R3 <;>
    simp [hM, hN, h5, h3] <;> exact h3 (h53 h5)

/-- The result after a move in terms of the world after the move only. -/
theorem push_result {w w' : World} {z : ZTable} {b : Nat} {m : Move} (hw : WFWorld w) (hb : b < w.boards.size)
    (h : w.pushMove z b m = some w') :
    (w'.board b).result =
      pushResult (repGet (w'.board b).repetitions (w'.cur b).hash)
        (w'.identicalPositionCount (w'.cur b) (w'.board b).turn (w'.board b).turn.opp (w'.cur b).noprogress)
        (w'.cur b).noprogress (w'.cur b).pos m := by
  have hw' := wf_push hw hb h
  have hv := push_view_some hw hb h
  rw [ipc_eq hw' _ _ _ _ (bound_cur_prev_le_size hw' b), ← ipcList_erase]
  exact vresult_push hv

theorem push_line {w w' : World} {z : ZTable} {b : Nat} {m : Move} (hw : WFWorld w) (hb : b < w.boards.size)
    (h : w.pushMove z b m = some w') :
    lineK w' b = key (w'.cur b) :: lineK w b ∧
    (w'.board b).turn = (w.board b).turn.opp ∧
    (w'.cur b).hash = z.move (w.cur b).hash (w.cur b).pos m ∧
    (w.cur b).pos.move m = some (w'.cur b).pos ∧
    (w'.cur b).noprogress = updateNoProgress (w.cur b).noprogress m ∧
    (∀ x, repGet (w'.board b).repetitions x =
      if x = (w'.cur b).hash then repGet (w.board b).repetitions (w'.cur b).hash + 1
      else repGet (w.board b).repetitions x) := by
  have hv := push_view_some hw hb h
  obtain ⟨h1, h2, h3, h4, h5, h6, _⟩ := vlineK_push hv
  rw [lineK_view, lineK_view]
  exact ⟨h1, h2, h3, h4, h5, h6⟩

theorem repMapOK_push {w w' : World} {z : ZTable} {b : Nat} {m : Move} (hw : WFWorld w) (hb : b < w.boards.size)
    (h : w.pushMove z b m = some w') (hr : RepMapOK w b) : RepMapOK w' b := by
  obtain ⟨hl, _, _, _, _, hreps⟩ := push_line hw hb h
  intro x
  rw [hreps, hl, hashCount_cons, hr, hr, key_hash]
  by_cases hx : x = (w'.cur b).hash
  · subst hx; simp
  · have : ¬ (w'.cur b).hash = x := fun c => hx c.symm
    simp [hx, this]

theorem clockOK_push {w w' : World} {z : ZTable} {b : Nat} {m : Move} (hw : WFWorld w) (hb : b < w.boards.size)
    (h : w.pushMove z b m = some w') (hc : ClockOK w b) : ClockOK w' b := by
  obtain ⟨_, _, _, _, hnp, _, hpast⟩ := vlineK_push (push_view_some hw hb h)
  rw [clockOK_view] at hc ⊢
  rw [hpast, hnp]
  exact ⟨rfl, hc⟩

theorem pop_line {w w' : World} {b : Nat} {m : Move} (hw : WFWorld w) (hb : b < w.boards.size)
    (h : w.popMove b = some (w', m)) :
    lineK w b = key (w.cur b) :: lineK w' b ∧
    (w'.board b).turn = (w.board b).turn.opp ∧
    (∀ x, repGet (w'.board b).repetitions x =
      if x = (w.cur b).hash then repGet (w.board b).repetitions (w.cur b).hash - 1
      else repGet (w.board b).repetitions x) := by
  have hv := pop_view_some hw hb h
  obtain ⟨h1, h2, h3, _⟩ := vlineK_pop hv
  rw [lineK_view, lineK_view]
  exact ⟨h1, h2, h3⟩

/-- For a property of every node of the line with the side to move there (`HashFaithful`, C07Board `LineWF`). -/
theorem line_forall_push {P : Node × Color → Prop} {w w' : World} {z : ZTable} {b : Nat} {m : Move} (hw : WFWorld w)
    (hb : b < w.boards.size) (h : w.pushMove z b m = some w') (hl : ∀ e ∈ sided (w.board b).turn (lineK w b), P e)
    (hnew : P (key (w'.cur b), (w'.board b).turn)) : ∀ e ∈ sided (w'.board b).turn (lineK w' b), P e := by
  obtain ⟨hline, ht, _⟩ := push_line hw hb h
  intro e he
  rw [hline, sided_cons, List.mem_cons] at he
  rcases he with rfl | he
  · exact hnew
  · rw [ht, Color.opp_opp] at he
    exact hl e he

theorem line_forall_pop {P : Node × Color → Prop} {w w' : World} {b : Nat} {m : Move} (hw : WFWorld w)
    (hb : b < w.boards.size) (h : w.popMove b = some (w', m)) (hl : ∀ e ∈ sided (w.board b).turn (lineK w b), P e) :
    ∀ e ∈ sided (w'.board b).turn (lineK w' b), P e := by
  obtain ⟨hline, ht, _⟩ := pop_line hw hb h
  intro e he
  apply hl e
  rw [hline, sided_cons, ← ht]
  exact List.mem_cons_of_mem _ he

theorem repMapOK_pop {w w' : World} {b : Nat} {m : Move} (hw : WFWorld w) (hb : b < w.boards.size)
    (h : w.popMove b = some (w', m)) (hr : RepMapOK w b) : RepMapOK w' b := by
  obtain ⟨hl, _, hreps⟩ := pop_line hw hb h
  intro x
  have h1 := hr x
  have h2 := hr (w.cur b).hash
  rw [hl, hashCount_cons, key_hash] at h1 h2
  rw [hreps]
  by_cases hx : x = (w.cur b).hash
  · subst hx
    simp only [if_true] at h2 ⊢
    omega
  · have : ¬ (w.cur b).hash = x := fun c => hx c.symm
    simp only [hx, this, if_false] at h1 ⊢
    omega

theorem hashFaithful_pop {w w' : World} {z : ZTable} {b : Nat} {m : Move} (hw : WFWorld w) (hb : b < w.boards.size)
    (h : w.popMove b = some (w', m)) (hf : HashFaithful z w b) : HashFaithful z w' b :=
  line_forall_pop hw hb h hf

theorem clockOK_pop {w w' : World} {b : Nat} {m : Move} (hw : WFWorld w) (hb : b < w.boards.size)
    (h : w.popMove b = some (w', m)) (hc : ClockOK w b) : ClockOK w' b := by
  obtain ⟨_, _, _, p, hp, hnp, _⟩ := vlineK_pop (pop_view_some hw hb h)
  rw [clockOK_view] at hc ⊢
  rw [hp] at hc
  rw [hnp]
  exact hc.2

/-- The line (links erased) of board `y` only depends on its `current` index and on position, hash, clock and `prev`
of the existing nodes: operations on other boards only append nodes and rewrite `next`. -/
theorem lineK_congr {w w' : World} {y : Nat} (hw : WFWorld w) (hy : y < w.boards.size)
    (hcur : (w'.board y).current = (w.board y).current)
    (hnode : ∀ j, j < w.nodes.size → key (w'.node j) = key (w.node j) ∧ (w'.node j).prev = (w.node j).prev) :
    lineK w' y = lineK w y := by
  have hc := hw.cur_lt y hy
  have hcn : key (w'.cur y) = key (w.cur y) ∧ (w'.cur y).prev = (w.cur y).prev := by
    unfold cur; rw [hcur]; exact hnode _ hc
  rw [lineK_head, lineK_head, hcn.1, hcn.2]
  congr 1
  have hlt : ∀ j ∈ ancIdx w (w.cur y).prev, j < w.nodes.size := by
    intro j hj
    have h1 := ancIdx_lt hw hj
    have h2 := bound_cur_prev_le_size hw y
    omega
  have hidx : ancIdx w' (w.cur y).prev = ancIdx w (w.cur y).prev := by
    show path w' _ _ = path w _ _
    apply path_congr
    intro j hj
    exact (hnode j (hlt j hj)).2
  unfold anc
  rw [hidx, List.map_map, List.map_map]
  apply List.map_congr_left
  intro j hj
  exact (hnode j (hlt j hj)).1

/-- What the draw logic of a board reads. -/
structure SameBoard (w w' : World) (y : Nat) : Prop where
  line : lineK w' y = lineK w y
  turn : (w'.board y).turn = (w.board y).turn
  reps : (w'.board y).repetitions = (w.board y).repetitions
  cur : key (w'.cur y) = key (w.cur y)

theorem SameBoard.of_line {w w' : World} {y : Nat} (hl : lineK w' y = lineK w y) (hb : w'.board y = w.board y) :
    SameBoard w w' y := by
  refine ⟨hl, by rw [hb], by rw [hb], ?_⟩
  rw [lineK_head, lineK_head] at hl
  exact (List.cons.inj hl).1

theorem SameBoard.repMapOK {w w' : World} {y : Nat} (h : SameBoard w w' y) (hr : RepMapOK w y) : RepMapOK w' y := by
  intro x
  rw [h.reps, h.line]
  exact hr x

theorem SameBoard.hashFaithful {z : ZTable} {w w' : World} {y : Nat} (h : SameBoard w w' y)
    (hf : HashFaithful z w y) : HashFaithful z w' y := by
  intro e he
  rw [h.turn, h.line] at he
  exact hf e he

theorem SameBoard.occurrences {w w' : World} {y : Nat} (h : SameBoard w w' y) : occurrences w' y = occurrences w y := by
  unfold Draw.occurrences
  have := congrArg Node.pos h.cur
  simp only [key_pos] at this
  rw [h.turn, h.line, this]

theorem push_other {w w' : World} {z : ZTable} {x y : Nat} {m : Move} (hw : WFWorld w) (hy : y < w.boards.size)
    (hxy : x ≠ y) (h : w.pushMove z x m = some w') : SameBoard w w' y := by
  have hbd := push_board_other h hxy
  refine SameBoard.of_line (lineK_congr hw hy (by rw [hbd]) ?_) hbd
  intro j hj
  obtain ⟨_, next, _, rfl⟩ := pushMove_some h
  rw [setBoard_node, pushArena_node_old _ _ _ _ hj]
  split <;> exact ⟨rfl, rfl⟩

theorem pop_other {w w' : World} {x y : Nat} {m : Move} (hw : WFWorld w) (hy : y < w.boards.size)
    (hxy : x ≠ y) (h : w.popMove x = some (w', m)) : SameBoard w w' y := by
  have hbd := pop_board_other h hxy
  refine SameBoard.of_line (lineK_congr hw hy (by rw [hbd]) ?_) hbd
  intro j _
  obtain ⟨pi, _, _, rfl⟩ := popMove_some h
  rw [setBoard_node, setNode_node]
  split
  · rename_i hc; rw [← hc.1]; exact ⟨rfl, rfl⟩
  · exact ⟨rfl, rfl⟩

theorem fork_other {w : World} (hw : WFWorld w) (b : Nat) {y : Nat} (hy : y < w.boards.size) :
    SameBoard w (w.fork b).1 y := by
  have hbd : (w.fork b).1.board y = w.board y := by rw [fork_board, if_neg (by omega)]
  refine SameBoard.of_line (lineK_congr hw hy (by rw [hbd]) ?_) hbd
  intro j hj
  rw [fork_node_old b hj]
  exact ⟨rfl, rfl⟩

theorem newBoard_other {w : World} (hw : WFWorld w) (z : ZTable) (pos : Position) (turn : Color) (np fm : Int)
    {y : Nat} (hy : y < w.boards.size) : SameBoard w (w.newBoard z pos turn np fm).1 y := by
  have hbd : (w.newBoard z pos turn np fm).1.board y = w.board y := by rw [newBoard_board, if_neg (by omega)]
  refine SameBoard.of_line (lineK_congr hw hy (by rw [hbd]) ?_) hbd
  intro j hj
  rw [newBoard_node, if_neg (by omega)]
  exact ⟨rfl, rfl⟩

theorem adjudicate_board (w : World) (b y : Nat) :
    ∃ r, (w.adjudicateNoLegalMoves b).1.board y = { w.board y with result := r } := by
  unfold adjudicateNoLegalMoves
  rw [setBoard_board]
  split
  · rename_i hc; rw [hc.1]; exact ⟨_, rfl⟩
  · exact ⟨_, rfl⟩

theorem adjudicate_same {w : World} (hw : WFWorld w) (b : Nat) {y : Nat} (hy : y < w.boards.size) :
    SameBoard w (w.adjudicateNoLegalMoves b).1 y := by
  obtain ⟨r, hbd⟩ := adjudicate_board w b y
  have hl : lineK (w.adjudicateNoLegalMoves b).1 y = lineK w y :=
    lineK_congr hw hy (by rw [hbd]) (fun j _ => ⟨rfl, rfl⟩)
  refine ⟨hl, by rw [hbd], by rw [hbd], ?_⟩
  rw [lineK_head, lineK_head] at hl
  exact (List.cons.inj hl).1

theorem newBoard_cur (w : World) (z : ZTable) (pos : Position) (turn : Color) (np fm : Int) :
    (w.newBoard z pos turn np fm).1.cur (w.newBoard z pos turn np fm).2 =
      { pos := pos, noprogress := np, hash := z.hash pos turn } ∧
    ((w.newBoard z pos turn np fm).1.board (w.newBoard z pos turn np fm).2).turn = turn ∧
    ((w.newBoard z pos turn np fm).1.board (w.newBoard z pos turn np fm).2).repetitions = [(z.hash pos turn, 1)] ∧
    ((w.newBoard z pos turn np fm).1.board (w.newBoard z pos turn np fm).2).result = {} := by
  have hid : (w.newBoard z pos turn np fm).2 = w.boards.size := rfl
  have hbd := newBoard_board w z pos turn np fm w.boards.size
  rw [if_pos rfl] at hbd
  refine ⟨?_, ?_, ?_, ?_⟩
  · unfold cur
    rw [hid, hbd, newBoard_node]
    simp
  · rw [hid, hbd]
  · rw [hid, hbd]
  · rw [hid, hbd]

theorem newBoard_line (w : World) (z : ZTable) (pos : Position) (turn : Color) (np fm : Int) :
    lineK (w.newBoard z pos turn np fm).1 (w.newBoard z pos turn np fm).2 =
      [{ pos := pos, noprogress := np, hash := z.hash pos turn }] := by
  rw [lineK_head, (newBoard_cur w z pos turn np fm).1]
  rfl

theorem repMapOK_newBoard (w : World) (z : ZTable) (pos : Position) (turn : Color) (np fm : Int) :
    RepMapOK (w.newBoard z pos turn np fm).1 (w.newBoard z pos turn np fm).2 := by
  intro x
  rw [newBoard_line, (newBoard_cur w z pos turn np fm).2.2.1, repGet_cons, hashCount_cons]
  by_cases hx : z.hash pos turn = x
  · simp [hx, hashCount]
  · simp [hx, hashCount, repGet_nil]

theorem line_forall_newBoard {P : Node × Color → Prop} (w : World) (z : ZTable) (pos : Position) (turn : Color)
    (np fm : Int) (h : P ({ pos := pos, noprogress := np, hash := z.hash pos turn }, turn)) :
    ∀ e ∈ sided ((w.newBoard z pos turn np fm).1.board (w.newBoard z pos turn np fm).2).turn
      (lineK (w.newBoard z pos turn np fm).1 (w.newBoard z pos turn np fm).2), P e := by
  intro e he
  rw [newBoard_line, (newBoard_cur w z pos turn np fm).2.1] at he
  simp only [sided_cons, sided_nil, List.mem_singleton] at he
  subst he
  exact h

theorem hashFaithful_newBoard (w : World) (z : ZTable) (pos : Position) (turn : Color) (np fm : Int) :
    HashFaithful z (w.newBoard z pos turn np fm).1 (w.newBoard z pos turn np fm).2 :=
  line_forall_newBoard w z pos turn np fm rfl

theorem clockOK_newBoard (w : World) (z : ZTable) (pos : Position) (turn : Color) (np fm : Int) :
    ClockOK (w.newBoard z pos turn np fm).1 (w.newBoard z pos turn np fm).2 := by
  unfold ClockOK
  rw [(newBoard_cur w z pos turn np fm).1]
  exact trivial

theorem repMapOK_fork {w : World} (hw : WFWorld w) (b : Nat) (hr : RepMapOK w b) :
    RepMapOK (w.fork b).1 (w.fork b).2 := by
  rw [repMapOK_view] at hr ⊢
  rw [view_fork_new hw b]
  exact hr

theorem hashFaithful_fork {z : ZTable} {w : World} (hw : WFWorld w) (b : Nat) (hf : HashFaithful z w b) :
    HashFaithful z (w.fork b).1 (w.fork b).2 := by
  rw [hashFaithful_view] at hf ⊢
  rw [view_fork_new hw b]
  exact hf

theorem clockOK_fork {w : World} (hw : WFWorld w) (b : Nat) (hc : ClockOK w b) :
    ClockOK (w.fork b).1 (w.fork b).2 := by
  rw [clockOK_view] at hc ⊢
  rw [view_fork_new hw b]
  exact hc

/-- Worlds built from the empty world by the operations of `pkg/board` (any boards, any interleaving, forks,
take-backs below fork points, adjudications). -/
inductive Reach (z : ZTable) : World → Prop
  | empty : Reach z {}
  | newBoard {w : World} (pos : Position) (turn : Color) (np fm : Int) :
      Reach z w → Reach z (w.newBoard z pos turn np fm).1
  | fork {w : World} (b : Nat) : Reach z w → b < w.boards.size → Reach z (w.fork b).1
  | push {w w' : World} {b : Nat} {m : Move} :
      Reach z w → b < w.boards.size → w.pushMove z b m = some w' → Reach z w'
  | pop {w w' : World} {b : Nat} {m : Move} :
      Reach z w → b < w.boards.size → w.popMove b = some (w', m) → Reach z w'
  | adjudicate {w : World} (b : Nat) : Reach z w → b < w.boards.size → Reach z (w.adjudicateNoLegalMoves b).1

end Morlock.Proofs.Draw
