import Morlock.Proofs.GenWF
import Morlock.Proofs.AttackPawns
/-!
# Stage C of C01: pawn moves (pushes, double pushes, captures, promotions, en passant)
-/
namespace Morlock.Proofs.Gen
open Morlock Morlock.Model Morlock.Proofs.Attack

variable {p : Position} {b : Board} {turn : Color} {m : Move} {castling ep fr sq : Nat}

theorem step_fwd_iff {s t : Nat} (hs : s < 64) :
    Spec.step s 0 (Spec.fwd (absColor turn)) = some t ↔
      match turn with
      | .white => t = s + 8 ∧ t < 64
      | .black => t + 8 = s := by
  rw [step_eq_some_iff]
  cases turn <;> simp only [Spec.fwd, absColor] <;> omega

theorem fwd_pm (c : Spec.Color) : Spec.fwd c = 1 ∨ Spec.fwd c = -1 := by cases c <;> simp [Spec.fwd]

theorem push_geo {c : Spec.Color} {s t : Nat} (h : Spec.step s 0 (Spec.fwd c) = some t) :
    s % 8 = t % 8 ∧ ¬ (s / 8 + 2 = t / 8) ∧ ¬ (t / 8 + 2 = s / 8) := by
  obtain ⟨c1, c2⟩ := step_coords h
  have := fwd_pm c
  omega

theorem pawnTarget_geo {c : Spec.Color} {s t : Nat} (h : t ∈ Spec.pawnTargets c s) :
    s % 8 ≠ t % 8 ∧ ¬ (s / 8 + 2 = t / 8) ∧ ¬ (t / 8 + 2 = s / 8) ∧ (↑(t / 8) : Int) = ↑(s / 8) + Spec.fwd c := by
  obtain ⟨df, hdf, hst⟩ : ∃ df : Int, (df = 1 ∨ df = -1) ∧ Spec.step s df (Spec.fwd c) = some t := by
    rcases mem_pawnTargets_iff.mp h with h | h
    · exact ⟨1, Or.inl rfl, h⟩
    · exact ⟨-1, Or.inr rfl, h⟩
  obtain ⟨c1, c2⟩ := step_coords hst
  have := fwd_pm c
  have g : s % 8 ≠ t % 8 ∧ ¬ (s / 8 + 2 = t / 8) ∧ ¬ (t / 8 + 2 = s / 8) := by omega
  exact ⟨g.1, g.2.1, g.2.2, c2⟩

theorem jump_geo {c : Spec.Color} {s t1 t : Nat} (h1 : Spec.step s 0 (Spec.fwd c) = some t1)
    (h2 : Spec.step t1 0 (Spec.fwd c) = some t) :
    s % 8 = t % 8 ∧ (s / 8 + 2 = t / 8 ∨ t / 8 + 2 = s / 8) ∧ t1 % 8 = s % 8 ∧ s / 8 + t / 8 = 2 * (t1 / 8) := by
  obtain ⟨c1, c2⟩ := step_coords h1
  obtain ⟨d1, d2⟩ := step_coords h2
  have := fwd_pm c
  omega

theorem pawnCaptureboard_lt (c : Color) (x : Nat) : pawnCaptureboard c (bitMask x) < 2 ^ 64 :=
  pawnSet_lt c _ (bitMask_lt_M64 x)

theorem pawnMoveboard_lt (all : Nat) (c : Color) (x : Nat) : pawnMoveboard all c x < 2 ^ 64 := by
  cases c <;> exact and_lt_right _ (not64_lt _)

theorem captureboard_testBit (h : Rep p b) (turn : Color)
    (hfr : fr < 64) (t : Nat) :
    (pawnCaptureboard turn (bitMask fr) &&& not64 (p.pieces turn .none)).testBit t = true ↔
      t ∈ Spec.pawnTargets (absColor turn) fr ∧ colAt b t turn = false := by
  rw [pawn_of_lt turn hfr, Nat.testBit_and, Bool.and_eq_true, testBit_toBB, not64_testBit, h.testBit_all]
  refine and_congr_right fun ht => ?_
  simp only [pawnTargets_lt _ _ _ ht, decide_true, Bool.true_and, Bool.not_eq_true']

theorem moveboard_testBit (h : Rep p b) (turn : Color) {x : Nat}
    (hx : x < 2 ^ 64) (t : Nat) :
    (pawnMoveboard p.rotated.rot turn x).testBit t = true ↔
      ∃ s, x.testBit s = true ∧ Spec.step s 0 (Spec.fwd (absColor turn)) = some t ∧ b t = none := by
  have hrot : ∀ t, t < 64 → (p.rotated.rot.testBit t = false ↔ b t = none) := by
    intro t ht; rw [h.rot t ht]; cases b t <;> simp
  cases turn
  · simp only [pawnMoveboard, Nat.testBit_and, Bool.and_eq_true, shl64_testBit, not64_testBit,
      decide_eq_true_eq, Bool.not_eq_true']
    constructor
    · rintro ⟨⟨ht64, h8, hbit⟩, _, hr⟩
      have hs : t - 8 < 64 := Nat.lt_of_le_of_lt (Nat.sub_le t 8) ht64
      exact ⟨t - 8, hbit, (step_fwd_iff (turn := .white) hs).mpr ⟨(Nat.sub_add_cancel h8).symm, ht64⟩,
        (hrot t ht64).mp hr⟩
    · rintro ⟨s, hbit, hst, hb⟩
      have hs := lt_of_testBit hx hbit
      obtain ⟨rfl, ht64⟩ := (step_fwd_iff (turn := .white) hs).mp hst
      exact ⟨⟨ht64, Nat.le_add_left 8 s, by simpa using hbit⟩, ht64, (hrot _ ht64).mpr hb⟩
  · simp only [pawnMoveboard, Nat.testBit_and, Bool.and_eq_true, Nat.testBit_shiftRight, not64_testBit,
      decide_eq_true_eq, Bool.not_eq_true']
    constructor
    · rintro ⟨hbit, ht64, hr⟩
      have hs := lt_of_testBit hx hbit
      exact ⟨8 + t, hbit, (step_fwd_iff (turn := .black) hs).mpr (Nat.add_comm t 8), (hrot t ht64).mp hr⟩
    · rintro ⟨s, hbit, hst, hb⟩
      have hs := lt_of_testBit hx hbit
      have e := (step_fwd_iff (turn := .black) hs).mp hst
      simp only at e
      have ht64 : t < 64 := Nat.lt_of_le_of_lt (Nat.le_add_right t 8) (e ▸ hs)
      exact ⟨by rw [Nat.add_comm, e]; exact hbit, ht64, (hrot _ ht64).mpr hb⟩

theorem pushboard_testBit (h : Rep p b) (turn : Color)
    (hfr : fr < 64) (t : Nat) :
    (pawnMoveboard p.rotated.rot turn (bitMask fr)).testBit t = true ↔
      Spec.step fr 0 (Spec.fwd (absColor turn)) = some t ∧ b t = none := by
  rw [moveboard_testBit h turn (bitMask_lt_M64 fr)]
  constructor
  · rintro ⟨s, hbit, hst, hb⟩
    rw [bitMask_testBit hfr, decide_eq_true_eq] at hbit
    subst hbit; exact ⟨hst, hb⟩
  · rintro ⟨hst, hb⟩
    exact ⟨fr, by rw [bitMask_testBit hfr]; simp, hst, hb⟩

theorem promoRank_testBit (turn : Color) (t : Nat) :
    (pawnPromotionRank turn).testBit t = decide (Spec.rankOf t = Spec.lastRank (absColor turn)) := by
  cases turn <;> exact bitRank_testBit (by decide) t

/-- The rank (0-based) a double push lands on. -/
def jumpRankOf : Color → Nat
  | .white => 3
  | .black => 4

theorem jumpRank_testBit (turn : Color) (t : Nat) :
    (pawnJumpRank turn).testBit t = decide (Spec.rankOf t = jumpRankOf turn) := by
  cases turn <;> exact bitRank_testBit (by decide) t

theorem jump_rank_iff {fr t1 t : Nat}
    (h1 : Spec.step fr 0 (Spec.fwd (absColor turn)) = some t1)
    (h2 : Spec.step t1 0 (Spec.fwd (absColor turn)) = some t) :
    Spec.rankOf t = jumpRankOf turn ↔ Spec.rankOf fr = Spec.startRank (absColor turn) := by
  have g1 := (step_coords h1).2
  have g2 := (step_coords h2).2
  cases turn <;> simp only [Spec.rankOf, Spec.startRank, Spec.fwd, absColor, jumpRankOf] at g1 g2 ⊢ <;> omega

/-- The en-passant target recorded by a double push is the skipped square. -/
theorem jump_target {t1 : Nat} (hj : m.ty = .jump) (hfr : m.from < 64)
    (h1 : Spec.step m.from 0 (Spec.fwd (absColor turn)) = some t1)
    (h2 : Spec.step t1 0 (Spec.fwd (absColor turn)) = some m.to)
    (hstart : Spec.rankOf m.from = Spec.startRank (absColor turn)) :
    m.enPassantTarget = t1 ∧ t1 < 64 ∧ t1 ≠ m.from ∧ t1 ≠ m.to ∧ t1 / 8 = epRank turn.opp ∧
      epVictim turn.opp t1 = m.to := by
  have e1 := (step_fwd_iff hfr).mp h1
  have e2 := (step_fwd_iff (step_lt h1)).mp h2
  have he := enPassantTarget_skipped m hj (step_lt h2)
  cases turn <;>
    simp only [epRank, epVictim, Color.opp, Spec.rankOf, Spec.startRank, absColor, sqRank_eq] at e1 e2 hstart he ⊢ <;>
    omega

/-- A pawn move of `turn` with its metadata, as the generator emits it. The en-passant clause is
    literally the generator's test: the en-passant target is a capture target of the pawn and holds
    no own piece (`WF` makes it empty and puts the victim behind it). -/
def PawnMove (b : Board) (ep : Nat) (turn : Color) (m : Move) : Prop :=
  b m.from = some (turn, .pawn) ∧ m.piece = .pawn ∧
  ( -- single push, possibly promoting
    (Spec.step m.from 0 (Spec.fwd (absColor turn)) = some m.to ∧ b m.to = none ∧ m.capture = .none ∧
      ((Spec.rankOf m.to ≠ Spec.lastRank (absColor turn) ∧ m.ty = .push ∧ m.promotion = .none) ∨
       (Spec.rankOf m.to = Spec.lastRank (absColor turn) ∧ m.ty = .promotion ∧
          m.promotion ∈ Position.promoPieces))) ∨
    -- double push
    (∃ t1, Spec.step m.from 0 (Spec.fwd (absColor turn)) = some t1 ∧
      Spec.step t1 0 (Spec.fwd (absColor turn)) = some m.to ∧
      Spec.rankOf m.from = Spec.startRank (absColor turn) ∧ b t1 = none ∧ b m.to = none ∧
      m.ty = .jump ∧ m.promotion = .none ∧ m.capture = .none) ∨
    -- capture, possibly promoting
    (m.to ∈ Spec.pawnTargets (absColor turn) m.from ∧ ∃ k, b m.to = some (turn.opp, k) ∧ m.capture = k ∧
      ((Spec.rankOf m.to ≠ Spec.lastRank (absColor turn) ∧ m.ty = .capture ∧ m.promotion = .none) ∨
       (Spec.rankOf m.to = Spec.lastRank (absColor turn) ∧ m.ty = .capturePromotion ∧
          m.promotion ∈ Position.promoPieces))) ∨
    -- en passant
    (ep ≠ 0 ∧ m.to = ep ∧ m.to ∈ Spec.pawnTargets (absColor turn) m.from ∧ colAt b m.to turn = false ∧
      m.ty = .enPassant ∧ m.promotion = .none ∧ m.capture = .none))

theorem mem_emit_pawnCapture (h : Rep p b) (turn : Color)
    (hfr : fr < 64) (m : Move) :
    m ∈ p.emitMove turn .capture .pawn fr
        (andNot (pawnCaptureboard turn (bitMask fr) &&& not64 (p.pieces turn .none) &&& p.pieces turn.opp .none)
          (pawnPromotionRank turn)) ↔
      m.from = fr ∧ m.piece = .pawn ∧ m.to ∈ Spec.pawnTargets (absColor turn) fr ∧
        (∃ k, b m.to = some (turn.opp, k) ∧ m.capture = k) ∧
        Spec.rankOf m.to ≠ Spec.lastRank (absColor turn) ∧ m.ty = .capture ∧ m.promotion = .none := by
  rw [mem_emitMove (andNot_lt _ (and_lt_left _ (and_lt_left _ (pawnCaptureboard_lt turn fr)))),
    andNot_testBit, Bool.and_eq_true, Nat.testBit_and, Bool.and_eq_true, captureboard_testBit h turn hfr,
    promoRank_testBit, captureAt_of_rep h, h.testBit_all]
  simp only [Bool.not_eq_true', decide_eq_false_iff_not, if_true]
  constructor
  · rintro ⟨⟨⟨⟨ht, hown⟩, hopp⟩, hrank⟩, hty, hpc, hf, hpr, hcap⟩
    obtain ⟨k, hk⟩ := colAt_enemy_iff.mp hopp
    exact ⟨hf, hpc, ht, ⟨k, hk, by rw [hcap, capAt_enemy hk]⟩, hrank, hty, hpr⟩
  · rintro ⟨hf, hpc, ht, ⟨k, hk, hcap⟩, hrank, hty, hpr⟩
    have hopp := colAt_enemy_iff.mpr ⟨k, hk⟩
    exact ⟨⟨⟨⟨ht, colAt_enemy_not_own hopp⟩, hopp⟩, hrank⟩, hty, hpc, hf, hpr, by rw [hcap, capAt_enemy hk]⟩

theorem mem_emit_pawnCapPromo (h : Rep p b) (turn : Color)
    (hfr : fr < 64) (m : Move) :
    m ∈ p.emitPromo turn .capturePromotion .pawn fr
        (pawnCaptureboard turn (bitMask fr) &&& not64 (p.pieces turn .none) &&& p.pieces turn.opp .none &&&
          pawnPromotionRank turn) ↔
      m.from = fr ∧ m.piece = .pawn ∧ m.to ∈ Spec.pawnTargets (absColor turn) fr ∧
        (∃ k, b m.to = some (turn.opp, k) ∧ m.capture = k) ∧
        Spec.rankOf m.to = Spec.lastRank (absColor turn) ∧ m.ty = .capturePromotion ∧
        m.promotion ∈ Position.promoPieces := by
  rw [mem_emitPromo (and_lt_left _ (and_lt_left _ (and_lt_left _ (pawnCaptureboard_lt turn fr)))),
    Nat.testBit_and, Bool.and_eq_true, Nat.testBit_and, Bool.and_eq_true, captureboard_testBit h turn hfr,
    promoRank_testBit, captureAt_of_rep h, h.testBit_all]
  simp only [decide_eq_true_eq, if_true]
  constructor
  · rintro ⟨⟨⟨⟨ht, hown⟩, hopp⟩, hrank⟩, hty, hpc, hf, hpr, hcap⟩
    obtain ⟨k, hk⟩ := colAt_enemy_iff.mp hopp
    exact ⟨hf, hpc, ht, ⟨k, hk, by rw [hcap, capAt_enemy hk]⟩, hrank, hty, hpr⟩
  · rintro ⟨hf, hpc, ht, ⟨k, hk, hcap⟩, hrank, hty, hpr⟩
    have hopp := colAt_enemy_iff.mpr ⟨k, hk⟩
    exact ⟨⟨⟨⟨ht, colAt_enemy_not_own hopp⟩, hopp⟩, hrank⟩, hty, hpc, hf, hpr, by rw [hcap, capAt_enemy hk]⟩

theorem mem_emit_pawnPush (h : Rep p b) (turn : Color)
    (hfr : fr < 64) (m : Move) :
    m ∈ p.emitMove turn .push .pawn fr
        (andNot (pawnMoveboard p.rotated.rot turn (bitMask fr)) (pawnPromotionRank turn)) ↔
      ((Spec.step fr 0 (Spec.fwd (absColor turn)) = some m.to ∧ b m.to = none) ∧
        Spec.rankOf m.to ≠ Spec.lastRank (absColor turn)) ∧
      m.ty = .push ∧ m.piece = .pawn ∧ m.from = fr ∧ m.promotion = .none ∧ m.capture = .none := by
  rw [mem_emitMove (andNot_lt _ (pawnMoveboard_lt _ _ _)), andNot_testBit, Bool.and_eq_true,
    pushboard_testBit h turn hfr, promoRank_testBit]
  simp only [Bool.not_eq_true', decide_eq_false_iff_not, reduceCtorEq, if_false]

theorem mem_emit_pawnPromo (h : Rep p b) (turn : Color)
    (hfr : fr < 64) (m : Move) :
    m ∈ p.emitPromo turn .promotion .pawn fr
        (pawnMoveboard p.rotated.rot turn (bitMask fr) &&& pawnPromotionRank turn) ↔
      ((Spec.step fr 0 (Spec.fwd (absColor turn)) = some m.to ∧ b m.to = none) ∧
        Spec.rankOf m.to = Spec.lastRank (absColor turn)) ∧
      m.ty = .promotion ∧ m.piece = .pawn ∧ m.from = fr ∧ m.promotion ∈ Position.promoPieces ∧
      m.capture = .none := by
  rw [mem_emitPromo (and_lt_left _ (pawnMoveboard_lt _ _ _)), Nat.testBit_and, Bool.and_eq_true,
    pushboard_testBit h turn hfr, promoRank_testBit]
  simp only [decide_eq_true_eq, reduceCtorEq, if_false]

theorem mem_emit_pawnJump (h : Rep p b) (turn : Color)
    (hfr : fr < 64) (m : Move) :
    m ∈ p.emitMove turn .jump .pawn fr
        (pawnMoveboard p.rotated.rot turn (pawnMoveboard p.rotated.rot turn (bitMask fr)) &&& pawnJumpRank turn) ↔
      m.from = fr ∧ m.piece = .pawn ∧
        (∃ t1, Spec.step fr 0 (Spec.fwd (absColor turn)) = some t1 ∧
          Spec.step t1 0 (Spec.fwd (absColor turn)) = some m.to ∧
          Spec.rankOf fr = Spec.startRank (absColor turn) ∧ b t1 = none ∧ b m.to = none) ∧
        m.ty = .jump ∧ m.promotion = .none ∧ m.capture = .none := by
  rw [mem_emitMove (and_lt_left _ (pawnMoveboard_lt _ _ _)), Nat.testBit_and, Bool.and_eq_true,
    moveboard_testBit h turn (pawnMoveboard_lt _ _ _), jumpRank_testBit, decide_eq_true_eq]
  simp only [pushboard_testBit h turn hfr, reduceCtorEq, if_false]
  constructor
  · rintro ⟨⟨⟨t1, ⟨hst1, hb1⟩, hst2, hb2⟩, hrank⟩, hty, hpc, hf, hpr, hcap⟩
    exact ⟨hf, hpc, ⟨t1, hst1, hst2, (jump_rank_iff hst1 hst2).mp hrank, hb1, hb2⟩, hty, hpr, hcap⟩
  · rintro ⟨hf, hpc, ⟨t1, hst1, hst2, hstart, hb1, hb2⟩, hty, hpr, hcap⟩
    exact ⟨⟨⟨t1, ⟨hst1, hb1⟩, hst2, hb2⟩, (jump_rank_iff hst1 hst2).mpr hstart⟩, hty, hpc, hf, hpr, hcap⟩

theorem mem_emit_pawnEP (h : Rep p b) (turn : Color)
    (hfr : fr < 64) (m : Move) :
    m ∈ (if (p.enpassant != 0) = true then
        p.emitMove turn .enPassant .pawn fr
          (pawnCaptureboard turn (bitMask fr) &&& not64 (p.pieces turn .none) &&& bitMask p.enpassant)
        else []) ↔
      m.from = fr ∧ m.piece = .pawn ∧ p.enpassant ≠ 0 ∧ m.to = p.enpassant ∧
        m.to ∈ Spec.pawnTargets (absColor turn) fr ∧ colAt b m.to turn = false ∧
        m.ty = .enPassant ∧ m.promotion = .none ∧ m.capture = .none := by
  by_cases he : p.enpassant = 0
  · simp [he]
  · have : (p.enpassant != 0) = true := by simpa using he
    rw [if_pos this, mem_emitMove (and_lt_left _ (and_lt_left _ (pawnCaptureboard_lt turn fr))),
      Nat.testBit_and, Bool.and_eq_true, captureboard_testBit h turn hfr, bitMask_testBit']
    simp only [reduceCtorEq, if_false, Bool.and_eq_true, decide_eq_true_eq]
    constructor
    · rintro ⟨⟨⟨ht, hown⟩, _, hto⟩, hty, hpc, hf, hpr, hcap⟩
      exact ⟨hf, hpc, he, hto, ht, hown, hty, hpr, hcap⟩
    · rintro ⟨hf, hpc, _, hto, ht, hown, hty, hpr, hcap⟩
      exact ⟨⟨⟨ht, hown⟩, by rw [← hto]; exact pawnTargets_lt _ _ _ ht, hto⟩, hty, hpc, hf, hpr, hcap⟩

theorem mem_genPawn (h : Rep p b)
    (hsq : b fr = some (turn, .pawn)) (m : Move) :
    m ∈ genPawn p turn fr ↔ m.from = fr ∧ PawnMove b p.enpassant turn m := by
  have hfr : fr < 64 := h.lt_of_some hsq
  unfold genPawn PawnMove
  simp only [List.mem_append]
  rw [mem_emit_pawnCapture h turn hfr, mem_emit_pawnPush h turn hfr, mem_emit_pawnJump h turn hfr,
    mem_emit_pawnCapPromo h turn hfr, mem_emit_pawnPromo h turn hfr, mem_emit_pawnEP h turn hfr]
  constructor
  · rintro (((((hA | hA) | hA) | hA) | hA) | hA)
    · obtain ⟨hf, hpc, ht, ⟨k, hk, hcap⟩, hrank, hty, hpr⟩ := hA
      subst hf
      exact ⟨rfl, hsq, hpc, Or.inr (Or.inr (Or.inl ⟨ht, k, hk, hcap, Or.inl ⟨hrank, hty, hpr⟩⟩))⟩
    · obtain ⟨⟨⟨hst, hb⟩, hrank⟩, hty, hpc, hf, hpr, hcap⟩ := hA
      subst hf
      exact ⟨rfl, hsq, hpc, Or.inl ⟨hst, hb, hcap, Or.inl ⟨hrank, hty, hpr⟩⟩⟩
    · obtain ⟨hf, hpc, ⟨t1, hst1, hst2, hstart, hb1, hb2⟩, hty, hpr, hcap⟩ := hA
      subst hf
      exact ⟨rfl, hsq, hpc, Or.inr (Or.inl ⟨t1, hst1, hst2, hstart, hb1, hb2, hty, hpr, hcap⟩)⟩
    · obtain ⟨hf, hpc, ht, ⟨k, hk, hcap⟩, hrank, hty, hpr⟩ := hA
      subst hf
      exact ⟨rfl, hsq, hpc, Or.inr (Or.inr (Or.inl ⟨ht, k, hk, hcap, Or.inr ⟨hrank, hty, hpr⟩⟩))⟩
    · obtain ⟨⟨⟨hst, hb⟩, hrank⟩, hty, hpc, hf, hpr, hcap⟩ := hA
      subst hf
      exact ⟨rfl, hsq, hpc, Or.inl ⟨hst, hb, hcap, Or.inr ⟨hrank, hty, hpr⟩⟩⟩
    · obtain ⟨hf, hpc, he, hto, ht, hown, hty, hpr, hcap⟩ := hA
      subst hf
      exact ⟨rfl, hsq, hpc, Or.inr (Or.inr (Or.inr ⟨he, hto, ht, hown, hty, hpr, hcap⟩))⟩
  · rintro ⟨hf, _, hpc, hk⟩
    subst hf
    rcases hk with ⟨hst, hb, hcap, hr | hr⟩ | ⟨t1, hst1, hst2, hstart, hb1, hb2, hty, hpr, hcap⟩ |
      ⟨ht, k, hk, hcap, hr | hr⟩ | ⟨he, hto, ht, hown, hty, hpr, hcap⟩
    · exact Or.inl (Or.inl (Or.inl (Or.inl (Or.inr ⟨⟨⟨hst, hb⟩, hr.1⟩, hr.2.1, hpc, rfl, hr.2.2, hcap⟩))))
    · exact Or.inl (Or.inr ⟨⟨⟨hst, hb⟩, hr.1⟩, hr.2.1, hpc, rfl, hr.2.2, hcap⟩)
    · exact Or.inl (Or.inl (Or.inl (Or.inr ⟨rfl, hpc, ⟨t1, hst1, hst2, hstart, hb1, hb2⟩, hty, hpr, hcap⟩)))
    · exact Or.inl (Or.inl (Or.inl (Or.inl (Or.inl ⟨rfl, hpc, ht, ⟨k, hk, hcap⟩, hr.1, hr.2.1, hr.2.2⟩))))
    · exact Or.inl (Or.inl (Or.inr ⟨rfl, hpc, ht, ⟨k, hk, hcap⟩, hr.1, hr.2.1, hr.2.2⟩))
    · exact Or.inr ⟨rfl, hpc, he, hto, ht, hown, hty, hpr, hcap⟩

theorem mem_genPawns (h : Rep p b) (turn : Color) (m : Move) :
    m ∈ genPawns p turn ↔ PawnMove b p.enpassant turn m := by
  unfold genPawns
  simp only [List.mem_flatMap]
  constructor
  · rintro ⟨fr, hfr, hm⟩
    exact ((mem_genPawn h ((h.mem_toSquares_pieces turn (by simp) fr).mp hfr) m).mp hm).2
  · intro hm
    exact ⟨m.from, (h.mem_toSquares_pieces turn (by simp) _).mpr hm.1, (mem_genPawn h hm.1 m).mpr ⟨rfl, hm⟩⟩

end Morlock.Proofs.Gen
