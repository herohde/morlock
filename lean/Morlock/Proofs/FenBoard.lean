import Morlock.Proofs.FenRank
import Morlock.Proofs.Rep
/-!
# The placement field: eight ranks

A board is handled as a grid `rows : List (List Cell)` (rank 8 first, a-file first), the way the FEN
text presents it. `boardOf rows` is the mailbox board of a grid, `rowsOf b` the grid of a board;
`plRows 63 rows` the placement list the decoder hands to `NewPosition`.
-/
namespace Morlock.Proofs.Fen
open Morlock Morlock.Model Morlock.Model.Fen Morlock.Proofs

/-- What the placement loop adds to its accumulator: real pieces on squares that strictly descend from the cursor. -/
theorem placements_desc (cs : List Char) (sq : Int) (acc : List (Nat × Color × Piece)) (sq' : Int)
    (out : List (Nat × Color × Piece)) (h : placements cs sq acc = some (sq', out)) :
    ∃ tail, out = acc.reverse ++ tail ∧ (∀ x ∈ tail, (x.1 : Int) ≤ sq ∧ x.2.2 ≠ Piece.none) ∧
      tail.Pairwise fun x y => y.1 < x.1 := by
  induction cs generalizing sq acc with
  | nil =>
    simp only [placements, Option.some.injEq, Prod.mk.injEq] at h
    exact ⟨[], by simp [h.2.symm], fun _ hx => (by cases hx), List.Pairwise.nil⟩
  | cons r rs ih =>
    unfold placements at h
    split at h
    · exact ih sq acc h
    · split at h
      · obtain ⟨tail, h1, h2, h3⟩ := ih _ acc h
        exact ⟨tail, h1, fun x hx => ⟨by have := (h2 x hx).1; omega, (h2 x hx).2⟩, h3⟩
      · split at h
        · cases h
        · rename_i c k hck
          split at h
          · cases h
          · obtain ⟨tail, h1, h2, h3⟩ := ih (sq - 1) ((sq.toNat, c, k) :: acc) h
            refine ⟨(sq.toNat, c, k) :: tail, by simp [h1], ?_, List.pairwise_cons.2 ⟨?_, h3⟩⟩
            · intro x hx
              rcases List.mem_cons.mp hx with rfl | hx
              · exact ⟨by simp only; omega, (printPiece_parsePiece hck).2⟩
              · exact ⟨by have := (h2 x hx).1; omega, (h2 x hx).2⟩
            · intro y hy
              have := (h2 y hy).1
              show y.1 < sq.toNat
              omega

theorem placements_valid {cs : List Char} {sq' : Int} {out : List (Nat × Color × Piece)}
    (h : placements cs 63 [] = some (sq', out)) : ValidPlacements out ∧ (out.map (·.1)).Nodup := by
  obtain ⟨tail, h1, h2, h3⟩ := placements_desc cs 63 [] sq' out h
  simp only [List.reverse_nil, List.nil_append] at h1
  subst h1
  exact ⟨fun x hx => ⟨by have := (h2 x hx).1; omega, (h2 x hx).2⟩,
    List.pairwise_map.2 (h3.imp fun h => Nat.ne_of_gt h)⟩

/-- Eight rows of eight cells. -/
def Grid (rows : List (List Cell)) : Prop := rows.length = 8 ∧ ∀ row ∈ rows, row.length = 8

def GridWF (rows : List (List Cell)) : Prop := ∀ row ∈ rows, CellsWF row

/-- Placement list of a grid, first row starting on `sq`, each row eight squares lower. -/
def plRows : Int → List (List Cell) → List (Nat × Color × Piece)
  | _, [] => []
  | sq, row :: rows => piecesOf sq row ++ plRows (sq - 8) rows

/-- The mailbox board of a grid: row `r`, column `f` is square `63 - 8 r - f`. -/
def boardOf (rows : List (List Cell)) : Board :=
  fun s => if s < 64 then (rows.getD ((63 - s) / 8) []).getD ((63 - s) % 8) none else none

theorem exists_nat_iff (P : Nat → Prop) : (∃ i, P i) ↔ P 0 ∨ ∃ i, P (i + 1) :=
  ⟨fun ⟨i, h⟩ => by cases i with | zero => exact Or.inl h | succ j => exact Or.inr ⟨j, h⟩,
   fun h => h.elim (fun h => ⟨0, h⟩) fun ⟨i, h⟩ => ⟨i + 1, h⟩⟩

theorem mem_piecesOf {s : Nat} {c : Color} {k : Piece} {sq : Int} {cells : List Cell} :
    (s, c, k) ∈ piecesOf sq cells ↔ ∃ i, cells.getD i none = some (c, k) ∧ s = (sq - (i : Int)).toNat := by
  induction cells generalizing sq with
  | nil => simp [piecesOf]
  | cons cell cs ih =>
    -- the first cell apart, the others one square lower
    have e : ∀ i : Nat, sq - ((i : Int) + 1) = sq - 1 - i := fun i => by omega
    rw [exists_nat_iff]
    simp only [List.getD_cons_zero, List.getD_cons_succ, Int.natCast_zero, Int.sub_zero, Int.natCast_succ, e]
    cases cell with
    | none => rw [piecesOf, ih]; simp
    | some x =>
      obtain ⟨c', k'⟩ := x
      rw [piecesOf, List.mem_cons, ih]
      simp only [Prod.mk.injEq, Option.some.injEq]
      exact or_congr_left ⟨fun ⟨a, b, d⟩ => ⟨⟨b.symm, d.symm⟩, a⟩, fun ⟨⟨b, d⟩, a⟩ => ⟨a, b.symm, d.symm⟩⟩

theorem mem_plRows {s : Nat} {c : Color} {k : Piece} {sq : Int} {rows : List (List Cell)} :
    (s, c, k) ∈ plRows sq rows ↔
      ∃ r i, (rows.getD r []).getD i none = some (c, k) ∧ s = (sq - 8 * (r : Int) - (i : Int)).toNat := by
  induction rows generalizing sq with
  | nil => simp [plRows]
  | cons row rows ih =>
    have e : ∀ r : Nat, sq - 8 * ((r : Int) + 1) = sq - 8 - 8 * r := fun r => by omega
    rw [exists_nat_iff, plRows, List.mem_append, mem_piecesOf, ih]
    simp only [List.getD_cons_zero, List.getD_cons_succ, Int.natCast_zero, Int.mul_zero, Int.sub_zero,
      Int.natCast_succ, e]

theorem getD_of_le {α : Type} {l : List α} {d : α} {i : Nat} (h : l.length ≤ i) : l.getD i d = d := by
  rw [List.getD_eq_getElem?_getD, List.getElem?_eq_none h]; rfl

theorem Grid.row_length {rows : List (List Cell)} (hg : Grid rows) {r : Nat} (hr : r < 8) :
    (rows.getD r []).length = 8 := by
  have hlt : r < rows.length := by rw [hg.1]; exact hr
  rw [List.getD_eq_getElem?_getD, List.getElem?_eq_getElem hlt]
  exact hg.2 _ (List.getElem_mem hlt)

theorem boardOf_grid (rows : List (List Cell)) {r f : Nat} (hr : r < 8) (hf : f < 8) :
    boardOf rows (63 - 8 * r - f) = (rows.getD r []).getD f none := by
  unfold boardOf
  have hn : 8 * r + f ≤ 63 := by omega
  rw [if_pos (by omega), Nat.sub_sub, Nat.sub_sub_self hn, Nat.mul_add_div (by decide), Nat.div_eq_of_lt hf,
    Nat.add_zero, Nat.mul_add_mod, Nat.mod_eq_of_lt hf]

theorem mem_plRows_iff {rows : List (List Cell)} (hg : Grid rows) {s : Nat} {c : Color} {k : Piece} :
    (s, c, k) ∈ plRows 63 rows ↔ boardOf rows s = some (c, k) := by
  rw [mem_plRows]
  constructor
  · rintro ⟨r, i, h1, h2⟩
    have hr : r < 8 := by
      apply Classical.byContradiction; intro hn
      rw [getD_of_le (l := rows) (by rw [hg.1]; omega)] at h1
      simp at h1
    have hi : i < 8 := by
      apply Classical.byContradiction; intro hn
      rw [getD_of_le (by rw [hg.row_length hr]; omega)] at h1
      cases h1
    rw [show s = 63 - 8 * r - i by omega, boardOf_grid rows hr hi]
    exact h1
  · intro h
    unfold boardOf at h
    split at h
    · exact ⟨(63 - s) / 8, (63 - s) % 8, h, by omega⟩
    · cases h

theorem placeAll_plRows {rows : List (List Cell)} (hg : Grid rows)
    (hnd : ((plRows 63 rows).map (·.1)).Nodup) : placeAll emptyBoard (plRows 63 rows) = boardOf rows := by
  funext s
  cases hb : boardOf rows s with
  | none =>
    rw [placeAll_not_mem]
    · rfl
    · intro hm
      obtain ⟨⟨s', c, k⟩, hx, e⟩ := List.mem_map.mp hm
      simp only at e
      subst e
      rw [(mem_plRows_iff hg).mp hx] at hb
      cases hb
  | some x =>
    obtain ⟨c, k⟩ := x
    exact placeAll_mem hnd ((mem_plRows_iff hg).mpr hb)

/-- What follows the first rank. -/
def tailSlash : List (List Char) → List Char
  | [] => []
  | x :: rest => '/' :: (x ++ tailSlash rest)

theorem intercalate_slash (x : List Char) (rest : List (List Char)) :
    List.intercalate ['/'] (x :: rest) = x ++ tailSlash rest := by
  induction rest generalizing x with
  | nil => simp [List.intercalate, tailSlash]
  | cons y ys ih =>
    have := ih y
    simp only [List.intercalate, List.intersperse_cons_cons, List.flatten_cons] at this ⊢
    rw [this]
    simp [tailSlash]

/-- Every rank string consists of digits `1`–`8` and piece letters and describes eight squares. -/
def RanksOK (rks : List (List Char)) : Prop := ∀ rk ∈ rks, RankChars rk ∧ (cellsOf rk).length = 8

theorem placements_tailSlash (rks : List (List Char)) (acc : List (Nat × Color × Piece))
    (hok : RanksOK rks) :
    placements (tailSlash rks) (8 * (rks.length : Int) - 1) acc =
      some (-1, (plRows (8 * (rks.length : Int) - 1) (rks.map cellsOf)).reverse ++ acc |>.reverse) := by
  induction rks generalizing acc with
  | nil => simp [tailSlash, placements, plRows]
  | cons rk rest ih =>
    obtain ⟨hc, hw⟩ := hok rk (List.mem_cons_self ..)
    have hrest : RanksOK rest := fun x hx => hok x (List.mem_cons_of_mem _ hx)
    rw [tailSlash, placements, if_pos rfl, placements_rank rk _ _ _ hc (by rw [hw]; simp only [List.length_cons]; omega)]
    have e : (8 * ((rk :: rest).length : Int) - 1 - ((cellsOf rk).length : Int)) = 8 * (rest.length : Int) - 1 := by
      rw [hw]; simp only [List.length_cons]; omega
    rw [e, ih _ hrest]
    simp only [List.map_cons, plRows, List.reverse_append, List.append_assoc]
    have e2 : (8 * ((rk :: rest).length : Int) - 1 - 8) = 8 * (rest.length : Int) - 1 := by
      simp only [List.length_cons]; omega
    rw [e2]

theorem placements_board (rks : List (List Char)) (hlen : rks.length = 8) (hok : RanksOK rks) :
    placements (List.intercalate ['/'] rks) 63 [] = some (-1, plRows 63 (rks.map cellsOf)) := by
  cases rks with
  | nil => cases hlen
  | cons rk rest =>
    -- a leading `/` is skipped
    have h := placements_tailSlash (rk :: rest) [] hok
    rw [tailSlash, placements, if_pos rfl, ← intercalate_slash, hlen] at h
    simpa using h

/-- The eight cells of rank row `r` of board `b` in `Encode`'s order. -/
def rowOf (b : Board) (r : Nat) : List Cell :=
  (List.range 8).map fun f => b (newSquare (8 - f - 1) (8 - r - 1))

def rowsOf (b : Board) : List (List Cell) := (List.range 8).map (rowOf b)

theorem newSquare_grid : ∀ r, r < 8 → ∀ f, f < 8 → newSquare (8 - f - 1) (8 - r - 1) = 63 - 8 * r - f := by
  decide +kernel

theorem getD_map_range {α : Type} (g : Nat → α) (d : α) {n i : Nat} (h : i < n) :
    ((List.range n).map g).getD i d = g i := by
  rw [List.getD_eq_getElem?_getD, List.getElem?_map, List.getElem?_range h]; rfl

theorem rowsOf_grid (b : Board) : Grid (rowsOf b) := by
  refine ⟨by simp [rowsOf], ?_⟩
  intro row hrow
  obtain ⟨r, _, e⟩ := List.mem_map.mp hrow
  rw [← e]; simp [rowOf]

theorem rowsOf_getD (b : Board) {r f : Nat} (hr : r < 8) (hf : f < 8) :
    ((rowsOf b).getD r []).getD f none = b (63 - 8 * r - f) := by
  unfold rowsOf
  rw [getD_map_range _ _ hr]
  unfold rowOf
  rw [getD_map_range _ _ hf, newSquare_grid r hr f hf]

theorem boardOf_rowsOf (b : Board) (hout : ∀ s, 64 ≤ s → b s = none) : boardOf (rowsOf b) = b := by
  funext s
  unfold boardOf
  split
  · rename_i hs
    rw [rowsOf_getD b (by omega) (Nat.mod_lt _ (by decide))]
    congr 1; omega
  · exact (hout s (by omega)).symm

theorem map_range_getD {α : Type} (l : List α) (d : α) {n : Nat} (h : l.length = n) :
    (List.range n).map (fun i => l.getD i d) = l := by
  apply List.ext_getElem
  · simp [h]
  · intro i h1 h2
    simp only [List.getElem_map, List.getElem_range]
    rw [List.getD_eq_getElem?_getD, List.getElem?_eq_getElem h2]; rfl

theorem rowsOf_boardOf {rows : List (List Cell)} (hg : Grid rows) : rowsOf (boardOf rows) = rows := by
  have hrow : ∀ r, r < 8 → rowOf (boardOf rows) r = rows.getD r [] := fun r hr =>
    (List.map_congr_left fun f hf => by
      rw [newSquare_grid r hr f (List.mem_range.mp hf), boardOf_grid rows hr (List.mem_range.mp hf)]).trans
      (map_range_getD _ _ (hg.row_length hr))
  exact (List.map_congr_left fun r hr => hrow r (List.mem_range.mp hr)).trans (map_range_getD _ _ hg.1)

theorem rowsOf_wf {b : Board} (hwf : ∀ sq c, b sq ≠ some (c, Piece.none)) : GridWF (rowsOf b) := by
  intro row hrow c k hm
  obtain ⟨r, _, e⟩ := List.mem_map.mp hrow
  subst e
  obtain ⟨f, _, e⟩ := List.mem_map.mp hm
  intro hk
  subst hk
  exact hwf _ c e

/-- The placement field `Encode` writes for board `b`. -/
def boardStr (b : Board) : String :=
  String.intercalate "/" ((List.range 8).map fun r => rankStrOf (rowOf b r))

theorem boardStr_toList (b : Board) :
    (boardStr b).toList = List.intercalate ['/'] ((rowsOf b).map (enc 0)) := by
  unfold boardStr rowsOf
  rw [String.toList_intercalate, List.map_map, List.map_map]
  exact congrArg _ (List.map_congr_left fun r _ => rankStrOf_toList _)

theorem ranksOK_enc {rows : List (List Cell)} (hg : Grid rows) (hwf : GridWF rows) :
    RanksOK (rows.map (enc 0)) ∧ (rows.map (enc 0)).map cellsOf = rows := by
  have hc : ∀ row ∈ rows, cellsOf (enc 0 row) = row := by
    intro row hrow
    have := cellsOf_enc row 0 (hwf row hrow) (by rw [hg.2 row hrow]; omega)
    simpa using this
  constructor
  · intro rk hrk
    obtain ⟨row, hrow, e⟩ := List.mem_map.mp hrk
    subst e
    exact ⟨canonRank_chars (canonRank_enc row 0 (hwf row hrow) (by rw [hg.2 row hrow]; omega)), by rw [hc row hrow, hg.2 row hrow]⟩
  · rw [List.map_map]
    exact (List.map_congr_left hc).trans (List.map_id _)

theorem placements_enc {rows : List (List Cell)} (hg : Grid rows) (hwf : GridWF rows) :
    placements (List.intercalate ['/'] (rows.map (enc 0))) 63 [] = some (-1, plRows 63 rows) := by
  obtain ⟨hok, hid⟩ := ranksOK_enc hg hwf
  have := placements_board (rows.map (enc 0)) (by simp [hg.1]) hok
  rwa [hid] at this

theorem grid_of_ranks {rks : List (List Char)} (hlen : rks.length = 8) (hok : RanksOK rks) :
    Grid (rks.map cellsOf) ∧ GridWF (rks.map cellsOf) := by
  refine ⟨⟨by simp [hlen], ?_⟩, ?_⟩
  · intro row hrow
    obtain ⟨rk, hrk, e⟩ := List.mem_map.mp hrow
    rw [← e]; exact (hok rk hrk).2
  · intro row hrow
    obtain ⟨rk, _, e⟩ := List.mem_map.mp hrow
    rw [← e]; exact cellsOf_wf rk

end Morlock.Proofs.Fen
