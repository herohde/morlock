import Morlock.Proofs.ChainReach
import Morlock.Proofs.GenExample
/-!
# Chain: the initial position and "Kiwipete" satisfy `WFplay`; plain `WF` is not preserved
-/
namespace Morlock.Proofs.Chain
open Morlock Morlock.Model Morlock.Proofs Morlock.Proofs.Gen

theorem startPos_wfplay : WFplay startPos .white := ⟨startPos_wf, by rw [startPos_val]; decide +kernel⟩

theorem kiwiPos_wfplay : WFplay kiwiPos .white ∧ WFplay kiwiPos .black :=
  ⟨⟨kiwiPos_wf.1, kiwiPos_notChecked.2⟩, ⟨kiwiPos_wf.2, kiwiPos_notChecked.1⟩⟩

/-- White king e1, black king e8 with both black castling rights, white queen e7 — White to move while Black
is in check. It satisfies `WF` (C01), but not `WFplay`. -/
def badPl : List (Nat × Color × Piece) := [(3, .white, .king), (59, .black, .king), (51, .white, .queen)]
def badPos : Position := (Position.newPosition badPl 12 0).getD {}
/-- Qe7xe8, capturing the king. -/
def badMove : Move := { ty := .capture, «from» := 51, to := 59, piece := .queen, capture := .king }

theorem badPos_wf : WF badPos .white :=
  ⟨(newPosition_rep (validPlacements_of_all (by decide))
    (eq_some_getD_of_isSome _ (by decide +kernel))).1.self, by decide +kernel⟩

/-- **`WF` alone is not preserved** by generated moves that `Position.move` accepts: in `badPos` the generator
emits Qxe8 (the capture of the king), `Position.move` accepts it, and the result violates `WF` — Black keeps
its castling rights with a white queen on e8 (`KingHome` fails). The extra clause of `WFplay` ("the side not
to move is not in check") is what excludes this. -/
theorem wf_not_preserved : ∃ (p q : Position) (m : Move),
    WF p .white ∧ m ∈ p.pseudoLegalMoves .white ∧ p.move m = some q ∧ ¬ WF q .black ∧
      p.isChecked .black = true := by
  have h : badMove ∈ badPos.pseudoLegalMoves .white ∧ badPos.isChecked .black = true ∧
      (badPos.move badMove).map (fun r => WFc r .black) = some false := by decide +kernel
  cases hq : badPos.move badMove with
  | none => rw [hq] at h; cases h.2.2
  | some q =>
    rw [hq] at h
    refine ⟨badPos, q, badMove, badPos_wf, h.1, hq, fun hw => ?_, h.2.1⟩
    have h2 : WFc q .black = false := Option.some.inj h.2.2
    rw [hw.2] at h2
    cases h2

end Morlock.Proofs.Chain
