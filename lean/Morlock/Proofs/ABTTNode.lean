import Morlock.Proofs.ABTTRef
/-!
# `alphabeta` with a transposition table and with cancellation

By induction on the depth, `alphabeta` satisfies the node contract `RecTT` for every table invariant that is `TableOK`:
the invariant is kept whatever happens (also when the search is cancelled at any poll), and a search that is still
live at its end returns the clipped negamax value and a sound PV. The two instances are the sound table and no table
at all.
-/
namespace Morlock.Proofs.AB
open Morlock Morlock.Model Morlock.Model.Score Morlock.Spec
open Morlock.Props.C09
variable {P : Type}

/-- What `alphabeta` does at depth 0 after `abEnter` let it pass. -/
def leafBody (g : Game P) (le : LeafEval P) (p : P) (a b : Score) (st : SState) : Score × List Move × SState :=
  let (score, st) := quietSearch g le p a b st
  let (c, st) := poll st
  if c then (invalidScore, [], st) else
  let st := if a.less score && score.less b
    then { st with tt := (st.tt.write (g.hash p) 0 (g.ply p) 0 score {}).1 } else st
  (score, [], st)

/-- What `alphabeta` does at depth `d + 1` after `abEnter` let it pass with table move `best`. -/
def abBody (g : Game P) (ex : P → Explore) (le : LeafEval P) (rootPly : Int) (d : Nat) (p : P) (a b : Score)
    (best : Move) (st : SState) : Score × List Move × SState :=
  let st := { st with nodes := st.nodes + 1 }
  let order := heapOrder (g.moves p) (firstPrio best (ex p).prio)
  let (alpha, pv, hasLegal, wasCut, st) := abLoop g ex (alphabeta g ex le rootPly d) p b order a [] false st
  let (c, st) := poll st
  if c then (invalidScore, [], st) else
  if !hasLegal then ((if g.inCheck p then negInfScore else zeroScore), [], st) else
  let st := if !wasCut && !pv.isEmpty
    then { st with tt := (st.tt.write (g.hash p) 0 (g.ply p) ((d + 1 : Nat) : Int) alpha (firstOrNone pv)).1 } else st
  (alpha, pv, st)

theorem alphabeta_zero_eq (g : Game P) (ex : P → Explore) (le : LeafEval P) (rootPly : Int) (p : P) (a b : Score)
    (st : SState) :
    alphabeta g ex le rootPly 0 p a b st =
      match abEnter g rootPly 0 p st with
      | .inl r => r
      | .inr (_, st) => leafBody g le p a b st := by
  rw [Det.alphabeta_zero]
  cases abEnter g rootPly 0 p st <;> rfl

theorem alphabeta_succ_eq (g : Game P) (ex : P → Explore) (le : LeafEval P) (rootPly : Int) (d : Nat) (p : P)
    (a b : Score) (st : SState) :
    alphabeta g ex le rootPly (d + 1) p a b st =
      match abEnter g rootPly (d + 1) p st with
      | .inl r => r
      | .inr (best, st) => abBody g ex le rootPly d p a b best st := by
  rw [Det.alphabeta_succ]
  cases abEnter g rootPly (d + 1) p st with
  | inl r => rfl
  | inr r =>
    -- with the loop's result a variable, `rfl` compares the projections without looking into the loop
    simp only [Sum.elim_inr, abBody]
    generalize abLoop g ex (alphabeta g ex le rootPly d) p b _ a [] false _ = L
    rfl

/-- `abEnter` under a table invariant: either it answers at once (cancelled, draw, exact table hit below the root)
    with an empty PV and, if the poll was live, the exact value; or it lets the search proceed from the ticked
    state, which is live, at a position that is not adjudicated drawn. -/
theorem abEnter_tt {g : Game P} {ex : P → Explore} {le : LeafEval P} {rootPly : Int} {R : Nat → P → Prop}
    {Inv : TTState → Prop} (T : TableOK g ex le rootPly R Inv)
    (depth : Nat) (p : P) (hp : R depth p) (st : SState) (hs : Inv st.tt) :
    (∃ s, abEnter g rootPly depth p st = .inl (s, [], tick st) ∧
      (Live (tick st) → s = V g ex le rootPly depth p)) ∨
    (∃ best, abEnter g rootPly depth p st = .inr (best, tick st) ∧ Live (tick st) ∧
      (!(g.ply p == rootPly) && g.isDraw p) = false) := by
  simp only [abEnter, poll_eq]
  by_cases hc : cancelled st = true
  · simp only [hc, if_true]
    exact Or.inl ⟨_, rfl, fun hl => absurd hl (not_live_of_cancelled hc)⟩
  · have hc' : cancelled st = false := by simpa using hc
    have hlive : Live (tick st) := (cancelled_false_iff st).1 hc'
    simp only [hc', Bool.false_eq_true, if_false]
    by_cases hd : (!(g.ply p == rootPly) && g.isDraw p) = true
    · simp only [hd, if_true]
      exact Or.inl ⟨_, rfl, fun _ => by cases depth <;> simp only [V, hd, if_true]⟩
    · have hd' : (!(g.ply p == rootPly) && g.isDraw p) = false := by simpa using hd
      simp only [hd', Bool.false_eq_true, if_false]
      cases hread : (tick st).tt.read (g.hash p) with
      | none => exact Or.inr ⟨_, rfl, hlive, trivial⟩
      | some e =>
        dsimp only
        by_cases hhit : (!(g.ply p == rootPly) && depth == e.depth && e.bound == 0) = true
        · simp only [hhit, if_true]
          simp only [Bool.and_eq_true, beq_iff_eq] at hhit
          exact Or.inl ⟨_, rfl, fun _ => T.hit hs hp hread hhit.1.2.symm hhit.2⟩
        · simp only [hhit, Bool.false_eq_true, if_false]
          exact Or.inr ⟨_, rfl, hlive, trivial⟩

theorem node_answer {g : Game P} {ex : P → Explore} {le : LeafEval P} {rootPly : Int} {Inv : TTState → Prop} {n d : Nat}
    {p : P} {a b s : Score} {st : SState} (hs : Inv st.tt) (hV : okN n (V g ex le rootPly d p))
    (hsV : Live (tick st) → s = V g ex le rootPly d p) :
    NodeOK Inv n (V g ex le rootPly d p) (PathOK g ex le rootPly d p) a b st (s, [], tick st) :=
  ⟨mono_tick st, hs, fun hl => by
    rw [hsV hl]; exact ⟨hV, Or.inl rfl, fun _ => clip_self _ _ _, pathOK_nil _ _ _ _ _ _ _⟩⟩

theorem quietSearch_tt {g : Game P} (hev : EvalOk g) (le : LeafEval P) (K : Nat) (hK : leafGrade le ≤ K)
    (hK127 : K ≤ 127) (p : P) (a b : Score) (st : SState) (ha : okN K a) (hb : okN K b) :
    Same st (quietSearch g le p a b st).2 ∧
    (Live (quietSearch g le p a b st).2 →
      okN K (quietSearch g le p a b st).1 ∧
      ((quietSearch g le p a b st).1 = leafV g le p ∨ rank a ≤ rank (quietSearch g le p a b st).1) ∧
      (rank a < rank b → Clip (rank a) (rank b) (rank (leafV g le p)) (rank (quietSearch g le p a b st).1))) := by
  cases le with
  | static =>
    simp only [quietSearch, leafV]
    exact ⟨⟨rfl, rfl, Nat.le_refl _⟩, fun _ => ⟨okN_mono (okN_heuristic (hev p).1 (hev p).2) (by omega),
      Or.inl trivial, fun _ => clip_self _ _ _⟩⟩
  | quiescence ex' fuel =>
    have hfK : fuel ≤ K := hK
    have e : K - fuel + fuel = K := by omega
    have HQ := quiesce_recTT hev ex' (fun _ => True) (K - fuel) fuel (by omega)
    rw [e] at HQ
    obtain ⟨_, _, q⟩ := HQ.node p a b st trivial trivial (fun _ => ⟨ha, hb⟩)
    simp only [wrapQ] at q
    simp only [quietSearch, leafV]
    refine ⟨quiesce_same g ex' fuel p a b st, fun hl => ?_⟩
    obtain ⟨q1, q2, q3, _⟩ := q hl
    exact ⟨q1, q2, q3⟩

theorem leafBody_tt {g : Game P} (hev : EvalOk g) {ex : P → Explore} {le : LeafEval P} {rootPly : Int}
    {R : Nat → P → Prop} {Inv : TTState → Prop} (T : TableOK g ex le rootPly R Inv)
    (K : Nat) (hK : leafGrade le ≤ K) (hK127 : K ≤ 127)
    (p : P) (hp : R 0 p) (a b : Score) (st : SState) (hs : Inv st.tt) (ha : okN K a) (hb : okN K b)
    (hdraw : (!(g.ply p == rootPly) && g.isDraw p) = false) :
    ∀ r, leafBody g le p a b st = r →
      NodeOK Inv K (V g ex le rootPly 0 p) (PathOK g ex le rootPly 0 p) a b st r := by
  intro r hr
  simp only [leafBody, poll_eq] at hr
  obtain ⟨hsame, hq⟩ := quietSearch_tt hev le K hK hK127 p a b st ha hb
  generalize quietSearch g le p a b st = qs at hr hsame hq
  have hV : V g ex le rootPly 0 p = leafV g le p := by
    rw [V]; simp only [hdraw, Bool.false_eq_true, if_false]
  rw [hV]
  have hstt : Inv (tick qs.2).tt := by rw [show (tick qs.2).tt = st.tt from hsame.1]; exact hs
  have hmono : Mono st (tick qs.2) := hsame.2.trans (mono_tick _)
  by_cases hc : cancelled qs.2 = true
  · simp only [hc, if_true] at hr
    subst hr
    exact ⟨hmono, hstt, fun hl => absurd hl (not_live_of_cancelled hc)⟩
  · have hc' : cancelled qs.2 = false := by simpa using hc
    have hlive : Live (tick qs.2) := (cancelled_false_iff _).1 hc'
    obtain ⟨q1, q2, q3⟩ := hq ((mono_tick _).live hlive)
    simp only [hc', Bool.false_eq_true, if_false] at hr
    by_cases hcond : (a.less qs.1 && qs.1.less b) = true
    · simp only [hcond, if_true] at hr
      subst hr
      refine ⟨⟨hmono.1, hmono.2⟩, ?_, fun _ => ⟨q1, q2, q3, pathOK_nil _ _ _ _ _ _ _⟩⟩
      simp only [Bool.and_eq_true] at hcond
      have h1 := (lt_iff_rank _ _ ha.1 q1.1).1 hcond.1
      have h2 := (lt_iff_rank _ _ q1.1 hb.1).1 hcond.2
      obtain ⟨c1, c2, c3⟩ := q3 (by omega)
      have hex : qs.1 = leafV g le p := by
        apply rank_injective _ _ q1.1 (leafV_ok hev le p (by omega)).1
        by_cases x1 : rank (leafV g le p) ≤ rank a
        · have := c2 x1; omega
        · by_cases x2 : rank b ≤ rank (leafV g le p)
          · have := c3 x2; omega
          · exact c1 ⟨by omega, by omega⟩
      rw [hex, ← hV]
      exact T.store (g.ply p) {} hstt hp (by decide)
    · simp only [hcond, Bool.false_eq_true, if_false] at hr
      subst hr
      exact ⟨hmono, hstt, fun _ => ⟨q1, q2, q3, pathOK_nil _ _ _ _ _ _ _⟩⟩

theorem abBody_tt {g : Game P} (hev : EvalOk g) {ex : P → Explore} {le : LeafEval P} {rootPly : Int}
    {R : Nat → P → Prop} {Inv : TTState → Prop} (hcl : Closed g ex R) (T : TableOK g ex le rootPly R Inv)
    (K : Nat) (hK : leafGrade le ≤ K) (d : Nat) (hKd : K + d + 1 ≤ 127)
    (IH : RecTT Inv (R d) (K + d) (V g ex le rootPly d) (PathOK g ex le rootPly d) (alphabeta g ex le rootPly d))
    (p : P) (hp : R (d + 1) p) (a b : Score) (best : Move) (st : SState) (hs : Inv st.tt)
    (ha : okN (K + d + 1) a) (hb : okN (K + d + 1) b)
    (hdraw : (!(g.ply p == rootPly) && g.isDraw p) = false) :
    ∀ r, abBody g ex le rootPly d p a b best st = r →
      NodeOK Inv (K + d + 1) (V g ex le rootPly (d + 1) p) (PathOK g ex le rootPly (d + 1) p) a b st r ∧
      (Live r.2.2 → legalAny g p (g.moves p) = true → r.2.1 = [] → r.1 = a) := by
  intro r hr
  simp only [abBody, poll_eq] at hr
  have hperm := ABHeap.heapOrder_perm (g.moves p) (firstPrio best (ex p).prio)
  obtain ⟨hm, hi, hpost⟩ := abLoop_tt (g := g) (ex := ex) (p := p) IH (by omega) (b := b)
    (heapOrder (g.moves p) (firstPrio best (ex p).prio))
    (fun m hm c hpush hpk => hcl d p m c hp (hperm.mem_iff.1 hm) hpk hpush)
    a [] false { st with nodes := st.nodes + 1 } hs
    (fun _ => ⟨ha, hb⟩) _ rfl
  generalize abLoop g ex (alphabeta g ex le rootPly d) p b (heapOrder (g.moves p) (firstPrio best (ex p).prio)) a []
    false { st with nodes := st.nodes + 1 } = res at hr hm hi hpost
  have hmono : Mono st (tick res.2.2.2.2) := Mono.trans (s2 := res.2.2.2.2) ⟨hm.1, hm.2⟩ (mono_tick _)
  have hstt : Inv (tick res.2.2.2.2).tt := hi
  by_cases hc : cancelled res.2.2.2.2 = true
  · simp only [hc, if_true] at hr
    subst hr
    exact ⟨⟨hmono, hstt, fun hl => absurd hl (not_live_of_cancelled hc)⟩,
      fun hl => absurd hl (not_live_of_cancelled hc)⟩
  · have hc' : cancelled res.2.2.2.2 = false := by simpa using hc
    have hlive : Live (tick res.2.2.2.2) := (cancelled_false_iff _).1 hc'
    obtain ⟨h2, h3, h4, h5, _, h6, h7⟩ := hpost ((mono_tick _).live hlive)
    rw [legalAny_perm g p hperm, Bool.false_or] at h4
    rw [maxR_perm (kidsR_perm g ex p (V g ex le rootPly d) hperm)] at h5
    simp only [hc', Bool.false_eq_true, if_false] at hr
    by_cases hl : legalAny g p (g.moves p) = true
    · rw [hl] at h4
      simp only [h4, Bool.not_true, Bool.false_eq_true, if_false] at hr
      have rV := rank_V_succ hev ex le rootPly K hK d p hKd hdraw hl
      have Na := okN_rankN ha
      have hmax : Max.max (rank a) (-1099511627776) = rank a := by unfold rankN at Na; omega
      have hM : maxR (rank a) (kidsR g ex p (V g ex le rootPly d) (g.moves p)) =
          Max.max (rank a) (rank (V g ex le rootPly (d + 1) p)) := by
        rw [rV, ← maxR_max, hmax]
      rw [hM] at h5
      have hv1 := V_ok hev ex le rootPly K hK (d + 1) p hKd
      have hpath : PathOK g ex le rootPly (d + 1) p res.1 res.2.1 := by
        rcases h7 with ⟨e, _⟩ | ⟨m, c, s, rem, e1, e2, e3, e4, e5, e6, e7, _, e8⟩
        · rw [e]; exact pathOK_nil _ _ _ _ _ _ _
        · rw [e1]
          refine ⟨⟨c, e3, e4, e5.1⟩, ?_⟩
          intro hex
          have hle : rank (lift (V g ex le rootPly d c)) ≤ rank (V g ex le rootPly (d + 1) p) := by
            rw [rV]; exact maxR_mem _ (mem_kidsR (hperm.mem_iff.1 e2) e3 e4)
          have hvc := IH.vok c
          -- the value lies between the score and the lifted child value, which lies below the value
          rw [hex] at e7 e8
          have heq : rank (lift (V g ex le rootPly d c)) = rank (V g ex le rootPly (d + 1) p) := Int.le_antisymm hle e8
          have hs' : s = V g ex le rootPly d c := lift_inj e6 hvc (by omega) (by rw [← e7, heq])
          exact ⟨c, e3, e4, rank_injective _ _ (okN_lift hvc (by omega)).1 hv1.1 heq, e5.2 hs'⟩
      have hnil : res.2.1 = [] → res.1 = a := by
        intro hn
        rcases h7 with ⟨_, e⟩ | ⟨m, c, s, rem, e1, _⟩
        · exact e
        · rw [e1] at hn; cases hn
      have hclip : rank a < rank b →
          Clip (rank a) (rank b) (rank (V g ex le rootPly (d + 1) p)) (rank res.1) := by
        intro hab
        obtain ⟨q1, q2⟩ := h5 hab
        unfold Clip; omega
      by_cases hcond : (!res.2.2.2.1 && !res.2.1.isEmpty) = true
      · simp only [hcond, if_true] at hr
        subst hr
        refine ⟨⟨⟨hmono.1, hmono.2⟩, ?_, fun _ => ⟨h2, Or.inr h3, hclip, hpath⟩⟩, fun _ _ => hnil⟩
        simp only [Bool.and_eq_true, Bool.not_eq_true'] at hcond
        obtain ⟨hw, hne⟩ := hcond
        -- alpha was raised and there was no cutoff: the value is exact
        have hex : res.1 = V g ex le rootPly (d + 1) p := by
          apply rank_injective _ _ h2.1 hv1.1
          rcases h7 with ⟨e, _⟩ | ⟨m, c, s, rem, e1, e2, e3, e4, e5, e6, e7, e8, e9⟩
          · rw [e] at hne; simp at hne
          · rcases h6 hw with hlt | heq
            · obtain ⟨q1, q2⟩ := h5 (by omega)
              omega
            · rw [heq] at e8; omega
        rw [hex]
        exact T.store (g.ply p) _ hstt hp (by omega)
      · simp only [hcond, Bool.false_eq_true, if_false] at hr
        subst hr
        exact ⟨⟨hmono, hstt, fun _ => ⟨h2, Or.inr h3, hclip, hpath⟩⟩, fun _ _ => hnil⟩
    · have hl' : legalAny g p (g.moves p) = false := by simpa using hl
      rw [hl'] at h4
      simp only [h4, Bool.not_false, if_true] at hr
      subst hr
      have hV : V g ex le rootPly (d + 1) p = terminal g p := by
        rw [V]; simp only [hdraw, hl', Bool.false_eq_true, if_false, Bool.not_false, if_true]
      rw [hV]
      exact ⟨⟨hmono, hstt, fun _ => ⟨okN_mono (okN_terminal g p) (by omega), Or.inl rfl,
        fun _ => clip_self _ _ _, pathOK_nil _ _ _ _ _ _ _⟩⟩, fun _ h => by rw [hl'] at h; cases h⟩

theorem abEnter_cancelled {g : Game P} {rootPly : Int} (depth : Nat) (p : P) {st : SState} (hc : cancelled st = true) :
    abEnter g rootPly depth p st = .inl (invalidScore, [], tick st) := by
  simp only [abEnter, poll_eq, hc, if_true]

/-- At the root ply `abEnter` never answers from the table: a search that is not cancelled proceeds. -/
theorem abEnter_root {g : Game P} {rootPly : Int} (depth : Nat) (p : P) (st : SState)
    (hroot : g.ply p = rootPly) (hc : cancelled st = false) :
    ∃ best, abEnter g rootPly depth p st = .inr (best, tick st) := by
  have hr : (g.ply p == rootPly) = true := by simp [hroot]
  simp only [abEnter, poll_eq, hc, hr, Bool.not_true, Bool.false_and, Bool.false_eq_true, if_false]
  cases (tick st).tt.read (g.hash p) with
  | none => exact ⟨_, rfl⟩
  | some e => exact ⟨_, rfl⟩

/-- Without a table `abEnter` lets every search proceed that is not cancelled or adjudicated drawn. -/
theorem abEnter_empty {g : Game P} {rootPly : Int} (depth : Nat) (p : P) (st : SState)
    (hdraw : (!(g.ply p == rootPly) && g.isDraw p) = false) (ht : st.tt.slots.size = 0) (hc : cancelled st = false) :
    ∃ best, abEnter g rootPly depth p st = .inr (best, tick st) := by
  have hr : (tick st).tt.read (g.hash p) = none := by simp [TTState.read, tick, ht]
  simp only [abEnter, poll_eq, hc, hdraw, Bool.false_eq_true, if_false, hr]
  exact ⟨_, rfl⟩

theorem alphabeta_node {g : Game P} (hev : EvalOk g) {ex : P → Explore} {le : LeafEval P} {rootPly : Int}
    {R : Nat → P → Prop} {Inv : TTState → Prop} (hcl : Closed g ex R) (T : TableOK g ex le rootPly R Inv)
    (K : Nat) (hK : leafGrade le ≤ K) :
    ∀ d, K + d ≤ 127 →
      RecTT Inv (R d) (K + d) (V g ex le rootPly d) (PathOK g ex le rootPly d) (alphabeta g ex le rootPly d) := by
  intro d
  induction d with
  | zero =>
    intro hKd
    refine ⟨fun c => V_ok hev ex le rootPly K hK 0 c hKd, fun p a b st hp hs hab => ?_⟩
    rw [alphabeta_zero_eq]
    rcases abEnter_tt T 0 p hp st hs with ⟨s, e, hsV⟩ | ⟨best, e, hlive, hdraw⟩ <;> rw [e] <;> dsimp only
    · exact node_answer hs (V_ok hev ex le rootPly K hK 0 p hKd) hsV
    · obtain ⟨ha, hb⟩ := hab ((mono_tick st).live hlive)
      generalize hr : leafBody g le p a b (tick st) = r
      obtain ⟨h1, h2, h3⟩ := leafBody_tt hev T K hK (by omega) p hp a b (tick st) hs ha hb hdraw r hr
      exact ⟨(mono_tick st).trans h1, h2, h3⟩
  | succ d ih =>
    intro hKd
    refine ⟨fun c => V_ok hev ex le rootPly K hK (d + 1) c hKd, fun p a b st hp hs hab => ?_⟩
    rw [alphabeta_succ_eq]
    rcases abEnter_tt T (d + 1) p hp st hs with ⟨s, e, hsV⟩ | ⟨best, e, hlive, hdraw⟩ <;> rw [e] <;> dsimp only
    · exact node_answer hs (V_ok hev ex le rootPly K hK (d + 1) p hKd) hsV
    · obtain ⟨ha, hb⟩ := hab ((mono_tick st).live hlive)
      generalize hr : abBody g ex le rootPly d p a b best (tick st) = r
      obtain ⟨⟨h1, h2, h3⟩, _⟩ := abBody_tt hev hcl T K hK d (by omega) (ih (by omega)) p hp a b best (tick st) hs ha
        hb hdraw r hr
      exact ⟨(mono_tick st).trans h1, h2, h3⟩

theorem alphabeta_recTT {g : Game P} (hev : EvalOk g) (ex : P → Explore) (le : LeafEval P) {rootPly : Int}
    {R U : Nat → P → Prop} (hcl : Closed g ex R) (hRU : ∀ n q, R n q → U n q)
    (hrf : RootFreeOn g R rootPly) (hh : HashOKOn g ex le U) (K : Nat) (hK : leafGrade le ≤ K) (d : Nat)
    (hKd : K + d ≤ 127) :
    RecTT (SoundOn g ex le U) (R d) (K + d) (V g ex le rootPly d) (PathOK g ex le rootPly d)
      (alphabeta g ex le rootPly d) :=
  alphabeta_node hev hcl (tableOK_soundOn hcl hRU hrf hh) K hK d hKd

/-- No table, no cancellation: no hypothesis about hashes or draws is needed, and the state stays quiet. -/
theorem alphabeta_quiet {g : Game P} (hev : EvalOk g) (ex : P → Explore) (le : LeafEval P) (rootPly : Int) (K : Nat)
    (hK : leafGrade le ≤ K) (d : Nat) (hKd : K + d ≤ 127) (p : P) (a b : Score) (st : SState) (hst : Quiet st)
    (ha : okN (K + d) a) (hb : okN (K + d) b) :
    let r := alphabeta g ex le rootPly d p a b st
    Quiet r.2.2 ∧ okN (K + d) r.1 ∧ (r.1 = V g ex le rootPly d p ∨ rank a ≤ rank r.1) ∧
    (rank a < rank b → Clip (rank a) (rank b) (rank (V g ex le rootPly d p)) (rank r.1)) ∧
    PathOK g ex le rootPly d p r.1 r.2.1 := by
  obtain ⟨hm, hi, h⟩ := (alphabeta_node hev (closed_everywhere g ex) (tableOK_empty g ex le rootPly Everywhere) K hK d
    hKd).node p a b st trivial hst.1 (fun _ => ⟨ha, hb⟩)
  obtain ⟨hq, hl⟩ := hst.of_mono hm hi
  exact ⟨hq, h hl⟩

end Morlock.Proofs.AB
