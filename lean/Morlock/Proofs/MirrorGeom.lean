import Morlock.Proofs.MirrorSpec
import Morlock.Proofs.AttackBounds
/-!
# C20: the geometry of the reference is symmetric under the vertical mirror

`step`, `ray`, `officerTargets` and `pawnTargets` commute with `mirrorSq` when the rank direction is
negated (for pawns: the colour swapped). The direction lists are closed under negating the rank component.
-/
namespace Morlock.Spec
open Morlock.Proofs.Attack

theorem step_mirror {s : Nat} (hs : s < 64) (df dr : Int) :
    step (mirrorSq s) df (-dr) = (step s df dr).map mirrorSq := by
  have hr : ((7 - rankOf s : Nat) : Int) + -dr = 7 - ((rankOf s : Int) + dr) := by
    have := rankOf_lt hs; omega
  unfold step
  simp only [fileOf_mirrorSq hs, rankOf_mirrorSq hs, hr]
  -- the new file `x` is kept, the new rank `y` becomes `7 - y`
  generalize (fileOf s : Int) + df = x
  generalize (rankOf s : Int) + dr = y
  by_cases hc : 0 ≤ x ∧ x < 8 ∧ 0 ≤ y ∧ y < 8
  · obtain ⟨a, rfl⟩ := Int.eq_ofNat_of_zero_le hc.1
    obtain ⟨b, rfl⟩ := Int.eq_ofNat_of_zero_le hc.2.2.1
    rw [if_pos hc, if_pos (by omega), Option.map_some, Int.toNat_natCast, Int.toNat_natCast,
      mirrorSq_mkSq (by omega) (by omega)]
    exact congrArg (fun r => some (mkSq a r)) (Int.toNat_sub 7 b)
  · rw [if_neg hc, if_neg (by omega), Option.map_none]

theorem step_mirror' {s : Nat} (hs : s < 64) (df dr : Int) :
    step (mirrorSq s) df dr = (step s df (-dr)).map mirrorSq := by
  have := step_mirror hs df (-dr)
  rwa [Int.neg_neg] at this

theorem ray_mirror {occ occ' : Nat → Bool} (hocc : ∀ t, t < 64 → occ' (mirrorSq t) = occ t) (df dr : Int) :
    ∀ (fuel : Nat) {s : Nat}, s < 64 →
      ray occ' (mirrorSq s) df (-dr) fuel = (ray occ s df dr fuel).map mirrorSq := by
  intro fuel
  induction fuel with
  | zero => intro s _; rfl
  | succ n ih =>
    intro s hs
    unfold ray
    rw [step_mirror hs]
    cases hst : step s df dr with
    | none => rfl
    | some t =>
      have ht : t < 64 := step_lt hst
      simp only [Option.map_some]
      rw [hocc t ht]
      by_cases ho : occ t = true
      · rw [if_pos ho, if_pos ho]; rfl
      · rw [if_neg ho, if_neg ho, List.map_cons, ih ht]

def flipDir (d : Int × Int) : Int × Int := (d.1, -d.2)

@[simp] theorem flipDir_flipDir (d : Int × Int) : flipDir (flipDir d) = d := by
  obtain ⟨a, b⟩ := d; simp [flipDir]

theorem rookDirs_closed : ∀ d ∈ rookDirs, flipDir d ∈ rookDirs := by decide
theorem bishopDirs_closed : ∀ d ∈ bishopDirs, flipDir d ∈ bishopDirs := by decide
theorem knightJumps_closed : ∀ d ∈ knightJumps, flipDir d ∈ knightJumps := by decide

theorem queenDirs_closed : ∀ d ∈ rookDirs ++ bishopDirs, flipDir d ∈ rookDirs ++ bishopDirs := by
  intro d hd
  rw [List.mem_append] at hd ⊢
  exact hd.imp (rookDirs_closed d) (bishopDirs_closed d)

theorem mem_map_mirrorSq {t : Nat} {l : List Nat} : t ∈ l.map mirrorSq ↔ mirrorSq t ∈ l := by
  rw [List.mem_map]
  constructor
  · rintro ⟨a, ha, rfl⟩; rwa [mirrorSq_mirrorSq]
  · intro h; exact ⟨mirrorSq t, h, mirrorSq_mirrorSq t⟩

theorem mem_stepTargets_mirror {L : List (Int × Int)} (hL : ∀ d ∈ L, flipDir d ∈ L) {s : Nat} (hs : s < 64) {t : Nat}
    (h : t ∈ L.filterMap fun (d : Int × Int) => step s d.1 d.2) :
    mirrorSq t ∈ L.filterMap fun (d : Int × Int) => step (mirrorSq s) d.1 d.2 := by
  rw [List.mem_filterMap] at h ⊢
  obtain ⟨d, hd, hst⟩ := h
  refine ⟨flipDir d, hL d hd, ?_⟩
  show step (mirrorSq s) d.1 (-d.2) = some (mirrorSq t)
  rw [step_mirror hs, hst]; rfl

theorem mem_rayTargets_mirror {L : List (Int × Int)} (hL : ∀ d ∈ L, flipDir d ∈ L)
    {occ occ' : Nat → Bool} (hocc : ∀ t, t < 64 → occ' (mirrorSq t) = occ t) {s : Nat} (hs : s < 64) {t : Nat}
    (h : t ∈ L.flatMap fun (d : Int × Int) => ray occ s d.1 d.2 8) :
    mirrorSq t ∈ L.flatMap fun (d : Int × Int) => ray occ' (mirrorSq s) d.1 d.2 8 := by
  rw [List.mem_flatMap] at h ⊢
  obtain ⟨d, hd, hr⟩ := h
  refine ⟨flipDir d, hL d hd, ?_⟩
  show mirrorSq t ∈ ray occ' (mirrorSq s) d.1 (-d.2) 8
  rw [ray_mirror hocc _ _ _ hs, mem_map_mirrorSq, mirrorSq_mirrorSq]
  exact hr

theorem mem_officerTargets_mirror {occ occ' : Nat → Bool} (hocc : ∀ t, t < 64 → occ' (mirrorSq t) = occ t)
    (k : Kind) {s : Nat} (hs : s < 64) {t : Nat} (h : t ∈ officerTargets occ k s) :
    mirrorSq t ∈ officerTargets occ' k (mirrorSq s) := by
  cases k with
  | pawn => simp [officerTargets] at h
  | knight => exact mem_stepTargets_mirror knightJumps_closed hs h
  | king => exact mem_stepTargets_mirror (L := kingSteps) queenDirs_closed hs h
  | rook => exact mem_rayTargets_mirror rookDirs_closed hocc hs h
  | bishop => exact mem_rayTargets_mirror bishopDirs_closed hocc hs h
  | queen => exact mem_rayTargets_mirror queenDirs_closed hocc hs h

theorem fwd_opp (c : Color) : fwd c.opp = - fwd c := by cases c <;> rfl

theorem pawnTargets_mirror (c : Color) {s : Nat} (hs : s < 64) :
    pawnTargets c.opp (mirrorSq s) = (pawnTargets c s).map mirrorSq := by
  unfold pawnTargets
  rw [fwd_opp, step_mirror hs, step_mirror hs]
  cases step s 1 (fwd c) <;> cases step s (-1) (fwd c) <;> rfl

theorem mem_pawnTargets_mirror (c : Color) {s : Nat} (hs : s < 64) {t : Nat} (h : t ∈ pawnTargets c s) :
    mirrorSq t ∈ pawnTargets c.opp (mirrorSq s) := by
  rw [pawnTargets_mirror c hs, mem_map_mirrorSq, mirrorSq_mirrorSq]; exact h

theorem lastRank_opp (c : Color) : lastRank c.opp = 7 - lastRank c := by cases c <;> rfl
theorem startRank_opp (c : Color) : startRank c.opp = 7 - startRank c := by cases c <;> rfl
theorem homeRank_opp (c : Color) : homeRank c.opp = 7 - homeRank c := by cases c <;> rfl
theorem homeRank_lt (c : Color) : homeRank c < 8 := by cases c <;> decide
theorem lastRank_lt (c : Color) : lastRank c < 8 := by cases c <;> decide
theorem startRank_lt (c : Color) : startRank c < 8 := by cases c <;> decide

end Morlock.Spec
