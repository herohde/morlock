import Morlock.Proofs.ConcUciLive
/-!
# UCI driver model: the current request gets its `bestmove` (the invariant behind C04 `answered`)
-/
namespace Morlock.Proofs.ConcUci
open Morlock.Model.UciConc

/-- what holds for the current request `g` (the latest `go`, numbered `K = searches`, not superseded) -/
structure LiveFacts (s : State) (g : GoArgs) : Prop where
  kpos : 1 ≤ s.searches
  A : g.book ≠ .err → s.active = s.searches ∨ Committed s
  B : g.book = .hit → s.loop.completing s.searches = true ∨ Committed s
  F : g.book = .miss → s.loop.spawned = true → ∃ f ∈ s.fwds, f.id = s.searches ∧ f.infinite = g.infinite
  D : ∀ f ∈ s.fwds, f.id = s.searches → f.infinite = false → f.pc.past = true → Committed s
  E : g.book = .miss → s.eactive ≠ none ∨ Committed s ∨ s.loop.completing s.searches = true
  N : g.book ≠ .err → s.loop.haltFailed = true → Committed s
  S : g.book ≠ .err → stopped s.log = true →
    Committed s ∨ s.loop = .stopLoad ∨ s.loop.stopping s.searches = true
  M : g.book = .miss → g.movetime = true → s.loop.timed = true →
    Committed s ∨ TimerPending s ∨ s.timeouts = some s.searches ∨ s.loop.stopping s.searches = true

def LiveInv (s : State) : Prop := ∀ g, cur s.log = some g → s.loop.live = true → LiveFacts s g

theorem liveInv_init (cmds : List Cmd) (pcap : Nat) : LiveInv (init cmds pcap) := by
  intro g hg; simp [init, cur] at hg

theorem liveInv_notLive {s : State} (h : s.loop.live = false) : LiveInv s := by
  intro g _ hl; rw [h] at hl; cases hl

theorem liveInv_noCur {s : State} (h : cur s.log = none) : LiveInv s := by
  intro g hg; rw [h] at hg; cases hg

/-- once the current go is committed, everything but the existence of its forwarder follows -/
theorem liveFacts_of_committed {s : State} {g : GoArgs} (hk : 1 ≤ s.searches) (hc : Committed s)
    (hF : g.book = .miss → s.loop.spawned = true → ∃ f ∈ s.fwds, f.id = s.searches ∧ f.infinite = g.infinite) :
    LiveFacts s g :=
  ⟨hk, fun _ => .inr hc, fun _ => .inr hc, hF, fun _ _ _ _ _ => hc, fun _ => .inr (.inl hc), fun _ _ => hc,
    fun _ _ => .inl hc, fun _ _ _ => .inl hc⟩

/-- for a `go` whose book lookup failed nothing is promised -/
theorem liveFacts_err {s : State} {g : GoArgs} (hk : 1 ≤ s.searches) (hb : g.book = .err)
    (hD : ∀ f ∈ s.fwds, f.id = s.searches → f.infinite = false → f.pc.past = true → Committed s) :
    LiveFacts s g :=
  have no {p : Prop} {b : Book} (hne : Book.err ≠ b) (h : g.book = b) : p := absurd (hb.symm.trans h) hne
  ⟨hk, fun h => absurd hb h, no nofun, no nofun, hD, no nofun, fun h => absurd hb h, fun h => absurd hb h, no nofun⟩

theorem book_cases (g : GoArgs) : g.book = .err ∨ g.book = .hit ∨ g.book = .miss := by
  cases g.book <;> simp

@[simp] theorem commitCount_sendOut' (id : Nat) (s : State) (l : Line) :
    commitCount id (sendOut s l).log = commitCount id s.log := by
  rw [sendOut_eq]; exact commitCount_out ..

theorem dispatch_live (c : Cmd) : (dispatch c).live = true ↔ (c = .isready ∨ c = .stop ∨ c = .other) := by
  cases c <;> simp [dispatch, LPc.live]

theorem timed_spawned {pc : LPc} (h : pc.timed = true) : pc.spawned = true := by
  cases pc with
  | goTimer => rfl
  | _ => exact h

theorem spawned_live {pc : LPc} (h : pc.spawned = true) : pc.live = true := by
  cases pc with
  | goSpawn => rfl
  | _ => exact h

/-- The loop may leave the "stopping"/"completing" states only when `active ≠ K`: then the go is already committed,
by `A`. -/
theorem LiveInv.frame {s : State} {pc pc' : LPc} (h : LiveInv s) (hpc : s.loop = pc) (hpt : pc.timed = true)
    (hnf : pc'.haltFailed = false) {cm pd to em ea sr lg} (hcur : cur lg = cur s.log)
    (hc : commitCount s.searches lg = commitCount s.searches s.log)
    (hS : stopped lg = stopped s.log ∨ pc' = .stopLoad)
    (hE : ea = s.eactive ∨ pc'.completing s.searches = true)
    (hM : s.timeouts = some s.searches → to = some s.searches ∨ pc'.stopping s.searches = true)
    (hcp : pc.completing s.searches = true → 1 ≤ s.searches → s.active ≠ s.searches)
    (hsl : pc = .stopLoad → pc'.stopping s.searches = true ∨ s.active ≠ s.searches)
    (hsp : pc.stopping s.searches = true →
      pc'.stopping s.searches = true ∨ (1 ≤ s.searches → s.active ≠ s.searches)) :
    LiveInv { s with loop := pc', cmds := cm, ponder := pd, timeouts := to, emu := em, eactive := ea, srch := sr,
                     log := lg } := by
  subst hpc
  intro g hg _
  obtain ⟨k, a, b, f, d, e, n, st, m⟩ := h g (hcur.symm.trans hg) (spawned_live (timed_spawned hpt))
  have hC : Committed s → 1 ≤ commitCount s.searches lg := fun y => hc ▸ y
  -- if `active ≠ K` the go is committed
  have hne := fun (hb : g.book ≠ .err) (x : s.active ≠ s.searches) => hC ((a hb).resolve_left x)
  have hm : g.book = .miss → g.book ≠ .err := fun x y => by rw [x] at y; cases y
  have stay : g.book ≠ .err → s.loop.stopping s.searches = true →
      1 ≤ commitCount s.searches lg ∨ pc'.stopping s.searches = true :=
    fun hb x => (hsp x).elim .inr fun y => .inl (hne hb (y k))
  refine ⟨k, fun hb => (a hb).imp id hC, fun hb => ?_, fun hb _ => f hb (timed_spawned hpt),
    fun x hx h1 h2 h3 => hC (d x hx h1 h2 h3), fun hb => ?_, fun _ hh => (by cases hnf.symm.trans hh),
    fun hb hs => ?_, fun hb hmv _ => ?_⟩
  · rcases b hb with x | x
    · exact .inr (hne (fun y => by rw [hb] at y; cases y) (hcp x k))
    · exact .inr (hC x)
  · rcases e hb with e | e | e
    · rcases hE with x | x
      · exact .inl (x ▸ e)
      · exact .inr (.inr x)
    · exact .inr (.inl (hC e))
    · exact .inr (.inl (hne (hm hb) (hcp e k)))
  · rcases hS with y | y
    · rcases st hb (y.symm.trans hs) with x | x | x
      · exact .inl (hC x)
      · exact (hsl x).elim (fun z => .inr (.inr z)) fun z => .inl (hne hb z)
      · exact (stay hb x).imp_right .inr
    · exact .inr (.inl y)
  · rcases m hb hmv hpt with x | x | x | x
    · exact .inl (hC x)
    · exact .inr (.inl x)
    · exact .inr (.inr (hM x))
    · exact (stay (hm hb) x).imp_right fun z => .inr (.inr z)

theorem LiveInv.committed {s s' : State} {pc : LPc} (h : LiveInv s) (hpc : s.loop = pc) (hsp : pc.spawned = true)
    (hn : s'.searches = s.searches) (hl : s'.log = s.log) (hf : s'.fwds = s.fwds)
    (hC : ∀ g, g.book ≠ .err → LiveFacts s g → Committed s) : LiveInv s' := by
  subst hpc
  intro g hg _
  have ih := h g (hl ▸ hg) (spawned_live hsp)
  have hC' : Committed s → Committed s' := fun x => by unfold Committed at x ⊢; rw [hn, hl]; exact x
  by_cases hb : g.book = .err
  · exact liveFacts_err (hn ▸ ih.kpos) hb (by rw [hf, hn]; exact fun f hf a b c => hC' (ih.D f hf a b c))
  · exact liveFacts_of_committed (hn ▸ ih.kpos) (hC' (hC g hb ih)) (by rw [hf, hn]; exact fun hm _ => ih.F hm hsp)

theorem LiveInv.other {s s' : State} (h : LiveInv s) (hn : s'.searches = s.searches) (ha : s'.active = s.active)
    (hl : s'.loop = s.loop) (he : s'.eactive = s.eactive) (hcur : cur s'.log = cur s.log)
    (hst : stopped s'.log = stopped s.log)
    (hc : commitCount s.searches s'.log = commitCount s.searches s.log)
    (hF : ∀ x, (∃ f ∈ s.fwds, f.id = s.searches ∧ f.infinite = x) →
      ∃ f ∈ s'.fwds, f.id = s.searches ∧ f.infinite = x)
    (hD : ∀ f' ∈ s'.fwds, f'.id = s.searches → f'.infinite = false → f'.pc.past = true →
      (∃ f ∈ s.fwds, f.id = s.searches ∧ f.infinite = false ∧ f.pc.past = true) ∨
      ∀ g, cur s.log = some g → s.loop.live = true → LiveFacts s g → Committed s)
    (hM : TimerPending s ∨ s.timeouts = some s.searches → TimerPending s' ∨ s'.timeouts = some s.searches) :
    LiveInv s' := by
  intro g hg hlive
  have hg' : cur s.log = some g := hcur ▸ hg
  have hl' : s.loop.live = true := hl ▸ hlive
  have ih := h g hg' hl'
  have hC : Committed s → Committed s' := fun x => by unfold Committed at x ⊢; rw [hn, hc]; exact x
  have hD := fun f' hf' a b c => (hD f' hf' a b c).imp_right fun y => y g hg' hl' ih
  obtain ⟨k, a, b, f, d, e, n, st, m⟩ := ih
  refine ⟨hn ▸ k, ?_, ?_, ?_, ?_, ?_, ?_, ?_, ?_⟩
  · intro hb; rw [ha, hn]; exact (a hb).imp id hC
  · intro hb; rw [hn, hl]; exact (b hb).imp id hC
  · intro hb hs; rw [hn]; exact hF _ (f hb (hl ▸ hs))
  · intro x hx h1 h2 h3
    rcases hD x hx (hn ▸ h1) h2 h3 with ⟨y, hy, y1, y2, y3⟩ | y
    · exact hC (d y hy y1 y2 y3)
    · exact hC y
  · intro hb; rw [he, hn, hl]; exact (e hb).imp_right (.imp_left hC)
  · intro hb hh; exact hC (n hb (hl ▸ hh))
  · intro hb hs; rw [hn, hl]; exact (st hb (hst ▸ hs)).imp_left hC
  · intro hb hm ht'; rw [hn, hl]
    rcases m hb hm (hl ▸ ht') with x | x | x | x
    · exact .inl (hC x)
    · exact .inr ((hM (.inl x)).imp_right .inl)
    · exact .inr ((hM (.inr x)).imp_right .inl)
    · exact .inr (.inr (.inr x))

theorem exists_set {l : List Fwd} {j : Nat} {f : Fwd} (hj : l[j]? = some f) (f' : Fwd)
    (hid : f'.id = f.id) (hinf : f'.infinite = f.infinite) (K : Nat) (x : Bool)
    (h : ∃ y ∈ l, y.id = K ∧ y.infinite = x) : ∃ y ∈ l.set j f', y.id = K ∧ y.infinite = x := by
  obtain ⟨y, hy, h1, h2⟩ := h
  by_cases e : y = f
  · exact ⟨f', List.mem_set (List.getElem?_eq_some_iff.1 hj).1 f', by rw [hid, ← e, h1], by rw [hinf, ← e, h2]⟩
  · exact ⟨y, mem_set_of_ne hj hy e, h1, h2⟩

theorem past_set {l : List Fwd} {j : Nat} {f : Fwd} (hj : l[j]? = some f) (f' : Fwd)
    (hid : f'.id = f.id) (hinf : f'.infinite = f.infinite) (K : Nat) (C : Prop)
    (hnew : f'.id = K → f'.infinite = false → f'.pc.past = true → f.pc.past = true ∨ C) :
    ∀ y ∈ l.set j f', y.id = K → y.infinite = false → y.pc.past = true →
      (∃ z ∈ l, z.id = K ∧ z.infinite = false ∧ z.pc.past = true) ∨ C := by
  intro y hy h1 h2 h3
  rcases List.mem_or_eq_of_mem_set hy with hy | hy
  · exact .inl ⟨y, hy, h1, h2, h3⟩
  · subst hy
    rcases hnew h1 h2 h3 with x | x
    · exact .inl ⟨f, List.mem_of_getElem? hj, by rw [← hid, h1], by rw [← hinf, h2], x⟩
    · exact .inr x

theorem LiveInv.fwd {s : State} {j : Nat} {f f' : Fwd} (h : LiveInv s) (hj : s.fwds[j]? = some f) {lg sr pd w}
    (hid : f'.id = f.id) (hinf : f'.infinite = f.infinite) (hcur : cur lg = cur s.log)
    (hst : stopped lg = stopped s.log) (hc : commitCount s.searches lg = commitCount s.searches s.log)
    (hnew : f'.id = s.searches → f'.infinite = false → f'.pc.past = true → f.pc.past = true ∨
      ∀ g, cur s.log = some g → s.loop.live = true → LiveFacts s g → Committed s) :
    LiveInv { s with fwds := s.fwds.set j f', log := lg, srch := sr, ponder := pd, wg := w } :=
  h.other rfl rfl rfl rfl hcur hst hc (fun x hx => exists_set hj f' hid hinf _ x hx)
    (past_set hj f' hid hinf _ _ hnew) id

/-- the CAS of `searchCompleted(id, _)` succeeds: `id = active = K`, so go K is committed -/
theorem LiveInv.commit {s s' : State} {id : Nat} (h : LiveInv s) (ha : ActiveInv s)
    (hcas : id ≠ 0 ∧ s.active = id) (hn : s'.searches = s.searches)
    (hlog : s'.log = .commit id s.searches :: s.log) (hlv : s'.loop.live = true → s.loop.live = true)
    (hsp : s'.loop.spawned = true → s.loop.spawned = true)
    (hF : ∀ x, (∃ f ∈ s.fwds, f.id = s.searches ∧ f.infinite = x) →
      ∃ f ∈ s'.fwds, f.id = s.searches ∧ f.infinite = x) : LiveInv s' := by
  intro g hg hl
  rw [hlog, cur_commit] at hg
  have ih := h g hg (hlv hl)
  have hK : s.active = s.searches := ha.act.resolve_left fun x => hcas.1 (hcas.2.symm.trans x)
  refine liveFacts_of_committed (hn ▸ ih.kpos) ?_ fun hb hs => by rw [hn]; exact hF _ (ih.F hb (hsp hs))
  unfold Committed
  rw [hn, hlog, commitCount_commit, ← hcas.2, hK, beq_self_eq_true]
  exact Nat.le_add_left 1 _

theorem liveInv_step {s s' : State} {pc : LPc} (st : Step s pc s')
    (hpc : s.loop = pc) (ha : ActiveInv s) (he : EngInv s) (hr : ReqInv s)
    (ho : OweInv s) (hs : ShutInv s) (h : LiveInv s) : LiveInv s' := by
  have hpcok := hr.pc
  induction st
  case ensureStore | bookHit | bookMiss | analyze | waitFwd | closeOut | closeDriver =>
    exact liveInv_notLive rfl
  case recvCmd cmd _ _ =>
    cases cmd
    case go => exact liveInv_notLive rfl
    case ucinewgame | position | goMalformed | quit | eof => exact liveInv_noCur rfl
    case isready | other =>
      exact h.frame hpc rfl rfl rfl rfl (.inl rfl) (.inl rfl) .inl nofun nofun nofun
    case stop => exact h.frame hpc rfl rfl rfl rfl (.inr rfl) (.inl rfl) .inl nofun nofun nofun
  case recvPonder _ | ponderOn _ | ponderOff _ =>
    exact h.frame hpc rfl rfl rfl rfl (.inl rfl) (.inl rfl) .inl nofun nofun nofun
  case recvTimeout id ht =>
    -- the token of a timer is taken: the loop runs `stop(id)`
    exact h.frame hpc rfl rfl rfl rfl (.inl rfl) (.inl rfl)
      (fun e => .inr (beq_iff_eq.2 (Option.some.inj (ht.symm.trans e)))) nofun nofun nofun
  case ready | ponderSend | sendInfo | sendBest =>
    exact h.frame hpc rfl rfl (cur_out ..) (commitCount_out ..) (.inl (stopped_out ..))
      (.inl rfl) .inl nofun nofun nofun
  case lockBusy _ _ | haltAwait _ | haltQuit | haltRead =>
    cases ‹HaltK›
    · exact liveInv_notLive rfl
    · exact h.frame hpc rfl rfl rfl rfl (.inl rfl) (.inl rfl) .inl nofun nofun .inl
  case stopHalt _ _ =>
    exact h.frame hpc rfl rfl rfl rfl (.inl rfl) (.inl rfl) .inl nofun nofun .inl
  case stopLoad =>
    exact h.frame hpc rfl rfl rfl rfl (.inl rfl) (.inl rfl) .inl nofun
      (fun _ => (Decidable.em (s.active = s.searches)).imp_left beq_iff_eq.2) nofun
  case stopSkip id hsk =>
    -- `stop(K)` returns early only when `active ≠ K`
    exact h.frame hpc rfl rfl rfl rfl (.inl rfl) (.inl rfl) .inl nofun nofun
      fun e => .inr fun k => by have := eq_of_beq e; omega
  case casLost id pv hcas =>
    -- the loop loses the CAS of `searchCompleted(K, _)` only when `active ≠ K`
    have hne : (id == s.searches) = true → 1 ≤ s.searches → s.active ≠ s.searches :=
      fun e k => by have := eq_of_beq e; omega
    exact h.frame hpc rfl rfl rfl rfl (.inl rfl) (.inl rfl) .inl hne nofun fun e => .inr (hne e)
  case lockIdle k _ hea =>
    cases k with
    | ensure a => exact liveInv_notLive rfl
    | stop id =>
      -- `stop(K)`: `e.Halt` finds no active search, so go K is already committed
      refine h.committed hpc rfl rfl rfl rfl fun g hb ih => ?_
      rcases book_cases g with x | x | x
      · exact absurd x hb
      · exact (ih.B x).resolve_left (by rw [hpc]; exact Bool.false_ne_true)
      · rcases ih.E x with y | y | y
        · exact absurd hea y
        · exact y
        · rw [hpc] at y; cases y
  case haltUnlock k res =>
    rw [hpc] at hpcok
    cases k with
    | ensure a =>
      cases a
      case go | exit => exact liveInv_notLive rfl
      case select | malformed => exact liveInv_noCur hpcok
    | stop id =>
      cases res with
      | none => exact h.committed hpc rfl rfl rfl rfl fun g hb ih => ih.N hb (hpc ▸ rfl)
      | some pv =>
        exact h.frame hpc rfl rfl rfl rfl (.inl rfl) (.inr (beq_iff_eq.2 hpcok.1)) .inl nofun
          nofun .inl
  case bookErr g0 hb0 =>
    rw [hpc] at hpcok
    intro g hg _
    have hgg : g = g0 := Option.some.inj (hg.symm.trans hpcok.1)
    refine liveFacts_err (Nat.succ_le_succ (Nat.zero_le _)) (hgg ▸ hb0) fun f hf hid => ?_
    have : f.id = s.searches + 1 := hid
    have := (hr.fid f hf).2; omega
  case analyzeBusy _ hea =>
    -- Analyze cannot fail here: `ensureInactive` has just cleared `e.active`
    rw [he.idle (hpc ▸ rfl)] at hea; cases hea
  case bookStore id =>
    rw [hpc] at hpcok
    obtain ⟨⟨g0, hg0, hb0⟩, hst, hk⟩ := hpcok
    have hid : id = s.searches := ha.pend _ (hpc ▸ rfl)
    have hlt := hr.fidLt (hpc ▸ rfl)
    intro g hg _
    cases hg0.symm.trans hg
    have nm : g0.book ≠ .miss := by rw [hb0]; nofun
    exact ⟨hk, fun _ => .inl hid, fun _ => .inl (beq_iff_eq.2 hid), fun hm => absurd hm nm,
      fun f hf hfid => absurd hfid (Nat.ne_of_lt (hlt f hf)), fun hm => absurd hm nm, nofun,
      fun _ hs => absurd (hst.symm.trans hs) (by decide), fun hm => absurd hm nm⟩
  case goStore g0 id j =>
    rw [hpc] at hpcok
    obtain ⟨hg0, hb0, hst, hk⟩ := hpcok
    have hid : id = s.searches := ha.pend _ (hpc ▸ rfl)
    have hlt := hr.fidLt (hpc ▸ rfl)
    have hea : s.eactive = some j := he.sidxOk _ (hpc ▸ rfl)
    intro g hg _
    cases hg0.symm.trans hg
    exact ⟨hk, fun _ => .inl hid, fun hm => absurd (hb0.symm.trans hm) (by decide), nofun,
      fun f hf hfid => absurd hfid (Nat.ne_of_lt (hlt f hf)), fun _ => .inl (by rw [hea]; nofun), nofun,
      fun _ hs => absurd (hst.symm.trans hs) (by decide), nofun⟩
  case goSpawn g0 id j =>
    rw [hpc] at hpcok
    obtain ⟨hg0, hb0, hst, hid, hk⟩ := hpcok
    have hea : s.eactive = some j := he.sidxOk _ (hpc ▸ rfl)
    have ih := h _ hg0 (hpc ▸ rfl)
    intro g hg _
    cases hg0.symm.trans hg
    refine ⟨hk, ih.A, fun hm => absurd (hb0.symm.trans hm) (by decide),
      fun _ _ => ⟨_, List.mem_append_right _ (List.mem_singleton.2 rfl), hid, rfl⟩, ?_,
      fun _ => .inl (by rw [hea]; nofun), fun _ hf => ?_, fun _ hs => absurd (hst.symm.trans hs) (by decide),
      fun _ hm ht => ?_⟩
    · intro f hf hfid hinf hpast
      rcases List.mem_append.1 hf with hf | hf
      · exact ih.D f hf hfid hinf hpast
      · cases List.mem_singleton.1 hf; cases hpast
    · dsimp only at hf; split at hf <;> cases hf
    · rw [if_pos hm] at ht; cases ht
  case goTimer id =>
    rw [hpc] at hpcok
    obtain ⟨⟨g0, hg0, hb0, hmt⟩, hst, hid, hk⟩ := hpcok
    have ih := h _ hg0 (hpc ▸ rfl)
    intro g hg _
    cases hg0.symm.trans hg
    exact ⟨hk, ih.A, fun hm => absurd (hb0.symm.trans hm) (by decide), fun hb _ => ih.F hb (hpc ▸ rfl), ih.D,
      fun hb => (ih.E hb).imp_right (.imp_right fun x => by rw [hpc] at x; cases x), nofun,
      fun _ hs => absurd (hst.symm.trans hs) (by decide),
      fun _ _ _ => .inr (.inl ⟨{ id := id }, List.mem_append_right _ (List.mem_singleton.2 rfl), hid, rfl⟩)⟩
  case commit id pv hcas =>
    exact h.commit ha hcas rfl rfl (fun _ => hpc ▸ rfl) (fun _ => hpc ▸ rfl) fun _ x => x
  case fCommit j f hj hp hcas =>
    exact h.commit ha hcas rfl rfl id id (exists_set hj _ (by rfl) (by rfl) _)
  case fRecv j f _ hj _ _ | fPond j f _ hj _ =>
    exact h.fwd hj rfl rfl rfl rfl rfl fun _ _ hp => by cases hp
  case fSendInfo j f hj hp =>
    exact h.fwd hj rfl rfl (cur_out ..) (stopped_out ..) (commitCount_out ..)
      fun _ _ hp => by cases hp
  case fEnd j f hj hp _ _ =>
    -- the search ended, infinite: nothing to report
    exact h.fwd hj rfl rfl rfl rfl rfl
      fun _ (hi : f.infinite = false) hp => by rw [hi] at hp; cases hp
  case fDone j f hj hp =>
    exact h.fwd hj rfl rfl rfl rfl rfl fun _ _ _ => .inl (hp ▸ rfl)
  case fCasLost j f hj hp hfail =>
    -- the CAS failed: `active ≠ K`, so go K is already committed
    refine h.fwd hj rfl rfl rfl rfl rfl
      fun (hid : f.id = s.searches) _ _ => .inr fun g hg hl ih => ?_
    have hmem := List.mem_of_getElem? hj
    have hb := hr.fmiss hl f hmem hid g hg
    have hne : s.active ≠ s.searches := fun hx => hfail ⟨(hr.fid f hmem).1, hx.trans hid.symm⟩
    exact (ih.A (by rw [hb]; nofun)).resolve_left hne
  case fSendBest j f hj hp =>
    -- the bestmove was sent: this forwarder had won the CAS
    refine h.fwd hj rfl rfl (cur_out ..) (stopped_out ..) (commitCount_out ..)
      fun (hid : f.id = s.searches) _ _ => .inr fun _ _ _ _ => ?_
    have := ho f.id
    have hpos : 0 < s.fwds.countP (Fwd.owes f.id) :=
      countP_pos_of_getElem? _ hj (by rw [Fwd.owes, hp, beq_self_eq_true]; rfl)
    unfold Committed; rw [← hid]; omega
  case timerSend j t hj _ hto =>
    -- when timer K fires, its token is in `timeouts`
    refine h.other rfl rfl rfl rfl rfl rfl rfl (fun _ x => x) (fun f hf a b c => .inl ⟨f, hf, a, b, c⟩) fun hx => ?_
    rcases hx with ⟨t0, ht0, hid0, hf0⟩ | hx
    · by_cases hK : t.id = s.searches
      · exact .inr (congrArg some hK)
      · exact .inl ⟨t0, mem_set_of_ne hj ht0 fun e => hK (e ▸ hid0), hid0, hf0⟩
    · rw [hx] at hto; cases hto
  case timerDrop hc =>
    -- only after `d.Close()`, when the loop has returned
    exact liveInv_notLive (hs.closedOk hc ▸ rfl : s.loop.live = false)
  case searchIter | searchExit =>
    exact h.other rfl rfl rfl rfl rfl rfl rfl (fun _ x => x) (fun f hf a b c => .inl ⟨f, hf, a, b, c⟩) id

structure AllInv (s : State) : Prop where
  act : ActiveInv s
  cls : CloseInv s
  owe : OweInv s
  eng : EngInv s
  shut : ShutInv s
  srch : SrchInv s
  quit : QuitInv s
  gocount : GoCountInv s
  req : ReqInv s
  live : LiveInv s

theorem allInv_init (cmds : List Cmd) (pcap : Nat) : AllInv (init cmds pcap) :=
  ⟨activeInv_init cmds pcap, closeInv_init cmds pcap, oweInv_init cmds pcap, engInv_init cmds pcap,
    shutInv_init cmds pcap, srchInv_init cmds pcap, quitInv_init cmds pcap, goCountInv_init cmds pcap,
    reqInv_init cmds pcap, liveInv_init cmds pcap⟩

theorem allInv_step {s s' : State} {pc : LPc} (st : Step s pc s') (hpc : s.loop = pc) (h : AllInv s) : AllInv s' :=
  ⟨activeInv_step st hpc h.act, closeInv_step st hpc h.cls, oweInv_step st hpc h.owe, engInv_step st hpc h.eng,
    shutInv_step st hpc h.shut, srchInv_step st hpc h.srch, quitInv_step st hpc h.quit,
    goCountInv_step st hpc h.gocount, reqInv_step st hpc h.act h.req,
    liveInv_step st hpc h.act h.eng h.req h.owe h.shut h.live⟩

theorem allInv_run (cmds : List Cmd) (pcap : Nat) (sched : List Act) : AllInv (run (init cmds pcap) sched) :=
  inv_run allInv_step sched _ (allInv_init cmds pcap)

theorem answered_of_quiescent {s : State} (h : AllInv s) (hq : Quiescent s) (g : GoArgs)
    (hg : cur s.log = some g) (hb : g.book ≠ .err)
    (hwhy : g.book = .hit ∨ g.infinite = false ∨ g.movetime = true ∨ stopped s.log = true) :
    bestCount s.searches s.log = 1 ∧ commitCount s.searches s.log = 1 ∧ s.loop = .select := by
  -- the loop is blocked in `select`: had it returned, a `quit` would have superseded the go
  have hloop : s.loop = .select ∧ s.cmds = [] ∧ s.ponder = [] ∧ s.timeouts = none := by
    rcases quiet_loop hq h.eng h.cls h.srch with hf | hsel
    · have := h.req.pc; rw [hf] at this; simp only [PcOk] at this; rw [this] at hg; cases hg
    · exact hsel
  have hlive : s.loop.live = true := by rw [hloop.1]; rfl
  have lf := h.live g hg hlive
  have hfin := fun f hf => quiet_fwds hq h.eng f hf
  -- nobody owes a bestmove any more
  have howe : bestCount s.searches s.log = commitCount s.searches s.log := by
    have := h.owe s.searches
    have h1 : s.loop.owes s.searches = false := by rw [hloop.1]; rfl
    have h2 : s.fwds.countP (Fwd.owes s.searches) = 0 := by
      rw [List.countP_eq_zero]; intro f hf; simp [Fwd.owes, hfin f hf, FPc.sending]
    rw [h1, h2] at this; simpa using this
  have hle := commitCount_le_one h.act s.searches
  have hC : Committed s := by
    rcases book_cases g with hb' | hb' | hb'
    · exact absurd hb' hb
    · rcases lf.B hb' with x | x
      · rw [hloop.1] at x; simp [LPc.completing] at x
      · exact x
    · rcases hwhy with x | x | x | x
      · rw [hb'] at x; cases x
      · -- finite: the forwarder of go K has finished, so it went through `searchCompleted`
        obtain ⟨f, hf, hid, hinf⟩ := lf.F hb' (by rw [hloop.1]; rfl)
        exact lf.D f hf hid (by rw [hinf, x]) (by rw [hfin f hf]; rfl)
      · -- movetime: the timer has fired and the loop has processed its token
        rcases lf.M hb' x (by rw [hloop.1]; rfl) with y | ⟨t, ht, _, hfired⟩ | y | y
        · exact y
        · rw [quiet_timers hq hloop.2.2.2 t ht] at hfired; cases hfired
        · rw [hloop.2.2.2] at y; cases y
        · rw [hloop.1] at y; simp [LPc.stopping] at y
      · -- a stop was consumed and fully processed
        rcases lf.S hb x with y | y | y
        · exact y
        · rw [hloop.1] at y; cases y
        · rw [hloop.1] at y; simp [LPc.stopping] at y
  unfold Committed at hC
  exact ⟨by omega, by omega, hloop.1⟩

end Morlock.Proofs.ConcUci
