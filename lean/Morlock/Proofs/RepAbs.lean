import Morlock.Proofs.RepMove
import Morlock.Model.Abs
/-!
# From `Rep` to the mailbox reference position (`abs`), helpers for the C02 link
-/
namespace Morlock.Proofs
open Morlock Morlock.Model

def absCellB (v : Option (Color × Piece)) : Option (Spec.Color × Spec.Kind) :=
  match v with
  | some (c, k) => (absKind k).map fun k' => (absColor c, k')
  | none => none

def absBoard (b : Board) : Array (Option (Spec.Color × Spec.Kind)) :=
  ((List.range 64).map fun sq => absCellB (b sq)).toArray

theorem abs_board (p : Position) (turn : Color) : (abs p turn).board = absBoard p.square := by
  have : absCell p = fun sq => absCellB (p.square sq) := funext fun sq => by
    unfold absCell absCellB; cases p.square sq <;> rfl
  unfold abs absBoard; rw [this]

@[simp] theorem absBoard_size (b : Board) : (absBoard b).size = 64 := by simp [absBoard]

theorem absBoard_get (b : Board) (i : Nat) (hi : i < (absBoard b).size) :
    (absBoard b)[i] = absCellB (b i) := by
  simp [absBoard]

theorem absBoard_getD (b : Board) (hout : ∀ sq, 64 ≤ sq → b sq = none) (i : Nat) :
    (absBoard b).getD i none = absCellB (b i) := by
  by_cases hi : i < 64
  · rw [Array.getD, dif_pos (by simpa using hi)]; exact absBoard_get b i _
  · rw [Array.getD, dif_neg (by simpa using hi), hout i (by omega)]; rfl

theorem absBoard_upd (b : Board) (sq : Nat) (v : Option (Color × Piece)) :
    absBoard (upd b sq v) = Spec.setCell (absBoard b) sq (absCellB v) := by
  unfold Spec.setCell
  apply Array.ext
  · simp
  · intro i h1 h2
    have h3 : i < (absBoard b).size := by rw [absBoard_size] at h1 ⊢; exact h1
    rw [absBoard_get, Array.getElem_setIfInBounds h3, absBoard_get]
    by_cases e : sq = i
    · subst e; simp
    · rw [if_neg e, upd_other _ _ (Ne.symm e)]

theorem Rep.abs_at {p : Position} {b : Board} (h : Rep p b) (turn : Color) (sq : Nat) :
    (abs p turn).at sq = absCellB (b sq) := by
  unfold Spec.Pos.at
  rw [abs_board, ← h.board_eq, absBoard_getD b h.out]

/-- The move type recorded in `m` is the class the rules assign to `(from, to, promo)` in `s`,
    and the auxiliary squares the engine derives from the type are the ones the rules use. -/
def ClassOK (s : Spec.Pos) (m : Move) : Bool :=
  let sm := absMove m
  (Spec.isEnPassant s sm == (m.ty == .enPassant)) &&
  (Spec.isCastle s sm == m.isCastle) &&
  (Spec.isDoubleStep s sm == (m.ty == .jump)) &&
  (m.isPromotion == (m.promotion != .none)) &&
  (m.ty != .enPassant || m.enPassantCapture == Spec.mkSq (Spec.fileOf m.to) (Spec.rankOf m.from)) &&
  (m.ty != .jump ||
    m.enPassantTarget == Spec.mkSq (Spec.fileOf m.from) ((Spec.rankOf m.from + Spec.rankOf m.to) / 2)) &&
  (!m.isCastle || m.castlingRookMove ==
      if Spec.fileOf m.to = Spec.fG
      then (Spec.mkSq Spec.fH (Spec.rankOf m.from), Spec.mkSq Spec.fF (Spec.rankOf m.from))
      else (Spec.mkSq Spec.fA (Spec.rankOf m.from), Spec.mkSq Spec.fD (Spec.rankOf m.from)))

/-- Nothing lands on a king's home square while that side still has a castling right: the engine drops
    rights only when E1/E8 is *left*, the rules also when something lands there (which can only be the
    capture of a king that never moved). -/
def LandOK (s : Spec.Pos) (m : Move) : Bool :=
  (m.to != E1 || !s.wk && !s.wq) && (m.to != E8 || !s.bk && !s.bq)

def kindOf : Piece → Spec.Kind
  | .pawn => .pawn | .bishop => .bishop | .knight => .knight
  | .rook => .rook | .queen => .queen | .king => .king | .none => .pawn

theorem absKind_of_ne {k : Piece} (h : k ≠ .none) : absKind k = some (kindOf k) := by
  cases k <;> simp [absKind, kindOf] at h ⊢

theorem absCellB_some (c : Color) {k : Piece} (h : k ≠ .none) :
    absCellB (some (c, k)) = some (absColor c, kindOf k) := by
  simp [absCellB, absKind_of_ne h]

theorem absColor_inj {c c' : Color} (h : absColor c = absColor c') : c = c' := by
  cases c <;> cases c' <;> first | rfl | cases h

theorem kindPiece_kindOf {k : Piece} (h : k ≠ .none) : kindPiece (kindOf k) = k := by
  cases k <;> first | rfl | exact absurd rfl h

theorem absCellB_eq_none {v : Option (Color × Piece)} (hv : ∀ c, v ≠ some (c, .none)) (h : absCellB v = none) :
    v = none := by
  cases v with
  | none => rfl
  | some x => rw [absCellB_some x.1 fun e => hv x.1 (by rw [← e])] at h; cases h

theorem absCellB_inj {v v' : Option (Color × Piece)} (hv : ∀ c, v ≠ some (c, .none))
    (hv' : ∀ c, v' ≠ some (c, .none)) (h : absCellB v = absCellB v') : v = v' := by
  cases v with
  | none => exact (absCellB_eq_none hv' h.symm).symm
  | some x =>
    cases v' with
    | none => exact absCellB_eq_none hv h
    | some x' =>
      obtain ⟨c, k⟩ := x
      obtain ⟨c', k'⟩ := x'
      have hk : k ≠ .none := fun e => hv c (by rw [e])
      have hk' : k' ≠ .none := fun e => hv' c' (by rw [e])
      rw [absCellB_some c hk, absCellB_some c' hk'] at h
      obtain ⟨hc, hkk⟩ := Prod.mk.inj (Option.some.inj h)
      rw [absColor_inj hc, ← kindPiece_kindOf hk, hkk, kindPiece_kindOf hk']

theorem absColor_opp (c : Color) : absColor c.opp = (absColor c).opp := by cases c <;> rfl

theorem upd_swap2 (b : Board) {s1 s2 s : Nat} (v1 v2 v) (h1 : s ≠ s1) (h2 : s ≠ s2) :
    upd (upd (upd b s1 v1) s2 v2) s v = upd (upd (upd b s v) s1 v1) s2 v2 := by
  rw [upd_comm _ v2 v (Ne.symm h2), upd_comm _ v1 v (Ne.symm h1)]

theorem cell_moved (m : Move) (turn : Color) {pc : Piece} (hpcne : pc ≠ .none)
    (hP : m.isPromotion = (m.promotion != Piece.none)) :
    absCellB (some (turn, movedPiece m pc)) =
      some (absColor turn, (absKind m.promotion).getD (kindOf pc)) := by
  unfold movedPiece
  by_cases hp : m.isPromotion = true
  · have : m.promotion ≠ .none := by rw [hp] at hP; simpa using hP.symm
    rw [if_pos hp, absCellB_some _ this, absKind_of_ne this]; rfl
  · have : m.promotion = .none := by
      rw [Bool.not_eq_true] at hp; rw [hp] at hP; simpa using hP.symm
    rw [if_neg hp, absCellB_some _ hpcne, this]; rfl

theorem rights_agree (X a b c : Bool) (h : b = false ∨ X = false) :
    (X && !a && !c) = (X && !(a || b) && !c) := by
  rcases h with h | h <;> subst h <;> cases a <;> simp

theorem abs_move {p p' : Position} {b : Board} {m : Move} {turn : Color} {pc : Piece}
    (h : Rep p b) (hok : MetaOK p m = true) (hsq : p.square m.from = some (turn, pc))
    (hcl : ClassOK (abs p turn) m = true) (hland : LandOK (abs p turn) m = true)
    (hm : p.move m = some p') :
    abs p' turn.opp = Spec.apply (abs p turn) (absMove m) := by
  obtain ⟨hrep', hc', he'⟩ := move_rep h hok hm
  rw [h.metaOK_iff] at hok
  have hsqb : b m.from = some (turn, pc) := by rw [← h.square_eq]; exact hsq
  have hpcne : pc ≠ .none := h.ne_none_of_some hsqb
  have hat : (abs p turn).at m.from = some (absColor turn, kindOf pc) := by
    rw [h.abs_at, hsqb, absCellB_some _ hpcne]
  unfold ClassOK at hcl
  unfold LandOK at hland
  simp only [Bool.and_eq_true, beq_iff_eq, Bool.or_eq_true, bne_iff_ne, ne_eq,
    Bool.not_eq_eq_eq_not, Bool.not_true] at hcl hland
  obtain ⟨⟨⟨⟨⟨⟨hE, hC⟩, hD⟩, hP⟩, hEsq⟩, hDsq⟩, hCsq⟩ := hcl
  obtain ⟨hW, hB⟩ := hland
  have hbp : (List.map (absCell p) (List.range 64)).toArray = absBoard b := by
    have := abs_board p turn; rw [← h.board_eq] at this; exact this
  have hbp' : (List.map (absCell p') (List.range 64)).toArray = absBoard (boardAfter b m) := by
    have := abs_board p' turn; rw [← hrep'.board_eq] at this; exact this
  unfold Spec.apply
  simp only [absMove] at hat hE hC hD ⊢
  rw [hat]
  simp only [hE, hC, hD]
  unfold abs at hW hB ⊢
  simp only [Spec.Pos.mk.injEq]
  simp only at hW hB
  refine ⟨?board, absColor_opp turn, ?wk, ?wq, ?bk, ?bq, ?ep⟩
  case wk => rw [hc', right_wK]; exact rights_agree _ _ _ _ (hW.imp decide_eq_false And.left)
  case wq => rw [hc', right_wQ]; exact rights_agree _ _ _ _ (hW.imp decide_eq_false And.right)
  case bk => rw [hc', right_bK]; exact rights_agree _ _ _ _ (hB.imp decide_eq_false And.left)
  case bq => rw [hc', right_bQ]; exact rights_agree _ _ _ _ (hB.imp decide_eq_false And.right)
  case ep =>
    rw [he']
    by_cases hj : m.ty = .jump
    · have hne : m.enPassantTarget ≠ 0 := by
        unfold Move.enPassantTarget
        simp only [hj, bne_self_eq_false, Bool.false_eq_true, if_false, newSquare_eq]
        split <;> omega
      rcases hDsq with hDsq | hDsq
      · exact absurd hj hDsq
      · rw [← hDsq]; simp [hj, hne]
    · have : m.enPassantTarget = 0 := by
        unfold Move.enPassantTarget; simp [hj]
      simp [hj, this]
  case board =>
    rw [hbp, hbp', boardAfter_eq hsqb]
    have hsh := (metaOKb_shape hok hsqb).special
    -- the promotion `match` of `Spec.apply` is `cell_moved`'s `getD`
    have hcell : ∀ X, X = (absKind m.promotion).getD (kindOf pc) →
        absCellB (some (turn, movedPiece m pc)) = some (absColor turn, X) :=
      fun X e => by rw [e, cell_moved m turn hpcne hP]
    refine Eq.trans ?_ (congrArg (Spec.setCell _ m.to) (hcell _ (by cases absKind m.promotion <;> rfl)))
    have hep := moveShape_ep_iff m
    have hca := moveShape_castle_iff m
    cases hs : moveShape m <;>
      simp only [hs, reduceCtorEq, false_iff, true_iff, Bool.not_eq_true] at hsh hep hca ⊢ <;>
      simp only [hep, hca, beq_iff_eq, Bool.false_eq_true, not_true_eq_false, false_or, if_false, if_true]
        at hEsq hCsq ⊢
    case ep =>
      rw [← hEsq, upd_swap2 _ _ _ _ hsh.ne_from hsh.ne_to, absBoard_upd, absBoard_upd, absBoard_upd]
      rfl
    case castle =>
      have hf := hsh
      rw [upd_swap2 _ _ _ _ hf.r1_ne_from hf.r1_ne_to, upd_swap2 _ _ _ _ hf.r2_ne_from hf.r2_ne_to]
      simp only [absBoard_upd]
      split <;> rename_i hg <;> simp only [hg, if_true, if_false, reduceCtorEq, false_or] at hCsq <;>
        rw [hCsq] <;> rfl
    all_goals (rw [absBoard_upd, absBoard_upd]; rfl)

/-- While a side has a castling right, its king stands on its home square. -/
def KingHome (p : Position) : Bool :=
  (!(p.castling &&& wK != 0 || p.castling &&& wQ != 0) || p.square E1 == some (Color.white, Piece.king)) &&
  (!(p.castling &&& bK != 0 || p.castling &&& bQ != 0) || p.square E8 == some (Color.black, Piece.king))

theorem boardAfter_king {b : Board} {m : Move} {sq : Nat} {c : Color}
    (hok : MetaOKb b m = true) (hcap : m.capture ≠ .king)
    (hk : b sq = some (c, Piece.king)) : sq ≠ m.to ∧ (sq ≠ m.from → boardAfter b m sq = b sq) := by
  obtain ⟨turn, pc, hsq⟩ := metaOKb_from hok
  have hf := metaOKb_shape hok hsq
  have hsp := hf.special
  rw [boardAfter_eq hsq]
  have hto : sq ≠ m.to := by
    rcases hf.dest with ⟨_, h⟩ | ⟨_, h⟩
    · exact ne_of_content hk h fun e => hcap (Prod.mk.inj (Option.some.inj e)).2.symm
    · exact ne_of_content hk h nofun
  refine ⟨hto, fun hfr => ?_⟩
  cases hs : moveShape m <;> simp only [hs] at hsp ⊢
  · rw [upd_other _ _ hto, upd_other _ _ hfr]
  · rw [upd_other _ _ (ne_of_content hk hsp.victim (by simp)), upd_other _ _ hto, upd_other _ _ hfr]
  · rw [upd_other _ _ (ne_of_content hk hsp.dest nofun), upd_other _ _ (ne_of_content hk hsp.rook (by simp)),
      upd_other _ _ hto, upd_other _ _ hfr]

theorem landOK_of_kingHome {p : Position} {b : Board} {m : Move} (h : Rep p b)
    (hok : MetaOK p m = true) (hkh : KingHome p = true) (hcap : m.capture ≠ .king) (turn : Color) :
    LandOK (abs p turn) m = true := by
  rw [h.metaOK_iff] at hok
  unfold KingHome at hkh
  unfold LandOK abs
  simp only [Bool.and_eq_true, Bool.or_eq_true, Bool.not_eq_true', beq_iff_eq, bne_iff_ne, ne_eq,
    Bool.or_eq_false_iff, h.square_eq] at hkh ⊢
  have side : ∀ {sq : Nat} {c : Color} {R : Prop}, R ∨ b sq = some (c, Piece.king) → ¬m.to = sq ∨ R :=
    fun h => h.symm.imp (fun h1 e => (boardAfter_king hok hcap h1).1 e.symm) id
  exact ⟨side hkh.1, side hkh.2⟩

theorem kingHome_move {p p' : Position} {b : Board} {m : Move} (h : Rep p b)
    (hok : MetaOK p m = true) (hkh : KingHome p = true) (hcap : m.capture ≠ .king)
    (hm : p.move m = some p') : KingHome p' = true := by
  obtain ⟨hrep', hc', he'⟩ := move_rep h hok hm
  rw [h.metaOK_iff] at hok
  unfold KingHome at hkh ⊢
  rw [hc', right_wK, right_wQ, right_bK, right_bQ]
  simp only [Bool.and_eq_true, Bool.or_eq_true, Bool.not_eq_true', beq_iff_eq, bne_iff_ne, ne_eq,
    Bool.or_eq_false_iff, h.square_eq, hrep'.square_eq, Bool.and_eq_false_imp, Bool.not_eq_false',
    decide_eq_false_iff_not] at hkh ⊢
  have side : ∀ {sq t1 t2 X Y : Nat} {c : Color},
      (X != 0) = false ∧ (Y != 0) = false ∨ b sq = some (c, Piece.king) →
      ((¬X = 0 ∧ ¬m.from = sq → touches m t1 = true) ∧ (¬Y = 0 ∧ ¬m.from = sq → touches m t2 = true)) ∨
        boardAfter b m sq = some (c, Piece.king) := by
    intro sq t1 t2 X Y c hk
    by_cases hfr : sq = m.from
    · exact Or.inl ⟨fun x => absurd hfr.symm x.2, fun x => absurd hfr.symm x.2⟩
    · rcases hk with ⟨a1, a2⟩ | h1
      · simp only [bne_eq_false_iff_eq] at a1 a2
        exact Or.inl ⟨fun x => absurd a1 x.1, fun x => absurd a2 x.1⟩
      · exact Or.inr (by rw [(boardAfter_king hok hcap h1).2 hfr]; exact h1)
  exact ⟨side hkh.1, side hkh.2⟩

/-- Everything `abs_move` needs of one move played by `turn`. -/
def StepOK (p : Position) (turn : Color) (m : Move) : Bool :=
  MetaOK p m && ClassOK (abs p turn) m && m.capture != Piece.king &&
  (match p.square m.from with
   | some (c, _) => c == turn
   | none => false)

def playS (p : Position) (turn : Color) : List Move → Option (Position × Color)
  | [] => some (p, turn)
  | m :: ms =>
    if StepOK p turn m then
      match p.move m with
      | some q => playS q turn.opp ms
      | none => none
    else none

end Morlock.Proofs
