import Morlock.Proofs.Book
import Morlock.Proofs.ChainSound
/-!
# `engine.NewBook` without strings

`NewBook` re-decodes its own `Encode` output at every step, drops the error of `Decode` and dereferences the position.
Here: the key the loop holds is `Encode` of the position just reached, which is reachable from the initial position by
generated moves, so it decodes to that position; hence `NewBook` adds, to the empty map and in order, the entries `(key of the position reached,
move selected there)` that the lines contribute (`bookEntries`, computed on *positions*, never touching a string), and the
`panic` outcome is impossible. What the book holds is then read off the list of entries.
-/
namespace Morlock.Proofs.Book
open Morlock Morlock.Model Morlock.Model.Fen Morlock.Model.Book Morlock.Proofs Morlock.Proofs.Fen
open Morlock.Proofs.Gen Morlock.Proofs.Chain

/-- The position half of one iteration of the inner loop of `NewBook`: parse the move text, take the first generated
    move with the same from/to/promotion, make it. -/
def nextPos (p : Position) (t : Color) (s : List Char) : Except Err (Move × Position) :=
  match parseMove s with
  | none => .error .parse
  | some nx =>
    match (p.pseudoLegalMoves t).find? (fun c => c.equals nx) with
    | none => .error .notFound
    | some c =>
      match p.move c with
      | none => .error .notLegal
      | some q => .ok (c, q)

/-- Play the texts of a line (prefix) from a position. -/
def playStrs (p : Position) (t : Color) : List (List Char) → Option (Position × Color)
  | [] => some (p, t)
  | s :: rest =>
    match nextPos p t s with
    | .error _ => none
    | .ok (_, q) => playStrs q t.opp rest

/-- The entries one line contributes, in the order the loop adds them: for each text the key of the position reached so
    far and the move the text selects there. -/
def lineEntries (p : Position) (t : Color) : List (List Char) → Except Err (List (List Char × Move))
  | [] => .ok []
  | s :: rest =>
    match nextPos p t s with
    | .error e => .error e
    | .ok (c, q) => (lineEntries q t.opp rest).map ((keyOf p t, c) :: ·)

/-- The entries of all lines: every line starts from the initial position. -/
def bookEntries : List (List (List Char)) → Except Err (List (List Char × Move))
  | [] => .ok []
  | line :: rest =>
    match lineEntries startPos .white line with
    | .error e => .error e
    | .ok es => (bookEntries rest).map (es ++ ·)

/-- `m[k][mv] = true` for each entry in turn. -/
def addAll (tb : Table) (es : List (List Char × Move)) : Table := es.foldl (fun tb e => tb.add e.1 e.2) tb

theorem map_eq_ok {ε α β : Type} {f : α → β} {x : Except ε α} {b : β} (h : x.map f = .ok b) : ∃ a, x = .ok a ∧ b = f a := by
  cases x with
  | error e => cases h
  | ok a => exact ⟨a, rfl, (Except.ok.inj h).symm⟩

theorem map_eq_error {ε α β : Type} {f : α → β} {x : Except ε α} {e : ε} (h : x.map f = .error e) : x = .error e := by
  cases x with
  | error e' => cases h; rfl
  | ok a => cases h

theorem lineEntries_cons_ok {p : Position} {t : Color} {s : List Char} {rest : List (List Char)}
    {es : List (List Char × Move)} (h : lineEntries p t (s :: rest) = .ok es) :
    ∃ c q es', nextPos p t s = .ok (c, q) ∧ lineEntries q t.opp rest = .ok es' ∧ es = (keyOf p t, c) :: es' := by
  unfold lineEntries at h
  cases hn : nextPos p t s with
  | error e => rw [hn] at h; cases h
  | ok x =>
    rw [hn] at h
    obtain ⟨es', h1, h2⟩ := map_eq_ok h
    exact ⟨x.1, x.2, es', rfl, h1, h2⟩

theorem bookEntries_cons_ok {line : List (List Char)} {rest : List (List (List Char))} {es : List (List Char × Move)}
    (h : bookEntries (line :: rest) = .ok es) :
    ∃ e1 e2, lineEntries startPos .white line = .ok e1 ∧ bookEntries rest = .ok e2 ∧ es = e1 ++ e2 := by
  unfold bookEntries at h
  cases hl : lineEntries startPos .white line with
  | error e => rw [hl] at h; cases h
  | ok e1 =>
    rw [hl] at h
    obtain ⟨e2, h1, h2⟩ := map_eq_ok h
    exact ⟨e1, e2, rfl, h1, h2⟩

theorem playStrs_cons_some {p : Position} {t : Color} {s : List Char} {rest : List (List Char)} {x : Position × Color}
    (h : playStrs p t (s :: rest) = some x) : ∃ c q, nextPos p t s = .ok (c, q) ∧ playStrs q t.opp rest = some x := by
  unfold playStrs at h
  cases hn : nextPos p t s with
  | error e => rw [hn] at h; cases h
  | ok y => rw [hn] at h; exact ⟨y.1, y.2, rfl, h⟩

theorem nextPos_ok {p : Position} {t : Color} {s : List Char} {c : Move} {q : Position}
    (h : nextPos p t s = .ok (c, q)) :
    ∃ nx, parseMove s = some nx ∧ c.equals nx = true ∧ c ∈ p.pseudoLegalMoves t ∧ p.move c = some q ∧
      (p.pseudoLegalMoves t).find? (fun c => c.equals nx) = some c := by
  unfold nextPos at h
  split at h
  · cases h
  · rename_i nx hp
    split at h
    · cases h
    · rename_i c' hf
      split at h
      · cases h
      · rename_i q' hm
        cases h
        have he := List.find?_some hf
        exact ⟨nx, hp, he, List.mem_of_find?_eq_some hf, hm, hf⟩

theorem nextPos_error {p : Position} {t : Color} {s : List Char} {e : Err} (h : nextPos p t s = .error e) :
    (e = .parse ∧ parseMove s = none) ∨
    (e = .notFound ∧ ∃ nx, parseMove s = some nx ∧ ∀ c ∈ p.pseudoLegalMoves t, c.equals nx = false) ∨
    (e = .notLegal ∧ ∃ nx c, parseMove s = some nx ∧ c ∈ p.pseudoLegalMoves t ∧ c.equals nx = true ∧
      p.move c = none) := by
  unfold nextPos at h
  split at h
  · rename_i hp
    cases h
    exact Or.inl ⟨rfl, hp⟩
  · rename_i nx hp
    split at h
    · rename_i hf
      cases h
      exact Or.inr (Or.inl ⟨rfl, nx, hp, fun c hc => by simpa using List.find?_eq_none.mp hf c hc⟩)
    · rename_i c' hf
      split at h
      · rename_i hm
        cases h
        have he := List.find?_some hf
        exact Or.inr (Or.inr ⟨rfl, nx, c', hp, List.mem_of_find?_eq_some hf, he, hm⟩)
      · cases h

theorem nextPos_ne_panic {p : Position} {t : Color} {s : List Char} : nextPos p t s ≠ .error .panic := by
  intro h
  rcases nextPos_error h with ⟨h, _⟩ | ⟨h, _⟩ | ⟨h, _⟩ <;> cases h

theorem wfplay_of_reach {p : Position} {t : Color} (h : GenReach startPos .white p t) : WFplay p t :=
  reach_wfplay startPos_wfplay h

theorem enpassant_lt {p : Position} {t : Color} (hw : WF p t) : p.enpassant < 64 := by
  by_cases he : p.enpassant = 0
  · rw [he]; decide
  · exact (hw.wfb.ep_ok he).1

theorem reach_castling_aux {p0 : Position} {t0 : Color} (hw : WFplay p0 t0) (h0 : p0.castling < 16) {p : Position}
    {t : Color} (h : GenReach p0 t0 p t) : p.castling < 16 := by
  induction h with
  | refl => exact h0
  | step hr hm hq ih =>
    -- a move only clears rights
    have hp := (reach_wfplay hw hr).1
    obtain ⟨hok, _⟩ := ((mem_pseudoLegalMoves hp.rep hp.wfb _).mp hm).metaOK_classOK hp.rep hp.wfb
    rw [(move_rep hp.rep hok hq).2.1]
    unfold andNot
    exact Nat.xor_lt_two_pow (n := 4) (ih hw) (Nat.lt_of_le_of_lt Nat.and_le_left (ih hw))

/-- Reachable positions hold only the four rights. -/
theorem reach_castling {p : Position} {t : Color} (h : GenReach startPos .white p t) : p.castling < 16 :=
  reach_castling_aux startPos_wfplay (by decide +kernel) h

theorem strip_encode_reach {p : Position} {t : Color} (h : GenReach startPos .white p t) (np fm : Int) :
    strip (encode p t np fm).toList = some (keyOf p t) :=
  have hw := wfplay_of_reach h
  strip_encode hw.1.rep (reach_castling h) (enpassant_lt hw.1) t np fm

/-- The key the loop holds — `Encode` of the position reached, clocks 0 and 1 — decodes to that position. -/
theorem decode_encode_reach {p : Position} {t : Color} (h : GenReach startPos .white p t) :
    decode (encode p t 0 1).toList = some ⟨p, t, 0, 1⟩ :=
  have hw := wfplay_of_reach h
  decode_encode_of_rep hw.1.rep (reach_castling h) (enpassant_lt hw.1) t 0 1 (by decide) (by decide)

theorem initial_eq : initial = (encode startPos .white 0 1).toList := by
  unfold initial Gen.fenInitial
  -- the literal as a list of characters: the kernel decodes a string literal in quadratic time
  rw [String.toList_ofList]
  decide +kernel

theorem stepMove_eq {p : Position} {t : Color} (h : GenReach startPos .white p t) (tb : Table) (s : List Char) :
    stepMove tb (encode p t 0 1).toList s =
      match nextPos p t s with
      | .error e => .error e
      | .ok (c, q) => .ok (tb.add (keyOf p t) c, (encode q t.opp 0 1).toList) := by
  unfold stepMove nextPos
  rw [decode_encode_reach h, strip_encode_reach h 0 1]
  cases parseMove s with
  | none => rfl
  | some nx =>
    simp only
    cases (p.pseudoLegalMoves t).find? (fun c => c.equals nx) with
    | none => rfl
    | some c =>
      simp only
      cases p.move c with
      | none => rfl
      | some q => rfl

theorem lineLoop_eq : ∀ (l : List (List Char)) {p : Position} {t : Color} (_ : GenReach startPos .white p t)
    (tb : Table), lineLoop tb (encode p t 0 1).toList l = (lineEntries p t l).map (addAll tb)
  | [], _, _, _, _ => rfl
  | s :: rest, p, t, h, tb => by
    unfold lineLoop lineEntries
    rw [stepMove_eq h]
    cases hn : nextPos p t s with
    | error e => rfl
    | ok x =>
      obtain ⟨c, q⟩ := x
      obtain ⟨_, _, _, hc, hq, _⟩ := nextPos_ok hn
      simp only
      rw [lineLoop_eq rest (GenReach.step h hc hq)]
      cases lineEntries q t.opp rest <;> rfl

theorem linesLoop_eq : ∀ (lines : List (List (List Char))) (tb : Table),
    linesLoop tb lines = (bookEntries lines).map (addAll tb)
  | [], _ => rfl
  | line :: rest, tb => by
    unfold linesLoop bookEntries
    rw [initial_eq, lineLoop_eq line (GenReach.refl _ _)]
    cases lineEntries startPos .white line with
    | error e => rfl
    | ok es =>
      simp only [Except.map]
      rw [linesLoop_eq rest]
      cases bookEntries rest with
      | error e => rfl
      | ok es' => simp only [Except.map, addAll, List.foldl_append]

/-- No `Decode` failure, no `Strip` panic can occur inside `NewBook`. -/
theorem newBook_eq (lines : List (List (List Char))) : newBook lines = (bookEntries lines).map (addAll []) :=
  linesLoop_eq lines []

theorem newBook_ok {lines : List (List (List Char))} {book : Table} (h : newBook lines = .ok book) :
    ∃ es, bookEntries lines = .ok es ∧ book = addAll [] es :=
  map_eq_ok (newBook_eq lines ▸ h)

theorem newBook_err {lines : List (List (List Char))} {e : Err} (h : newBook lines = .error e) :
    bookEntries lines = .error e :=
  map_eq_error (newBook_eq lines ▸ h)

theorem playStrs_append : ∀ (a b : List (List Char)) (p : Position) (t : Color),
    playStrs p t (a ++ b) = (playStrs p t a).bind fun x => playStrs x.1 x.2 b
  | [], _, _, _ => rfl
  | s :: a, b, p, t => by
    simp only [List.cons_append, playStrs]
    cases nextPos p t s with
    | error e => rfl
    | ok x => exact playStrs_append a b x.2 t.opp

theorem playStrs_reach : ∀ (l : List (List Char)) {p0 : Position} {t0 : Color} (p : Position) (t : Color)
    {q : Position} {t' : Color}, GenReach p0 t0 p t → playStrs p t l = some (q, t') → GenReach p0 t0 q t'
  | [], _, _, p, t, q, t', hr, h => by
    simp only [playStrs, Option.some.injEq, Prod.mk.injEq] at h
    obtain ⟨rfl, rfl⟩ := h
    exact hr
  | s :: rest, _, _, p, t, q, t', hr, h => by
    obtain ⟨c, r, hn, h⟩ := playStrs_cons_some h
    obtain ⟨_, _, _, hc, hq, _⟩ := nextPos_ok hn
    exact playStrs_reach rest r t.opp (GenReach.step hr hc hq) h

theorem mem_get_addAll {k : List Char} {m : Move} : ∀ (es : List (List Char × Move)) (tb : Table),
    m ∈ (addAll tb es).get k ↔ m ∈ tb.get k ∨ (k, m) ∈ es
  | [], _ => by simp [addAll]
  | e :: es, tb => by
    unfold addAll
    rw [List.foldl_cons]
    have ih := mem_get_addAll (k := k) (m := m) es (tb.add e.1 e.2)
    unfold addAll at ih
    rw [ih, mem_get_add, List.mem_cons, or_assoc]
    apply or_congr Iff.rfl
    apply or_congr_left
    constructor
    · rintro ⟨rfl, rfl⟩; rfl
    · intro h; exact ⟨congrArg Prod.fst h, congrArg Prod.snd h⟩

/-- The book has distinct keys, each with distinct replies. -/
theorem addAll_nil_wf (es : List (List Char × Move)) :
    ((addAll [] es).map (·.1)).Nodup ∧ ∀ k ms, (k, ms) ∈ addAll [] es → ms.Nodup := by
  refine List.foldlRecOn es _ (b := ([] : Table)) (motive := fun t : Table => (t.map (·.1)).Nodup ∧ ∀ k ms, (k, ms) ∈ t → ms.Nodup)
    ⟨List.nodup_nil, fun _ _ h => by cases h⟩
    (fun t hw e _ => ⟨by rw [keys_add]; exact insertNew_nodup hw.1 _, fun k ms hm => ?_⟩)
  rcases mem_add hm with hm | ⟨rfl, rfl⟩
  · exact hw.2 k ms hm
  · apply insertNew_nodup
    rcases get_nil_or_mem t e.1 with e' | hm
    · rw [e']; exact List.nodup_nil
    · exact hw.2 _ _ hm

/-- `(k, m)` is an entry demanded by the lines: some line, cut as `pre ++ s :: post`, reaches `(p, t)` after `pre`,
    its next text `s` selects the generated move `m`, which `Position.Move` accepts, and `k` is the key of `(p, t)`. -/
def Entry (lines : List (List (List Char))) (k : List Char) (m : Move) : Prop :=
  ∃ line ∈ lines, ∃ (pre : List (List Char)) (s : List Char) (post : List (List Char)) (p : Position) (t : Color)
    (q : Position), line = pre ++ s :: post ∧ playStrs startPos .white pre = some (p, t) ∧
      nextPos p t s = .ok (m, q) ∧ k = keyOf p t

theorem mem_lineEntries : ∀ (l : List (List Char)) (p : Position) (t : Color) {es : List (List Char × Move)},
    lineEntries p t l = .ok es → ∀ (k : List Char) (m : Move), (k, m) ∈ es ↔
      ∃ (pre : List (List Char)) (s : List Char) (post : List (List Char)) (p' : Position) (t' : Color) (q : Position),
        l = pre ++ s :: post ∧ playStrs p t pre = some (p', t') ∧ nextPos p' t' s = .ok (m, q) ∧ k = keyOf p' t'
  | [], _, _, es, h, k, m => by
    cases h
    constructor
    · intro h; cases h
    · rintro ⟨pre, _, _, _, _, _, h, _⟩; cases pre <;> cases h
  | s0 :: rest, p, t, es, h, k, m => by
    obtain ⟨c, q0, es', hn, hr, rfl⟩ := lineEntries_cons_ok h
    have ih := mem_lineEntries rest q0 t.opp hr k m
    rw [List.mem_cons, ih]
    constructor
    · rintro (e | ⟨pre, s, post, p', t', q, e1, e2, e3, e4⟩)
      · obtain ⟨hk, hm⟩ := Prod.mk.inj e
        exact ⟨[], s0, rest, p, t, q0, rfl, rfl, by rw [hm]; exact hn, hk⟩
      · refine ⟨s0 :: pre, s, post, p', t', q, by rw [e1]; rfl, ?_, e3, e4⟩
        unfold playStrs
        rw [hn]; exact e2
    · rintro ⟨pre, s, post, p', t', q, e1, e2, e3, e4⟩
      cases pre with
      | nil =>
        cases e1
        cases e2
        rw [hn] at e3
        cases e3
        exact Or.inl (by rw [e4])
      | cons a pre' =>
        cases e1
        obtain ⟨c', r', ha', e2⟩ := playStrs_cons_some e2
        rw [hn] at ha'
        cases ha'
        exact Or.inr ⟨pre', s, post, p', t', q, rfl, e2, e3, e4⟩

theorem mem_bookEntries : ∀ (ls : List (List (List Char))) {es : List (List Char × Move)}, bookEntries ls = .ok es →
    ∀ (k : List Char) (m : Move), (k, m) ∈ es ↔ Entry ls k m
  | [], es, h, k, m => by
    cases h
    constructor
    · intro h; cases h
    · rintro ⟨_, hl, _⟩; cases hl
  | line :: rest, es, h, k, m => by
    obtain ⟨e1, e2, h1, h2, rfl⟩ := bookEntries_cons_ok h
    rw [List.mem_append, mem_lineEntries line _ _ h1, mem_bookEntries rest h2]
    constructor
    · rintro (⟨pre, s, post, p, t, q, hh⟩ | ⟨line', hl, hh⟩)
      · exact ⟨line, List.mem_cons_self .., pre, s, post, p, t, q, hh⟩
      · exact ⟨line', List.mem_cons_of_mem _ hl, hh⟩
    · rintro ⟨line', hl, pre, s, post, p, t, q, hh⟩
      rcases List.mem_cons.mp hl with e | hl
      · exact Or.inl ⟨pre, s, post, p, t, q, e ▸ hh⟩
      · exact Or.inr ⟨line', hl, pre, s, post, p, t, q, hh⟩

theorem lineEntries_isOk_iff : ∀ (l : List (List Char)) (p : Position) (t : Color),
    (∃ es, lineEntries p t l = .ok es) ↔ (playStrs p t l).isSome = true
  | [], _, _ => by simp [lineEntries, playStrs]
  | s :: rest, p, t => by
    constructor
    · rintro ⟨es, h⟩
      obtain ⟨c, q, es', hn, hr, _⟩ := lineEntries_cons_ok h
      unfold playStrs
      rw [hn]
      exact (lineEntries_isOk_iff rest q t.opp).mp ⟨es', hr⟩
    · intro h
      unfold playStrs at h
      unfold lineEntries
      cases hn : nextPos p t s with
      | error e => rw [hn] at h; cases h
      | ok x =>
        rw [hn] at h
        obtain ⟨es', hr⟩ := (lineEntries_isOk_iff rest x.2 t.opp).mpr h
        exact ⟨(keyOf p t, x.1) :: es', by simp only [hr]; rfl⟩

theorem bookEntries_isOk_iff : ∀ (ls : List (List (List Char))),
    (∃ es, bookEntries ls = .ok es) ↔ ∀ l ∈ ls, (playStrs startPos .white l).isSome = true
  | [] => by simp [bookEntries]
  | line :: rest => by
    rw [List.forall_mem_cons, ← lineEntries_isOk_iff, ← bookEntries_isOk_iff rest]
    constructor
    · rintro ⟨es, h⟩
      obtain ⟨e1, e2, h1, h2, _⟩ := bookEntries_cons_ok h
      exact ⟨⟨e1, h1⟩, e2, h2⟩
    · rintro ⟨⟨e1, h1⟩, e2, h2⟩
      exact ⟨e1 ++ e2, by unfold bookEntries; simp only [h1, h2]; rfl⟩

theorem lineEntries_error : ∀ (l : List (List Char)) (p : Position) (t : Color) {e : Err},
    lineEntries p t l = .error e →
      ∃ (pre : List (List Char)) (s : List Char) (post : List (List Char)) (p' : Position) (t' : Color),
        l = pre ++ s :: post ∧ playStrs p t pre = some (p', t') ∧ nextPos p' t' s = .error e
  | [], _, _, _, h => by cases h
  | s :: rest, p, t, e, h => by
    unfold lineEntries at h
    cases hn : nextPos p t s with
    | error e' =>
      rw [hn] at h
      cases h
      exact ⟨[], s, rest, p, t, rfl, rfl, hn⟩
    | ok x =>
      obtain ⟨c, q⟩ := x
      rw [hn] at h
      obtain ⟨pre, s', post, p', t', h1, h2, h3⟩ := lineEntries_error rest q t.opp (map_eq_error h)
      refine ⟨s :: pre, s', post, p', t', by rw [h1]; rfl, ?_, h3⟩
      unfold playStrs
      rw [hn]; exact h2

theorem bookEntries_error : ∀ (ls : List (List (List Char))) {e : Err}, bookEntries ls = .error e →
    ∃ line ∈ ls, ∃ (pre : List (List Char)) (s : List Char) (post : List (List Char)) (p : Position) (t : Color),
      line = pre ++ s :: post ∧ playStrs startPos .white pre = some (p, t) ∧ nextPos p t s = .error e
  | [], _, h => by cases h
  | line :: rest, e, h => by
    unfold bookEntries at h
    cases hl : lineEntries startPos .white line with
    | error e' =>
      rw [hl] at h
      cases h
      exact ⟨line, List.mem_cons_self .., lineEntries_error line _ _ hl⟩
    | ok es =>
      rw [hl] at h
      obtain ⟨l, hmem, rest'⟩ := bookEntries_error rest (map_eq_error h)
      exact ⟨l, List.mem_cons_of_mem _ hmem, rest'⟩

end Morlock.Proofs.Book
