import Morlock.Proofs.ArenaObs
/-!
# Any number of boards, forks of forks, adjudication

A run of `PushMove`, `PopMove`, `Fork` and `AdjudicateNoLegalMoves` addressed to arbitrary boards of the world; a
`fork` creates a new board whose id is the number of boards at that moment, as in `World.fork`. Side condition: no
board is taken back below the point where it was last forked, where it was created by a fork, or where the run
started. The invariant: the participating boards are pairwise separated, and each sees what the view-run of its
lineage gives (the operations of its ancestors up to the fork, then its own). For the boards that were there a
fork is an operation that changes nothing; the new board then joins.
-/
namespace Morlock.Proofs.Arena
open Morlock Morlock.Model Morlock.Model.World

inductive OpN
  | push (m : Move)
  | pop
  | fork
  | adjudicate
deriving DecidableEq, Repr

/-- One operation on board `b`. `none` = `PushMove` / `PopMove` returned false. -/
def stepN (z : ZTable) (w : World) (b : Nat) : OpN → Option World
  | .push m => w.pushMove z b m
  | .pop => (w.popMove b).map (·.1)
  | .fork => some (w.fork b).1
  | .adjudicate => some (w.adjudicateNoLegalMoves b).1

def runN (z : ZTable) : World → List (Nat × OpN) → Option World
  | w, [] => some w
  | w, (b, o) :: r => (stepN z w b o).bind (runN z · r)

theorem runN_eq_foldlM (z : ZTable) (ops : List (Nat × OpN)) (w : World) :
    runN z w ops = ops.foldlM (fun w p => stepN z w p.1 p.2) w := by
  induction ops generalizing w with
  | nil => rfl
  | cons p r ih => simp only [runN, List.foldlM_cons, ih, Option.bind_eq_bind]

def viewAdj (v : View) : View := v.setResult (adjResult v.pos v.turn)

def viewStepN (z : ZTable) (v : View) : OpN → Option View
  | .push m => viewPush z v m
  | .pop => (viewPop v).map (·.1)
  | .fork => some v
  | .adjudicate => some (viewAdj v)

def viewRunN (z : ZTable) (v : View) (l : List OpN) : Option View := l.foldlM (viewStepN z) v

/-- Number of boards an operation creates. -/
def OpN.grow : OpN → Nat
  | .fork => 1
  | _ => 0

/-- Depth bookkeeping: a move goes one up; a take-back one down and is only allowed above depth 0; a fork
makes the current node the new floor of the forked board (the fork shares everything below it);
adjudication does not move. -/
def OpN.depth : OpN → Nat → Option Nat
  | .push _, d => some (d + 1)
  | .pop, 0 => none
  | .pop, d + 1 => some d
  | .fork, _ => some 0
  | .adjudicate, d => some d

theorem OpN.grow_of_ne_fork {o : OpN} (h : o ≠ .fork) : o.grow = 0 := by
  cases o with
  | fork => exact absurd rfl h
  | _ => rfl

theorem adjudicate_result (w : World) (b : Nat) :
    (w.adjudicateNoLegalMoves b).2 = adjResult (w.cur b).pos (w.board b).turn := by
  rw [adjudicate_def]

theorem adjudicate_board_self (w : World) {b : Nat} (hb : b < w.boards.size) :
    (w.adjudicateNoLegalMoves b).1.board b = { w.board b with result := adjResult (w.cur b).pos (w.board b).turn } := by
  rw [adjudicate_eq, setBoard_board, if_pos ⟨rfl, hb⟩]

theorem blockedR_adjResult (pos : Position) (turn : Color) : blockedR (adjResult pos turn) = true := by
  unfold adjResult
  split <;> rfl

theorem adjudicate_boards_size (w : World) (b : Nat) : (w.adjudicateNoLegalMoves b).1.boards.size = w.boards.size := by
  rw [adjudicate_eq]; simp

theorem chainIdx_adjudicate (w : World) (b y : Nat) :
    chainIdx (w.adjudicateNoLegalMoves b).1 y = chainIdx w y := by
  have hc : ((w.adjudicateNoLegalMoves b).1.board y).current = (w.board y).current := by
    rw [adjudicate_eq, setBoard_board]
    split
    · rename_i h; rw [← h.1]
    · rfl
  unfold chainIdx
  rw [hc]
  exact (anc_congr (w1 := w) (w2 := (w.adjudicateNoLegalMoves b).1) fun _ _ => rfl).1

theorem view_adjudicate_other (w : World) {b a : Nat} (h : b ≠ a) :
    view (w.adjudicateNoLegalMoves b).1 a = view w a := by
  rw [adjudicate_eq]
  exact view_setBoard_other _ h

theorem view_adjudicate_self (w : World) {b : Nat} (hb : b < w.boards.size) :
    view (w.adjudicateNoLegalMoves b).1 b = viewAdj (view w b) := by
  rw [adjudicate_eq, view_setBoard_self hb, viewAdj, view_pos, view_turn]
  unfold view
  rfl

theorem stepN_wf {w w' : World} {z : ZTable} {b : Nat} {o : OpN} (hw : WFWorld w) (hb : b < w.boards.size)
    (h : stepN z w b o = some w') : WFWorld w' ∧ w'.boards.size = w.boards.size + o.grow := by
  cases o with
  | push m =>
    have h : step z b w (.push m) = some w' := h
    exact step_wf hw hb h
  | pop =>
    have h : step z b w .pop = some w' := h
    exact step_wf hw hb h
  | fork => cases h; exact ⟨wf_fork hw b, fork_boards_size w b⟩
  | adjudicate => cases h; exact ⟨wf_adjudicate' hw b, adjudicate_boards_size w b⟩

theorem stepN_view_self {w : World} (hw : WFWorld w) {z : ZTable} {b : Nat} (hb : b < w.boards.size) (o : OpN) :
    (stepN z w b o).map (fun w' => view w' b) = viewStepN z (view w b) o := by
  cases o with
  | push m => exact push_view hw hb m
  | pop => exact step_view (z := z) hw hb Op.pop
  | fork => exact congrArg some (view_fork_old hw b hb)
  | adjudicate => exact congrArg some (view_adjudicate_self w hb)

theorem viewRunN_snoc {z : ZTable} (l : List OpN) (o : OpN) (v : View) :
    viewRunN z v (l ++ [o]) = (viewRunN z v l).bind (viewStepN z · o) := by
  simp [viewRunN, List.foldlM_append]

theorem runN_wf {z : ZTable} (ops : List (Nat × OpN)) {w w' : World} (hw : WFWorld w)
    (hlt : ∀ p ∈ ops, p.1 < w.boards.size) (h : runN z w ops = some w') :
    WFWorld w' ∧ w.boards.size ≤ w'.boards.size := by
  rw [runN_eq_foldlM] at h
  refine foldlM_inv (fun s => WFWorld s ∧ w.boards.size ≤ s.boards.size) ?_ ⟨hw, Nat.le_refl _⟩ h
  intro s p s' hp hs h
  have := stepN_wf hs.1 (Nat.lt_of_lt_of_le (hlt p hp) hs.2) h
  exact ⟨this.1, this.2 ▸ Nat.le_trans hs.2 (Nat.le_add_right _ _)⟩

/-- A run addressed to one board acts on its view as `viewRunN`: the forks made on the way create other boards. -/
theorem runN_view_one {z : ZTable} {b : Nat} (l : List OpN) {w : World} (hw : WFWorld w) (hb : b < w.boards.size) :
    (runN z w (l.map fun o => (b, o))).map (fun w' => view w' b) = viewRunN z (view w b) l := by
  rw [runN_eq_foldlM, List.foldlM_map]
  refine foldlM_map_comm _ (fun s => WFWorld s ∧ b < s.boards.size) ?_ (fun s o hs => stepN_view_self hs.1 hs.2 o) l
    ⟨hw, hb⟩
  intro s o s' hs h
  have := stepN_wf hs.1 hs.2 h
  exact ⟨this.1, this.2 ▸ Nat.lt_of_lt_of_le hs.2 (Nat.le_add_right _ _)⟩

/-- What one allowed operation on `x` does to the boards that were there before: chains stay (that of `x`
too unless it moves), and a board separated from `x` keeps its view and stays separated. For them a fork of
`x` changes nothing but the height of `x`. -/
theorem stepN_others {w w' : World} {z : ZTable} {x : Nat} {o : OpN} {dx dx' : Nat} (hw : WFWorld w)
    (hx : x < w.boards.size) (hd : o.depth dx = some dx') (h : stepN z w x o = some w') :
    (∀ y, y < w.boards.size → x ≠ y → chainIdx w' y = chainIdx w y) ∧
    (∀ y dy, y < w.boards.size → x ≠ y → Sep w x y dx → Sep w y x dy →
      view w' y = view w y ∧ Sep w' x y dx' ∧ Sep w' y x dy) := by
  cases o with
  | push m =>
    have h : step z x w (.push m) = some w' := h
    have hd : (Op.push m).depth dx = some dx' := hd
    exact ⟨fun y hy hxy => chainIdx_step_other hw hy hxy h,
      fun y dy hy hxy hsx hsy => step_sep hw hx hy hxy hsx hsy hd h⟩
  | pop =>
    have h : step z x w .pop = some w' := h
    have hd : Op.pop.depth dx = some dx' := by cases dx <;> exact hd
    exact ⟨fun y hy hxy => chainIdx_step_other hw hy hxy h,
      fun y dy hy hxy hsx hsy => step_sep hw hx hy hxy hsx hsy hd h⟩
  | fork =>
    cases h
    cases hd
    have hch := fun y hy => chainIdx_fork_old hw x (y := y) hy
    exact ⟨fun y hy _ => hch y hy, fun y dy hy _ hsx hsy =>
      ⟨view_fork_old hw x hy, (hsx.mono (Nat.zero_le _)).congr (hch x hx) (hch y hy), hsy.congr (hch y hy) (hch x hx)⟩⟩
  | adjudicate =>
    cases h
    cases hd
    have hch := chainIdx_adjudicate w x
    exact ⟨fun y _ _ => hch y, fun y dy _ hxy hsx hsy =>
      ⟨view_adjudicate_other w hxy, hsx.congr (hch x) (hch y), hsy.congr (hch y) (hch x)⟩⟩

def upd {α : Type} (f : Nat → α) (i : Nat) (a : α) : Nat → α := fun j => if j = i then a else f j

theorem upd_self {α : Type} (f : Nat → α) (i : Nat) (a : α) : upd f i a i = a := if_pos rfl

theorem upd_of_ne {α : Type} (f : Nat → α) {i j : Nat} (a : α) (h : j ≠ i) : upd f i a j = f j := if_neg h

theorem forall_upd {D : Nat → Option Nat} {i : Nat} {a : Option Nat} {P : Nat → Nat → Prop}
    (hnew : ∀ d, a = some d → P i d) (hold : ∀ b d, b ≠ i → D b = some d → P b d) :
    ∀ b d, upd D i a b = some d → P b d := by
  intro b d h
  by_cases hb : b = i
  · subst hb; exact hnew d ((upd_self D b a).symm.trans h)
  · exact hold b d hb ((upd_of_ne D a hb).symm.trans h)

/-- For a property of pairs of distinct entries (as in `Inv.sep`): new against old, old against new, old
against old. -/
theorem pairwise_upd {D : Nat → Option Nat} {i : Nat} {a : Option Nat} {Q : Nat → Nat → Nat → Prop}
    (hno : ∀ di y dy, a = some di → y ≠ i → D y = some dy → Q i y di)
    (hon : ∀ x dx di, x ≠ i → D x = some dx → a = some di → Q x i dx)
    (hoo : ∀ x y dx dy, x ≠ i → y ≠ i → D x = some dx → D y = some dy → x ≠ y → Q x y dx) :
    ∀ x y dx dy, upd D i a x = some dx → upd D i a y = some dy → x ≠ y → Q x y dx := by
  intro x y dx dy hx hy hxy
  by_cases hxi : x = i
  · subst hxi
    exact hno dx y dy ((upd_self D x a).symm.trans hx) (Ne.symm hxy) ((upd_of_ne D a (Ne.symm hxy)).symm.trans hy)
  · have hDx := (upd_of_ne D a hxi).symm.trans hx
    by_cases hyi : y = i
    · subst hyi; exact hon x dx dy hxi hDx ((upd_self D y a).symm.trans hy)
    · exact hoo x y dx dy hxi hyi hDx ((upd_of_ne D a hyi).symm.trans hy) hxy

/-- After a `fork` of board `b` in a world of `n` boards, the new board `n` inherits the entry of `b`. -/
def forkUpd {α : Type} (o : OpN) (n b : Nat) (f : Nat → α) : Nat → α :=
  match o with
  | .fork => upd f n (f b)
  | _ => f

theorem forkUpd_of_ne_fork {α : Type} {o : OpN} (h : o ≠ .fork) (n b : Nat) (f : Nat → α) : forkUpd o n b f = f := by
  cases o with
  | fork => exact absurd rfl h
  | _ => rfl

theorem forkUpd_of_ne {α : Type} (o : OpN) {n j : Nat} (b : Nat) (f : Nat → α) (h : j ≠ n) : forkUpd o n b f j = f j := by
  cases o with
  | fork => exact upd_of_ne f _ h
  | _ => rfl

/-- One operation on the depth assignment `D` (`none` = the board does not take part / does not exist).
Fails if the board does not take part or would be taken back below its floor. -/
def depthStep (n : Nat) (D : Nat → Option Nat) (b : Nat) (o : OpN) : Option (Nat → Option Nat) :=
  (D b).bind fun d => (o.depth d).map fun d' => forkUpd o n b (upd D b (some d'))

/-- The side condition of the isolation theorem: every operation is addressed to a participating board,
and no board is taken back below its floor - the point where the run started, where it was created by a
fork, or where it was last forked. `n` is the number of boards of the world, `D` the current heights. -/
def aboveN : Nat → (Nat → Option Nat) → List (Nat × OpN) → Bool
  | _, _, [] => true
  | n, D, (b, o) :: r =>
    match depthStep n D b o with
    | none => false
    | some D' => aboveN (n + o.grow) D' r

/-- The depth assignment at the end of the run (where `aboveN` holds). -/
def depthsAfter : Nat → (Nat → Option Nat) → List (Nat × OpN) → (Nat → Option Nat)
  | _, D, [] => D
  | n, D, (b, o) :: r =>
    match depthStep n D b o with
    | none => D
    | some D' => depthsAfter (n + o.grow) D' r

/-- Roots `R` (board of the initial world a board descends from) and lineages `H` (operations of the
ancestors up to the fork, then the board's own) after a run. -/
def lineages : Nat → (Nat → Nat) → (Nat → List OpN) → List (Nat × OpN) → (Nat → Nat) × (Nat → List OpN)
  | _, R, H, [] => (R, H)
  | n, R, H, (b, o) :: r =>
    lineages (n + o.grow) (forkUpd o n b R) (forkUpd o n b (upd H b (H b ++ [o]))) r

/-- The board of the initial world (of `n` boards) from which board `b` descends after `ops`. -/
def rootOf (n : Nat) (ops : List (Nat × OpN)) (b : Nat) : Nat := (lineages n id (fun _ => []) ops).1 b

/-- The operations of the lineage of board `b` after `ops`, starting from a world of `n` boards. -/
def lineOf (n : Nat) (ops : List (Nat × OpN)) (b : Nat) : List OpN := (lineages n id (fun _ => []) ops).2 b

theorem depthStep_some {n : Nat} {D D' : Nat → Option Nat} {x : Nat} {o : OpN} (h : depthStep n D x o = some D') :
    ∃ d d', D x = some d ∧ o.depth d = some d' ∧ D' = forkUpd o n x (upd D x (some d')) := by
  obtain ⟨d, hD, h⟩ := Option.bind_eq_some_iff.mp h
  obtain ⟨d', ho, h⟩ := Option.map_eq_some_iff.mp h
  exact ⟨d, d', hD, ho, h.symm⟩

theorem depthStep_of {n : Nat} {D : Nat → Option Nat} {x d d' : Nat} {o : OpN} (hD : D x = some d)
    (ho : o.depth d = some d') : depthStep n D x o = some (forkUpd o n x (upd D x (some d'))) := by
  rw [depthStep, hD, Option.bind_some, ho, Option.map_some]

theorem aboveN_cons {n : Nat} {D : Nat → Option Nat} {x : Nat} {o : OpN} {r : List (Nat × OpN)}
    (h : aboveN n D ((x, o) :: r) = true) : ∃ D', depthStep n D x o = some D' ∧ aboveN (n + o.grow) D' r = true := by
  rw [aboveN] at h
  cases hd : depthStep n D x o with
  | none => rw [hd] at h; cases h
  | some D' => rw [hd] at h; exact ⟨D', rfl, h⟩

/-- The operations addressed to an initial board are exactly its lineage. -/
theorem lineages_initial (ops : List (Nat × OpN)) :
    ∀ (n : Nat) (R : Nat → Nat) (H : Nat → List OpN) (b : Nat), b < n →
      (lineages n R H ops).1 b = R b ∧
      (lineages n R H ops).2 b = H b ++ (ops.filter (fun p => p.1 == b)).map (·.2) := by
  induction ops with
  | nil => intro n R H b _; simp [lineages]
  | cons p r ih =>
    intro n R H b hb
    obtain ⟨x, o⟩ := p
    obtain ⟨h1, h2⟩ := ih (n + o.grow) (forkUpd o n x R) (forkUpd o n x (upd H x (H x ++ [o]))) b
      (Nat.lt_of_lt_of_le hb (Nat.le_add_right _ _))
    rw [lineages, h1, h2, forkUpd_of_ne o x R (Nat.ne_of_lt hb), forkUpd_of_ne o x _ (Nat.ne_of_lt hb)]
    refine ⟨rfl, ?_⟩
    by_cases hxb : x = b
    · subst hxb
      simp [upd]
    · have : (x == b) = false := by simp [hxb]
      simp [upd_of_ne H _ (Ne.symm hxb), this]

theorem filter_map_addr (b : Nat) (ops : List (Nat × OpN)) :
    ((ops.filter (fun p => p.1 == b)).map (·.2)).map (fun o => (b, o)) = ops.filter (fun p => p.1 == b) := by
  rw [List.map_map]
  refine (List.map_congr_left fun p hp => ?_).trans (List.map_id _)
  show (b, p.2) = p
  rw [← beq_iff_eq.mp (List.mem_filter.mp hp).2]

/-- The invariant of a run started in `w0`: the participating boards (`D b ≠ none`) exist, descend from boards
of `w0`, are pairwise separated at their heights, and each sees what the view-run of its lineage gives. -/
structure Inv (z : ZTable) (w0 w : World) (D : Nat → Option Nat) (R : Nat → Nat) (H : Nat → List OpN) : Prop where
  wf : WFWorld w
  act_lt : ∀ b d, D b = some d → b < w.boards.size
  root_lt : ∀ b d, D b = some d → R b < w0.boards.size
  sep : ∀ x y dx dy, D x = some dx → D y = some dy → x ≠ y → Sep w x y dx
  hist : ∀ b d, D b = some d → viewRunN z (view w0 (R b)) (H b) = some (view w b)

/-- The boards that were there keep the invariant under every allowed operation (a new board made by a fork
is not yet counted). -/
theorem stepN_inv_old {z : ZTable} {w0 w w' : World} {D : Nat → Option Nat} {R : Nat → Nat}
    {H : Nat → List OpN} {x : Nat} {o : OpN} {d d' : Nat} (hI : Inv z w0 w D R H)
    (hDx : D x = some d) (hd : o.depth d = some d') (h : stepN z w x o = some w') :
    Inv z w0 w' (upd D x (some d')) R (upd H x (H x ++ [o])) := by
  have hw := hI.wf
  have hx := hI.act_lt x d hDx
  have hwf := stepN_wf hw hx h
  obtain ⟨hch, hoth⟩ := stepN_others hw hx hd h
  have hle : w.boards.size ≤ w'.boards.size := hwf.2 ▸ Nat.le_add_right _ _
  -- what `stepN_others` says of a participating board other than `x`
  have hoth' := fun y dy (hy : y ≠ x) (hDy : D y = some dy) =>
    hoth y dy (hI.act_lt y dy hDy) (Ne.symm hy) (hI.sep x y d dy hDx hDy (Ne.symm hy)) (hI.sep y x dy d hDy hDx hy)
  refine ⟨hwf.1, forall_upd (fun _ _ => Nat.lt_of_lt_of_le hx hle)
      (fun b db _ hDb => Nat.lt_of_lt_of_le (hI.act_lt b db hDb) hle),
    forall_upd (fun _ _ => hI.root_lt x d hDx) (fun b db _ hDb => hI.root_lt b db hDb),
    pairwise_upd (fun di y dy e hy hDy => Option.some.inj e ▸ (hoth' y dy hy hDy).2.1)
      (fun y dy _ hy hDy _ => (hoth' y dy hy hDy).2.2)
      (fun a c da dc hax hcx hDa hDc hac => (hI.sep a c da dc hDa hDc hac).congr
        (hch a (hI.act_lt a da hDa) (Ne.symm hax)) (hch c (hI.act_lt c dc hDc) (Ne.symm hcx))),
    forall_upd (fun _ _ => ?_) (fun b db hbx hDb => ?_)⟩
  · rw [upd_self, viewRunN_snoc, hI.hist x d hDx, Option.bind_some, ← stepN_view_self hw hx o, h]
    rfl
  · rw [upd_of_ne H _ hbx, (hoth' b db hbx hDb).1]
    exact hI.hist b db hDb

/-- The board made by forking `x` joins the invariant at height 0, with the root and the lineage of `x`. -/
theorem Inv.fork_new {z : ZTable} {w0 w : World} {D : Nat → Option Nat} {R : Nat → Nat} {H : Nat → List OpN}
    {x : Nat} (hw : WFWorld w) (hI : Inv z w0 (w.fork x).1 D R H) (hlt : ∀ b d, D b = some d → b < w.boards.size)
    (hDx : D x = some 0) :
    Inv z w0 (w.fork x).1 (upd D w.boards.size (D x)) (upd R w.boards.size (R x)) (upd H w.boards.size (H x)) := by
  have hx := hlt x 0 hDx
  refine ⟨hI.wf, forall_upd (fun _ _ => fork_new_lt w x) (fun b db _ => hI.act_lt b db),
    forall_upd (fun _ _ => ?_) (fun b db hb hDb => ?_),
    pairwise_upd (fun di c dc e _ hDc => ?_) (fun a da _ hax hDa _ => ?_)
      (fun a c da dc _ _ hDa hDc hac => hI.sep a c da dc hDa hDc hac),
    forall_upd (fun _ _ => ?_) (fun b db hb hDb => ?_)⟩
  · rw [upd_self]; exact hI.root_lt x 0 hDx
  · rw [upd_of_ne R _ hb]; exact hI.root_lt b db hDb
  · rw [← Option.some.inj (hDx.symm.trans e)]
    exact sep_fork_new hw x (hlt c dc hDc)
  · by_cases hx' : a = x
    · subst hx'
      rw [Option.some.inj (hDa.symm.trans hDx)]
      exact sep_fork_self hw hx
    · exact sep_fork_old_new hw (hlt a da hDa) hx (hI.sep a x da 0 hDa hDx hx')
  · have hv : view (w.fork x).1 w.boards.size = view (w.fork x).1 x :=
      (view_fork_new hw x).trans (view_fork_old hw x hx).symm
    rw [upd_self, upd_self, hv]
    exact hI.hist x 0 hDx
  · rw [upd_of_ne R _ hb, upd_of_ne H _ hb]
    exact hI.hist b db hDb

theorem stepN_inv {z : ZTable} {w0 w w' : World} {D D' : Nat → Option Nat} {R : Nat → Nat}
    {H : Nat → List OpN} {x : Nat} {o : OpN} (hI : Inv z w0 w D R H)
    (hd : depthStep w.boards.size D x o = some D') (h : stepN z w x o = some w') :
    Inv z w0 w' D' (forkUpd o w.boards.size x R) (forkUpd o w.boards.size x (upd H x (H x ++ [o]))) := by
  obtain ⟨d, d', hDx, hdep, rfl⟩ := depthStep_some hd
  have h1 := stepN_inv_old hI hDx hdep h
  by_cases hf : o = .fork
  · subst hf
    cases h
    cases hdep
    exact Inv.fork_new hI.wf h1 (forall_upd (fun _ _ => hI.act_lt x d hDx) fun b db _ => hI.act_lt b db)
      (upd_self D x _)
  · rw [forkUpd_of_ne_fork hf, forkUpd_of_ne_fork hf, forkUpd_of_ne_fork hf]
    exact h1

/-- The number of boards after a run started with `n` boards. -/
def boardsAfter : Nat → List (Nat × OpN) → Nat
  | n, [] => n
  | n, (_, o) :: r => boardsAfter (n + o.grow) r

theorem boardsAfter_ge (ops : List (Nat × OpN)) : ∀ n, n ≤ boardsAfter n ops := by
  induction ops with
  | nil => intro n; exact Nat.le_refl _
  | cons p r ih => intro n; exact Nat.le_trans (Nat.le_add_right _ _) (ih _)

/-- One step keeps "every board that descends from a participating board of the initial world (`D0`) takes
part": the height of `x` changes, not whether it takes part, and a fork hands both on to the new board. -/
theorem depthStep_active (D0 : Nat → Option Nat) {n : Nat} {D D' : Nat → Option Nat} {R : Nat → Nat} {x : Nat}
    {o : OpN} (hyp : ∀ i, i < n → D0 (R i) ≠ none → D i ≠ none) (hd : depthStep n D x o = some D') :
    ∀ i, i < n + o.grow → D0 (forkUpd o n x R i) ≠ none → D' i ≠ none := by
  obtain ⟨d, d', _, _, rfl⟩ := depthStep_some hd
  have hyp1 : ∀ i, i < n → D0 (R i) ≠ none → upd D x (some d') i ≠ none := by
    intro i hi hr
    by_cases hix : i = x
    · rw [hix, upd_self]; exact Option.some_ne_none d'
    · rw [upd_of_ne D _ hix]; exact hyp i hi hr
  intro i hi hr
  by_cases hf : o = .fork
  · subst hf
    show upd _ n _ i ≠ none
    by_cases hin : i = n
    · rw [hin, upd_self, upd_self]; exact Option.some_ne_none d'
    · rw [upd_of_ne _ _ hin]
      exact hyp1 i (Nat.lt_of_le_of_ne (Nat.le_of_lt_succ hi) hin) (upd_of_ne R _ hin ▸ hr)
  · rw [forkUpd_of_ne_fork hf] at hr ⊢
    rw [OpN.grow_of_ne_fork hf] at hi
    exact hyp1 i hi hr

theorem runN_inv {z : ZTable} {w0 : World} (D0 : Nat → Option Nat) (ops : List (Nat × OpN)) :
    ∀ {w w' : World} {D : Nat → Option Nat} {R : Nat → Nat} {H : Nat → List OpN},
      Inv z w0 w D R H → (∀ i, i < w.boards.size → D0 (R i) ≠ none → D i ≠ none) →
      aboveN w.boards.size D ops = true → runN z w ops = some w' →
      Inv z w0 w' (depthsAfter w.boards.size D ops) (lineages w.boards.size R H ops).1
        (lineages w.boards.size R H ops).2 ∧
      w'.boards.size = boardsAfter w.boards.size ops ∧
      ∀ i, i < w'.boards.size → D0 ((lineages w.boards.size R H ops).1 i) ≠ none →
        depthsAfter w.boards.size D ops i ≠ none := by
  induction ops with
  | nil =>
    intro w w' D R H hI hact _ h
    cases h
    exact ⟨hI, rfl, hact⟩
  | cons p r ih =>
    intro w w' D R H hI hact habove h
    obtain ⟨x, o⟩ := p
    obtain ⟨D', hd, habove⟩ := aboveN_cons habove
    obtain ⟨w1, hs, hr⟩ := Option.bind_eq_some_iff.mp h
    have hs : stepN z w x o = some w1 := hs
    obtain ⟨d, _, hDx, _, _⟩ := depthStep_some hd
    have hsz := (stepN_wf hI.wf (hI.act_lt x d hDx) hs).2
    have hact1 := depthStep_active D0 (R := R) hact hd
    simp only [depthsAfter, hd, lineages, boardsAfter]
    rw [← hsz] at habove hact1 ⊢
    exact ih (stepN_inv hI hd hs) hact1 habove hr

/-- The invariant at the start: the participating boards of `w` exist and are pairwise separated. -/
structure Separated (w : World) (D : Nat → Option Nat) : Prop where
  act_lt : ∀ b d, D b = some d → b < w.boards.size
  sep : ∀ x y dx dy, D x = some dx → D y = some dy → x ≠ y → Sep w x y dx

theorem inv_init {z : ZTable} {w : World} {D : Nat → Option Nat} (hw : WFWorld w) (hD : Separated w D) :
    Inv z w w D id (fun _ => []) :=
  ⟨hw, hD.act_lt, hD.act_lt, hD.sep, fun _ _ _ => rfl⟩

theorem Inv.separated {z : ZTable} {w0 w : World} {D : Nat → Option Nat} {R : Nat → Nat} {H : Nat → List OpN}
    (h : Inv z w0 w D R H) : Separated w D := ⟨h.act_lt, h.sep⟩

/-- One participating board only: nothing to separate. -/
def only (b : Nat) : Nat → Option Nat := fun i => if i = b then some 0 else none

theorem only_some {b i d : Nat} (h : only b i = some d) : i = b := by
  unfold only at h
  split at h
  · assumption
  · cases h

theorem separated_only {w : World} {b : Nat} (hb : b < w.boards.size) : Separated w (only b) :=
  ⟨fun _ _ h => only_some h ▸ hb, fun _ _ _ _ hx hy hxy => absurd ((only_some hx).trans (only_some hy).symm) hxy⟩

theorem chainIdx_newBoard_old {w : World} (hw : WFWorld w) (z : ZTable) (pos : Position) (turn : Color)
    (np fm : Int) {y : Nat} (hy : y < w.boards.size) :
    chainIdx (w.newBoard z pos turn np fm).1 y = chainIdx w y := by
  unfold chainIdx
  rw [newBoard_board, if_neg (Nat.ne_of_lt hy)]
  refine (anc_congr fun j hj => ?_).1
  rw [newBoard_node, if_neg (Nat.ne_of_lt (mem_chain_lt hw hy hj))]

theorem chainIdx_newBoard_new {w : World} (hw : WFWorld w) (z : ZTable) (pos : Position) (turn : Color)
    (np fm : Int) : chainIdx (w.newBoard z pos turn np fm).1 w.boards.size = [w.nodes.size] := by
  unfold chainIdx
  rw [newBoard_board, if_pos rfl]
  show ancIdx _ (some w.nodes.size) = _
  rw [ancIdx_some (wf_newBoard hw z pos turn np fm), newBoard_node, if_pos rfl]
  rfl

/-- A board created by `NewBoard` is separated from all existing boards (it shares no node with them). -/
theorem separated_newBoard {w : World} {D : Nat → Option Nat} (hw : WFWorld w) (hD : Separated w D)
    (z : ZTable) (pos : Position) (turn : Color) (np fm : Int) :
    Separated (w.newBoard z pos turn np fm).1 (upd D w.boards.size (some 0)) := by
  have hold := fun y dy (hDy : D y = some dy) => chainIdx_newBoard_old hw z pos turn np fm (hD.act_lt y dy hDy)
  have hnew := chainIdx_newBoard_new hw z pos turn np fm
  have hfresh : ∀ y dy, D y = some dy → w.nodes.size ∉ chainIdx w y :=
    fun y dy hDy hm => Nat.lt_irrefl _ (mem_chain_lt hw (hD.act_lt y dy hDy) hm)
  refine ⟨forall_upd (fun _ _ => newBoard_boards_size w z pos turn np fm ▸ Nat.lt_succ_self _)
      (fun b db _ hDb => newBoard_boards_size w z pos turn np fm ▸ Nat.lt_succ_of_lt (hD.act_lt b db hDb)),
    pairwise_upd (fun di c dc e _ hDc => ?_) (fun a da _ _ hDa _ => ?_)
      (fun a c da dc _ _ hDa hDc hac => (hD.sep a c da dc hDa hDc hac).congr (hold a da hDa) (hold c dc hDc))⟩
  · rw [← Option.some.inj e]
    exact Sep.of_chains hnew (hold c dc hDc) (Apart.zero (hfresh c dc hDc))
  · exact Sep.of_chains (hold a da hDa) hnew (Apart.cons_right (hfresh a da hDa) fun _ _ h => nomatch h)

theorem separated_none (w : World) : Separated w (fun _ => none) :=
  ⟨fun _ _ h => (nomatch h), fun _ _ _ _ h => (nomatch h)⟩

end Morlock.Proofs.Arena
