import Morlock.Proofs.FltLemmas
/-! # Powers of two are numbers of the format, and survive rounding as bounds -/
namespace Morlock.Model.Flt

theorem rep_two_pow (f : Fmt) (wf : f.WF) (k : Nat) (hlo : f.emin ≤ (k : Int) - ((f.p : Int) - 1)) (hhi : (k : Int) ≤ f.emax) :
    Rep f (Q.ofInt ((2 ^ k : Nat) : Int)) := by
  have hp := wf.p_pos
  refine ⟨2 ^ (f.p - 1), (k : Int) - ((f.p : Int) - 1), two_pow_pred_lt hp, hlo, by omega, ?_⟩
  -- `2^k = 2^(p-1) · 2^(k-(p-1))`
  have := pn_pd_shift (e := (k : Int) - ((f.p : Int) - 1)) (e' := k) (k := f.p - 1) (by omega)
  rw [pd_of_nonneg (Int.natCast_nonneg k), Nat.mul_one] at this
  simpa [Q.ofInt, pn] using this

theorem rnd32_facts_abs_le (x y : Q) (k : Nat) : k ≤ 127 → 0 < x.den → x.num.natAbs ≤ 2 ^ k * x.den →
    rnd f32 x = some y → y.num.natAbs ≤ 2 ^ k * y.den := by
  intro hk hd hb h
  have hrep : Rep f32 (Q.ofInt ((2 ^ k : Nat) : Int)) :=
    rep_two_pow f32 f32_wf k (by simp only [f32]; omega) (by simp only [f32]; omega)
  exact rnd_absLe_of_rep f32 f32_wf hrep hd hb h

end Morlock.Model.Flt
