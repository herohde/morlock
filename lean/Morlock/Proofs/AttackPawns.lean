import Morlock.Proofs.AttackBounds
import Morlock.Proofs.AttackLeapers
/-!
# `PawnCaptureboard` on an arbitrary set of pawns (all `2^64` sets), `testBit` form
-/
namespace Morlock.Proofs.Attack
open Morlock Morlock.Model Morlock.Spec

theorem andNot_testBit (x y t : Nat) : (andNot x y).testBit t = (x.testBit t && !y.testBit t) :=
  testBit_andNot x y t

theorem shl64_testBit (p k t : Nat) :
    (shl64 p k).testBit t = (decide (t < 64) && (decide (k ≤ t) && p.testBit (t - k))) := by
  unfold shl64 u64
  rw [M64_eq, Nat.testBit_mod_two_pow, Nat.testBit_shiftLeft]

theorem pawnCapture_white (pawns t : Nat) :
    (pawnCaptureboard .white pawns).testBit t =
      ((decide (t < 64) && (decide (9 ≤ t) && pawns.testBit (t - 9))) && !(bitFile fileH).testBit t ||
       (decide (t < 64) && (decide (7 ≤ t) && pawns.testBit (t - 7))) && !(bitFile fileA).testBit t) := by
  simp only [pawnCaptureboard, Nat.testBit_or, andNot_testBit, shl64_testBit]

theorem pawnCapture_black (pawns t : Nat) :
    (pawnCaptureboard .black pawns).testBit t =
      (pawns.testBit (9 + t) && !(bitFile fileA).testBit t || pawns.testBit (7 + t) && !(bitFile fileH).testBit t) := by
  simp only [pawnCaptureboard, Nat.testBit_or, andNot_testBit, Nat.testBit_shiftRight]

/-- The evaluated single-pawn equality `pawn_of_lt`, read bit by bit. -/
theorem mem_pawnTargets (c : Model.Color) {s : Nat} (hs : s < 64) (t : Nat) :
    t ∈ pawnTargets (absColor c) s ↔ (pawnCaptureboard c (2 ^ s)).testBit t = true := by
  rw [← testBit_toBB, ← pawn_of_lt c hs, bitMask_eq hs]

theorem testBit_ge_false {p t : Nat} (hp : p < 2 ^ 64) (ht : 64 ≤ t) : p.testBit t = false :=
  testBit_high hp ht

theorem pawnSet_testBit (c : Model.Color) (pawns t : Nat) (hp : pawns < 2 ^ 64) :
    (pawnCaptureboard c pawns).testBit t = true ↔
      ∃ s, s < 64 ∧ pawns.testBit s = true ∧ t ∈ pawnTargets (absColor c) s := by
  -- the capture board of a set is the union of the capture boards of its pawns
  have key : (pawnCaptureboard c pawns).testBit t = true ↔
      ∃ s, s < 64 ∧ pawns.testBit s = true ∧ (pawnCaptureboard c (2 ^ s)).testBit t = true := by
    have lt : ∀ {s}, pawns.testBit s = true → s < 64 := fun {s} hb =>
      Nat.lt_of_not_le fun hge => by rw [testBit_high hp hge] at hb; contradiction
    cases c <;>
      simp only [pawnCapture_white, pawnCapture_black, Nat.testBit_two_pow, Bool.or_eq_true, Bool.and_eq_true,
        decide_eq_true_eq, Bool.not_eq_true']
    · constructor
      · rintro (⟨⟨ht, h9, hb⟩, hf⟩ | ⟨⟨ht, h7, hb⟩, hf⟩)
        · exact ⟨t - 9, lt hb, hb, Or.inl ⟨⟨ht, h9, rfl⟩, hf⟩⟩
        · exact ⟨t - 7, lt hb, hb, Or.inr ⟨⟨ht, h7, rfl⟩, hf⟩⟩
      · rintro ⟨s, -, hb, (⟨⟨ht, h9, rfl⟩, hf⟩ | ⟨⟨ht, h7, rfl⟩, hf⟩)⟩
        · exact Or.inl ⟨⟨ht, h9, hb⟩, hf⟩
        · exact Or.inr ⟨⟨ht, h7, hb⟩, hf⟩
    · constructor
      · rintro (⟨hb, hf⟩ | ⟨hb, hf⟩)
        · exact ⟨9 + t, lt hb, hb, Or.inl ⟨rfl, hf⟩⟩
        · exact ⟨7 + t, lt hb, hb, Or.inr ⟨rfl, hf⟩⟩
      · rintro ⟨s, -, hb, (⟨rfl, hf⟩ | ⟨rfl, hf⟩)⟩
        · exact Or.inl ⟨hb, hf⟩
        · exact Or.inr ⟨hb, hf⟩
  rw [key]
  exact exists_congr fun s => and_congr_right fun hs => and_congr_right fun _ => (mem_pawnTargets c hs t).symm

theorem pawnSet_lt (c : Model.Color) (pawns : Nat) (hp : pawns < 2 ^ 64) :
    pawnCaptureboard c pawns < 2 ^ 64 := by
  apply Nat.lt_pow_two_of_testBit
  intro t ht
  cases h : (pawnCaptureboard c pawns).testBit t
  · rfl
  · obtain ⟨s, _, _, hm⟩ := (pawnSet_testBit c pawns t hp).mp h
    have := pawnTargets_lt _ _ _ hm
    omega

end Morlock.Proofs.Attack
