import Morlock.Proofs.EngineMove
import Morlock.Proofs.GenNodup
import Morlock.Proofs.FenSquare
/-!
# `Engine.Move` on positions that are not well-formed (for `Props/C19Any.lean`)

On every position that represents a mailbox board (which is what `fen.Decode` returns) the keys of the generated moves are
distinct as soon as the en-passant target holds no piece of the side not to move and a castle is generated only for a king
on its home square. And every generated move can be written down, so `firstDecides` is necessary at the level of texts too.
-/
namespace Morlock.Proofs.Engine
open Morlock Morlock.Model Morlock.Model.World Morlock.Proofs Morlock.Proofs.Gen Morlock.Proofs.Arena
open Morlock.Props

/-- Board-level form of the two conditions. -/
structure Clean (p : Position) (b : Board) (turn : Color) : Prop where
  ep : p.enpassant ≠ 0 → ∀ k, b p.enpassant ≠ some (turn.opp, k)
  castle : p.pieces turn .king ≠ 0 → ∀ m ∈ genCastles p turn (lastPopSquare (p.pieces turn .king)),
    lastPopSquare (p.pieces turn .king) = kingHomeSq turn

/-- Where a generated move comes from, without any assumption on kings or rights. -/
theorem pseudo_cases {p : Position} {b : Board} (h : Rep p b) {turn : Color} {m : Move}
    (hm : m ∈ p.pseudoLegalMoves turn) :
    (∃ pc ∈ Position.promoPieces, StepMove b turn pc m) ∨ PawnMove b p.enpassant turn m ∨ StepMove b turn .king m ∨
      p.pieces turn .king ≠ 0 ∧ m ∈ genCastles p turn (lastPopSquare (p.pieces turn .king)) ∧
        b m.from = some (turn, .king) ∧ CastleMove b p.castling turn m := by
  rw [pseudoLegalMoves_eq, List.mem_append, List.mem_append, mem_genOfficers h, mem_genPawns h] at hm
  rcases hm with (hm | hm) | hm
  · exact Or.inl hm
  · exact Or.inr (Or.inl hm)
  · unfold genKing at hm
    by_cases h0 : p.pieces turn .king = 0
    · rw [if_pos h0] at hm; cases hm
    · rw [if_neg h0, List.mem_append] at hm
      rcases hm with hm | hm
      · exact Or.inr (Or.inr (Or.inl ((mem_genKingSteps h turn h0 m).mp hm).2))
      · obtain ⟨hfr, hcm⟩ := (mem_genCastles h turn _ m).mp hm
        exact Or.inr (Or.inr (Or.inr ⟨h0, hm, by rw [hfr]; exact (kingSquare_spec h turn h0).1, hcm⟩))

theorem feat_of_mem {p : Position} {b : Board} (h : Rep p b) {turn : Color} (hc : Clean p b turn) :
    ∀ m ∈ p.pseudoLegalMoves turn,
      b m.from = some (turn, m.piece) ∧ m.capture = capAt b m.to turn ∧ m.ty = tyOf b m := by
  intro m hm
  rcases pseudo_cases h hm with ⟨pc, hpc, hs⟩ | hp | hs | ⟨h0, hm, hk, hcm⟩
  · have hpw : pc ≠ .pawn := by
      rcases (mem_promoPieces pc).mp hpc with rfl | rfl | rfl | rfl <;> simp
    exact hs.features hpw
  · exact PawnMove.features_of_ep hc.ep hp
  · exact hs.features (by simp)
  · exact CastleMove.features_of_king hk (((mem_genCastles h turn _ m).mp hm).1.trans (hc.castle h0 m hm)) hcm

theorem pseudo_nodup_clean {p : Position} {b : Board} (h : Rep p b) {turn : Color} (hc : Clean p b turn) :
    ((p.pseudoLegalMoves turn).map absMove).Nodup := by
  apply nodup_map_of_inj (pseudoLegalMoves_nodup h turn)
  intro a ha a' ha' e
  exact absMove_inj_of_features (feat_of_mem h hc a ha) (feat_of_mem h hc a' ha') e

/-- The en-passant target does not hold a piece of the side NOT to move. (An own piece there is harmless: the generator
    masks own pieces out. An empty target with no pawn behind it is harmless too: only the e.p. move goes there.) -/
def epClean (p : Position) (turn : Color) : Bool :=
  p.enpassant == 0 || !((p.pieces turn.opp .none).testBit p.enpassant)

/-- No castle is generated, or the king the generator uses stands on its home square. -/
def castleClean (p : Position) (turn : Color) : Bool :=
  p.pieces turn .king == 0 || (genCastles p turn (lastPopSquare (p.pieces turn .king))).isEmpty ||
    lastPopSquare (p.pieces turn .king) == kingHomeSq turn

theorem clean_of_bools {p : Position} {b : Board} (h : Rep p b) {turn : Color}
    (h1 : epClean p turn = true) (h2 : castleClean p turn = true) : Clean p b turn := by
  refine ⟨?_, ?_⟩
  · intro hne k hb
    unfold epClean at h1
    simp only [Bool.or_eq_true, beq_iff_eq, Bool.not_eq_true'] at h1
    rcases h1 with h1 | h1
    · exact hne h1
    · have h64 : p.enpassant < 64 := h.lt_of_some hb
      rw [h.all _ _ h64] at h1
      have := colAt_enemy_iff.mpr ⟨k, hb⟩
      rw [this] at h1; cases h1
  · intro h0 m hm
    unfold castleClean at h2
    simp only [Bool.or_eq_true, beq_iff_eq, List.isEmpty_iff] at h2
    rcases h2 with (h2 | h2) | h2
    · exact absurd h2 h0
    · rw [h2] at hm; cases hm
    · exact h2

theorem keyNodup_of_clean {p : Position} {b : Board} (h : Rep p b) {turn : Color}
    (h1 : epClean p turn = true) (h2 : castleClean p turn = true) : keyNodup p turn = true := by
  unfold keyNodup; exact decide_eq_true (pseudo_nodup_clean h (clean_of_bools h h1 h2))

theorem castleClean_of_noRights {p : Position} {turn : Color}
    (h : match turn with
      | .white => p.castling &&& wK = 0 ∧ p.castling &&& wQ = 0
      | .black => p.castling &&& bK = 0 ∧ p.castling &&& bQ = 0) : castleClean p turn = true := by
  unfold castleClean
  cases turn <;> simp only at h <;> simp [genCastles, genCastle, h.1, h.2]

/-- The text of a move as `Move.String` of a candidate prints it. -/
def printMove (m : Move) : List Char :=
  Fen.sqChars m.from ++ Fen.sqChars m.to ++
    (match m.promotion with
     | .queen => ['q'] | .rook => ['r'] | .knight => ['n'] | .bishop => ['b'] | _ => [])

/-- The keys the generator can produce. -/
def Printable (m : Move) : Prop :=
  m.from < 64 ∧ m.to < 64 ∧ (m.promotion = .none ∨ m.promotion ∈ Position.promoPieces)

theorem parseMove_print {m : Move} (h : Printable m) :
    ∃ cand, Fen.parseMove (printMove m) = some cand ∧ cand.equals m = true := by
  obtain ⟨h1, h2, h3⟩ := h
  have e1 := Fen.parseSquare_sqChars h1
  have e2 := Fen.parseSquare_sqChars h2
  rw [mem_promoPieces] at h3
  rcases h3 with h3 | h3 | h3 | h3 | h3
  all_goals
    refine ⟨{ «from» := m.from, to := m.to, promotion := m.promotion }, ?_, by simp [Move.equals]⟩
    simp only [printMove, Fen.sqChars, h3, List.cons_append, List.nil_append, List.append_nil, Fen.parseMove, e1, e2]
    rfl

theorem stepMove_printable {p : Position} {b : Board} (h : Rep p b) {turn : Color} {pc : Piece} {m : Move}
    (hm : StepMove b turn pc m) : Printable m := by
  obtain ⟨hsq, _, hpr, ht, _⟩ := hm
  exact ⟨h.lt_of_some hsq, Attack.officerTargets_lt _ _ _ _ ht, Or.inl hpr⟩

theorem pawnMove_printable {p : Position} {b : Board} (h : Rep p b) {ep : Nat} {turn : Color} {m : Move}
    (hm : PawnMove b ep turn m) : Printable m := by
  obtain ⟨hsq, _, hk⟩ := hm
  refine ⟨h.lt_of_some hsq, ?_⟩
  rcases hk with ⟨hst, _, _, hr⟩ | ⟨t1, _, hst2, _, _, _, _, hpr, _⟩ |
    ⟨ht, k, _, _, hr⟩ | ⟨_, _, ht, _, _, hpr, _⟩
  · exact ⟨Attack.step_lt hst, hr.elim (fun h => Or.inl h.2.2) fun h => Or.inr h.2.2⟩
  · exact ⟨Attack.step_lt hst2, Or.inl hpr⟩
  · exact ⟨Attack.pawnTargets_lt _ _ _ ht, hr.elim (fun h => Or.inl h.2.2) fun h => Or.inr h.2.2⟩
  · exact ⟨Attack.pawnTargets_lt _ _ _ ht, Or.inl hpr⟩

theorem printable_of_mem {p : Position} {b : Board} (h : Rep p b) {turn : Color} :
    ∀ m ∈ p.pseudoLegalMoves turn, Printable m := by
  intro m hm
  rcases pseudo_cases h hm with ⟨pc, _, hs⟩ | hp | hs | ⟨_, _, hk, cs, hcs, _, _, _, _, _, hto, hpr, _⟩
  · exact stepMove_printable h hs
  · exact pawnMove_printable h hp
  · exact stepMove_printable h hs
  · exact ⟨h.lt_of_some hk, by rw [hto]; exact (castleParams_ok turn cs hcs).2.1, Or.inl hpr⟩

end Morlock.Proofs.Engine
