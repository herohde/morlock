import Morlock.Model.TTConc
import Morlock.Proofs.ConcList
/-!
# The concurrent transposition-table model (`Model/TTConc.lean`): the kinds of step and the invariants behind C17

Invariants are proved for one step (`*_step`) and lifted to every schedule by list induction (`*_run`).
-/
namespace Morlock.Proofs.ConcTT
open Morlock Morlock.Model Morlock.Model.TTConc

variable {π : Type}

@[simp] theorem ret_pc (t : Thread π) : t.ret.pc = .call := rfl
@[simp] theorem isW3_call : (Pc.call : Pc π).isW3 = false := rfl
@[simp] theorem isW3_w0 (f : Node π) : (Pc.w0 f).isW3 = false := rfl
@[simp] theorem isW3_w1 (f : Node π) (p) : (Pc.w1 f p).isW3 = false := rfl
@[simp] theorem isW3_w2 (f : Node π) (p) : (Pc.w2 f p).isW3 = false := rfl
@[simp] theorem isW3_w3 (f : Node π) : (Pc.w3 f).isW3 = true := rfl
@[simp] theorem isW3_w3b (f : Node π) (n) : (Pc.w3b f n).isW3 = false := rfl
@[simp] theorem ret_calls (t : Thread π) : t.ret.calls = t.calls.tail := rfl

theorem step_eq (s : State π) (i : Nat) :
    (s.threads[i]? = none ∧ step s i = s) ∨
    ∃ t, s.threads[i]? = some t ∧
      step s i = { (stepT true s i t).1 with threads := s.threads.set i (stepT true s i t).2 } := by
  unfold step stepWith
  cases h : s.threads[i]? with
  | none => exact .inl ⟨rfl, rfl⟩
  | some t => exact .inr ⟨t, rfl, rfl⟩

/-- the steps of a thread in the repaired code (`atomicAdd = true`), one constructor per enabled branch of `stepT` -/
inductive TStep (s : State π) (i : Nat) (t : Thread π) : State π × Thread π → Prop
  | read {h cs} (hpc : t.pc = .call) (hc : t.calls = .read h :: cs) :
    TStep s i t ({ s with trace := .readRet i h (readResult (slotAt s (key s h)) h) :: s.trace }, t.ret)
  | alloc {h p v cs} (hpc : t.pc = .call) (hc : t.calls = .write h p v :: cs) :
    TStep s i t ({ s with nextId := s.nextId + 1 }, { t with pc := .w0 ⟨s.nextId, h, p, v⟩ })
  | load {f} (hpc : t.pc = .w0 f) : TStep s i t (s, { t with pc := .w1 f (slotAt s (key s f.hash)) })
  | reject {f p} (hpc : t.pc = .w1 f p) (hv : valOf p > f.val) : TStep s i t (logWrite s i f false, t.ret)
  | accept {f p} (hpc : t.pc = .w1 f p) (hv : ¬ valOf p > f.val) : TStep s i t (s, { t with pc := .w2 f p })
  | casFail {f p} (hpc : t.pc = .w2 f p) (hcas : ¬ casOk s f p = true) : TStep s i t (s, { t with pc := .w0 f })
  | casNew {f} (hpc : t.pc = .w2 f none) (hcas : casOk s f none = true) :
    TStep s i t (publish s i f, { t with pc := .w3 f })
  | casReplace {f q} (hpc : t.pc = .w2 f (some q)) (hcas : casOk s f (some q) = true) :
    TStep s i t (logWrite (publish s i f) i f true, t.ret)
  | add {f} (hpc : t.pc = .w3 f) : TStep s i t (logWrite { s with used := s.used + 1 } i f true, t.ret)
  | addSplit {f tmp} (hpc : t.pc = .w3b f tmp) : TStep s i t (logWrite { s with used := tmp + 1 } i f true, t.ret)

theorem TStep.ite {s : State π} {i : Nat} {t : Thread π} {c : Prop} [Decidable c] {x y : State π × Thread π}
    (hx : c → TStep s i t x) (hy : ¬ c → TStep s i t y) : TStep s i t (if c then x else y) := by
  split
  · exact hx ‹_›
  · exact hy ‹_›

theorem stepT_cases (s : State π) (i : Nat) (t : Thread π) :
    (t.pc = .call ∧ t.calls = [] ∧ stepT true s i t = (s, t)) ∨ TStep s i t (stepT true s i t) := by
  obtain ⟨pc, calls⟩ := t
  cases pc with
  | call =>
    match calls with
    | [] => exact .inl ⟨rfl, rfl, rfl⟩
    | .read _ :: _ => exact .inr (.read rfl rfl)
    | .write .. :: _ => exact .inr (.alloc rfl rfl)
  | w0 f => exact .inr (.load rfl)
  | w1 f p => exact .inr (.ite (.reject rfl) (.accept rfl))
  | w2 f p =>
    refine .inr (.ite (fun hcas => ?_) (.casFail rfl))
    cases p with
    | none => exact .casNew rfl hcas
    | some q => exact .casReplace rfl hcas
  | w3 f => exact .inr (.add rfl)
  | w3b f tmp => exact .inr (.addSplit rfl)

theorem stepT_threads (b : Bool) (s : State π) (i : Nat) (t : Thread π) : (stepT b s i t).1.threads = s.threads := by
  unfold stepT
  repeat' split
  all_goals rfl

theorem run_nil (s : State π) : run s [] = s := rfl
theorem run_cons (s : State π) (i : Nat) (is : List Nat) : run s (i :: is) = run (step s i) is := rfl
theorem run_append (s : State π) (a b : List Nat) : run s (a ++ b) = run (run s a) b := by
  simp [run, List.foldl_append]

theorem run_induction {I : State π → Prop} (hstep : ∀ s i, I s → I (step s i)) (sched : List Nat) (s : State π)
    (h : I s) : I (run s sched) :=
  List.foldlRecOn sched step h fun s hs i _ => hstep s i hs

/-! ## `used` counts the occupied slots -/

def isW3b : Pc π → Bool
  | .w3b .. => true
  | _ => false

/-- no thread is in the middle of a split increment (the repaired code has no such state) -/
def NoSplit (s : State π) : Prop := ∀ t ∈ s.threads, isW3b t.pc = false

structure UsedInv (s : State π) : Prop where
  npos : 0 < s.slots.length
  nosplit : NoSplit s
  exact : s.used + pendingAdds s = occupied s

theorem key_lt {s : State π} (h : 0 < s.slots.length) (hash : Nat) : key s hash < s.slots.length :=
  Nat.mod_lt _ h

theorem samePtr_none {a : Option (Node π)} (h : samePtr a none = true) : a = none := by
  cases a with
  | none => rfl
  | some m => cases h

theorem samePtr_some {a : Option (Node π)} {n : Node π} (h : samePtr a (some n) = true) : ∃ m, a = some m ∧ m.id = n.id := by
  cases a with
  | none => cases h
  | some m => exact ⟨m, rfl, Option.some.inj (eq_of_beq h)⟩

theorem occupied_publish {s : State π} (i : Nat) (f : Node π) {a : Option (Node π)} (hn : 0 < s.slots.length)
    (h : slotAt s (key s f.hash) = a) :
    occupied (publish s i f) + (if a.isSome then 1 else 0) = occupied s + 1 :=
  countP_set' (fun x : Option (Node π) => x.isSome) (some f) (by
    rw [← h, slotAt, List.getD_eq_getElem?_getD, List.getElem?_eq_getElem (key_lt hn f.hash)]; rfl)

theorem UsedInv.frame {s s' : State π} {i : Nat} {t t' : Thread π} {pc : Pc π} (h : UsedInv s)
    (ht : s.threads[i]? = some t) (hpc : t.pc = pc) (hb : isW3b t'.pc = false)
    (hl : s'.slots.length = s.slots.length)
    (hc : ∀ k, s.used + (k + (if pc.isW3 then 1 else 0)) = occupied s →
      s'.used + (k + (if t'.pc.isW3 then 1 else 0)) = occupied s') :
    UsedInv { s' with threads := s.threads.set i t' } := by
  obtain ⟨k, h1, h2⟩ := countP_set_split (fun t : Thread π => t.pc.isW3) t' ht
  refine ⟨hl ▸ h.npos, fun u hu => ?_, (congrArg (s'.used + ·) h2).trans (hc k ?_)⟩
  · rcases List.mem_or_eq_of_mem_set hu with hu | rfl
    · exact h.nosplit u hu
    · exact hb
  · rw [← hpc, ← h1]; exact h.exact

theorem usedInv_step (s : State π) (i : Nat) (h : UsedInv s) : UsedInv (step s i) := by
  rcases step_eq s i with ⟨_, he⟩ | ⟨t, ht, he⟩
  · rw [he]; exact h
  rw [he]
  have hns := h.nosplit t (List.mem_of_getElem? ht)
  rcases stepT_cases s i t with ⟨_, _, e⟩ | st
  · rw [e]; exact h.frame ht rfl hns rfl fun _ => id
  generalize stepT true s i t = r at st
  induction st
  case read | alloc | load | reject | accept | casFail =>
    have hpc := ‹t.pc = _›
    exact h.frame ht hpc rfl rfl fun _ => id
  case casNew f hpc hcas =>
    have : occupied (publish s i f) + 0 = _ := occupied_publish i f h.npos (samePtr_none hcas)
    exact h.frame ht hpc rfl (List.length_set ..) fun _ hk => (congrArg (· + 1) hk).trans this.symm
  case casReplace f q hpc hcas =>
    obtain ⟨m, hm, _⟩ := samePtr_some hcas
    have : occupied (publish s i f) + 1 = _ := occupied_publish i f h.npos hm
    exact h.frame ht hpc rfl (List.length_set ..) fun _ hk => hk.trans (Nat.succ.inj this).symm
  case add hpc => exact h.frame ht hpc rfl rfl fun k hk => (Nat.add_right_comm s.used 1 k).trans hk
  case addSplit hpc => rw [hpc] at hns; cases hns

theorem usedInv_run (sched : List Nat) (s : State π) (h : UsedInv s) : UsedInv (run s sched) :=
  run_induction usedInv_step sched s h

theorem init_threads {n : Nat} {progs : List (List (Call π))} {t : Thread π} (ht : t ∈ (init n progs).threads) :
    t.pc = .call ∧ t.calls ∈ progs := by
  obtain ⟨cs, hcs, rfl⟩ := List.mem_map.1 ht
  exact ⟨rfl, hcs⟩

theorem init_slots {n : Nat} {progs : List (List (Call π))} {a : Option (Node π)} (ha : a ∈ (init n progs).slots) :
    a = none :=
  List.eq_of_mem_replicate ha

theorem usedInv_init (n : Nat) (hn : 0 < n) (progs : List (List (Call π))) : UsedInv (init n progs) := by
  have h1 : pendingAdds (init n progs) = 0 :=
    List.countP_eq_zero.2 fun t ht => by rw [(init_threads ht).1]; exact Bool.false_ne_true
  have h2 : occupied (init n progs) = 0 :=
    List.countP_eq_zero.2 fun a ha => by rw [init_slots ha]; exact Bool.false_ne_true
  refine ⟨(List.length_replicate ..).symm ▸ hn, fun t ht => (init_threads ht).1 ▸ rfl, ?_⟩
  rw [h1, h2]; rfl

/-! ## nodes in the system, allocation -/

/-- the nodes a thread holds pointers to and may still compare or publish -/
def pcNodes : Pc π → List (Node π)
  | .w0 f => [f]
  | .w1 f p => f :: p.toList
  | .w2 f p => f :: p.toList
  | _ => []

/-- `n` is reachable: published in a slot, or held by a thread in the middle of a `Write` -/
def InSys (s : State π) (n : Node π) : Prop := some n ∈ s.slots ∨ ∃ t ∈ s.threads, n ∈ pcNodes t.pc

/-- the node thread `t` allocates with its next step, if that step starts a `Write` -/
def allocOf (s : State π) (t : Thread π) : Option (Node π) :=
  match t.pc, t.calls with
  | .call, .write h p v :: _ => some ⟨s.nextId, h, p, v⟩
  | _, _ => none

theorem allocOf_some {s : State π} {t : Thread π} {n : Node π} (h : allocOf s t = some n) :
    n.id = s.nextId ∧ Call.write n.hash n.payload n.val ∈ t.calls := by
  unfold allocOf at h
  split at h
  · cases h; exact ⟨rfl, ‹t.calls = _› ▸ List.mem_cons_self⟩
  · cases h

theorem slotAt_mem {s : State π} {k : Nat} {n : Node π} (h : slotAt s k = some n) : some n ∈ s.slots := by
  rw [slotAt, List.getD_eq_getElem?_getD] at h
  cases hk : s.slots[k]? with
  | none => rw [hk] at h; cases h
  | some x => rw [hk] at h; cases h; exact List.mem_of_getElem? hk

theorem stepT_slots (s : State π) (i : Nat) (t : Thread π) (n : Node π)
    (h : some n ∈ (stepT true s i t).1.slots) : some n ∈ s.slots ∨ n ∈ pcNodes t.pc := by
  rcases stepT_cases s i t with ⟨_, _, e⟩ | st
  · rw [e] at h; exact .inl h
  generalize stepT true s i t = r at st h
  induction st
  case read | alloc | load | reject | accept | casFail | add | addSplit => exact .inl h
  case casNew | casReplace =>
    refine (List.mem_or_eq_of_mem_set h).imp_right fun e => ?_
    rw [‹t.pc = _›, Option.some.inj e]; exact List.mem_cons_self

theorem stepT_pcNodes (s : State π) (i : Nat) (t : Thread π) (n : Node π)
    (h : n ∈ pcNodes (stepT true s i t).2.pc) :
    n ∈ pcNodes t.pc ∨ some n ∈ s.slots ∨ allocOf s t = some n := by
  rcases stepT_cases s i t with ⟨_, _, e⟩ | st
  · rw [e] at h; exact .inl h
  generalize stepT true s i t = r at st h
  induction st
  case read | reject | casNew | casReplace | add | addSplit => cases h
  case alloc hpc hc => rw [List.mem_singleton.1 h, allocOf, hpc, hc]; exact .inr (.inr rfl)
  case load hpc =>
    rw [hpc]
    rcases List.mem_cons.1 h with rfl | h
    · exact .inl List.mem_cons_self
    · exact .inr (.inl (slotAt_mem (Option.mem_toList.1 h)))
  case accept hpc _ => rw [hpc]; exact .inl h
  case casFail hpc _ => rw [hpc, List.mem_singleton.1 h]; exact .inl List.mem_cons_self

theorem stepT_nextId (s : State π) (i : Nat) (t : Thread π) :
    (stepT true s i t).1.nextId = s.nextId + (if (allocOf s t).isSome then 1 else 0) := by
  rcases stepT_cases s i t with ⟨hpc, hc, e⟩ | st
  · rw [e, allocOf, hpc, hc]; rfl
  generalize stepT true s i t = r at st
  obtain ⟨pc, calls⟩ := t
  induction st
  case read hpc hc | alloc hpc hc => cases hpc; cases hc; rfl
  case load | reject | accept | casFail | casNew | casReplace | add | addSplit => cases ‹Thread.pc _ = _›; rfl

theorem stepT_calls (s : State π) (i : Nat) (t : Thread π) (c : Call π)
    (h : c ∈ (stepT true s i t).2.calls) : c ∈ t.calls := by
  rcases stepT_cases s i t with ⟨_, _, e⟩ | st
  · rw [e] at h; exact h
  generalize stepT true s i t = r at st h
  induction st
  case alloc | load | accept | casFail | casNew => exact h
  case read | reject | casReplace | add | addSplit => exact List.mem_of_mem_tail h

theorem inSys_step {s : State π} {i : Nat} {n : Node π} (h : InSys (step s i) n) :
    InSys s n ∨ ∃ t, s.threads[i]? = some t ∧ allocOf s t = some n := by
  rcases step_eq s i with ⟨_, he⟩ | ⟨t, ht, he⟩
  · rw [he] at h; exact .inl h
  rw [he] at h
  have hmem : t ∈ s.threads := List.mem_of_getElem? ht
  rcases h with h | ⟨u, hu, hn⟩
  · rcases stepT_slots s i t n h with h | h
    · exact .inl (.inl h)
    · exact .inl (.inr ⟨t, hmem, h⟩)
  · rcases List.mem_or_eq_of_mem_set hu with hu | hu
    · exact .inl (.inr ⟨u, hu, hn⟩)
    · subst hu
      rcases stepT_pcNodes s i t n hn with h | h | h
      · exact .inl (.inr ⟨t, hmem, h⟩)
      · exact .inl (.inl h)
      · exact .inr ⟨t, ht, h⟩

theorem nextId_le_step (s : State π) (i : Nat) : s.nextId ≤ (step s i).nextId := by
  rcases step_eq s i with ⟨_, he⟩ | ⟨t, _, he⟩ <;> rw [he]
  · exact Nat.le_refl _
  · show _ ≤ (stepT true s i t).1.nextId
    rw [stepT_nextId]; exact Nat.le_add_right ..

theorem alloc_step {s : State π} {i : Nat} {t : Thread π} {n : Node π} (ht : s.threads[i]? = some t)
    (ha : allocOf s t = some n) : n.id = s.nextId ∧ (step s i).nextId = s.nextId + 1 := by
  refine ⟨(allocOf_some ha).1, ?_⟩
  rcases step_eq s i with ⟨e, _⟩ | ⟨t', ht', he⟩
  · rw [e] at ht; cases ht
  · rw [ht] at ht'; cases ht'
    rw [he]
    show (stepT true s i t).1.nextId = _
    rw [stepT_nextId, ha]; rfl

/-! ## allocation identities: ids are fresh, so pointer equality is node equality (no ABA) -/

structure IdInv (s : State π) : Prop where
  bound : ∀ n, InSys s n → n.id < s.nextId
  unique : ∀ a b, InSys s a → InSys s b → a.id = b.id → a = b

theorem idInv_step (s : State π) (i : Nat) (h : IdInv s) : IdInv (step s i) := by
  have hold : ∀ {a b}, InSys s a → ∀ {t}, s.threads[i]? = some t → allocOf s t = some b → a.id ≠ b.id :=
    fun ha _ ht hb e => Nat.lt_irrefl _ ((alloc_step ht hb).1 ▸ e ▸ h.bound _ ha)
  constructor
  · intro n hn
    rcases inSys_step hn with h' | ⟨t, ht, ha⟩
    · exact Nat.lt_of_lt_of_le (h.bound n h') (nextId_le_step s i)
    · rw [(alloc_step ht ha).1, (alloc_step ht ha).2]; exact Nat.lt_succ_self _
  · intro a b ha hb hab
    rcases inSys_step ha with ha' | ⟨ta, hta, haa⟩ <;> rcases inSys_step hb with hb' | ⟨tb, htb, hbb⟩
    · exact h.unique a b ha' hb' hab
    · exact absurd hab (hold ha' htb hbb)
    · exact absurd hab.symm (hold hb' hta haa)
    · rw [hta] at htb; cases htb; rw [haa] at hbb; cases hbb; rfl

/-- The four kinds of step, by their effect on the shared slots and the ghost trace. -/
theorem stepT_effect (s : State π) (i : Nat) (t : Thread π) :
    ((stepT true s i t).1.trace = s.trace ∧ (stepT true s i t).1.slots = s.slots) ∨
    (∃ h cs, t.pc = .call ∧ t.calls = .read h :: cs ∧ (stepT true s i t).1.slots = s.slots ∧
      (stepT true s i t).1.trace = .readRet i h (readResult (slotAt s (key s h)) h) :: s.trace) ∨
    (∃ (f : Node π) (ok : Bool), (stepT true s i t).1.slots = s.slots ∧
      (stepT true s i t).1.trace = .writeRet i f.hash f.payload f.val ok :: s.trace) ∨
    (∃ (f : Node π) (p : Option (Node π)), t.pc = .w2 f p ∧ casOk s f p = true ∧
      (stepT true s i t).1.slots = s.slots.set (key s f.hash) (some f) ∧
      ((stepT true s i t).1.trace = .cas i (key s f.hash) (slotAt s (key s f.hash)) f :: s.trace ∨
       (stepT true s i t).1.trace = .writeRet i f.hash f.payload f.val true ::
          .cas i (key s f.hash) (slotAt s (key s f.hash)) f :: s.trace)) := by
  rcases stepT_cases s i t with ⟨_, _, e⟩ | st
  · rw [e]; exact .inl ⟨rfl, rfl⟩
  generalize stepT true s i t = r at st
  induction st
  case alloc | load | accept | casFail => exact .inl ⟨rfl, rfl⟩
  case read hpc hc => exact .inr (.inl ⟨_, _, hpc, hc, rfl, rfl⟩)
  case reject | add | addSplit => exact .inr (.inr (.inl ⟨_, _, rfl, rfl⟩))
  case casNew hpc hcas => exact .inr (.inr (.inr ⟨_, _, hpc, hcas, rfl, .inl rfl⟩))
  case casReplace hpc hcas => exact .inr (.inr (.inr ⟨_, _, hpc, hcas, rfl, .inr rfl⟩))

/-- the only way into `w2` is through the comparison of `w1` -/
theorem stepT_w2 (s : State π) (i : Nat) (t : Thread π) (f : Node π) (p : Option (Node π))
    (h : (stepT true s i t).2.pc = .w2 f p) : valOf p ≤ f.val := by
  rcases stepT_cases s i t with ⟨hpc, _, e⟩ | st
  · rw [e] at h; cases hpc.symm.trans h
  generalize stepT true s i t = r at st h
  induction st
  case accept hv => cases h; exact Nat.le_of_not_gt hv
  case read | alloc | load | reject | casFail | casNew | casReplace | add | addSplit => cases h

/-- what a trace event must satisfy, given the events `older` than it -/
def EvOK (P : Call π → Prop) (older : List (Event π)) : Event π → Prop
  | .cas _ _ old new => valOf old ≤ new.val
  | .readRet _ h (some n) =>
    n.hash = h ∧ P (.write n.hash n.payload n.val) ∧ ∃ tid k old, Event.cas tid k old n ∈ older
  | _ => True

def TraceOK (P : Call π → Prop) : List (Event π) → Prop
  | [] => True
  | ev :: tr => EvOK P tr ev ∧ TraceOK P tr

structure NodeInv (P : Call π → Prop) (s : State π) : Prop where
  ids : IdInv s
  w2 : ∀ t ∈ s.threads, ∀ f p, t.pc = .w2 f p → valOf p ≤ f.val
  nodes : ∀ n, InSys s n → P (.write n.hash n.payload n.val)
  calls : ∀ t ∈ s.threads, ∀ c ∈ t.calls, P c
  published : ∀ n, some n ∈ s.slots → ∃ tid k old, Event.cas tid k old n ∈ s.trace
  trace : TraceOK P s.trace

theorem cas_le {P : Call π → Prop} {s : State π} (h : NodeInv P s) {t : Thread π} (ht : t ∈ s.threads)
    {f : Node π} {p : Option (Node π)} (hpc : t.pc = .w2 f p) (hcas : casOk s f p = true) :
    valOf (slotAt s (key s f.hash)) ≤ f.val := by
  have hle := h.w2 t ht f p hpc
  cases p with
  | none => rw [samePtr_none hcas]; exact hle
  | some q =>
    obtain ⟨m, hm, hid⟩ := samePtr_some hcas
    have hq : InSys s q := .inr ⟨t, ht, hpc ▸ List.mem_cons_of_mem _ List.mem_cons_self⟩
    rw [hm, h.ids.unique m q (.inl (slotAt_mem hm)) hq hid]; exact hle

theorem readResult_some {ptr : Option (Node π)} {h : Nat} {n : Node π} (hr : readResult ptr h = some n) :
    ptr = some n ∧ n.hash = h := by
  unfold readResult at hr
  split at hr
  · split at hr
    · cases hr; exact ⟨rfl, ‹_›⟩
    · cases hr
  · cases hr

def Published (slots : List (Option (Node π))) (tr : List (Event π)) : Prop :=
  ∀ n, some n ∈ slots → ∃ tid k old, Event.cas tid k old n ∈ tr

theorem Published.cons {slots : List (Option (Node π))} {tr : List (Event π)} (ev : Event π)
    (h : Published slots tr) : Published slots (ev :: tr) :=
  fun n hn => let ⟨a, b, c, hc⟩ := h n hn; ⟨a, b, c, List.mem_cons_of_mem _ hc⟩

theorem Published.cas {slots : List (Option (Node π))} {tr : List (Event π)} (i k : Nat) (old : Option (Node π))
    (f : Node π) (h : Published slots tr) : Published (slots.set k (some f)) (.cas i k old f :: tr) := by
  intro n hn
  rcases List.mem_or_eq_of_mem_set hn with hn | hn
  · exact h.cons _ n hn
  · cases hn; exact ⟨i, k, old, List.mem_cons_self⟩

theorem nodeInv_step {P : Call π → Prop} (s : State π) (i : Nat) (h : NodeInv P s) : NodeInv P (step s i) := by
  have hids := idInv_step s i h.ids
  have hnodes : ∀ n, InSys (step s i) n → P (.write n.hash n.payload n.val) := by
    intro n hn
    rcases inSys_step hn with h' | ⟨t, ht, ha⟩
    · exact h.nodes n h'
    · exact h.calls t (List.mem_of_getElem? ht) _ (allocOf_some ha).2
  rcases step_eq s i with ⟨_, he⟩ | ⟨t, ht, he⟩
  · rw [he]; exact h
  have hmem : t ∈ s.threads := List.mem_of_getElem? ht
  have hpt : Published (stepT true s i t).1.slots (stepT true s i t).1.trace ∧
      TraceOK P (stepT true s i t).1.trace := by
    rcases stepT_effect s i t with ⟨e1, e2⟩ | ⟨hh, _, _, _, e2, e1⟩ | ⟨_, _, e2, e1⟩ | ⟨f, p, hpc, hcas, e2, e1⟩ <;>
      rw [e2]
    · rw [e1]; exact ⟨h.published, h.trace⟩
    · rw [e1]
      refine ⟨.cons _ h.published, ?_, h.trace⟩
      cases hr : readResult (slotAt s (key s hh)) hh with
      | none => trivial
      | some n =>
        obtain ⟨h1, h2⟩ := readResult_some hr
        exact ⟨h2, h.nodes n (.inl (slotAt_mem h1)), h.published n (slotAt_mem h1)⟩
    · rw [e1]; exact ⟨.cons _ h.published, trivial, h.trace⟩
    · have hev : EvOK P s.trace (.cas i (key s f.hash) (slotAt s (key s f.hash)) f) := cas_le h hmem hpc hcas
      rcases e1 with e1 | e1 <;> rw [e1]
      · exact ⟨.cas _ _ _ _ h.published, hev, h.trace⟩
      · exact ⟨.cons _ (.cas _ _ _ _ h.published), trivial, hev, h.trace⟩
  rw [he] at hids hnodes ⊢
  refine ⟨hids, ?_, hnodes, ?_, hpt.1, hpt.2⟩
  · intro u hu f p hpc
    rcases List.mem_or_eq_of_mem_set hu with hu | rfl
    · exact h.w2 u hu f p hpc
    · exact stepT_w2 s i t f p hpc
  · intro u hu c hc
    rcases List.mem_or_eq_of_mem_set hu with hu | rfl
    · exact h.calls u hu c hc
    · exact h.calls t hmem c (stepT_calls s i t c hc)

theorem nodeInv_run {P : Call π → Prop} (sched : List Nat) (s : State π) (h : NodeInv P s) :
    NodeInv P (run s sched) :=
  run_induction nodeInv_step sched s h

theorem slot_mono_step {P : Call π → Prop} (s : State π) (i : Nat) (h : NodeInv P s) (k : Nat) :
    valOf (slotAt s k) ≤ valOf (slotAt (step s i) k) := by
  rcases step_eq s i with ⟨_, he⟩ | ⟨t, ht, he⟩
  · rw [he]; exact Nat.le_refl _
  rw [he]
  show _ ≤ valOf ((stepT true s i t).1.slots.getD k none)
  rcases stepT_effect s i t with ⟨_, e2⟩ | ⟨_, _, _, _, e2, _⟩ | ⟨_, _, e2, _⟩ | ⟨f, p, hpc, hcas, e2, _⟩ <;> rw [e2]
  iterate 3 exact Nat.le_refl _
  by_cases hk : key s f.hash = k
  · subst hk
    by_cases hlen : key s f.hash < s.slots.length
    · rw [getD_set_self hlen]; exact cas_le h (List.mem_of_getElem? ht) hpc hcas
    · rw [List.set_eq_of_length_le (Nat.le_of_not_gt hlen)]; exact Nat.le_refl _
  · rw [getD_set_ne hk]; exact Nat.le_refl _

theorem slot_mono_run {P : Call π → Prop} (sched : List Nat) (s : State π) (h : NodeInv P s) (k : Nat) :
    valOf (slotAt s k) ≤ valOf (slotAt (run s sched) k) := by
  induction sched generalizing s with
  | nil => exact Nat.le_refl _
  | cons i is ih =>
    exact Nat.le_trans (slot_mono_step s i h k) (ih (step s i) (nodeInv_step s i h))

/-- the initial state satisfies the invariant, with `P` = "is one of the calls of the program" -/
theorem nodeInv_init (n : Nat) (progs : List (List (Call π))) :
    NodeInv (fun c => ∃ cs ∈ progs, c ∈ cs) (init n progs) := by
  have hsys : ∀ m, ¬ InSys (init n progs) m := by
    rintro m (hm | ⟨t, ht, hm⟩)
    · cases init_slots hm
    · rw [(init_threads ht).1] at hm; cases hm
  refine ⟨⟨fun m hm => absurd hm (hsys m), fun a _ ha => absurd ha (hsys a)⟩, ?_, fun m hm => absurd hm (hsys m), ?_, ?_,
    trivial⟩
  · intro t ht f p hpc; rw [(init_threads ht).1] at hpc; cases hpc
  · intro t ht c hc; exact ⟨t.calls, (init_threads ht).2, hc⟩
  · intro m hm; cases init_slots hm

theorem traceOK_split {P : Call π → Prop} {pre post : List (Event π)} {ev : Event π}
    (h : TraceOK P (pre ++ ev :: post)) : EvOK P post ev := by
  induction pre with
  | nil => exact h.1
  | cons x xs ih => exact ih h.2

theorem traceOK_mem_cas {P : Call π → Prop} {tr : List (Event π)} (h : TraceOK P tr) {tid k : Nat}
    {old : Option (Node π)} {new : Node π} (hm : Event.cas tid k old new ∈ tr) : valOf old ≤ new.val := by
  obtain ⟨pre, post, rfl⟩ := List.append_of_mem hm
  exact traceOK_split h

theorem occupied_le (s : State π) : occupied s ≤ s.slots.length := List.countP_le_length

end Morlock.Proofs.ConcTT
