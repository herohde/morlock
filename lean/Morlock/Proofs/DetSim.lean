import Morlock.Model.Search
import Morlock.Proofs.ABHeap
/-!
# C18: the search is a function of what the game lets it observe, and of nothing in its state but what it reads

Two runs of the search are compared through a relation `R` between the positions of two games - a simulation
(`SimN`): related positions agree on everything the search reads, which does not include the hash, and every
generated move is refused on both sides or leads to related positions - and a relation `S` between the two search
states that every state update of the search respects (`StRel`). Such runs return the same score and PV and end in
`S`-related states (`alphabeta_rel`, one induction on the depth). That two runs return literally the same, what a
single run keeps, and that the incoming counters are only added to (`Proofs/DetState.lean`) are choices of `S`.
-/
namespace Morlock.Proofs.Det
open Morlock Morlock.Model Morlock.Model.Score

def ORel {α β : Type} (R : α → β → Prop) : Option α → Option β → Prop
  | none, none => True
  | some a, some b => R a b
  | _, _ => False

theorem ORel.imp {α β : Type} {R S : α → β → Prop} {o1 : Option α} {o2 : Option β} (h : ORel R o1 o2)
    (hi : ∀ a b, o1 = some a → o2 = some b → R a b → S a b) : ORel S o1 o2 := by
  cases o1 <;> cases o2 <;> simp only [ORel] at h ⊢
  exact hi _ _ rfl rfl h

theorem ORel.none_none {α β : Type} {R : α → β → Prop} : ORel R none none := trivial

theorem ORel.some_iff {α β : Type} {R : α → β → Prop} {a : α} {b : β} : ORel R (some a) (some b) ↔ R a b := Iff.rfl

theorem ORel.cases {α β : Type} {R : α → β → Prop} : ∀ {o1 : Option α} {o2 : Option β}, ORel R o1 o2 →
    (o1 = none ∧ o2 = none) ∨ ∃ a b, o1 = some a ∧ o2 = some b ∧ R a b
  | none, none, _ => .inl ⟨rfl, rfl⟩
  | some a, some b, h => .inr ⟨a, b, rfl, rfl, h⟩
  | none, some _, h => False.elim h
  | some _, none, h => False.elim h

theorem ORel.intro {α β : Type} {R : α → β → Prop} : ∀ {o1 : Option α} {o2 : Option β}, o1.isSome = o2.isSome →
    (∀ a b, o1 = some a → o2 = some b → R a b) → ORel R o1 o2
  | none, none, _, _ => trivial
  | some a, some b, _, h => h a b rfl rfl
  | none, some _, hs, _ => Bool.noConfusion hs
  | some _, none, hs, _ => Bool.noConfusion hs

theorem ORel.refl {α : Type} : ∀ o : Option α, ORel (fun a b => a = b) o o
  | none => trivial
  | some _ => rfl

-- Irreducible: the application elaborator unfolds a reducible `ORel R o1 o2` (it looks for further arguments in the
-- result type) and thereby evaluates closed `o1`, `o2`, e.g. a whole line of play.
attribute [irreducible] ORel

variable {P1 P2 : Type}

/-- A depth-indexed simulation: `R n` relates positions from which `n` more plies may be explored. -/
structure SimN (g1 : Game P1) (g2 : Game P2) (R : Nat → P1 → P2 → Prop) : Prop where
  isDraw : ∀ {n p1 p2}, R n p1 p2 → g1.isDraw p1 = g2.isDraw p2
  ply : ∀ {n p1 p2}, R n p1 p2 → g1.ply p1 = g2.ply p2
  moves : ∀ {n p1 p2}, R n p1 p2 → g1.moves p1 = g2.moves p2
  inCheck : ∀ {n p1 p2}, R n p1 p2 → g1.inCheck p1 = g2.inCheck p2
  eval : ∀ {n p1 p2}, R n p1 p2 → g1.eval p1 = g2.eval p2
  push : ∀ {n p1 p2} (m : Move), R (n + 1) p1 p2 → m ∈ g1.moves p1 → ORel (R n) (g1.push p1 m) (g2.push p2 m)

/-- A simulation: related positions agree on what the search observes, and every generated move leads to
related positions (or is refused on both sides). -/
structure Sim (g1 : Game P1) (g2 : Game P2) (R : P1 → P2 → Prop) : Prop where
  isDraw : ∀ {p1 p2}, R p1 p2 → g1.isDraw p1 = g2.isDraw p2
  ply : ∀ {p1 p2}, R p1 p2 → g1.ply p1 = g2.ply p2
  moves : ∀ {p1 p2}, R p1 p2 → g1.moves p1 = g2.moves p2
  inCheck : ∀ {p1 p2}, R p1 p2 → g1.inCheck p1 = g2.inCheck p2
  eval : ∀ {p1 p2}, R p1 p2 → g1.eval p1 = g2.eval p2
  push : ∀ {p1 p2} (m : Move), R p1 p2 → m ∈ g1.moves p1 → ORel R (g1.push p1 m) (g2.push p2 m)

theorem Sim.simN {g1 : Game P1} {g2 : Game P2} {R : P1 → P2 → Prop} (h : Sim g1 g2 R) :
    SimN g1 g2 (fun _ => R) :=
  ⟨h.isDraw, h.ply, h.moves, h.inCheck, h.eval, h.push⟩

/-- The identity is a simulation of a game by itself, also with another hash function. -/
theorem sim_withHash {P : Type} (g : Game P) (hash' : P → Nat) : Sim g { g with hash := hash' } (fun p q => p = q) :=
  ⟨fun h => h ▸ rfl, fun h => h ▸ rfl, fun h => h ▸ rfl, fun h => h ▸ rfl, fun h => h ▸ rfl,
   fun _ h _ => h ▸ ORel.refl _⟩

/-- Depth of the tree below a leaf of the main search. -/
def leafDepth {P : Type} : LeafEval P → Nat
  | .static => 0
  | .quiescence _ fuel => fuel

/-- The explorations agree on related positions. -/
def ExRel (R : Nat → P1 → P2 → Prop) (ex1 : P1 → Explore) (ex2 : P2 → Explore) : Prop :=
  ∀ n p1 p2, R n p1 p2 → ex1 p1 = ex2 p2

theorem ExRel.const (R : Nat → P1 → P2 → Prop) (e : Explore) : ExRel R (constEx e) (constEx e) := fun _ _ _ _ => rfl

theorem ExRel.eq (ex : P1 → Explore) : ExRel (fun _ p q => p = q) ex ex := fun _ _ _ h => h ▸ rfl

/-- The leaf evaluations are of the same kind, with the same fuel and explorations that agree on related positions. -/
inductive LeRel (R : Nat → P1 → P2 → Prop) : LeafEval P1 → LeafEval P2 → Prop
  | static : LeRel R .static .static
  | quiescence {ex1 : P1 → Explore} {ex2 : P2 → Explore} (fuel : Nat) (h : ExRel R ex1 ex2) :
      LeRel R (.quiescence ex1 fuel) (.quiescence ex2 fuel)

theorem LeRel.leafDepth_eq {R : Nat → P1 → P2 → Prop} {le1 : LeafEval P1} {le2 : LeafEval P2} (h : LeRel R le1 le2) :
    leafDepth le1 = leafDepth le2 := by
  cases h <;> rfl

theorem LeRel.eq (le : LeafEval P1) : LeRel (fun _ p q => p = q) le le := by
  cases le with
  | static => exact .static
  | quiescence ex fuel => exact .quiescence fuel (ExRel.eq ex)

/-- A leaf evaluation whose exploration (if any) does not depend on the board. -/
inductive LeafEvalC
  | static
  | quiescence (ex : Explore) (fuel : Nat)

/-- … as a leaf evaluation of any game. -/
def LeafEvalC.at {P : Type} : LeafEvalC → LeafEval P
  | .static => .static
  | .quiescence ex fuel => .quiescence (constEx ex) fuel

theorem LeRel.at (R : Nat → P1 → P2 → Prop) (le : LeafEvalC) : LeRel R (le.at (P := P1)) (le.at (P := P2)) := by
  cases le with
  | static => exact .static
  | quiescence ex fuel => exact .quiescence fuel (ExRel.const R ex)

def pollC (st : SState) : Bool := (poll st).1
def pollS (st : SState) : SState := { st with polls := st.polls + 1 }

theorem poll_eq (st : SState) : poll st = (pollC st, pollS st) := rfl
@[simp] theorem pollS_tt (st : SState) : (pollS st).tt = st.tt := rfl

/-- The results of two runs agree in the first component and are `Q`-related in the rest. Iterated
(`PRel (PRel S)` on `Score × List Move × SState`): equal in everything but the final states, which are `S`-related. -/
structure PRel {α β γ : Type} (Q : β → γ → Prop) (r1 : α × β) (r2 : α × γ) : Prop where
  fst : r1.1 = r2.1
  snd : Q r1.2 r2.2

theorem ite_rel {α β : Type} {Q : α → β → Prop} {c1 c2 : Bool} {a1 b1 : α} {a2 b2 : β} (hc : c1 = c2)
    (ht : c1 = true → Q a1 a2) (he : c1 = false → Q b1 b2) : Q (if c1 then a1 else b1) (if c2 then a2 else b2) := by
  subst hc
  cases c1
  · exact he rfl
  · exact ht rfl

theorem sumElim_rel {α β γ δ ε ζ : Type} {A : α → γ → Prop} {B : β → δ → Prop} {Q : ε → ζ → Prop} {e1 : α ⊕ β}
    {e2 : γ ⊕ δ} (h : Sum.LiftRel A B e1 e2) {f1 : α → ε} {g1 : β → ε} {f2 : γ → ζ} {g2 : δ → ζ}
    (hl : ∀ a c, A a c → Q (f1 a) (f2 c)) (hr : ∀ b d, B b d → Q (g1 b) (g2 d)) :
    Q (Sum.elim f1 g1 e1) (Sum.elim f2 g2 e2) := by
  cases h with
  | inl h => exact hl _ _ h
  | inr h => exact hr _ _ h

/-- `S` is respected by what the search does to the counters of its state. -/
structure CtrRel (S : SState → SState → Prop) : Prop where
  poll : ∀ {s1 s2}, S s1 s2 → pollC s1 = pollC s2 ∧ S (pollS s1) (pollS s2)
  node : ∀ {s1 s2}, S s1 s2 → S { s1 with nodes := s1.nodes + 1 } { s2 with nodes := s2.nodes + 1 }
  fuel : ∀ {s1 s2}, S s1 s2 → S { s1 with fuelOut := true } { s2 with fuelOut := true }

/-- ... and by what it does with the table at `R`-related positions. -/
structure StRel (g1 : Game P1) (g2 : Game P2) (R : Nat → P1 → P2 → Prop) (S : SState → SState → Prop) : Prop
    extends CtrRel S where
  read : ∀ {n p1 p2 s1 s2}, R n p1 p2 → S s1 s2 → s1.tt.read (g1.hash p1) = s2.tt.read (g2.hash p2)
  write : ∀ {n p1 p2 s1 s2} {bound : Nat} {ply depth : Int} {score : Score} {m : Move}, R n p1 p2 → S s1 s2 →
    S { s1 with tt := (s1.tt.write (g1.hash p1) bound ply depth score m).1 }
      { s2 with tt := (s2.tt.write (g2.hash p2) bound ply depth score m).1 }

theorem write_empty {t : TTState} (ht : t.slots.size = 0) (h bound : Nat) (ply depth : Int) (score : Score)
    (m : Move) : (t.write h bound ply depth score m).1 = t := by
  unfold TTState.write
  rw [if_pos ht]

theorem read_empty {t : TTState} (ht : t.slots.size = 0) (h : Nat) : t.read h = none := by
  unfold TTState.read
  rw [if_pos ht]

theorem ctrRel_eq : CtrRel (fun s1 s2 => s1 = s2) :=
  ⟨fun h => h ▸ ⟨rfl, rfl⟩, fun h => h ▸ rfl, fun h => h ▸ rfl⟩

/-- No table: the hashes are never used for anything observable. -/
theorem stRel_empty (g1 : Game P1) (g2 : Game P2) (R : Nat → P1 → P2 → Prop) :
    StRel g1 g2 R (fun s1 s2 => s1 = s2 ∧ s1.tt.slots.size = 0) where
  poll := fun ⟨h, ht⟩ => h ▸ ⟨rfl, rfl, ht⟩
  node := fun ⟨h, ht⟩ => h ▸ ⟨rfl, ht⟩
  fuel := fun ⟨h, ht⟩ => h ▸ ⟨rfl, ht⟩
  read := fun _ ⟨h, ht⟩ => by rw [← h, read_empty ht, read_empty ht]
  write := fun _ ⟨h, ht⟩ => by
    subst h
    rw [write_empty ht, write_empty ht]
    exact ⟨rfl, ht⟩

theorem stRel_hash {g1 : Game P1} {g2 : Game P2} {R : Nat → P1 → P2 → Prop}
    (hh : ∀ {n p1 p2}, R n p1 p2 → g1.hash p1 = g2.hash p2) : StRel g1 g2 R (fun s1 s2 => s1 = s2) where
  toCtrRel := ctrRel_eq
  read := fun hR h => by rw [h, hh hR]
  write := fun hR h => by rw [h, hh hR]

section eqns
variable {P : Type} (g : Game P) (ex : P → Explore)

section
variable (rec : P → Score → Score → SState → Score × SState) (p : P) (beta : Score)

theorem quiesceLoop_cons_none {m : Move} (h : g.push p m = none) (rest : List Move) (alpha : Score) (hl : Bool)
    (st : SState) :
    quiesceLoop g ex rec p beta (m :: rest) alpha hl st = quiesceLoop g ex rec p beta rest alpha hl st := by
  simp only [quiesceLoop, childOf, h]

/-- What the child `c` reached by `m` does to `alpha` and the state. -/
def qStep (m : Move) (c : P) (alpha : Score) (st : SState) : Score × SState :=
  if (ex p).pick m then
    (Score.max alpha (incMate (rec c (childBound beta) (childBound alpha) st).1).negate,
      (rec c (childBound beta) (childBound alpha) st).2)
  else (alpha, st)

theorem quiesceLoop_cons_some {m : Move} {c : P} (h : g.push p m = some c) (rest : List Move) (alpha : Score)
    (hl : Bool) (st : SState) :
    quiesceLoop g ex rec p beta (m :: rest) alpha hl st =
      if cutoff (qStep ex rec p beta m c alpha st).1 beta then
        ((qStep ex rec p beta m c alpha st).1, true, (qStep ex rec p beta m c alpha st).2)
      else quiesceLoop g ex rec p beta rest (qStep ex rec p beta m c alpha st).1 true
        (qStep ex rec p beta m c alpha st).2 := by
  have h' : childOf g p m = some c := h
  rw [quiesceLoop, h']
  unfold qStep
  cases (ex p).pick m <;> rfl

end

/-- What `quiesce` returns once its move loop returned `L`. -/
def quiesceFinish (p : P) (L : Score × Bool × SState) : Score × SState :=
  if !L.2.1 then ((if g.inCheck p then negInfScore else zeroScore), L.2.2) else (L.1, L.2.2)

theorem quiesce_succ (fuel : Nat) (p : P) (a b : Score) (st : SState) :
    quiesce g ex (fuel + 1) p a b st =
      if pollC st then (zeroScore, pollS st) else
      if g.isDraw p then (zeroScore, pollS st) else
      quiesceFinish g p (quiesceLoop g ex (quiesce g ex fuel) p b (heapOrder (g.moves p) (ex p).prio)
        (Score.max a (heuristicScore (g.eval p))) false { pollS st with nodes := (pollS st).nodes + 1 }) := by
  rw [quiesce, poll_eq]
  dsimp only
  -- with the loop's result a variable, `rfl` compares the projections without looking into the loop
  generalize quiesceLoop g ex (quiesce g ex fuel) p b _ _ false _ = L
  obtain ⟨a', hl, s⟩ := L
  rfl

theorem abEnter_eq (rootPly : Int) (depth : Nat) (p : P) (st : SState) :
    abEnter g rootPly depth p st =
      if pollC st then .inl (invalidScore, [], pollS st) else
      if !(g.ply p == rootPly) && g.isDraw p then .inl (zeroScore, [], pollS st) else
      match (pollS st).tt.read (g.hash p) with
      | some e =>
        if !(g.ply p == rootPly) && depth == e.depth && e.bound == 0 then .inl (e.score, [], pollS st)
        else .inr ({ «from» := e.from, to := e.to, promotion := e.promotion }, pollS st)
      | none => .inr ({}, pollS st) := rfl

/-- How one explored child updates `alpha` and the PV. -/
def abStep (m : Move) (alpha : Score) (pv : List Move) (r : Score × List Move × SState) : Score × List Move :=
  if alpha.less (incMate r.1).negate then ((incMate r.1).negate, m :: r.2.1) else (alpha, pv)

section
variable (rec : P → Score → Score → SState → Score × List Move × SState) (p : P) (beta : Score)

theorem abLoop_cons_none {m : Move} (h : g.push p m = none) (rest : List Move) (alpha : Score) (pv : List Move)
    (hl : Bool) (st : SState) :
    abLoop g ex rec p beta (m :: rest) alpha pv hl st = abLoop g ex rec p beta rest alpha pv hl st := by
  simp only [abLoop, childOf, h]

/-- What the child `c` reached by `m` does to `alpha`, the PV and the state. -/
def aStep (m : Move) (c : P) (alpha : Score) (pv : List Move) (st : SState) : Score × List Move × SState :=
  if (ex p).pick m then
    ((abStep m alpha pv (rec c (childBound beta) (childBound alpha) st)).1,
      (abStep m alpha pv (rec c (childBound beta) (childBound alpha) st)).2,
      (rec c (childBound beta) (childBound alpha) st).2.2)
  else (alpha, pv, st)

theorem abLoop_cons_some {m : Move} {c : P} (h : g.push p m = some c) (rest : List Move) (alpha : Score)
    (pv : List Move) (hl : Bool) (st : SState) :
    abLoop g ex rec p beta (m :: rest) alpha pv hl st =
      if cutoff (aStep ex rec p beta m c alpha pv st).1 beta then
        ((aStep ex rec p beta m c alpha pv st).1, (aStep ex rec p beta m c alpha pv st).2.1, true, true,
          (aStep ex rec p beta m c alpha pv st).2.2)
      else abLoop g ex rec p beta rest (aStep ex rec p beta m c alpha pv st).1
        (aStep ex rec p beta m c alpha pv st).2.1 true (aStep ex rec p beta m c alpha pv st).2.2 := by
  have h' : childOf g p m = some c := h
  rw [abLoop, h']
  unfold aStep abStep
  dsimp only
  cases (ex p).pick m with
  | false => rfl
  | true =>
    generalize rec c (childBound beta) (childBound alpha) st = r
    obtain ⟨s, rem, st'⟩ := r
    dsimp only
    cases alpha.less (incMate s).negate <;> rfl

end

/-- What `alphabeta` does at depth 0 once `abEnter` says "descend", given the leaf value `q`. -/
def leafFinish (p : P) (alpha beta : Score) (q : Score × SState) : Score × List Move × SState :=
  if pollC q.2 then (invalidScore, [], pollS q.2) else
    (q.1, [],
      if alpha.less q.1 && q.1.less beta then
        { pollS q.2 with tt := ((pollS q.2).tt.write (g.hash p) 0 (g.ply p) 0 q.1 {}).1 }
      else pollS q.2)

/-- What `alphabeta` does at depth `d + 1` after the move loop returned `L`. -/
def nodeFinish (d : Nat) (p : P) (L : Score × List Move × Bool × Bool × SState) : Score × List Move × SState :=
  if pollC L.2.2.2.2 then (invalidScore, [], pollS L.2.2.2.2) else
  if !L.2.2.1 then ((if g.inCheck p then negInfScore else zeroScore), [], pollS L.2.2.2.2) else
  (L.1, L.2.1,
    if !L.2.2.2.1 && !L.2.1.isEmpty then
      { pollS L.2.2.2.2 with
        tt := ((pollS L.2.2.2.2).tt.write (g.hash p) 0 (g.ply p) ((d + 1 : Nat) : Int) L.1 (firstOrNone L.2.1)).1 }
    else pollS L.2.2.2.2)

variable (le : LeafEval P) (rootPly : Int)

theorem alphabeta_zero (p : P) (alpha beta : Score) (st : SState) :
    alphabeta g ex le rootPly 0 p alpha beta st =
      Sum.elim id (fun r => leafFinish g p alpha beta (quietSearch g le p alpha beta r.2))
        (abEnter g rootPly 0 p st) := by
  rw [alphabeta]
  cases abEnter g rootPly 0 p st <;> rfl

theorem alphabeta_succ (d : Nat) (p : P) (alpha beta : Score) (st : SState) :
    alphabeta g ex le rootPly (d + 1) p alpha beta st =
      Sum.elim id (fun r => nodeFinish g d p
          (abLoop g ex (alphabeta g ex le rootPly d) p beta (heapOrder (g.moves p) (firstPrio r.1 (ex p).prio)) alpha []
            false { r.2 with nodes := r.2.nodes + 1 }))
        (abEnter g rootPly (d + 1) p st) := by
  rw [alphabeta]
  cases abEnter g rootPly (d + 1) p st with
  | inl r => rfl
  | inr r =>
    obtain ⟨best, st'⟩ := r
    simp only [Sum.elim_inr]
    generalize abLoop g ex (alphabeta g ex le rootPly d) p beta _ alpha [] false _ = L
    obtain ⟨a, pv, hl, wc, st2⟩ := L
    rfl

/-- What `AlphaBeta.Search` reports once `alphabeta` returned `r`. -/
def searchFinish (r : Score × List Move × SState) : Option SearchResult × SState :=
  if pollC r.2.2 then (none, pollS r.2.2) else (some ⟨(pollS r.2.2).nodes, r.1, r.2.1⟩, pollS r.2.2)

theorem alphaBetaSearch_eq (p : P) (d : Nat) (a b : Score) (st : SState) :
    alphaBetaSearch g ex le p d a b st =
      searchFinish (alphabeta g ex le (g.ply p) d p (if a.isInvalid then negInfScore else a)
        (if b.isInvalid then infScore else b) { st with nodes := 0 }) := rfl

end eqns

section rel
variable {g1 : Game P1} {g2 : Game P2} {R : Nat → P1 → P2 → Prop} {S : SState → SState → Prop}

theorem quiesceLoop_rel {ex1 : P1 → Explore} {ex2 : P2 → Explore} {R' : P1 → P2 → Prop}
    {rec1 : P1 → Score → Score → SState → Score × SState} {rec2 : P2 → Score → Score → SState → Score × SState}
    (hrec : ∀ c1 c2, R' c1 c2 → ∀ a b s1 s2, S s1 s2 → PRel S (rec1 c1 a b s1) (rec2 c2 a b s2)) {p1 : P1} {p2 : P2}
    (hex : ex1 p1 = ex2 p2) (beta : Score) :
    ∀ (l : List Move), (∀ m ∈ l, ORel R' (g1.push p1 m) (g2.push p2 m)) →
      ∀ (alpha : Score) (hl : Bool) (s1 s2 : SState), S s1 s2 →
        PRel (PRel S) (quiesceLoop g1 ex1 rec1 p1 beta l alpha hl s1) (quiesceLoop g2 ex2 rec2 p2 beta l alpha hl s2) := by
  intro l
  induction l with
  | nil => intro _ alpha hl s1 s2 h; exact ⟨rfl, rfl, h⟩
  | cons m rest ih =>
    intro hp alpha hl s1 s2 h
    have ih' := ih (fun x hx => hp x (List.mem_cons_of_mem _ hx))
    rcases (hp m List.mem_cons_self).cases with ⟨h1, h2⟩ | ⟨c1, c2, h1, h2, hc⟩
    · rw [quiesceLoop_cons_none g1 ex1 rec1 p1 beta h1, quiesceLoop_cons_none g2 ex2 rec2 p2 beta h2]
      exact ih' alpha hl s1 s2 h
    · have hstep : PRel S (qStep ex1 rec1 p1 beta m c1 alpha s1) (qStep ex2 rec2 p2 beta m c2 alpha s2) := by
        obtain ⟨e, hS⟩ := hrec c1 c2 hc (childBound beta) (childBound alpha) s1 s2 h
        unfold qStep
        rw [e]
        exact ite_rel (congrArg (·.pick m) hex) (fun _ => ⟨rfl, hS⟩) fun _ => ⟨rfl, h⟩
      rw [quiesceLoop_cons_some g1 ex1 rec1 p1 beta h1, quiesceLoop_cons_some g2 ex2 rec2 p2 beta h2, hstep.fst]
      exact ite_rel rfl (fun _ => ⟨rfl, rfl, hstep.snd⟩) fun _ => ih' _ _ _ _ hstep.snd

theorem quiesceFinish_rel (hs : SimN g1 g2 R) {n : Nat} {p1 : P1} {p2 : P2} (hR : R n p1 p2)
    {L1 L2 : Score × Bool × SState} (hL : PRel (PRel S) L1 L2) :
    PRel S (quiesceFinish g1 p1 L1) (quiesceFinish g2 p2 L2) :=
  ite_rel (congrArg (!·) hL.snd.fst)
    (fun _ => ⟨congrArg (fun c => if c then negInfScore else zeroScore) (hs.inCheck hR), hL.snd.snd⟩)
    fun _ => ⟨hL.fst, hL.snd.snd⟩

theorem quiesce_rel (hs : SimN g1 g2 R) (hS : CtrRel S) {ex1 : P1 → Explore} {ex2 : P2 → Explore}
    (hex : ExRel R ex1 ex2) :
    ∀ (fuel n : Nat) (p1 : P1) (p2 : P2), R n p1 p2 → fuel ≤ n → ∀ (a b : Score) (s1 s2 : SState), S s1 s2 →
      PRel S (quiesce g1 ex1 fuel p1 a b s1) (quiesce g2 ex2 fuel p2 a b s2) := by
  intro fuel
  induction fuel with
  | zero => intro n p1 p2 _ _ a b s1 s2 h; exact ⟨rfl, hS.fuel h⟩
  | succ fuel ih =>
    intro n p1 p2 hR hn a b s1 s2 h
    obtain ⟨n', rfl⟩ : ∃ n', n = n' + 1 := ⟨n - 1, by omega⟩
    obtain ⟨hc, hp⟩ := hS.poll h
    rw [quiesce_succ, quiesce_succ]
    refine ite_rel hc (fun _ => ⟨rfl, hp⟩) fun _ => ite_rel (hs.isDraw hR) (fun _ => ⟨rfl, hp⟩) fun _ =>
      quiesceFinish_rel hs hR ?_
    rw [← hs.moves hR, ← hs.eval hR, ← hex _ _ _ hR]
    exact quiesceLoop_rel (R' := R n') (fun c1 c2 hc a b s1 s2 h => ih n' c1 c2 hc (by omega) a b s1 s2 h)
      (hex _ _ _ hR) b _ (fun m hm => hs.push m hR ((ABHeap.heapOrder_perm _ _).mem_iff.mp hm)) _ false _ _ (hS.node hp)

theorem quietSearch_rel (hs : SimN g1 g2 R) (hS : CtrRel S) {le1 : LeafEval P1} {le2 : LeafEval P2}
    (hle : LeRel R le1 le2) {n : Nat} {p1 : P1} {p2 : P2} (hR : R n p1 p2) (hn : leafDepth le1 ≤ n) (a b : Score)
    {s1 s2 : SState} (h : S s1 s2) : PRel S (quietSearch g1 le1 p1 a b s1) (quietSearch g2 le2 p2 a b s2) := by
  cases hle with
  | static => exact ⟨congrArg heuristicScore (hs.eval hR), hS.node h⟩
  | quiescence fuel hex => exact quiesce_rel hs hS hex fuel n p1 p2 hR hn a b s1 s2 h

theorem abEnter_rel (hs : SimN g1 g2 R) (hS : StRel g1 g2 R S) (rootPly : Int) (depth : Nat) {n : Nat} {p1 : P1}
    {p2 : P2} (hR : R n p1 p2) {s1 s2 : SState} (h : S s1 s2) :
    Sum.LiftRel (PRel (PRel S)) (PRel S) (abEnter g1 rootPly depth p1 s1) (abEnter g2 rootPly depth p2 s2) := by
  obtain ⟨hc, hp⟩ := hS.poll h
  rw [abEnter_eq, abEnter_eq, hs.ply hR, hs.isDraw hR, hS.read hR hp]
  refine ite_rel hc (fun _ => .inl ⟨rfl, rfl, hp⟩) fun _ => ite_rel rfl (fun _ => .inl ⟨rfl, rfl, hp⟩) fun _ => ?_
  cases (pollS s2).tt.read (g2.hash p2) with
  | none => exact .inr ⟨rfl, hp⟩
  | some e => exact ite_rel rfl (fun _ => .inl ⟨rfl, rfl, hp⟩) fun _ => .inr ⟨rfl, hp⟩

theorem abLoop_rel {ex1 : P1 → Explore} {ex2 : P2 → Explore} {R' : P1 → P2 → Prop}
    {rec1 : P1 → Score → Score → SState → Score × List Move × SState}
    {rec2 : P2 → Score → Score → SState → Score × List Move × SState}
    (hrec : ∀ c1 c2, R' c1 c2 → ∀ a b s1 s2, S s1 s2 → PRel (PRel S) (rec1 c1 a b s1) (rec2 c2 a b s2))
    {p1 : P1} {p2 : P2} (hex : ex1 p1 = ex2 p2) (beta : Score) :
    ∀ (l : List Move), (∀ m ∈ l, ORel R' (g1.push p1 m) (g2.push p2 m)) →
      ∀ (alpha : Score) (pv : List Move) (hl : Bool) (s1 s2 : SState), S s1 s2 →
        PRel (PRel (PRel (PRel S))) (abLoop g1 ex1 rec1 p1 beta l alpha pv hl s1)
          (abLoop g2 ex2 rec2 p2 beta l alpha pv hl s2) := by
  intro l
  induction l with
  | nil => intro _ alpha pv hl s1 s2 h; exact ⟨rfl, rfl, rfl, rfl, h⟩
  | cons m rest ih =>
    intro hp alpha pv hl s1 s2 h
    have ih' := ih (fun x hx => hp x (List.mem_cons_of_mem _ hx))
    rcases (hp m List.mem_cons_self).cases with ⟨h1, h2⟩ | ⟨c1, c2, h1, h2, hc⟩
    · rw [abLoop_cons_none g1 ex1 rec1 p1 beta h1, abLoop_cons_none g2 ex2 rec2 p2 beta h2]
      exact ih' alpha pv hl s1 s2 h
    · have hstep : PRel (PRel S) (aStep ex1 rec1 p1 beta m c1 alpha pv s1) (aStep ex2 rec2 p2 beta m c2 alpha pv s2) := by
        obtain ⟨e1, e2, hS⟩ := hrec c1 c2 hc (childBound beta) (childBound alpha) s1 s2 h
        have e : abStep m alpha pv (rec1 c1 (childBound beta) (childBound alpha) s1) =
            abStep m alpha pv (rec2 c2 (childBound beta) (childBound alpha) s2) := by unfold abStep; rw [e1, e2]
        unfold aStep
        rw [e]
        exact ite_rel (congrArg (·.pick m) hex) (fun _ => ⟨rfl, rfl, hS⟩) fun _ => ⟨rfl, rfl, h⟩
      rw [abLoop_cons_some g1 ex1 rec1 p1 beta h1, abLoop_cons_some g2 ex2 rec2 p2 beta h2, hstep.fst, hstep.snd.fst]
      exact ite_rel rfl (fun _ => ⟨rfl, rfl, rfl, rfl, hstep.snd.snd⟩) fun _ => ih' _ _ _ _ _ hstep.snd.snd

theorem leafFinish_rel (hs : SimN g1 g2 R) (hS : StRel g1 g2 R S) {n : Nat} {p1 : P1} {p2 : P2} (hR : R n p1 p2)
    (a b : Score) {q1 q2 : Score × SState} (hq : PRel S q1 q2) :
    PRel (PRel S) (leafFinish g1 p1 a b q1) (leafFinish g2 p2 a b q2) := by
  obtain ⟨e, h⟩ := hq
  obtain ⟨hc, hp⟩ := hS.poll h
  unfold leafFinish
  rw [e, hs.ply hR]
  exact ite_rel hc (fun _ => ⟨rfl, rfl, hp⟩) fun _ =>
    ⟨rfl, rfl, ite_rel rfl (fun _ => hS.write hR hp) fun _ => hp⟩

theorem nodeFinish_rel (hs : SimN g1 g2 R) (hS : StRel g1 g2 R S) {n : Nat} {p1 : P1} {p2 : P2} (hR : R n p1 p2)
    (d : Nat) {L1 L2 : Score × List Move × Bool × Bool × SState} (hL : PRel (PRel (PRel (PRel S))) L1 L2) :
    PRel (PRel S) (nodeFinish g1 d p1 L1) (nodeFinish g2 d p2 L2) := by
  obtain ⟨e1, e2, e3, e4, h⟩ := hL
  obtain ⟨hc, hp⟩ := hS.poll h
  unfold nodeFinish
  rw [e1, e2, e4, hs.ply hR]
  exact ite_rel hc (fun _ => ⟨rfl, rfl, hp⟩) fun _ =>
    ite_rel (congrArg (!·) e3)
      (fun _ => ⟨congrArg (fun c => if c then negInfScore else zeroScore) (hs.inCheck hR), rfl, hp⟩) fun _ =>
      ⟨rfl, rfl, ite_rel rfl (fun _ => hS.write hR hp) fun _ => hp⟩

theorem alphabeta_rel (hs : SimN g1 g2 R) (hS : StRel g1 g2 R S) {ex1 : P1 → Explore} {ex2 : P2 → Explore}
    (hex : ExRel R ex1 ex2) {le1 : LeafEval P1} {le2 : LeafEval P2} (hle : LeRel R le1 le2) (rootPly : Int) :
    ∀ (d n : Nat) (p1 : P1) (p2 : P2), R n p1 p2 → d + leafDepth le1 ≤ n → ∀ (a b : Score) (s1 s2 : SState), S s1 s2 →
      PRel (PRel S) (alphabeta g1 ex1 le1 rootPly d p1 a b s1) (alphabeta g2 ex2 le2 rootPly d p2 a b s2) := by
  intro d
  induction d with
  | zero =>
    intro n p1 p2 hR hn a b s1 s2 h
    rw [alphabeta_zero, alphabeta_zero]
    exact sumElim_rel (abEnter_rel hs hS rootPly 0 hR h) (fun _ _ hr => hr) fun _ _ hr =>
      leafFinish_rel hs hS hR a b (quietSearch_rel hs hS.toCtrRel hle hR (by omega) a b hr.snd)
  | succ d ih =>
    intro n p1 p2 hR hn a b s1 s2 h
    obtain ⟨n', rfl⟩ : ∃ n', n = n' + 1 := ⟨n - 1, by omega⟩
    rw [alphabeta_succ, alphabeta_succ]
    refine sumElim_rel (abEnter_rel hs hS rootPly (d + 1) hR h) (fun _ _ hr => hr) fun r1 r2 hr =>
      nodeFinish_rel hs hS hR d ?_
    rw [← hr.fst, ← hs.moves hR, ← hex _ _ _ hR]
    exact abLoop_rel (R' := R n') (fun c1 c2 hc a b s1 s2 h => ih n' c1 c2 hc (by omega) a b s1 s2 h)
      (hex _ _ _ hR) b _ (fun m hm => hs.push m hR ((ABHeap.heapOrder_perm _ _).mem_iff.mp hm)) a [] false _ _
      (hS.node hr.snd)

end rel

section congr
variable {g1 : Game P1} {g2 : Game P2} {R : Nat → P1 → P2 → Prop} (hs : SimN g1 g2 R)
include hs

variable {S : SState → SState → Prop} (hS : StRel g1 g2 R S) (heq : ∀ {s1 s2}, S s1 s2 → s1 = s2)
  {ex1 : P1 → Explore} {ex2 : P2 → Explore} (hex : ExRel R ex1 ex2) {le1 : LeafEval P1} {le2 : LeafEval P2}
  (hle : LeRel R le1 le2)
include hS heq hex hle

/-- If `S`-related states are equal, the two runs return the same triple. -/
theorem alphabeta_congr (rootPly : Int) (d n : Nat) (p1 : P1) (p2 : P2) (h : R n p1 p2)
    (hn : d + leafDepth le1 ≤ n) (a b : Score) (st : SState) (hst : S st st) :
    alphabeta g1 ex1 le1 rootPly d p1 a b st = alphabeta g2 ex2 le2 rootPly d p2 a b st :=
  have := alphabeta_rel hs hS hex hle rootPly d n p1 p2 h hn a b st st hst
  Prod.ext this.fst (Prod.ext this.snd.fst (heq this.snd.snd))

theorem alphaBetaSearch_congr {n : Nat} {p1 : P1} {p2 : P2} (h : R n p1 p2) (d : Nat) (hn : d + leafDepth le1 ≤ n)
    (a b : Score) (st : SState) (hst : S { st with nodes := 0 } { st with nodes := 0 }) :
    alphaBetaSearch g1 ex1 le1 p1 d a b st = alphaBetaSearch g2 ex2 le2 p2 d a b st := by
  rw [alphaBetaSearch_eq, alphaBetaSearch_eq, hs.ply h,
    alphabeta_congr hs hS heq hex hle (g2.ply p2) d n p1 p2 h hn _ _ _ hst]

end congr

end Morlock.Proofs.Det
