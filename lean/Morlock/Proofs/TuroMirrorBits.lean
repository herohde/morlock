import Morlock.Proofs.MirrorModelMoves
import Morlock.Props.C06Queries
/-!
# The colour mirror on the bitboards themselves (no `Rep`, no reference semantics)

`MB x y`: the 64-bit board `y` is the top-to-bottom mirror image of `x`. The relation is closed under the bitboard
operations the move generator uses, with the colour-dependent ones (`pawnCaptureboard`, `pawnMoveboard`, the jump and
promotion ranks) taken for the other colour on the mirrored side; the officer attack boards of a rotated board satisfying
`RotInv` are mirror images when the occupancies are.

This is what the proofs about positions that are NOT images of a mailbox board need (the positions `Position.Move`
produces from the phantom en-passant captures of the side not to move).
-/
namespace Morlock.Proofs.TuroMirror
open Morlock Morlock.Model Morlock.Proofs.Gen Morlock.Proofs.Attack Morlock.Proofs.Mirror
open Morlock.Proofs.Material

local notation "ms" => Spec.mirrorSq

theorem ms_eq_iff {a b : Nat} : ms a = b ↔ a = ms b := by
  constructor
  · intro h; rw [← h, Spec.mirrorSq_mirrorSq]
  · intro h; rw [h, Spec.mirrorSq_mirrorSq]

theorem copp_inj {a b : Color} : a.opp = b.opp ↔ a = b := by cases a <;> cases b <;> simp [Color.opp]

/-- `y` is the mirror image of the board `x` -/
structure MB (x y : Nat) : Prop where
  lx : x < 2 ^ 64
  ly : y < 2 ^ 64
  bit : ∀ u, u < 64 → y.testBit u = x.testBit (ms u)

namespace MB
variable {x y x' y' : Nat}

theorem bit' (h : MB x y) {u : Nat} (hu : u < 64) : y.testBit (ms u) = x.testBit u := by
  rw [h.bit _ (Spec.mirrorSq_lt hu), Spec.mirrorSq_mirrorSq]

theorem symm (h : MB x y) : MB y x := ⟨h.ly, h.lx, fun _ hu => (h.bit' hu).symm⟩

theorem zero : MB 0 0 := ⟨by decide, by decide, fun _ _ => by simp⟩

theorem and (h1 : MB x y) (h2 : MB x' y') : MB (x &&& x') (y &&& y') :=
  ⟨and_lt_left _ h1.lx, and_lt_left _ h1.ly, fun u hu => by
    rw [Nat.testBit_and, Nat.testBit_and, h1.bit u hu, h2.bit u hu]⟩

theorem or (h1 : MB x y) (h2 : MB x' y') : MB (x ||| x') (y ||| y') :=
  ⟨Nat.or_lt_two_pow h1.lx h2.lx, Nat.or_lt_two_pow h1.ly h2.ly, fun u hu => by
    rw [Nat.testBit_or, Nat.testBit_or, h1.bit u hu, h2.bit u hu]⟩

theorem xor (h1 : MB x y) (h2 : MB x' y') : MB (x ^^^ x') (y ^^^ y') :=
  ⟨Nat.xor_lt_two_pow h1.lx h2.lx, Nat.xor_lt_two_pow h1.ly h2.ly, fun u hu => by
    rw [Nat.testBit_xor, Nat.testBit_xor, h1.bit u hu, h2.bit u hu]⟩

theorem andNot (h1 : MB x y) (h2 : MB x' y') : MB (andNot x x') (andNot y y') :=
  ⟨andNot_lt _ h1.lx, andNot_lt _ h1.ly, fun u hu => by
    rw [andNot_testBit, andNot_testBit, h1.bit u hu, h2.bit u hu]⟩

theorem not64 (h : MB x y) : MB (not64 x) (not64 y) :=
  ⟨not64_lt _, not64_lt _, fun u hu => by
    rw [not64_testBit, not64_testBit, h.bit u hu]
    simp [hu, Spec.mirrorSq_lt hu]⟩

theorem bitMask {sq : Nat} (hs : sq < 64) : MB (bitMask sq) (bitMask (ms sq)) :=
  ⟨bitMask_lt_M64 _, bitMask_lt_M64 _, fun u _ => by
    rw [bitMask_testBit (Spec.mirrorSq_lt hs), bitMask_testBit hs]
    apply decide_eq_decide.mpr
    constructor
    · intro e; rw [e, Spec.mirrorSq_mirrorSq]
    · intro e; rw [← e, Spec.mirrorSq_mirrorSq]⟩

theorem zero_iff_testBit {x : Nat} (hx : x < 2 ^ 64) : x = 0 ↔ ∀ u, u < 64 → x.testBit u = false := by
  constructor
  · intro h u _; rw [h]; exact Nat.zero_testBit u
  · intro h
    exact eq_zero_of_no_bits fun i =>
      if hi : i < 64 then h i hi else Attack.testBit_ge_false hx (by omega)

theorem eq_zero_iff (h : MB x y) : y = 0 ↔ x = 0 := by
  rw [zero_iff_testBit h.lx, zero_iff_testBit h.ly]
  constructor
  · intro hy0 u hu
    rw [← h.bit' hu]
    exact hy0 _ (Spec.mirrorSq_lt hu)
  · intro hx0 u hu
    rw [h.bit u hu]
    exact hx0 _ (Spec.mirrorSq_lt hu)

theorem bne_zero (h : MB x y) : (y != 0) = (x != 0) := by
  rw [Bool.eq_iff_iff, bne_iff_ne, bne_iff_ne, ne_eq, ne_eq, h.eq_zero_iff]

theorem beq_zero (h : MB x y) : (y == 0) = (x == 0) := by
  rw [Bool.eq_iff_iff, beq_iff_eq, beq_iff_eq, h.eq_zero_iff]

theorem isSet (h : MB x y) {u : Nat} (hu : u < 64) : isSet y (ms u) = isSet x u := by
  rw [isSet_lt _ (Spec.mirrorSq_lt hu), isSet_lt _ hu, h.bit' hu]

theorem countP_mirror (f : Nat → Bool) : (List.range 64).countP (fun s => f (ms s)) = (List.range 64).countP f := by
  have h1 : (List.range 64).countP (fun s => f (ms s)) = ((List.range 64).map ms).countP f := by
    rw [List.countP_map]; rfl
  have hperm : ((List.range 64).map ms).Perm (List.range 64) := by decide +kernel
  rw [h1]
  exact hperm.countP_eq f

theorem popCount (h : MB x y) : popCount y = popCount x := by
  rw [popCount_eq, popCount_eq, ← countP_mirror (fun i => x.testBit i)]
  exact countP_range_congr h.bit

theorem map_toSquares (h : MB x y) : ((toSquares y).map ms).Perm (toSquares x) := by
  apply (List.perm_ext_iff_of_nodup ?_ (toSquares_nodup h.lx)).mpr
  · intro a
    rw [Spec.mem_map_mirrorSq, mem_toSquares h.ly, mem_toSquares h.lx]
    by_cases ha : a < 64
    · rw [h.bit' ha]
    · have ha' : 64 ≤ a := by omega
      rw [Spec.mirrorSq_of_ge ha', Attack.testBit_ge_false h.lx ha', Attack.testBit_ge_false h.ly ha']
  · exact nodup_map_of_inj (toSquares_nodup h.ly) (fun a _ b _ e => Spec.mirrorSq_inj e)

theorem toSquares (h : MB x y) : (toSquares y).Perm ((toSquares x).map ms) := by
  have h1 := h.map_toSquares.map ms
  rw [List.map_map] at h1
  have e : (Spec.mirrorSq ∘ Spec.mirrorSq) = id := by funext a; simp
  rw [e, List.map_id] at h1
  exact h1

end MB

/-- at most one bit set -/
def One (x : Nat) : Prop := ∀ u v, x.testBit u = true → x.testBit v = true → u = v

theorem MB.one {x y : Nat} (h : MB x y) (ho : One x) : One y := by
  intro u v hu hv
  have hu64 := lt_of_testBit h.ly hu
  have hv64 := lt_of_testBit h.ly hv
  rw [h.bit u hu64] at hu
  rw [h.bit v hv64] at hv
  exact Spec.mirrorSq_inj (ho _ _ hu hv)

theorem MB.lastPop {x y : Nat} (h : MB x y) (ho : One x) (hx : x ≠ 0) :
    lastPopSquare y = ms (lastPopSquare x) ∧ lastPopSquare x < 64 := by
  have hy : y ≠ 0 := fun e => hx (h.eq_zero_iff.mp e)
  obtain ⟨a1, a2, _⟩ := lastPopSquare_spec hx h.lx
  obtain ⟨b1, b2, _⟩ := lastPopSquare_spec hy h.ly
  rw [h.bit _ b1] at b2
  have := ho _ _ b2 a2
  exact ⟨ms_eq_iff.mp this, a1⟩

theorem toBB_targets_MB {o o' : Nat} (h : MB o o') (k : Spec.Kind) {s : Nat} (hs : s < 64) :
    MB (toBB (Spec.officerTargets (fun t => o.testBit t) k s))
      (toBB (Spec.officerTargets (fun t => o'.testBit t) k (ms s))) := by
  refine ⟨toBB_lt _ (officerTargets_lt _ k s), toBB_lt _ (officerTargets_lt _ k _), ?_⟩
  intro u _
  rw [Bool.eq_iff_iff, testBit_toBB, testBit_toBB]
  constructor
  · intro hm
    have := Spec.mem_officerTargets_mirror (occ := fun t => o'.testBit t) (occ' := fun t => o.testBit t)
      (fun t ht => (h.bit t ht).symm) k (Spec.mirrorSq_lt hs) hm
    rwa [Spec.mirrorSq_mirrorSq] at this
  · intro hm
    have := Spec.mem_officerTargets_mirror (occ := fun t => o.testBit t) (occ' := fun t => o'.testBit t)
      (fun t ht => h.bit' ht) k hs hm
    rwa [Spec.mirrorSq_mirrorSq] at this

/-- the officer attack boards (`Attackboard`, 0 for the panic) of mirrored rotated boards are mirror images -/
theorem attackboard_MB {r r' : Rotated} (hr : RotInv r.rot r) (hr' : RotInv r'.rot r') (ho : MB r.rot r'.rot)
    {s : Nat} (hs : s < 64) (piece : Piece) :
    MB ((attackboard r s piece).getD 0) ((attackboard r' (ms s) piece).getD 0) := by
  have hs' := Spec.mirrorSq_lt hs
  cases piece <;> simp only [attackboard, Option.getD_none, Option.getD_some]
  · exact MB.zero
  · exact MB.zero
  · rw [bishop_of_inv hr hs, bishop_of_inv hr' hs']; exact toBB_targets_MB ho .bishop hs
  · rw [knight_of_lt (fun t => r.rot.testBit t) hs, knight_of_lt (fun t => r'.rot.testBit t) hs']
    exact toBB_targets_MB ho .knight hs
  · rw [rook_of_inv hr hs, rook_of_inv hr' hs']; exact toBB_targets_MB ho .rook hs
  · rw [queen_of_inv hr hs, queen_of_inv hr' hs']; exact toBB_targets_MB ho .queen hs
  · rw [king_of_lt (fun t => r.rot.testBit t) hs, king_of_lt (fun t => r'.rot.testBit t) hs']
    exact toBB_targets_MB ho .king hs

theorem kingAttackboard_MB {s : Nat} (hs : s < 64) : MB (kingAttackboard s) (kingAttackboard (ms s)) := by
  rw [king_of_lt (fun _ => false) hs, king_of_lt (fun _ => false) (Spec.mirrorSq_lt hs)]
  have := toBB_targets_MB (o := 0) (o' := 0) MB.zero .king hs
  simpa using this

theorem MB.pawnCapture {x y : Nat} (h : MB x y) (c : Color) :
    MB (pawnCaptureboard c x) (pawnCaptureboard c.opp y) := by
  refine ⟨pawnSet_lt _ _ h.lx, pawnSet_lt _ _ h.ly, ?_⟩
  intro u _
  rw [Bool.eq_iff_iff, pawnSet_testBit _ _ _ h.ly, pawnSet_testBit _ _ _ h.lx]
  constructor
  · rintro ⟨s, hs, hb, hm⟩
    refine ⟨ms s, Spec.mirrorSq_lt hs, ?_, ?_⟩
    · rw [← h.bit s hs]; exact hb
    · have := Spec.mem_pawnTargets_mirror (absColor c.opp) hs hm
      rw [absColor_opp, Spec.Color.opp_opp] at this
      exact this
  · rintro ⟨s, hs, hb, hm⟩
    refine ⟨ms s, Spec.mirrorSq_lt hs, ?_, ?_⟩
    · rw [h.bit' hs]; exact hb
    · have := Spec.mem_pawnTargets_mirror (absColor c) hs hm
      rw [Spec.mirrorSq_mirrorSq, ← absColor_opp] at this
      exact this

theorem MB.shl_shr {x y : Nat} (h : MB x y) : MB (shl64 x 8) (y >>> 8) := by
  refine ⟨shl64_lt _ _, shiftRight_lt 8 h.ly, ?_⟩
  intro u hu
  rw [Nat.testBit_shiftRight, shl64_testBit]
  by_cases h56 : u < 56
  · rw [h.bit (8 + u) (by omega)]
    have e1 : ms (8 + u) = ms u - 8 := by
      rw [Spec.mirrorSq_of_lt (show 8 + u < 64 by omega), Spec.mirrorSq_of_lt hu]; omega
    have e2 : 8 ≤ ms u := by rw [Spec.mirrorSq_of_lt hu]; omega
    have e3 : ms u < 64 := Spec.mirrorSq_lt hu
    simp [e1, e2, e3]
  · rw [testBit_high h.ly (by omega)]
    have e2 : ¬ 8 ≤ ms u := by rw [Spec.mirrorSq_of_lt hu]; omega
    simp [e2]

theorem MB.shr_shl {x y : Nat} (h : MB x y) : MB (x >>> 8) (shl64 y 8) := (h.symm.shl_shr).symm

theorem MB.pawnMove {a a' x y : Nat} (ha : MB a a') (h : MB x y) (c : Color) :
    MB (pawnMoveboard a c x) (pawnMoveboard a' c.opp y) := by
  cases c
  · exact MB.and h.shl_shr ha.not64
  · exact MB.and h.shr_shl ha.not64

theorem bitRank_MB {r : Nat} (hr : r < 8) : MB (bitRank r) (bitRank (7 - r)) := by
  have lt : ∀ r, r < 8 → bitRank r < 2 ^ 64 := by decide +kernel
  refine ⟨lt r hr, lt _ (by omega), ?_⟩
  intro u hu
  rw [bitRank_testBit (by omega), bitRank_testBit hr]
  apply decide_eq_decide.mpr
  rw [Spec.mirrorSq_of_lt hu]
  omega

theorem jumpRank_MB (c : Color) : MB (pawnJumpRank c) (pawnJumpRank c.opp) := by
  cases c
  · exact bitRank_MB (r := 3) (by decide)
  · exact bitRank_MB (r := 4) (by decide)

theorem promoRank_MB (c : Color) : MB (pawnPromotionRank c) (pawnPromotionRank c.opp) := by
  cases c
  · exact bitRank_MB (r := 7) (by decide)
  · exact bitRank_MB (r := 0) (by decide)

theorem perm_flatMap_left {α β : Type} {f g : α → List β} : ∀ (l : List α), (∀ a ∈ l, (f a).Perm (g a)) →
    (l.flatMap f).Perm (l.flatMap g)
  | [], _ => by simp
  | a :: l, h => by
    rw [List.flatMap_cons, List.flatMap_cons]
    exact (h a (List.mem_cons_self ..)).append (perm_flatMap_left l fun b hb => h b (List.mem_cons_of_mem _ hb))

theorem flatMap_mirror {α β γ : Type} {f : α → γ} {h : β → β} {l1 : List γ} {l2 : List α} {g1 : γ → List β}
    {g2 : α → List β} (hl : l1.Perm (l2.map f)) (hb : ∀ a ∈ l2, (g1 (f a)).Perm ((g2 a).map h)) :
    (l1.flatMap g1).Perm ((l2.flatMap g2).map h) := by
  refine (List.Perm.flatMap_right g1 hl).trans ?_
  rw [List.flatMap_map, List.map_flatMap]
  exact perm_flatMap_left l2 hb

end Morlock.Proofs.TuroMirror
