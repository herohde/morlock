import Morlock.Proofs.ABFuel
import Morlock.Proofs.ABChess
import Morlock.Proofs.ChainArena
import Morlock.Props.C05
/-!
# The fuel of the quiescence search is enough on the chess game

The Go quiescence search has no fuel; `Model.quiesce` has (64 in the driver). For an exploration that picks only
captures (`Move.isCapture`: types `Capture` and `CapturePromotion`, not en passant) every explored move removes exactly
one man from the board, so from a world with `k` men the explored tree is exhausted within `k` plies, and `k ≤ 64`.
-/
namespace Morlock.Proofs.AB
open Morlock Morlock.Model Morlock.Model.World Morlock.Model.Score
open Morlock.Proofs Morlock.Proofs.Arena Morlock.Proofs.Gen Morlock.Proofs.Chain Morlock.Proofs.Draw

def CapturesOnly {P : Type} (ex : P → Explore) : Prop := ∀ p m, (ex p).pick m = true → m.isCapture = true

theorem capturesOnly_driver {P : Type} (prio : Move → Int) :
    CapturesOnly (constEx (P := P) { prio := prio, pick := fun m => m.isCapture }) :=
  fun _ _ h => h

def occ (v : Option (Color × Piece)) : Nat := if v.isSome then 1 else 0

def men (b : Proofs.Board) : Nat := sumTo 64 (fun sq => occ (b sq))

theorem occ_none : occ none = 0 := rfl
theorem occ_some (x : Color × Piece) : occ (some x) = 1 := rfl

theorem sumTo_le_of_le_one (n : Nat) (f : Nat → Nat) (h : ∀ i, f i ≤ 1) : sumTo n f ≤ n := by
  induction n with
  | zero => simp [sumTo]
  | succ n ih => simp only [sumTo]; have := h n; omega

theorem men_le (b : Proofs.Board) : men b ≤ 64 :=
  sumTo_le_of_le_one 64 _ fun i => by unfold occ; split <;> omega

theorem men_upd (b : Proofs.Board) {sq : Nat} (hsq : sq < 64) (v : Option (Color × Piece)) :
    men (upd b sq v) + occ (b sq) = men b + occ v :=
  sumW_upd (fun v _ => occ v) b hsq v

theorem men_pos {b : Proofs.Board} {sq : Nat} (hsq : sq < 64) {x : Color × Piece} (h : b sq = some x) :
    1 ≤ men b := by
  have := men_upd b hsq none
  rw [h, occ_some, occ_none] at this
  omega

theorem men_boardAfter_capture {b : Proofs.Board} {m : Move} (hout : ∀ sq, 64 ≤ sq → b sq = none)
    (hok : MetaOKb b m = true) (hc : m.isCapture = true) :
    men (boardAfter b m) + 1 = men b ∧ 1 ≤ men (boardAfter b m) := by
  obtain ⟨turn, pc, hsq⟩ := metaOKb_from hok
  obtain ⟨hto, hdest, _, hcap⟩ := metaOKb_to hok hsq
  have hep : m.ty ≠ .enPassant := by intro e; simp [Move.isCapture, e] at hc
  have hcs : m.isCastle = false := by
    cases hty : m.ty <;> simp [Move.isCapture, Move.isCastle, hty] at hc ⊢
  -- the balance of the weight "occupied" across the move: the mover weighs 1 before and after, the captured man 1
  have hb : men (boardAfter b m) + occ (some (turn, pc)) + occ (b m.to) + _ + _ = men b + _ + _ :=
    sumW_boardAfter (fun v _ => occ v) (fun _ => rfl) hout hok hsq
  rw [hc] at hcap
  obtain ⟨x, hx⟩ := Option.isSome_iff_exists.1 hcap
  rw [if_neg hep, hcs, hx] at hb
  simp only [occ_some, Bool.false_eq_true, if_false] at hb
  -- the capturing piece and the captured one stand on different squares
  have hne : m.to ≠ m.from := ne_of_content (hdest.resolve_left (by rw [hx]; simp)) hsq (some_opp_ne _ _ _)
  have hfr : m.from < 64 := Classical.byContradiction fun hn => by
    have := hout m.from (by omega); rw [hsq] at this; cases this
  have h1 := men_upd b hfr none
  have h2 := men_pos (b := upd b m.from none) hto (by rw [upd_other _ _ hne]; exact hx)
  rw [hsq, occ_some, occ_none] at h1
  omega
def menP (p : Position) : Nat := men p.square

theorem menP_le (p : Position) : menP p ≤ 64 := men_le _

theorem menP_eq_popCount {p : Position} (h : Rep p p.square) : menP p = popCount p.all := by
  unfold Position.all
  rw [Material.rot_count h]
  exact (countP_range_sumTo (fun sq => (p.square sq).isSome) 64).symm

theorem menP_capture {p q : Position} {turn : Color} {m : Move} (hw : WFplay p turn)
    (hm : m ∈ p.pseudoLegalMoves turn) (hc : m.isCapture = true) (hq : p.move m = some q) :
    menP q + 1 = menP p ∧ 1 ≤ menP q := by
  have hps := (mem_pseudoLegalMoves hw.1.rep hw.1.wfb m).mp hm
  obtain ⟨hok, _⟩ := hps.metaOK_classOK hw.1.rep hw.1.wfb
  have hrep := (move_rep hw.1.rep hok hq).1
  have hb : q.square = boardAfter p.square m := hrep.board_eq.symm
  unfold menP
  rw [hb]
  exact men_boardAfter_capture hw.1.rep.out (by rw [← hw.1.rep.metaOK_iff]; exact hok) hc

/-- The arena is well formed, board 0 exists, and its current position satisfies the play invariant of C01
    (`Chain.WFplay`) for its side to move. It holds for a new board on a `WFplay` position and is preserved by `pushMove`
    of every generated move, hence at every world the searches visit. -/
def Inv (w : World) : Prop :=
  WFWorld w ∧ 0 < w.boards.size ∧ WFplay (w.cur 0).pos (w.board 0).turn

theorem inv_push {z : ZTable} {w w' : World} {m : Move} (h : Inv w)
    (hm : m ∈ (w.cur 0).pos.pseudoLegalMoves (w.board 0).turn) (hp : w.pushMove z 0 m = some w') : Inv w' :=
  ⟨wf_push h.1 h.2.1 hp, by rw [boards_size_push hp]; exact h.2.1, (push_wfplay h.1 h.2.1 h.2.2 hm hp).2⟩

theorem inv_newBoard (z : ZTable) {pos : Position} {turn : Color} (np fm : Int) (h : WFplay pos turn) :
    Inv (({} : World).newBoard z pos turn np fm).1 := by
  have hc := newBoard_cur ({} : World) z pos turn np fm
  have h2 : (({} : World).newBoard z pos turn np fm).2 = 0 := rfl
  rw [h2] at hc
  refine ⟨wf_newBoard wf_empty z pos turn np fm, by simp [World.newBoard], ?_⟩
  rw [hc.1, hc.2.1]
  exact h

theorem inv_pushAll {z : ZTable} (ms : List Move) :
    ∀ {w w' : World}, Inv w → GenPlay (w.cur 0).pos (w.board 0).turn ms → pushAll z 0 w ms = some w' → Inv w' := by
  induction ms with
  | nil => intro w w' h _ hp; cases hp; exact h
  | cons m r ih =>
    intro w w' h hgen hp
    simp only [pushAll] at hp
    cases hpm : w.pushMove z 0 m with
    | none => rw [hpm] at hp; cases hp
    | some w2 =>
      rw [hpm] at hp
      simp only [Option.bind_some] at hp
      obtain ⟨_, ht, _, hmv, _⟩ := push_line h.1 h.2.1 hpm
      refine ih (inv_push h hgen.1 hpm) ?_ hp
      rw [ht]; exact hgen.2 _ hmv

/-- Any fuel `≥ 1` that is at least the number of men exhausts the captures-only tree: after a capture at least one man
    is left, so `men - 1` drops along every explored move. -/
theorem boardGame_qdone_of_men_le (z : ZTable) (ev : Position → Color → Int) (ex : World → Explore) (hex : CapturesOnly ex)
    (w : World) (h : Inv w) (fuel : Nat) (h1 : 1 ≤ fuel) (hmen : menP (w.cur 0).pos ≤ fuel) :
    QDone (boardGame z ev) ex fuel w := by
  obtain ⟨k, rfl⟩ : ∃ k, fuel = k + 1 := ⟨fuel - 1, by omega⟩
  refine qdone_of_measure Inv (fun w => menP (w.cur 0).pos - 1) 0 (fun w m c h hm hp hpush => ?_) k w h (by omega)
  obtain ⟨_, _, _, hmv, _⟩ := push_line h.1 h.2.1 (show w.pushMove z 0 m = some c from hpush)
  have := menP_capture h.2.2 hm (hex _ m hp) hmv
  exact ⟨inv_push h hm hpush, Or.inl (by omega)⟩

theorem boardGame_qdone_popCount (z : ZTable) (ev : Position → Color → Int) (ex : World → Explore) (hex : CapturesOnly ex)
    (w : World) (h : Inv w) (fuel : Nat) (h1 : 1 ≤ fuel) (hmen : popCount (w.cur 0).pos.all ≤ fuel) :
    QDone (boardGame z ev) ex fuel w :=
  boardGame_qdone_of_men_le z ev ex hex w h fuel h1 (by rw [menP_eq_popCount h.2.2.1.rep]; exact hmen)

/-- The driver's fuel (64) exhausts the captures-only quiescence tree of every world satisfying `Inv`. -/
theorem boardGame_qdone (z : ZTable) (ev : Position → Color → Int) (ex : World → Explore) (hex : CapturesOnly ex)
    (w : World) (h : Inv w) : QDone (boardGame z ev) ex 64 w :=
  boardGame_qdone_of_men_le z ev ex hex w h 64 (by decide) (menP_le _)

theorem boardGame_qdone_32 (z : ZTable) (ev : Position → Color → Int) (ex : World → Explore) (hex : CapturesOnly ex)
    (w : World) (h : Inv w) (h32 : popCount (w.cur 0).pos.all ≤ 32) : QDone (boardGame z ev) ex 32 w :=
  boardGame_qdone_popCount z ev ex hex w h 32 (by decide) h32

theorem boardGame_enough_fuel (z : ZTable) (ev : Position → Color → Int) (ex : World → Explore) (hex : CapturesOnly ex)
    (w : World) (h : Inv w) :
    (∀ fuel', 64 ≤ fuel' → Q (boardGame z ev) ex fuel' w = Q (boardGame z ev) ex 64 w) ∧
    ∀ a b st, (quiesce (boardGame z ev) ex 64 w a b st).2.fuelOut = st.fuelOut :=
  ⟨Q_stable _ ex 64 w (boardGame_qdone z ev ex hex w h), quiesce_fuelOut _ ex 64 w (boardGame_qdone z ev ex hex w h)⟩

theorem materialGame_enough_fuel (z : ZTable) (ex : World → Explore) (hex : CapturesOnly ex) (w : World) (h : Inv w) :
    (∀ fuel', 64 ≤ fuel' → Q (materialGame z) ex fuel' w = Q (materialGame z) ex 64 w) ∧
    ∀ a b st, (quiesce (materialGame z) ex 64 w a b st).2.fuelOut = st.fuelOut :=
  boardGame_enough_fuel z _ ex hex w h

/-- K + N v K + N (C05 `exPos`), White to move, satisfies the play invariant. -/
theorem c05_exPos_wfplay : WFplay Props.C05.exPos .white :=
  ⟨⟨Props.C05.exPos_ok.rep, by decide +kernel⟩, by decide +kernel⟩

theorem c05_wS_inv : Inv Props.C05.wS := inv_newBoard exZ 0 1 c05_exPos_wfplay

/-- On the concrete world `C05.wS` the driver's exploration with fuel 64 never runs out of fuel, and - four men on the
board - already 4 plies exhaust its tree. -/
example :
    (∀ fuel', 64 ≤ fuel' →
      Q (materialGame exZ) (constEx { prio := mvvlva, pick := fun m => m.isCapture }) fuel' Props.C05.wS =
        Q (materialGame exZ) (constEx { prio := mvvlva, pick := fun m => m.isCapture }) 64 Props.C05.wS) ∧
    (∀ a b st, (quiesce (materialGame exZ) (constEx { prio := mvvlva, pick := fun m => m.isCapture }) 64 Props.C05.wS a b st).2.fuelOut
        = st.fuelOut) ∧
    QDone (materialGame exZ) (constEx { prio := mvvlva, pick := fun m => m.isCapture }) 4 Props.C05.wS :=
  ⟨(materialGame_enough_fuel exZ _ (capturesOnly_driver mvvlva) _ c05_wS_inv).1,
   (materialGame_enough_fuel exZ _ (capturesOnly_driver mvvlva) _ c05_wS_inv).2,
   boardGame_qdone_popCount exZ _ _ (capturesOnly_driver mvvlva) _ c05_wS_inv 4 (by decide) (by decide +kernel)⟩

/-- The hypothesis `CapturesOnly` cannot be dropped in general: `QDone … 0` is false, and an exploration that picks
every move keeps finding children on `wS` (the knights can shuffle), so one ply is not enough there. -/
example : ¬ QDone (materialGame exZ) (constEx fullExploration) 1 Props.C05.wS := by
  simp only [QDone]
  intro h
  rcases h with h | h
  · revert h; decide +kernel
  · cases hp : Props.C05.wS.pushMove exZ 0 Props.C05.nf3 with
    | none => revert hp; decide +kernel
    | some c => exact h Props.C05.nf3 c (by decide +kernel) rfl hp

end Morlock.Proofs.AB
