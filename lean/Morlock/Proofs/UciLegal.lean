import Morlock.Proofs.ABTTNode
import Morlock.Props.C03
/-!
# What the head of the PV of `AlphaBeta.Search` is

The UCI driver prints `bestmove <pv.Moves[0]>`, or `bestmove 0000` when the PV is empty (`searchCompleted` in
`pkg/engine/uci/uci.go`). For **every** search state (any transposition table, sound or not; any cancellation point),
every leaf evaluation, every depth and every abstract game: the head of a returned PV is a generated move that the game
accepts and the exploration picked; and a root search with lower bound `-inf` returns a non-empty PV as soon as one
such move exists. The reason is structural: `(incMate s).negate` is never of type `negInf`, so the first explored
legal child always raises `alpha` from `-inf` and installs its move as the PV; later children only replace a non-empty
PV by a non-empty one. No hypothesis on the table is needed because the root is never answered from the table
(`!root && …` in `abEnter`).
-/
namespace Morlock.Proofs.UciLegal
open Morlock Morlock.Model Morlock.Model.Score Morlock.Spec Morlock.Proofs.AB
variable {P : Type}

/-- `m` can be the head of a PV at `p`: the game accepts it and the exploration of `p` picks it. -/
def Playable (g : Game P) (ex : P → Explore) (p : P) (m : Move) : Prop :=
  ∃ c, g.push p m = some c ∧ (ex p).pick m = true

/-- `IncrementMateDistance(s).Negate()` is never `-inf`: `incMate` turns both infinities into mates. -/
theorem lift_ne_negInf (s : Score) : (lift s).ty ≠ .negInf := by
  obtain ⟨ty, mate, pawns⟩ := s
  by_cases hm : mate < 0 <;>
  cases ty <;> simp [lift, incMate, negate, heuristicScore, mateInXScore, invalidScore, hm]

theorem less_of_negInf {a s : Score} (ha : a.ty = .negInf) (hs : s.ty ≠ .negInf) : a.less s = true := by
  have hne : a ≠ s := fun e => hs (e ▸ ha)
  simp [Score.less, hne, ha, hs]

theorem cutoff_negInf {a b : Score} (ha : a.ty = .negInf) (hb : b.ty ≠ .negInf) : cutoff a b = false := by
  have hne : a ≠ b := fun e => hb (e ▸ ha)
  simp [cutoff, Score.less, hne, ha]

theorem abLoop_head (g : Game P) (ex : P → Explore) (rec : P → Score → Score → SState → Score × List Move × SState)
    (p : P) (b : Score) (Good : Move → Prop) (l : List Move) (a : Score) (pv : List Move) (hl : Bool) (st : SState)
    (hL : ∀ m ∈ l, Playable g ex p m → Good m) (hpv : ∀ m rest, pv = m :: rest → Good m) :
    ∀ m rest, (abLoop g ex rec p b l a pv hl st).2.1 = m :: rest → Good m :=
  abLoop_invariant (rec := rec) (b := b)
    (fun l _ pv _ => (∀ m ∈ l, Playable g ex p m → Good m) ∧ ∀ m rest, pv = m :: rest → Good m)
    (fun _ pv _ => ∀ m rest, pv = m :: rest → Good m)
    (fun _ _ _ _ _ _ h => ⟨fun m hm => h.1 m (List.mem_cons_of_mem _ hm), h.2⟩)
    (fun _ _ _ _ _ _ _ _ h => ⟨fun m hm => h.1 m (List.mem_cons_of_mem _ hm), h.2⟩)
    (fun x _ _ _ _ c _ _ hpush hpick h => ⟨fun m hm => h.1 m (List.mem_cons_of_mem _ hm), fun m rest e => by
      split at e
      · cases e; exact h.1 x List.mem_cons_self ⟨c, hpush, hpick⟩
      · exact h.2 m rest e⟩)
    (fun _ _ _ _ h _ => h.2) l a pv hl st ⟨hL, hpv⟩

theorem abLoop_nonempty (g : Game P) (ex : P → Explore) (rec : P → Score → Score → SState → Score × List Move × SState)
    (p : P) (b : Score) (hb : b.ty ≠ .negInf) (l : List Move) (a : Score) (pv : List Move) (hl : Bool) (st : SState)
    (h : pv ≠ [] ∨ (a.ty = .negInf ∧ ∃ m ∈ l, Playable g ex p m)) :
    (abLoop g ex rec p b l a pv hl st).2.1 ≠ [] :=
  abLoop_invariant (rec := rec) (b := b)
    (fun l a pv _ => pv ≠ [] ∨ (a.ty = .negInf ∧ ∃ m ∈ l, Playable g ex p m)) (fun _ pv _ => pv ≠ [])
    (fun x _ _ _ _ hpush h => h.imp id fun ⟨ha, m, hm, c, hc, hp⟩ => by
      rcases List.mem_cons.1 hm with e | hm'
      · subst e; rw [hpush] at hc; cases hc
      · exact ⟨ha, m, hm', c, hc, hp⟩)
    (fun x _ _ _ _ _ _ hpick h => h.imp id fun ⟨ha, m, hm, c, hc, hp⟩ => by
      rcases List.mem_cons.1 hm with e | hm'
      · subst e; rw [hpick] at hp; cases hp
      · exact ⟨ha, m, hm', c, hc, hp⟩)
    (fun _ _ a _ _ _ s _ _ _ h => Or.inl (by
      rcases h with h | ⟨ha, _⟩
      · split
        · simp
        · exact h
      · rw [less_of_negInf ha (lift_ne_negInf s)]; simp))
    (fun l a _ _ h hend => by
      rcases h with h | ⟨ha, m, hm, _⟩
      · exact h
      · rcases hend with rfl | ⟨_, hcut⟩
        · cases hm
        · rw [cutoff_negInf ha hb] at hcut; cases hcut)
    l a pv hl st h

theorem abLoop_hasLegal (g : Game P) (ex : P → Explore) (rec : P → Score → Score → SState → Score × List Move × SState)
    (p : P) (b : Score) (l : List Move) (a : Score) (pv : List Move) (hl : Bool) (st : SState)
    (h : hl = true ∨ ∃ m ∈ l, (g.push p m).isSome = true) :
    (abLoop g ex rec p b l a pv hl st).2.2.1 = true :=
  abLoop_invariant (rec := rec) (b := b) (fun l _ _ hl => hl = true ∨ ∃ m ∈ l, (g.push p m).isSome = true)
    (fun _ _ hl => hl = true)
    (fun x _ _ _ _ hpush h => h.imp id fun ⟨m, hm, hc⟩ => by
      rcases List.mem_cons.1 hm with e | hm'
      · subst e; rw [hpush] at hc; cases hc
      · exact ⟨m, hm', hc⟩)
    (fun _ _ _ _ _ _ _ _ _ => Or.inl rfl) (fun _ _ _ _ _ _ _ _ _ _ _ => Or.inl rfl)
    (fun l _ _ _ h hend => by
      rcases h with h | ⟨m, hm, _⟩
      · exact h
      · rcases hend with rfl | ⟨e, _⟩
        · cases hm
        · exact e)
    l a pv hl st h

theorem abEnter_inl {g : Game P} {rootPly : Int} {depth : Nat} {p : P} {st : SState} {r : Score × List Move × SState}
    (h : abEnter g rootPly depth p st = .inl r) : r.2.1 = [] := by
  unfold abEnter at h
  generalize poll st = ps at h
  obtain ⟨c, st1⟩ := ps
  cases c
  · simp only [Bool.false_eq_true, if_false] at h
    split at h
    · cases h; rfl
    · split at h
      · split at h
        · cases h; rfl
        · cases h
      · cases h
  · simp only [if_true] at h; cases h; rfl

/-- The head of a PV is a generated, accepted, explored move: any table, any cancellation, any window, any depth. -/
theorem alphabeta_head (g : Game P) (ex : P → Explore) (le : LeafEval P) (rootPly : Int) (d : Nat) (p : P)
    (a b : Score) (st : SState) (m : Move) (rest : List Move)
    (h : (alphabeta g ex le rootPly d p a b st).2.1 = m :: rest) : m ∈ g.moves p ∧ Playable g ex p m := by
  cases d with
  | zero =>
    rw [alphabeta_zero_eq] at h
    cases he : abEnter g rootPly 0 p st with
    | inl r => rw [he] at h; dsimp only at h; rw [abEnter_inl he] at h; cases h
    | inr x =>
      obtain ⟨best, st1⟩ := x
      rw [he] at h
      simp only [leafBody] at h
      split at h <;> cases h
  | succ d =>
    rw [alphabeta_succ_eq] at h
    cases he : abEnter g rootPly (d + 1) p st with
    | inl r => rw [he] at h; dsimp only at h; rw [abEnter_inl he] at h; cases h
    | inr x =>
      obtain ⟨best, st1⟩ := x
      rw [he] at h
      simp only [abBody] at h
      have hperm := ABHeap.heapOrder_perm (g.moves p) (firstPrio best (ex p).prio)
      have key := abLoop_head g ex (alphabeta g ex le rootPly d) p b (fun m => m ∈ g.moves p ∧ Playable g ex p m)
        (heapOrder (g.moves p) (firstPrio best (ex p).prio)) a [] false { st1 with nodes := st1.nodes + 1 }
        (fun m hm hp => ⟨hperm.mem_iff.1 hm, hp⟩) (fun m rest e => by cases e)
      generalize abLoop g ex (alphabeta g ex le rootPly d) p b (heapOrder (g.moves p) (firstPrio best (ex p).prio)) a []
        false { st1 with nodes := st1.nodes + 1 } = res at h key
      obtain ⟨al, pv, hl, wc, st2⟩ := res
      dsimp only at h key
      by_cases hc2 : (poll st2).1 = true
      · rw [if_pos hc2] at h; cases h
      · rw [if_neg hc2] at h
        by_cases hl2 : (!hl) = true
        · rw [if_pos hl2] at h; cases h
        · rw [if_neg hl2] at h; exact key m rest h

/-- A root search returns a move whenever one is playable, unless it was cancelled - and then the next poll (the one
    `AlphaBeta.Search` makes) reports it. -/
theorem alphabeta_root_nonempty (g : Game P) (ex : P → Explore) (le : LeafEval P) (d : Nat) (p : P)
    (a b : Score) (st : SState) (ha : a.ty = .negInf) (hb : b.ty ≠ .negInf)
    (hm : ∃ m ∈ g.moves p, Playable g ex p m) :
    (alphabeta g ex le (g.ply p) (d + 1) p a b st).2.1 ≠ [] ∨
    (poll (alphabeta g ex le (g.ply p) (d + 1) p a b st).2.2).1 = true := by
  rw [alphabeta_succ_eq]
  cases hc : (poll st).1 with
  | true =>
    right
    rw [abEnter_cancelled (d + 1) p hc]
    exact cancelled_mono (Mono.refl _) hc
  | false =>
    obtain ⟨best, he⟩ := abEnter_root (d + 1) p st rfl hc
    rw [he]
    simp only [abBody]
    have hperm := ABHeap.heapOrder_perm (g.moves p) (firstPrio best (ex p).prio)
    obtain ⟨m, hmem, hplay⟩ := hm
    have hmem' := hperm.mem_iff.2 hmem
    have hne := abLoop_nonempty g ex (alphabeta g ex le (g.ply p) d) p b hb
      (heapOrder (g.moves p) (firstPrio best (ex p).prio)) a [] false
      { tick st with nodes := (tick st).nodes + 1 } (Or.inr ⟨ha, m, hmem', hplay⟩)
    have hleg := abLoop_hasLegal g ex (alphabeta g ex le (g.ply p) d) p b
      (heapOrder (g.moves p) (firstPrio best (ex p).prio)) a [] false
      { tick st with nodes := (tick st).nodes + 1 }
      (Or.inr ⟨m, hmem', by obtain ⟨c, hc, _⟩ := hplay; rw [hc]; rfl⟩)
    generalize abLoop g ex (alphabeta g ex le (g.ply p) d) p b
      (heapOrder (g.moves p) (firstPrio best (ex p).prio)) a [] false
      { tick st with nodes := (tick st).nodes + 1 } = res at hne hleg
    obtain ⟨al, pv, hl, wc, st2⟩ := res
    dsimp only at hne hleg ⊢
    subst hleg
    cases hc2 : (poll st2).1 with
    | true =>
      right
      simp only [if_true]
      exact cancelled_mono (Mono.refl _) hc2
    | false =>
      left
      simp only [Bool.false_eq_true, if_false, Bool.not_true]
      exact hne

/-- When `AlphaBeta.Search` returns a result (not `ErrHalted`): the head of the PV is a generated move the game accepts
    and the exploration picked; and at depth `≥ 1`, without lower bound in the search context (or `-inf`) and with an
    upper bound other than `-inf`, the PV is empty **iff** no generated move is accepted and picked. Two consecutive
    polls are monotone, so a result means that the last poll of the root node was not cancelled either. -/
theorem alphaBetaSearch_pv (g : Game P) (ex : P → Explore) (le : LeafEval P) (p : P) (d : Nat) (a b : Score)
    (st st' : SState) (r : SearchResult) (h : alphaBetaSearch g ex le p d a b st = (some r, st')) :
    (∀ m rest, r.pv = m :: rest → m ∈ g.moves p ∧ Playable g ex p m) ∧
    (1 ≤ d → (a.isInvalid = true ∨ a.ty = .negInf) → b.ty ≠ .negInf →
      (r.pv = [] ↔ ¬ ∃ m ∈ g.moves p, Playable g ex p m)) := by
  unfold alphaBetaSearch at h
  dsimp only at h
  generalize hlow : (if a.isInvalid = true then negInfScore else a) = low at h
  generalize hhigh : (if b.isInvalid = true then infScore else b) = high at h
  have head := alphabeta_head g ex le (g.ply p) d p low high { st with nodes := 0 }
  have key : 1 ≤ d → low.ty = .negInf → high.ty ≠ .negInf → (∃ m ∈ g.moves p, Playable g ex p m) →
      (alphabeta g ex le (g.ply p) d p low high { st with nodes := 0 }).2.1 ≠ [] ∨
      (poll (alphabeta g ex le (g.ply p) d p low high { st with nodes := 0 }).2.2).1 = true := by
    intro hd h1 h2 h3
    obtain ⟨d', rfl⟩ : ∃ d', d = d' + 1 := ⟨d - 1, by omega⟩
    exact alphabeta_root_nonempty g ex le d' p low high _ h1 h2 h3
  generalize alphabeta g ex le (g.ply p) d p low high { st with nodes := 0 } = res at h head key
  obtain ⟨score, pv, st1⟩ := res
  dsimp only at h head
  cases hc : (poll st1).1 with
  | true => simp only [hc, if_true] at h; cases h
  | false =>
    simp only [hc, Bool.false_eq_true, if_false] at h
    cases h
    refine ⟨fun m rest e => head m rest e, ?_⟩
    intro hd ha hb
    constructor
    · rintro e ⟨m, hm, hp⟩
      have hlo : low.ty = .negInf := by
        rw [← hlow]
        rcases ha with ha | ha
        · simp [ha, negInfScore]
        · split
          · rfl
          · exact ha
      have hhi : high.ty ≠ .negInf := by
        rw [← hhigh]
        split
        · simp [infScore]
        · exact hb
      rcases key hd hlo hhi ⟨m, hm, hp⟩ with k | k
      · exact k e
      · dsimp only at k; rw [hc] at k; cases k
    · intro hno
      cases hpv : pv with
      | nil => rfl
      | cons m rest => exact absurd ⟨m, (head m rest hpv).1, (head m rest hpv).2⟩ hno

end Morlock.Proofs.UciLegal
