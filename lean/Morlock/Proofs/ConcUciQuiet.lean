import Morlock.Proofs.ConcUciEng
/-!
# UCI driver model: what a quiescent state (no thread can step) looks like
-/
namespace Morlock.Proofs.ConcUci
open Morlock.Model.UciConc

theorem afterHalt_ne (k : HaltK) (res : Option Nat) : afterHalt .repaired k res ≠ .haltUnlock k res := by
  cases k with
  | ensure a => cases a <;> simp [afterHalt, Cfg.repaired]
  | stop i => cases res <;> simp [afterHalt]

theorem step_ne {s s' : State} {pc : LPc} (st : Step s pc s') (hpc : s.loop = pc) : s' ≠ s := by
  intro e
  induction st
  case recvCmd hc => exact absurd ((congrArg State.cmds e).trans hc) (List.cons_ne_self _ _).symm
  case commit | fCommit => exact absurd (congrArg State.log e) (List.cons_ne_self _ _)
  case goSpawn => exact absurd (congrArg State.wg e) (Nat.succ_ne_self _)
  case haltUnlock => exact afterHalt_ne _ _ ((congrArg State.loop e).trans hpc)
  case fRecv hj hp _ | fPond hj hp | fCasLost hj hp _ | fSendInfo hj hp | fSendBest hj hp | fDone hj hp =>
    have := (congrArg Fwd.pc (set_getElem?_eq hj (congrArg State.fwds e))).trans hp; cases this
  case fEnd hj hp _ _ =>
    have := (congrArg Fwd.pc (set_getElem?_eq hj (congrArg State.fwds e))).trans hp
    dsimp only at this; split at this <;> cases this
  case timerSend hj hf _ | timerDrop hj hf _ =>
    exact hf (congrArg Timer.fired (set_getElem?_eq hj (congrArg State.timers e))).symm
  case searchIter hj _ =>
    have := congrArg Search.latest (set_getElem?_eq hj (congrArg State.srch e)); exact Nat.succ_ne_self _ this
  case searchExit hj hd => exact hd (congrArg Search.done (set_getElem?_eq hj (congrArg State.srch e))).symm
  all_goals (have := (congrArg State.loop e).trans hpc; cases this)

theorem quiet_searches {s : State} (hq : Quiescent s) (j : Nat) (x : Search) (hj : s.srch[j]? = some x) :
    x.done = true := by
  have h := hq (.searchIter j)
  simp only [step, stepWith, stepIter, hj] at h
  cases hd : x.done with
  | true => rfl
  | false =>
    simp only [hd] at h
    have h2 := congrArg State.srch h
    have h3 := set_getElem?_eq hj h2
    have h4 := congrArg Search.latest h3
    simp only at h4
    omega

theorem searchAt_of_lt {s : State} {j : Nat} (h : j < s.srch.length) : s.srch[j]? = some (searchAt s j) := by
  unfold searchAt
  rw [List.getD_eq_getElem?_getD, List.getElem?_eq_getElem h]; rfl

theorem quiet_fwds {s : State} (hq : Quiescent s) (he : EngInv s) (f : Fwd) (hf : f ∈ s.fwds) :
    f.pc = .finished := by
  obtain ⟨j, hj⟩ := List.mem_iff_getElem?.1 hf
  rcases stepFwd_cases s j with ⟨_, hb⟩ | st
  · rcases hb f hj with h | ⟨_, _, hd⟩
    · exact h
    · exact absurd (quiet_searches hq f.sidx _ (searchAt_of_lt (he.fidx f hf))) hd
  · exact absurd (hq (.fwd j)) (step_ne st rfl)

theorem quiet_loop {s : State} (hq : Quiescent s) (he : EngInv s) (hc : CloseInv s) (hs : SrchInv s) :
    s.loop = .finished ∨ (s.loop = .select ∧ s.cmds = [] ∧ s.ponder = [] ∧ s.timeouts = none) := by
  have hb : ∀ c, LoopBlocked s c := fun c =>
    (stepLoop_cases s c).elim (·.2) fun st => absurd (hq (.loop c)) (step_ne st rfl)
  have hmu := he.emuOk
  unfold LoopBlocked at hb
  cases hpc : s.loop <;> simp only [hpc] at hb hmu
  case finished => exact .inl rfl
  case select => exact .inr ⟨rfl, hb .cmd, hb .ponder, hb .timeout⟩
  case haltLock | analyze => rw [hb .cmd] at hmu; cases hmu
  case haltAwait k j =>
    have hj : j < s.srch.length := he.eidx j (he.sidxOk j (by rw [hpc]; rfl))
    exact absurd (srchInv_at hs j (quiet_searches hq j _ (searchAt_of_lt hj))) (hb .cmd)
  case waitFwd =>
    refine absurd ?_ (hb .cmd)
    rw [hc.wg, List.countP_eq_zero]
    intro f hf; rw [quiet_fwds hq he f hf]; simp
  all_goals exact (hb .cmd).elim

theorem quiet_timers {s : State} (hq : Quiescent s) (ht : s.timeouts = none) (t : Timer) (hm : t ∈ s.timers) :
    t.fired = true := by
  obtain ⟨j, hj⟩ := List.mem_iff_getElem?.1 hm
  have h := hq (.timerSend j)
  simp only [step, stepWith, stepTimerSend, hj] at h
  cases hf : t.fired with
  | true => rfl
  | false =>
    simp [hf, ht] at h
    have h2 := congrArg State.timeouts h
    simp [ht] at h2

/-- a step of an index that is no thread is a no-op: only the threads that exist have to be tried -/
theorem quiescent_of_bounded {s : State} (hl : ∀ c, stepLoop .repaired s c = s)
    (hf : ∀ j, j < s.fwds.length → stepFwd .repaired s j = s)
    (ht : ∀ j, j < s.timers.length → stepTimerSend s j = s ∧ stepTimerDrop s j = s)
    (hs : ∀ j, j < s.srch.length → stepIter s j = s ∧ stepExit s j = s) : Quiescent s := by
  intro a
  cases a with
  | loop c => exact hl c
  | fwd j =>
    exact (Nat.lt_or_ge j _).elim (hf j) fun h => by simp only [step, stepWith, stepFwd, List.getElem?_eq_none h]
  | timerSend j =>
    exact (Nat.lt_or_ge j _).elim (ht j · |>.1) fun h => by
      simp only [step, stepWith, stepTimerSend, List.getElem?_eq_none h]
  | timerDrop j =>
    exact (Nat.lt_or_ge j _).elim (ht j · |>.2) fun h => by
      simp only [step, stepWith, stepTimerDrop, List.getElem?_eq_none h]
  | searchIter j =>
    exact (Nat.lt_or_ge j _).elim (hs j · |>.1) fun h => by simp only [step, stepWith, stepIter, List.getElem?_eq_none h]
  | searchExit j =>
    exact (Nat.lt_or_ge j _).elim (hs j · |>.2) fun h => by simp only [step, stepWith, stepExit, List.getElem?_eq_none h]

end Morlock.Proofs.ConcUci
