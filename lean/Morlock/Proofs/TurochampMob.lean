import Morlock.Proofs.TurochampTotal
import Morlock.Proofs.TurochampConsiderable
import Morlock.Proofs.ChainReach
/-!
# TUROCHAMP: the mobility map, exactly, and that it is small on a well-formed position

An entry `(k, n)` is in the map iff `n > 0` is the total weight of the legal moves from `k` (1 for a move of an officer
or the king other than castling, 2 if it is a capture); the keys are distinct (`mobility_exact`). On a well-formed position
the moves from one square have distinct destinations, so there are at most 64 keys and no count exceeds 128 (`mobOK_of_wf`).
-/
namespace Morlock.Proofs.Turochamp
open Morlock Morlock.Model Morlock.Model.Turochamp Morlock.Proofs.Gen

/-- the moves that count for mobility -/
def mobMove (m : Move) : Bool := m.piece != .pawn && !m.isCastle

/-- one round of loop (1) on the mobility map -/
def mobStep (mob : List (Nat × Nat)) (m : Move) : List (Nat × Nat) :=
  if m.piece != .pawn && !m.isCastle then
    let mob := mobBump mob m.from
    if m.ty = .capture then mobBump mob m.from else mob
  else mob

theorem mobility_eq (pos : Position) (turn : Color) : mobility pos turn = (pos.legalMoves turn).foldl mobStep [] := rfl

/-- the weight of a move in the mobility count -/
def weight (m : Move) : Nat := if mobMove m then (if m.ty = .capture then 2 else 1) else 0

def nsum : List Nat → Nat
  | [] => 0
  | a :: l => a + nsum l

theorem nsum_perm {l1 l2 : List Nat} (h : l1.Perm l2) : nsum l1 = nsum l2 := by
  induction h with
  | nil => rfl
  | cons a _ ih => simp only [nsum, ih]
  | swap a b l => simp only [nsum]; omega
  | trans _ _ ih1 ih2 => exact ih1.trans ih2

/-- total weight of the moves of `L` from square `k` -/
def wsum (L : List Move) (k : Nat) : Nat := nsum (L.map fun m => if m.from = k then weight m else 0)

/-- `A` records the counts `c`: distinct keys, and `(k, n)` is an entry iff `n = c k > 0` -/
def Records (A : List (Nat × Nat)) (c : Nat → Nat) : Prop :=
  (A.map (·.1)).Nodup ∧ ∀ k n, (k, n) ∈ A ↔ (c k = n ∧ 0 < n)

theorem Records.bump {A : List (Nat × Nat)} {c : Nat → Nat} (h : Records A c) (s : Nat) :
    Records (mobBump A s) (fun k => c k + if k = s then 1 else 0) := by
  obtain ⟨hnd, hmem⟩ := h
  unfold mobBump
  by_cases hany : (A.any fun e => e.1 == s) = true
  · rw [if_pos hany]
    obtain ⟨e0, he0, hs0⟩ := List.any_eq_true.mp hany
    have hs0' : e0.1 = s := by simpa using hs0
    have hc0 : 0 < c s := by
      have := (hmem e0.1 e0.2).mp he0
      rw [hs0'] at this; omega
    refine ⟨?_, fun k n => ?_⟩
    · have : (A.map fun e => if (e.1 == s) = true then (e.1, e.2 + 1) else e).map (·.1) = A.map (·.1) := by
        rw [List.map_map]; apply List.map_congr_left; intro e _
        show (if (e.1 == s) = true then (e.1, e.2 + 1) else e).1 = e.1
        split <;> rfl
      rw [this]; exact hnd
    · rw [List.mem_map]
      constructor
      · rintro ⟨e, he, hf⟩
        have h1 := (hmem e.1 e.2).mp he
        by_cases hes : (e.1 == s) = true
        · rw [if_pos hes] at hf
          have hes' : e.1 = s := by simpa using hes
          obtain ⟨hf1, hf2⟩ := Prod.mk.inj hf
          subst hf1 hf2
          simp only [hes', if_true]
          rw [hes'] at h1
          omega
        · rw [if_neg hes] at hf
          have hne : ¬ e.1 = s := by simpa using hes
          obtain ⟨hf1, hf2⟩ := Prod.mk.inj hf
          subst hf1 hf2
          simp only [hne, if_false, Nat.add_zero]
          exact h1
      · rintro ⟨hn, hpos⟩
        by_cases hk : k = s
        · subst hk
          simp only [if_true] at hn
          refine ⟨(k, c k), (hmem k (c k)).mpr ⟨rfl, hc0⟩, ?_⟩
          simp [hn]
        · simp only [hk, if_false, Nat.add_zero] at hn
          refine ⟨(k, n), (hmem k n).mpr ⟨hn, hpos⟩, ?_⟩
          have : ¬ ((k == s) = true) := by simpa using hk
          simp [hk]
  · rw [if_neg hany]
    have hns : s ∉ A.map (·.1) := by
      intro hs
      obtain ⟨e, he, rfl⟩ := List.mem_map.mp hs
      exact hany (List.any_eq_true.mpr ⟨e, he, by simp⟩)
    have hcs : c s = 0 := by
      rcases Nat.eq_zero_or_pos (c s) with h0 | h0
      · exact h0
      · exact absurd (List.mem_map.mpr ⟨(s, c s), (hmem s (c s)).mpr ⟨rfl, h0⟩, rfl⟩) hns
    refine ⟨?_, fun k n => ?_⟩
    · rw [List.map_append, List.nodup_append]
      refine ⟨hnd, by simp, ?_⟩
      intro a ha b hb e
      simp only [List.map_cons, List.map_nil, List.mem_singleton] at hb
      subst hb; subst e
      exact hns ha
    · rw [List.mem_append, List.mem_singleton, hmem]
      by_cases hk : k = s
      · subst hk
        simp only [if_true, hcs, Prod.mk.injEq, true_and]
        omega
      · simp only [hk, if_false, Nat.add_zero, Prod.mk.injEq, false_and, or_false]

theorem Records.step {A : List (Nat × Nat)} {c : Nat → Nat} (h : Records A c) (m : Move) :
    Records (mobStep A m) (fun k => c k + if m.from = k then weight m else 0) := by
  have e : ∀ (w : Nat) (f : Nat → Nat), (∀ k, f k = c k + if m.from = k then w else 0) →
      (fun k => c k + if m.from = k then w else 0) = f := fun w f hf => (funext hf).symm
  unfold mobStep weight mobMove
  by_cases hP : (m.piece != .pawn && !m.isCastle) = true
  · rw [if_pos hP, if_pos hP]
    by_cases hc : m.ty = .capture
    · rw [if_pos hc, if_pos hc, e 2 _ (fun k => ?_)]
      · exact (h.bump m.from).bump m.from
      · by_cases hk : k = m.from
        · simp [hk]
        · have hk' : ¬ m.from = k := fun h => hk h.symm
          simp [hk, hk']
    · rw [if_neg hc, if_neg hc, e 1 _ (fun k => ?_)]
      · exact h.bump m.from
      · by_cases hk : k = m.from
        · simp [hk]
        · have hk' : ¬ m.from = k := fun h => hk h.symm
          simp [hk, hk']
  · rw [if_neg hP, if_neg hP]
    simpa using h

theorem Records.fold : ∀ (L : List Move) {A : List (Nat × Nat)} {c : Nat → Nat}, Records A c →
    Records (L.foldl mobStep A) (fun k => c k + wsum L k)
  | [], A, c, h => by simpa [wsum, nsum] using h
  | m :: L, A, c, h => by
    have := Records.fold L (h.step m)
    rw [List.foldl_cons]
    have e : (fun k => c k + wsum (m :: L) k) = fun k => (c k + if m.from = k then weight m else 0) + wsum L k := by
      funext k
      simp only [wsum, List.map_cons, nsum]
      omega
    rw [e]; exact this

theorem mobility_exact (pos : Position) (turn : Color) :
    ((mobility pos turn).map (·.1)).Nodup ∧
    ∀ k n, (k, n) ∈ mobility pos turn ↔ (wsum (pos.legalMoves turn) k = n ∧ 0 < n) := by
  have := Records.fold (pos.legalMoves turn) (A := []) (c := fun _ => 0) ⟨by simp, by simp⟩
  rw [← mobility_eq] at this
  simpa [Records] using this
theorem nsum_pos : ∀ {l : List Nat}, 0 < nsum l → ∃ a ∈ l, 0 < a
  | [], h => by cases h
  | a :: l, h => by
    by_cases ha : 0 < a
    · exact ⟨a, List.mem_cons_self .., ha⟩
    · have : 0 < nsum l := by simp only [nsum] at h; omega
      obtain ⟨b, hb, hb0⟩ := nsum_pos this
      exact ⟨b, List.mem_cons_of_mem _ hb, hb0⟩

theorem mobility_key {pos : Position} {turn : Color} {k : Nat} (hk : k ∈ (mobility pos turn).map (·.1)) :
    ∃ m ∈ pos.legalMoves turn, mobMove m = true ∧ k = m.from := by
  obtain ⟨e, he, rfl⟩ := List.mem_map.mp hk
  obtain ⟨hw, hn⟩ := ((mobility_exact pos turn).2 e.1 e.2).mp he
  rw [← hw] at hn
  obtain ⟨x, hx, hpos⟩ := nsum_pos hn
  obtain ⟨m, hm, rfl⟩ := List.mem_map.mp hx
  by_cases hf : m.from = e.1
  · rw [if_pos hf] at hpos
    refine ⟨m, hm, ?_, hf.symm⟩
    unfold weight at hpos
    by_cases hmm : mobMove m = true
    · exact hmm
    · rw [if_neg hmm] at hpos; cases hpos
  · rw [if_neg hf] at hpos; cases hpos

theorem wsum_le (L : List Move) (k : Nat) :
    wsum L k ≤ 2 * (L.filter fun m => mobMove m && m.from == k).length := by
  induction L with
  | nil => simp [wsum, nsum]
  | cons m L ih =>
    have e : wsum (m :: L) k = (if m.from = k then weight m else 0) + wsum L k := rfl
    rw [e, List.filter_cons]
    unfold weight
    by_cases hf : m.from = k <;> by_cases hm : mobMove m = true <;> simp [hf, hm] <;> (try split) <;> omega

theorem mobMove_step {p : Position} {turn t : Color} (hw : WF p t) {m : Move}
    (hm : m ∈ p.pseudoLegalMoves turn) (hP : mobMove m = true) : ∃ pc, StepMove p.square turn pc m := by
  unfold mobMove at hP
  simp only [Bool.and_eq_true, bne_iff_ne, ne_eq, Bool.not_eq_true'] at hP
  rcases (mem_pseudoLegalMoves hw.rep hw.wfb m).mp hm with ⟨pc, _, hs⟩ | hp | hs | ⟨_, hc⟩
  · exact ⟨pc, hs⟩
  · exact absurd hp.2.1 hP.1
  · exact ⟨.king, hs⟩
  · obtain ⟨cs, hcs, _, _, _, hty, _⟩ := hc
    exfalso
    have : m.isCastle = true := by
      cases turn <;> simp [castleParams] at hcs <;> rcases hcs with rfl | rfl <;> simp [Move.isCastle, hty]
    rw [this] at hP
    exact absurd hP.2 (by decide)

theorem stepMove_ext {b : Board} {turn : Color} {pc pc' : Piece} {m m' : Move}
    (h : StepMove b turn pc m) (h' : StepMove b turn pc' m') (hf : m.from = m'.from) (ht : m.to = m'.to) : m = m' := by
  obtain ⟨hb, hp, hpr, _, hc⟩ := h
  obtain ⟨hb', hp', hpr', _, hc'⟩ := h'
  rw [hf, hb'] at hb
  have hpc : pc' = pc := by injection hb with hb; injection hb
  subst hpc
  rw [ht] at hc
  have hmeta : m.ty = m'.ty ∧ m.capture = m'.capture := by
    rcases hc with ⟨h1, h2, h3⟩ | ⟨k, h1, h2, h3⟩ <;> rcases hc' with ⟨h1', h2', h3'⟩ | ⟨k', h1', h2', h3'⟩
    · exact ⟨h2.trans h2'.symm, h3.trans h3'.symm⟩
    · rw [h1] at h1'; cases h1'
    · rw [h1] at h1'; cases h1'
    · rw [h1] at h1'
      have : k = k' := by injection h1' with h1'; injection h1'
      exact ⟨h2.trans h2'.symm, by rw [h3, h3', this]⟩
  cases m; cases m'
  simp only [Move.mk.injEq]
  simp only [] at hf ht hp hp' hpr hpr' hmeta
  exact ⟨hmeta.1, hf, ht, hp.trans hp'.symm, hpr.trans hpr'.symm, hmeta.2⟩

/-- the keys are distinct squares holding a man of the colour -/
theorem mobility_keys {p : Position} {turn t : Color} (hw : WF p t) :
    ((mobility p turn).map (·.1)).length ≤ (toSquares (p.pieces turn .none)).length := by
  have h := hw.rep
  apply (mobility_exact p turn).1.length_le_of_subset
  intro k hk
  obtain ⟨m, hm, hP, rfl⟩ := mobility_key hk
  obtain ⟨pc, hst⟩ := mobMove_step hw (Chain.mem_pseudo_of_legal hm) hP
  have h64 := h.lt_of_some hst.1
  rw [mem_toSquares (h.piecesLt turn .none), h.all turn _ h64]
  unfold colAt
  rw [hst.1]
  simp

theorem mobOK_of_wf {p : Position} {turn t : Color} (hw : WF p t) : MobOK (mobility p turn) := by
  have h := hw.rep
  obtain ⟨hnd, hex⟩ := mobility_exact p turn
  have hlegal : ∀ m ∈ p.legalMoves turn, m ∈ p.pseudoLegalMoves turn := fun _ hm => Chain.mem_pseudo_of_legal hm
  constructor
  · have := mobility_keys (turn := turn) hw
    have := toSquares_length (p.pieces turn .none)
    simp only [List.length_map] at *
    omega
  · intro e he
    have h1 : e.2 ≤ 2 * ((p.legalMoves turn).filter fun m => mobMove m && m.from == e.1).length := by
      rw [← ((hex e.1 e.2).mp he).1]; exact wsum_le _ _
    -- the mobility moves from e.1 have distinct destinations below 64
    have hl : ((p.legalMoves turn).filter fun m => mobMove m && m.from == e.1).length ≤ 64 := by
      have hnd' : ((p.legalMoves turn).filter fun m => mobMove m && m.from == e.1).Nodup := by
        apply List.Nodup.sublist (List.filter_sublist)
        unfold Position.legalMoves
        exact List.Nodup.sublist (List.filter_sublist) (pseudoLegalMoves_nodup h turn)
      have hmem : ∀ m ∈ (p.legalMoves turn).filter (fun m => mobMove m && m.from == e.1),
          m.from = e.1 ∧ ∃ pc, StepMove p.square turn pc m := by
        intro m hm
        obtain ⟨hm1, hm2⟩ := List.mem_filter.mp hm
        simp only [Bool.and_eq_true, beq_iff_eq] at hm2
        exact ⟨hm2.2, mobMove_step hw (hlegal m hm1) hm2.1⟩
      have hmap : (((p.legalMoves turn).filter fun m => mobMove m && m.from == e.1).map (·.to)).Nodup := by
        apply nodup_map_of_inj hnd'
        intro a ha a' ha' hto
        obtain ⟨hf, pc, hs⟩ := hmem a ha
        obtain ⟨hf', pc', hs'⟩ := hmem a' ha'
        exact stepMove_ext hs hs' (hf.trans hf'.symm) hto
      have hsub : ((p.legalMoves turn).filter fun m => mobMove m && m.from == e.1).map (·.to) ⊆ List.range 64 := by
        intro t ht
        obtain ⟨m, hm, rfl⟩ := List.mem_map.mp ht
        obtain ⟨_, pc, hs⟩ := hmem m hm
        exact List.mem_range.mpr (Attack.officerTargets_lt _ _ _ _ hs.2.2.2.1)
      have := hmap.length_le_of_subset hsub
      simpa using this
    omega

end Morlock.Proofs.Turochamp
