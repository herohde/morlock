import Morlock.Proofs.GenPseudo
/-!
# Stage E of C01 (continued): every generated move has accurate metadata (`MetaOK`) and the class
the rules assign (`ClassOK`)
-/
namespace Morlock.Proofs.Gen
open Morlock Morlock.Model Morlock.Proofs.Attack

variable {p : Position} {b : Board} {turn : Color} {m : Move} {castling ep fr sq : Nat}

/-- A king step from the e-file reaches neither the g-file nor the c-file. -/
theorem king_target_file {occ : Nat → Bool} {s t : Nat} (h : t ∈ Spec.officerTargets occ .king s)
    (hs : s % 8 = 3) : t % 8 ≠ 1 ∧ t % 8 ≠ 5 := by
  simp only [Spec.officerTargets, List.mem_filterMap] at h
  obtain ⟨⟨df, dr⟩, hd, hst⟩ := h
  have hb : -1 ≤ df ∧ df ≤ 1 := (by decide : ∀ d ∈ Spec.kingSteps, -1 ≤ d.1 ∧ d.1 ≤ 1) _ hd
  have := (step_coords hst).1
  omega

theorem isEnPassant_of_at {s : Spec.Pos} {sm : Spec.SMove} {c : Spec.Color} {K : Spec.Kind}
    (hat : s.at sm.from = some (c, K)) :
    Spec.isEnPassant s sm =
      (decide (K = .pawn) && (decide (Spec.fileOf sm.from ≠ Spec.fileOf sm.to) && !(s.occ sm.to))) := by
  unfold Spec.isEnPassant; rw [hat]; cases K <;> simp

theorem isCastle_of_at {s : Spec.Pos} {sm : Spec.SMove} {c : Spec.Color} {K : Spec.Kind}
    (hat : s.at sm.from = some (c, K)) :
    Spec.isCastle s sm =
      (decide (K = .king) && (decide (Spec.fileOf sm.from = Spec.fE) &&
        (decide (Spec.fileOf sm.to = Spec.fG) || decide (Spec.fileOf sm.to = Spec.fC)) &&
        decide (Spec.rankOf sm.from = Spec.rankOf sm.to))) := by
  unfold Spec.isCastle; rw [hat]; cases K <;> simp

theorem isDoubleStep_of_at {s : Spec.Pos} {sm : Spec.SMove} {c : Spec.Color} {K : Spec.Kind}
    (hat : s.at sm.from = some (c, K)) :
    Spec.isDoubleStep s sm =
      (decide (K = .pawn) && (decide (Spec.rankOf sm.from + 2 = Spec.rankOf sm.to) ||
        decide (Spec.rankOf sm.to + 2 = Spec.rankOf sm.from))) := by
  unfold Spec.isDoubleStep; rw [hat]; cases K <;> simp

theorem classOK_iff {s : Spec.Pos} :
    ClassOK s m = true ↔
      Spec.isEnPassant s (absMove m) = (m.ty == .enPassant) ∧
      Spec.isCastle s (absMove m) = m.isCastle ∧
      Spec.isDoubleStep s (absMove m) = (m.ty == .jump) ∧
      m.isPromotion = (m.promotion != .none) ∧
      (m.ty = .enPassant → m.enPassantCapture = Spec.mkSq (Spec.fileOf m.to) (Spec.rankOf m.from)) ∧
      (m.ty = .jump →
        m.enPassantTarget = Spec.mkSq (Spec.fileOf m.from) ((Spec.rankOf m.from + Spec.rankOf m.to) / 2)) ∧
      (m.isCastle = true → m.castlingRookMove =
        if Spec.fileOf m.to = Spec.fG
        then (Spec.mkSq Spec.fH (Spec.rankOf m.from), Spec.mkSq Spec.fF (Spec.rankOf m.from))
        else (Spec.mkSq Spec.fA (Spec.rankOf m.from), Spec.mkSq Spec.fD (Spec.rankOf m.from))) := by
  unfold ClassOK
  simp only [Bool.and_eq_true, beq_iff_eq, Bool.or_eq_true, bne_iff_ne, ne_eq, Bool.not_eq_true',
    and_assoc, Decidable.imp_iff_not_or, Bool.not_eq_true]

theorem StepMove.classOK (h : Rep p b) {pc : Piece}
    (hpw : pc ≠ .pawn) (hm : StepMove b turn pc m) : ClassOK (abs p turn) m = true := by
  have hne : pc ≠ .none := h.ne_none_of_some hm.1
  have hat : (abs p turn).at (absMove m).from = some (absColor turn, kindOf pc) :=
    (h.abs_at_iff turn m.from turn (kindOf pc)).mpr (by rw [kindPiece_kindOf hne]; exact hm.1)
  have hK := kindOf_ne_pawn hne hpw
  obtain ⟨hsq, hpc, hpr, ht, hd⟩ := hm
  have hcastle : Spec.isCastle (abs p turn) (absMove m) = false := by
    rw [isCastle_of_at hat]
    by_cases hk : kindOf pc = .king
    · by_cases a : m.from % 8 = 3
      · obtain ⟨n1, n2⟩ := king_target_file (hk ▸ ht) a
        simp [absMove, Spec.fileOf, Spec.fG, Spec.fC, n1, n2]
      · simp [absMove, Spec.fileOf, Spec.fE, a]
    · simp [hk]
  rw [classOK_iff, isEnPassant_of_at hat, isDoubleStep_of_at hat, hcastle]
  rcases hd with ⟨_, hty, _⟩ | ⟨_, _, hty, _⟩ <;> simp [hK, hty, hpr, Move.isCastle, Move.isPromotion]

theorem promoOK_of_mem (h : m.promotion ∈ Position.promoPieces) : promoOK m = true := by
  rw [mem_promoPieces] at h
  unfold promoOK
  rcases h with h | h | h | h <;> simp [h]

theorem ne_none_of_mem_promoPieces {pc : Piece} (h : pc ∈ Position.promoPieces) : pc ≠ .none := by
  rw [mem_promoPieces] at h
  rcases h with rfl | rfl | rfl | rfl <;> simp

/-- The victim square the engine derives from an en-passant move is the `WF` victim square. -/
theorem enPassantCapture_eq (hty : m.ty = .enPassant) (hto : m.to < 64)
    (hr : m.to / 8 = epRank turn) : m.enPassantCapture = epVictim turn m.to := by
  unfold Move.enPassantCapture
  simp only [hty, bne_self_eq_false, Bool.false_eq_true, if_false, sqRank_eq, newSquare_eq, sqFile_eq]
  cases turn <;> simp only [epRank, epVictim] at hr ⊢ <;> rw [hr] <;>
    simp only [Nat.reduceMod, Nat.reduceEqDiff, if_false, if_true] <;> omega

theorem PawnMove.metaOKb (hw : WFb b castling ep turn)
    (hm : PawnMove b ep turn m) : MetaOKb b m = true := by
  obtain ⟨hsq, hpc, hk⟩ := hm
  unfold MetaOKb
  rw [hsq]
  rcases hk with ⟨hst, hb, hcap, hr⟩ | ⟨t1, hst1, hst2, hstart, hb1, hb2, hty, hpr, hcap⟩ |
    ⟨ht, k, hk, hcap, hr⟩ | ⟨he, hto, ht, hown, hty, hpr, hcap⟩
  · have ht64 : m.to < 64 := step_lt hst
    rcases hr with ⟨_, hty, _⟩ | ⟨_, hty, hpr⟩
    · simp [hpc, ht64, hty, hb]
    · simp [hpc, ht64, hty, hb, promoOK_of_mem hpr]
  · have ht64 : m.to < 64 := step_lt hst2
    simp [hpc, ht64, hty, hb2]
  · have ht64 : m.to < 64 := pawnTargets_lt _ _ _ ht
    rcases hr with ⟨_, hty, _⟩ | ⟨_, hty, hpr⟩
    · simp [hpc, ht64, hty, hk, hcap]
    · simp [hpc, ht64, hty, hk, hcap, promoOK_of_mem hpr]
  · have ht64 : m.to < 64 := pawnTargets_lt _ _ _ ht
    obtain ⟨_, hempty, hrank, hvic⟩ := hw.ep_ok he
    rw [← hto] at hempty hrank hvic
    simp [hpc, ht64, hty, hempty, enPassantCapture_eq hty ht64 hrank, hvic]

/-- The victim of an en-passant capture stands on the capturing pawn's rank, on the file of the target. -/
theorem epVictim_eq {s t : Nat} (ht : t ∈ Spec.pawnTargets (absColor turn) s)
    (hr : t / 8 = epRank turn) : epVictim turn t = Spec.mkSq (t % 8) (s / 8) := by
  have g := (pawnTarget_geo ht).2.2.2
  unfold Spec.mkSq
  cases turn <;> simp only [Spec.fwd, absColor, epRank, epVictim] at g hr ⊢ <;> omega

theorem PawnMove.classOK (h : Rep p b)
    (hw : WFb b p.castling p.enpassant turn) (hm : PawnMove b p.enpassant turn m) :
    ClassOK (abs p turn) m = true := by
  have hat : (abs p turn).at (absMove m).from = some (absColor turn, .pawn) :=
    (h.abs_at_iff turn m.from turn .pawn).mpr hm.1
  have hfr : m.from < 64 := h.lt_of_some hm.1
  obtain ⟨hsq, hpc, hk⟩ := hm
  rw [classOK_iff, isEnPassant_of_at hat, isDoubleStep_of_at hat, isCastle_of_at hat]
  simp only [absMove, Spec.fileOf, Spec.rankOf]
  rcases hk with ⟨hst, hb, hcap, hr⟩ | ⟨t1, hst1, hst2, hstart, hb1, hb2, hty, hpr, hcap⟩ |
    ⟨ht, k, hk, hcap, hr⟩ | ⟨he, hto, ht, hown, hty, hpr, hcap⟩
  · obtain ⟨hf, hr1, hr2⟩ := push_geo hst
    rcases hr with ⟨_, hty, hpr⟩ | ⟨_, hty, hpr⟩
    · simp [hty, hpr, hf, hr1, hr2, Move.isCastle, Move.isPromotion]
    · simp [hty, ne_none_of_mem_promoPieces hpr, hf, hr1, hr2, Move.isCastle, Move.isPromotion]
  · -- the skipped square, midway between origin and destination, is the recorded en-passant target
    obtain ⟨hf, hdbl, hm1, hm2⟩ := jump_geo hst1 hst2
    have htgt : m.enPassantTarget = Spec.mkSq (m.from % 8) ((m.from / 8 + m.to / 8) / 2) := by
      unfold Spec.mkSq
      rw [(jump_target hty hfr hst1 hst2 hstart).1, ← hm1, hm2, Nat.mul_div_cancel_left _ (by decide),
        Nat.div_add_mod]
    simp [hty, hpr, hf, htgt, Move.isCastle, Move.isPromotion]
    rcases hdbl with e | e
    · exact Or.inl (decide_eq_true e)
    · exact Or.inr (decide_eq_true e)
  · have hocc : (abs p turn).occ m.to = true := by
      rw [h.abs_occ]; simp [occB, hk]
    obtain ⟨hf, hr1, hr2, _⟩ := pawnTarget_geo ht
    rcases hr with ⟨_, hty, hpr⟩ | ⟨_, hty, hpr⟩
    · simp [hty, hpr, hocc, hr1, hr2, Move.isCastle, Move.isPromotion]
    · simp [hty, ne_none_of_mem_promoPieces hpr, hocc, hr1, hr2, Move.isCastle, Move.isPromotion]
  · obtain ⟨_, hempty, hrank, _⟩ := hw.ep_ok he
    rw [← hto] at hempty hrank
    have ht64 : m.to < 64 := pawnTargets_lt _ _ _ ht
    have hocc : (abs p turn).occ m.to = false := (occ_false_iff h turn _).mpr hempty
    obtain ⟨hf, hr1, hr2, _⟩ := pawnTarget_geo ht
    simp [hty, hpr, hocc, hf, hr1, hr2, enPassantCapture_eq hty ht64 hrank, epVictim_eq ht hrank,
      Move.isCastle, Move.isPromotion]

theorem CastleMove.metaOKb {turn t : Color} (hw : WFb b castling ep t)
    (hm : CastleMove b castling turn m) (hfr : m.from = kingHomeSq turn) :
    MetaOKb b m = true := by
  have hk := hm.kingHome hw
  obtain ⟨cs, hcs, hr, hempty, hrook, hty, hpc, hto, hpr, hcap⟩ := hm
  obtain ⟨h64, htoM, r1, r2, rne, hkind, _⟩ := castleParams_spec turn cs hcs
  rw [← castlingRookMove_congr hty hfr] at r1 r2 rne
  unfold MetaOKb
  rw [hfr, hk]
  rcases hkind with ⟨e, _⟩ | ⟨e, _⟩ <;>
    simp [hpc, hto, h64, r1, hempty _ htoM, hempty _ r2, hrook, rne, hty, e]

theorem CastleMove.classOK (h : Rep p b) {turn t : Color}
    (hw : WFb b p.castling p.enpassant t) (hm : CastleMove b p.castling turn m)
    (hfr : m.from = kingHomeSq turn) : ClassOK (abs p turn) m = true := by
  have hk : b m.from = some (turn, .king) := by rw [hfr]; exact hm.kingHome hw
  have hat : (abs p turn).at (absMove m).from = some (absColor turn, .king) :=
    (h.abs_at_iff turn m.from turn .king).mpr hk
  obtain ⟨cs, hcs, hr, hempty, hrook, hty, hpc, hto, hpr, hcap⟩ := hm
  obtain ⟨_, _, _, _, _, hkind, he3, herank, hrm⟩ := castleParams_spec turn cs hcs
  rw [← castlingRookMove_congr hty hfr] at hrm
  rw [classOK_iff, isEnPassant_of_at hat, isDoubleStep_of_at hat, isCastle_of_at hat]
  simp only [absMove, Spec.fileOf, Spec.rankOf, Spec.fE, Spec.fG, Spec.fC, hfr, hto, hrm, he3, herank]
  rcases hkind with ⟨e, f⟩ | ⟨e, f⟩ <;> simp [hty, e, f, hpr, Move.isCastle, Move.isPromotion]

theorem PseudoMove.metaOK_classOK (h : Rep p b)
    (hw : WFb b p.castling p.enpassant turn)
    (hm : PseudoMove b p.castling p.enpassant turn m) :
    MetaOK p m = true ∧ ClassOK (abs p turn) m = true := by
  rw [h.metaOK_iff]
  exact hm.elim (fun _ hpw hs => ⟨hs.metaOKb, hs.classOK h hpw⟩) (fun hp => ⟨hp.metaOKb hw, hp.classOK h hw⟩)
    (fun hf hc => ⟨hc.metaOKb hw hf, hc.classOK h hw hf⟩)

end Morlock.Proofs.Gen
