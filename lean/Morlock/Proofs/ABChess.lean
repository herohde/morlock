import Morlock.Proofs.RepBits
import Morlock.Proofs.ABRef
import Morlock.Model.BoardGame
/-!
# `EvalOk` for the chess instances of the search game (helper for C13 / C03)

`EvalOk g` asks that the static evaluation key of *every* world (also junk ones) is the key of a finite
`float32`. For the material game this follows from `popCount b ≤ 64` and `|nominalValue k| ≤ 100`.
-/
namespace Morlock.Proofs.AB
open Morlock Morlock.Model Morlock.Model.Score

theorem nominalValue_range (k : Piece) : 0 ≤ nominalValue k ∧ nominalValue k ≤ 100 := by
  cases k <;> decide

/-- one summand of `materialPawns` -/
theorem material_term (a b : Nat) (v : Int) (ha : a ≤ 64) (hb : b ≤ 64) (h0 : 0 ≤ v) (h1 : v ≤ 100) :
    -6400 ≤ ((a : Int) - (b : Int)) * v ∧ ((a : Int) - (b : Int)) * v ≤ 6400 := by
  have h64 : ((a : Int) - b) ≤ 64 := by omega
  have h64' : -64 ≤ ((a : Int) - b) := by omega
  constructor
  · have : (-64) * v ≤ ((a : Int) - b) * v := Int.mul_le_mul_of_nonneg_right h64' h0
    omega
  · have : ((a : Int) - b) * v ≤ 64 * v := Int.mul_le_mul_of_nonneg_right h64 h0
    omega

theorem materialPawns_range (pos : Position) (turn : Color) :
    -38400 ≤ materialPawns pos turn ∧ materialPawns pos turn ≤ 38400 := by
  unfold materialPawns Position.piecesInOrder
  simp only [List.foldl]
  have t := fun k => material_term _ _ _ (popCount_le (pos.pieces turn k)) (popCount_le (pos.pieces turn.opp k))
    (nominalValue_range k).1 (nominalValue_range k).2
  have t1 := t .pawn; have t2 := t .bishop; have t3 := t .knight
  have t4 := t .rook; have t5 := t .queen; have t6 := t .king
  omega

/-- The key of an integer below `2^24` in absolute value is the key of a finite `float32`. -/
theorem f32keyOfInt_range (n : Int) (h : n.natAbs < 2 ^ 24) :
    -2147483648 < f32keyOfInt n ∧ f32keyOfInt n < 2147483648 := by
  unfold f32keyOfInt
  simp only
  by_cases h0 : n.natAbs = 0
  · simp [h0]
  · simp only [h0, if_false]
    have he : Nat.log2 n.natAbs ≤ 23 := by have := (Nat.log2_lt h0).2 h; omega
    simp only [he, if_true]
    have hm : (n.natAbs <<< (23 - Nat.log2 n.natAbs)) % 8388608 < 8388608 := Nat.mod_lt _ (by decide)
    generalize (n.natAbs <<< (23 - Nat.log2 n.natAbs)) % 8388608 = mant at hm
    generalize Nat.log2 n.natAbs = e at he
    have hb : (e + 127) * 8388608 + mant < 2147483648 := by omega
    split <;> omega

theorem boardGame_evalOk (z : ZTable) (ev : Position → Color → Int)
    (h : ∀ pos turn, -2147483648 < ev pos turn ∧ ev pos turn < 2147483648) : EvalOk (boardGame z ev) := by
  intro p
  exact h _ _

theorem materialGame_evalOk (z : ZTable) : EvalOk (materialGame z) := by
  apply boardGame_evalOk
  intro pos turn
  apply f32keyOfInt_range
  have := materialPawns_range pos turn
  have : (materialPawns pos turn).natAbs ≤ 38400 := by omega
  have : (38400 : Nat) < 2 ^ 24 := by decide
  omega

end Morlock.Proofs.AB
