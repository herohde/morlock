import Morlock.Proofs.ABLoop
import Morlock.Proofs.ABHeap
import Morlock.Proofs.DetSim
/-!
# Reference values for C13 / C03: plain negamax `V` and full-window quiescence `Q` over a `Game`

No window, no table, no move ordering, no state. `V` and `Q` range over `g.moves p` in generator order;
the searches range over `heapOrder (g.moves p) …`, a permutation of it (`ABHeap.heapOrder_perm`), and the
maximum does not depend on the order.
-/
namespace Morlock.Proofs.AB
open Morlock Morlock.Model Morlock.Model.Score Morlock.Spec
open Morlock.Props.C09
variable {P : Type}

/-- Value of a position without a legal move: mated or stalemate. -/
def terminal (g : Game P) (p : P) : Score := if g.inCheck p then negInfScore else zeroScore

theorem quiesce_succ_eq {g : Game P} {ex : P → Explore} {fuel : Nat} {p : P} {a b : Score} {st : SState} :
    quiesce g ex (fuel + 1) p a b st =
      if cancelled st then (zeroScore, tick st) else
      if g.isDraw p then (zeroScore, tick st) else
      (let r := quiesceLoop g ex (quiesce g ex fuel) p b (heapOrder (g.moves p) (ex p).prio)
          (Score.max a (heuristicScore (g.eval p))) false { tick st with nodes := (tick st).nodes + 1 }
       if !r.2.1 then (terminal g p, r.2.2) else (r.1, r.2.2)) :=
  Det.quiesce_succ g ex fuel p a b st

/-- Full-window quiescence value, cut off (value 0) after `fuel` plies exactly like `Model.quiesce`:
    0 if drawn; mated/stalemate if no move is legal; otherwise the better of the static evaluation
    (stand pat) and the lifted values of the explored legal children. -/
def Q (g : Game P) (ex : P → Explore) : Nat → P → Score
  | 0, _ => zeroScore
  | fuel + 1, p =>
    if g.isDraw p then zeroScore
    else if !legalAny g p (g.moves p) then terminal g p
    else ((kids g ex p (g.moves p)).map fun c => lift (Q g ex fuel c)).foldl Score.max (heuristicScore (g.eval p))

def leafV (g : Game P) : LeafEval P → P → Score
  | .static, p => heuristicScore (g.eval p)
  | .quiescence ex fuel, p => Q g ex fuel p

/-- Mate distance a leaf value can carry. -/
def leafGrade : LeafEval P → Nat
  | .static => 0
  | .quiescence _ fuel => fuel

/-- Plain negamax to depth `d`: 0 if drawn (except at the root of the search, `g.ply p = rootPly`);
    mated/stalemate if no move is legal; the leaf value at depth 0; otherwise the maximum over the explored
    legal children of the lifted child value (`negInf` if none is explored). -/
def V (g : Game P) (ex : P → Explore) (le : LeafEval P) (rootPly : Int) : Nat → P → Score
  | 0, p => if !(g.ply p == rootPly) && g.isDraw p then zeroScore else leafV g le p
  | d + 1, p =>
    if !(g.ply p == rootPly) && g.isDraw p then zeroScore
    else if !legalAny g p (g.moves p) then terminal g p
    else ((kids g ex p (g.moves p)).map fun c => lift (V g ex le rootPly d c)).foldl Score.max negInfScore

/-- `pv` is a sequence of at most `n` explored legal moves playable from `p`. -/
def Path (g : Game P) (ex : P → Explore) : Nat → P → List Move → Prop
  | _, _, [] => True
  | 0, _, _ :: _ => False
  | n + 1, p, m :: rest => ∃ c, g.push p m = some c ∧ (ex p).pick m = true ∧ Path g ex n c rest

/-- `pv` is a principal variation of the depth-`n` negamax from `p`: a path each of whose moves attains
    the negamax value of the position it is played in. -/
def Principal (g : Game P) (ex : P → Explore) (le : LeafEval P) (rootPly : Int) : Nat → P → List Move → Prop
  | _, _, [] => True
  | 0, _, _ :: _ => False
  | n + 1, p, m :: rest => ∃ c, g.push p m = some c ∧ (ex p).pick m = true ∧
      lift (V g ex le rootPly n c) = V g ex le rootPly (n + 1) p ∧ Principal g ex le rootPly n c rest

/-- What the main search promises about the PV it returns together with score `s`: always a path; a
    principal variation whenever the score is the exact negamax value. -/
def PathOK (g : Game P) (ex : P → Explore) (le : LeafEval P) (rootPly : Int) (d : Nat) (p : P) (s : Score)
    (pv : List Move) : Prop :=
  Path g ex d p pv ∧ (s = V g ex le rootPly d p → Principal g ex le rootPly d p pv)

theorem pathOK_nil (g : Game P) (ex : P → Explore) (le : LeafEval P) (rootPly : Int) (d : Nat) (p : P) (s : Score) :
    PathOK g ex le rootPly d p s [] := by
  cases d <;> simp [PathOK, Path, Principal]

/-- The static evaluation key is the key of a (non-NaN) `float32`. -/
def EvalOk (g : Game P) : Prop := ∀ p, -2147483648 < g.eval p ∧ g.eval p < 2147483648

theorem okN_terminal (g : Game P) (p : P) : okN 0 (terminal g p) := by
  unfold terminal; split
  · exact okN_negInf
  · exact okN_zero

theorem clip_self (a b v : Int) : Clip a b v v := by unfold Clip; omega

theorem eq_of_clip_full {n : Nat} {v r : Score} (hn : n ≤ 127) (hv : okN n v) (hr : okN n r)
    (h : Clip (rank negInfScore) (rank infScore) (rank v) (rank r)) : r = v := by
  rw [rank_negInf, rank_inf] at h
  exact rank_injective _ _ hr.1 hv.1 (clip_full (rankN_mono (okN_rankN hv) hn) (rankN_mono (okN_rankN hr) hn) h)

theorem foldMax_spec {n : Nat} (l : List Score) (x : Score) (hx : okN n x) (hl : ∀ y ∈ l, okN n y) :
    okN n (l.foldl Score.max x) ∧ rank (l.foldl Score.max x) = maxR (rank x) (l.map rank) := by
  induction l generalizing x with
  | nil => simp [hx, maxR]
  | cons y ys ih =>
    have hy := hl y (by simp)
    obtain ⟨_, hok, hr⟩ := raise_spec hx hy
    have ih' := ih (Score.max x y) (by rw [scoreMax_eq]; exact hok) (fun z hz => hl z (by simp [hz]))
    simp only [List.foldl, List.map, maxR_cons]
    rw [scoreMax_eq] at ih' ⊢
    rw [hr] at ih'
    exact ih'

theorem maxR_perm {l₁ l₂ : List Int} (h : l₁.Perm l₂) (x : Int) : maxR x l₁ = maxR x l₂ := by
  unfold maxR
  exact h.foldl_eq' (fun a _ b _ z => by omega) x

theorem kidsR_perm (g : Game P) (ex : P → Explore) (p : P) (vc : P → Score) {l₁ l₂ : List Move} (h : l₁.Perm l₂) :
    (kidsR g ex p vc l₁).Perm (kidsR g ex p vc l₂) := by
  unfold kidsR kids
  exact (h.filterMap _).map _

theorem legalAny_perm (g : Game P) (p : P) {l₁ l₂ : List Move} (h : l₁.Perm l₂) :
    legalAny g p l₁ = legalAny g p l₂ := by
  unfold legalAny
  rw [Bool.eq_iff_iff]
  simp only [List.any_eq_true]
  constructor
  · rintro ⟨m, hm, e⟩; exact ⟨m, h.mem_iff.1 hm, e⟩
  · rintro ⟨m, hm, e⟩; exact ⟨m, h.mem_iff.2 hm, e⟩

theorem kids_map_rank (g : Game P) (ex : P → Explore) (p : P) (vc : P → Score) (l : List Move) :
    ((kids g ex p l).map fun c => lift (vc c)).map rank = kidsR g ex p vc l := by
  simp [kidsR, List.map_map, Function.comp_def]

/-- The value of a node with a legal move, as both references compute it: `x` (stand pat, or `negInf`) raised by
    the lifted values of the explored legal children. -/
theorem foldMax_kids {n : Nat} (hn : n ≤ 126) (g : Game P) (ex : P → Explore) (p : P) {vc : P → Score}
    (hvc : ∀ c, okN n (vc c)) (l : List Move) {x : Score} (hx : okN (n + 1) x) :
    okN (n + 1) (((kids g ex p l).map fun c => lift (vc c)).foldl Score.max x) ∧
    rank (((kids g ex p l).map fun c => lift (vc c)).foldl Score.max x) = maxR (rank x) (kidsR g ex p vc l) := by
  rw [← kids_map_rank]
  refine foldMax_spec _ x hx fun y hy => ?_
  obtain ⟨c, _, rfl⟩ := List.mem_map.1 hy
  exact okN_lift (hvc c) hn

theorem Q_ok {g : Game P} (hev : EvalOk g) (ex : P → Explore) :
    ∀ fuel p, fuel ≤ 127 → okN fuel (Q g ex fuel p) := by
  intro fuel
  induction fuel with
  | zero => intro p _; exact okN_zero
  | succ fuel ih =>
    intro p hf
    unfold Q
    split
    · exact okN_mono okN_zero (by omega)
    · split
      · exact okN_mono (okN_terminal g p) (by omega)
      · exact (foldMax_kids (by omega) g ex p (fun c => ih c (by omega)) _
          (okN_mono (okN_heuristic (hev p).1 (hev p).2) (by omega))).1

theorem leafV_ok {g : Game P} (hev : EvalOk g) (le : LeafEval P) (p : P) (h : leafGrade le ≤ 127) :
    okN (leafGrade le) (leafV g le p) := by
  cases le with
  | static => exact okN_heuristic (hev p).1 (hev p).2
  | quiescence ex fuel => exact Q_ok hev ex fuel p h

theorem V_ok {g : Game P} (hev : EvalOk g) (ex : P → Explore) (le : LeafEval P) (rootPly : Int) (K : Nat)
    (hK : leafGrade le ≤ K) :
    ∀ d p, K + d ≤ 127 → okN (K + d) (V g ex le rootPly d p) := by
  intro d
  induction d with
  | zero =>
    intro p hd
    unfold V
    split
    · exact okN_mono okN_zero (by omega)
    · exact okN_mono (leafV_ok hev le p (by omega)) (by omega)
  | succ d ih =>
    intro p hd
    unfold V
    split
    · exact okN_mono okN_zero (by omega)
    · split
      · exact okN_mono (okN_terminal g p) (by omega)
      · exact (foldMax_kids (by omega) g ex p (fun c => ih c (by omega)) _ (okN_mono okN_negInf (by omega))).1

theorem rank_Q_succ {g : Game P} (hev : EvalOk g) (ex : P → Explore) (fuel : Nat) (p : P) (hf : fuel + 1 ≤ 127)
    (hd : g.isDraw p = false) (hl : legalAny g p (g.moves p) = true) :
    rank (Q g ex (fuel + 1) p) =
      maxR (rank (heuristicScore (g.eval p))) (kidsR g ex p (Q g ex fuel) (g.moves p)) := by
  rw [Q]
  simp only [hd, hl, Bool.false_eq_true, if_false, Bool.not_true]
  exact (foldMax_kids (by omega) g ex p (fun c => Q_ok hev ex fuel c (by omega)) _
    (okN_mono (okN_heuristic (hev p).1 (hev p).2) (by omega))).2

theorem rank_V_succ {g : Game P} (hev : EvalOk g) (ex : P → Explore) (le : LeafEval P) (rootPly : Int) (K : Nat)
    (hK : leafGrade le ≤ K) (d : Nat) (p : P) (hf : K + d + 1 ≤ 127)
    (hd : (!(g.ply p == rootPly) && g.isDraw p) = false) (hl : legalAny g p (g.moves p) = true) :
    rank (V g ex le rootPly (d + 1) p) =
      maxR (-1099511627776) (kidsR g ex p (V g ex le rootPly d) (g.moves p)) := by
  rw [V]
  simp only [hd, hl, Bool.false_eq_true, if_false, Bool.not_true]
  rw [← rank_negInf]
  exact (foldMax_kids (by omega) g ex p (fun c => V_ok hev ex le rootPly K hK d c (by omega)) _
    (okN_mono okN_negInf (by omega))).2

/-- A position with an explored legal move is never worth `negInf`: seen from the parent a child is at worst
    "mated in one". -/
theorem V_succ_ne_negInf {g : Game P} (hev : EvalOk g) (ex : P → Explore) (le : LeafEval P) (rootPly : Int) (K : Nat)
    (hK : leafGrade le ≤ K) (d : Nat) (p : P) (hf : K + d + 1 ≤ 127)
    (hd : (!(g.ply p == rootPly) && g.isDraw p) = false)
    (h : ∃ m ∈ g.moves p, (ex p).pick m = true ∧ (g.push p m).isSome = true) :
    V g ex le rootPly (d + 1) p ≠ negInfScore := by
  obtain ⟨m, hm, hp, hs⟩ := h
  obtain ⟨c, hpush⟩ := Option.isSome_iff_exists.1 hs
  have hl : legalAny g p (g.moves p) = true := List.any_eq_true.2 ⟨m, hm, hs⟩
  have hc := V_ok hev ex le rootPly K hK d c (by omega)
  have hle := maxR_mem (-1099511627776) (mem_kidsR (vc := V g ex le rootPly d) hm hpush hp)
  have hb := fR_bounds (rankN_mono (okN_rankN hc) (by omega))
  rw [rank_lift hc (by omega), ← rank_V_succ hev ex le rootPly K hK d p hf hd hl] at hle
  intro e
  rw [e, rank_negInf] at hle
  omega

end Morlock.Proofs.AB
