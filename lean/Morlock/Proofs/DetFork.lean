import Morlock.Proofs.DetSeed
import Morlock.Props.C08
import Morlock.Model.BoardGame
/-!
# C18: analysis runs on a fork; the search sees the fork exactly as it would see the engine's own board

`rebase w b` is the world the engine hands to the search (`Driver/Uci.lean`, `uciGoDepth`): the same arena with
board `b`, the fork, as board 0. Everything `boardGame z ev` reads of a world, hash included, is in the view
(`Proofs.Arena.view`) of board 0, so with any table the search cannot tell apart two worlds whose boards 0 have
equal views - such as the rebased fork and the engine's own world.
-/
namespace Morlock.Proofs.Det
open Morlock Morlock.Model Morlock.Model.World Morlock.Proofs Morlock.Proofs.Arena

/-- The search world: the arena of `w` with board `b` as the only board (board 0). -/
def rebase (w : World) (b : Nat) : World := { nodes := w.nodes, boards := #[w.board b] }

theorem rebase_node (w : World) (b j : Nat) : (rebase w b).node j = w.node j := rfl

theorem rebase_board (w : World) (b : Nat) : (rebase w b).board 0 = w.board b := by
  simp [rebase, World.board]

theorem rebase_cur (w : World) (b : Nat) : (rebase w b).cur 0 = w.cur b := by
  unfold World.cur
  rw [rebase_board]
  rfl

theorem wf_rebase {w : World} (hw : WFWorld w) {b : Nat} (hb : b < w.boards.size) : WFWorld (rebase w b) := by
  refine ⟨?_, hw.prev_lt⟩
  intro i hi
  have hi0 : i = 0 := by
    have : (rebase w b).boards.size = 1 := rfl
    omega
  subst hi0
  rw [rebase_board]
  exact hw.cur_lt b hb

theorem view_rebase (w : World) (b : Nat) : view (rebase w b) 0 = view w b := by
  have hanc : ∀ o, anc (rebase w b) o = anc w o := fun o => (anc_congr (fun j _ => rebase_node w b j)).2
  unfold view
  rw [rebase_cur, rebase_board, hanc]

/-- The relation "both worlds are well-formed, have a board 0, and board 0 has the same view". -/
def ViewRel (w1 w2 : World) : Prop :=
  WFWorld w1 ∧ WFWorld w2 ∧ 0 < w1.boards.size ∧ 0 < w2.boards.size ∧ view w1 0 = view w2 0

/-- Everything the search game reads is in the view. -/
theorem view_sim (z : ZTable) (ev : Position → Color → Int) :
    SimN (boardGame z ev) (boardGame z ev) (fun _ => ViewRel) :=
  simN_of_sameGame ev (fun {_ w1 _} h => show SameView (view w1 0) _ from h.2.2.2.2 ▸ SameView.refl _)
    fun {_ w1 w2} m ⟨hw1, hw2, hb1, hb2, hv⟩ _ => by
    have e1 := push_view hw1 (z := z) hb1 m
    have e2 := push_view hw2 (z := z) hb2 m
    rw [hv, ← e2] at e1
    refine ORel.intro (by simpa using congrArg Option.isSome e1) fun w1' w2' h1 h2 => ?_
    rw [h1, h2] at e1
    exact ⟨wf_push hw1 hb1 h1, wf_push hw2 hb2 h2, by rw [boards_size_push h1]; exact hb1,
      by rw [boards_size_push h2]; exact hb2, Option.some.inj e1⟩

/-- **The search is a function of the view of board 0** - with any table, any cancellation instant. -/
theorem search_of_view_eq (z : ZTable) (ev : Position → Color → Int) (ex : World → Explore) (le : LeafEval World)
    (hex : ExRel (fun _ => ViewRel) ex ex) (hle : LeRel (fun _ => ViewRel) le le) {w1 w2 : World}
    (h : ViewRel w1 w2) (d : Nat) (a b : Score) (st : SState) :
    alphaBetaSearch (boardGame z ev) ex le w1 d a b st = alphaBetaSearch (boardGame z ev) ex le w2 d a b st :=
  alphaBetaSearch_congr (view_sim z ev) (stRel_hash fun h => congrArg View.hash h.2.2.2.2) id hex hle (n := d + leafDepth le) h d
    (Nat.le_refl _) a b st rfl

theorem viewRel_fork {w : World} (hw : WFWorld w) (hb : 0 < w.boards.size) :
    ViewRel (rebase (w.fork 0).1 (w.fork 0).2) w := by
  have hf : (w.fork 0).2 < (w.fork 0).1.boards.size := by rw [fork_boards_size, fork_id]; omega
  refine ⟨wf_rebase (wf_fork hw 0) hf, hw, Nat.zero_lt_one, hb, ?_⟩
  rw [view_rebase, view_fork_new hw 0]

/-- Operation sequences of a depth-first traversal: every move is taken back after the subtree below it. -/
inductive Balanced : List Op → Prop
  | nil : Balanced []
  | node (m : Move) {sub rest : List Op} : Balanced sub → Balanced rest →
      Balanced (Op.push m :: (sub ++ Op.pop :: rest))

theorem above_balanced_append {ops : List Op} (h : Balanced ops) :
    ∀ (d : Nat) (tail : List Op), above d (ops ++ tail) = above d tail := by
  induction h with
  | nil => intro d tail; rfl
  | node m _ _ ih1 ih2 =>
    intro d tail
    simp only [List.cons_append, List.append_assoc, above, Op.depth]
    rw [ih1]
    simp only [above, Op.depth]
    exact ih2 d tail

theorem above_balanced {ops : List Op} (h : Balanced ops) (d : Nat) : above d ops = true := by
  have := above_balanced_append h d []
  rw [List.append_nil] at this
  rw [this]
  rfl

/-- A search interrupted midway: every prefix of a sequence that stays above does. -/
theorem above_prefix : ∀ (l1 l2 : List Op) (d : Nat), above d (l1 ++ l2) = true → above d l1 = true
  | [], _, _, _ => rfl
  | o :: r, l2, d, h => by
    simp only [List.cons_append, above] at h ⊢
    cases hd : o.depth d with
    | none => rw [hd] at h; cases h
    | some d' => rw [hd] at h; exact above_prefix r l2 d' h

end Morlock.Proofs.Det
