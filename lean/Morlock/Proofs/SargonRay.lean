import Morlock.Model.Sargon
import Morlock.Spec.Xray
import Morlock.Proofs.GenSpecNodup
import Morlock.Proofs.RepMove
/-!
# SARGON: rays in file and rank coordinates

The `i`-th square of `Spec.ray o sq df dr n` lies `i + 1` steps of `(df, dr)` away from `sq`, whatever the occupancy and the
fuel. What the SARGON proofs need of the geometry of the board follows from this one fact: a ray has at most seven squares, its
fuel is irrelevant from 8 on, and a square determines the direction of the ray it lies on. On any board a ray is the
empty-board ray cut after its first occupied square (`takeThrough`); lifting that man moves the cut to the next one.
-/
namespace Morlock.Proofs.Sargon
open Morlock Morlock.Model Morlock.Model.Sargon Morlock.Proofs.Attack Morlock.Proofs.Gen

theorem ray_succ (o : Nat → Bool) (sq : Nat) (df dr : Int) (n : Nat) :
    Spec.ray o sq df dr (n + 1) =
      match Spec.step sq df dr with
      | none => []
      | some s => if o s then [s] else s :: Spec.ray o s df dr n := rfl

/-- `x` is a square of the board, `k` steps of `(df, dr)` away from `sq` -/
def Off (sq : Nat) (df dr : Int) (k : Nat) (x : Nat) : Prop :=
  x < 64 ∧ (↑(x % 8) : Int) = ↑(sq % 8) + k * df ∧ (↑(x / 8) : Int) = ↑(sq / 8) + k * dr

theorem step_off {sq s : Nat} {df dr : Int} (h : Spec.step sq df dr = some s) : Off sq df dr 1 s := by
  rw [step_eq_some_iff] at h
  simp only [Off, Int.natCast_one, Int.one_mul]
  omega

theorem Off.succ {sq s x : Nat} {df dr : Int} {k : Nat} (h1 : Off sq df dr 1 s) (h : Off s df dr k x) :
    Off sq df dr (k + 1) x := by
  simp only [Off, Int.natCast_one, Int.one_mul, Int.natCast_add, Int.add_mul] at h1 h ⊢
  omega

theorem ray_getElem? (o : Nat → Bool) (df dr : Int) :
    ∀ (n sq i x : Nat), (Spec.ray o sq df dr n)[i]? = some x → Off sq df dr (i + 1) x := by
  intro n
  induction n with
  | zero => intro sq i x h; cases h
  | succ n ih =>
    intro sq i x h
    rw [ray_succ] at h
    cases hs : Spec.step sq df dr with
    | none => rw [hs] at h; cases h
    | some s =>
      simp only [hs] at h
      cases i with
      | zero =>
        have : s = x := by split at h <;> simpa using h
        exact this ▸ step_off hs
      | succ i =>
        split at h
        · cases h
        · exact (step_off hs).succ (ih s i x h)

theorem Off.le_seven {sq x : Nat} {df dr : Int} {k : Nat} (h : Off sq df dr k x) (hsq : sq < 64) (hd : df ≠ 0 ∨ dr ≠ 0) :
    k ≤ 7 := by
  obtain ⟨hx, h1, h2⟩ := h
  have key : ∀ (a b : Nat) (e : Int), e ≠ 0 → a < 8 → b < 8 → (a : Int) = b + k * e → k ≤ 7 := by
    intro a b e he ha hb hab
    have h3 : ((k : Int) * e).natAbs ≤ 7 := by omega
    rw [Int.natAbs_mul, Int.natAbs_natCast] at h3
    have h4 : 1 ≤ e.natAbs := by omega
    calc k = k * 1 := (Nat.mul_one k).symm
      _ ≤ k * e.natAbs := Nat.mul_le_mul_left _ h4
      _ ≤ 7 := h3
  rcases hd with hd | hd
  · exact key _ _ df hd (by omega) (by omega) h1
  · exact key _ _ dr hd (by omega) (by omega) h2

theorem ray_length_le_seven (o : Nat → Bool) {df dr : Int} (hd : df ≠ 0 ∨ dr ≠ 0) {sq : Nat} (hsq : sq < 64) (n : Nat) :
    (Spec.ray o sq df dr n).length ≤ 7 := by
  cases hL : (Spec.ray o sq df dr n).length with
  | zero => omega
  | succ L =>
    have hlt : L < (Spec.ray o sq df dr n).length := by omega
    exact (ray_getElem? o df dr n sq L _ (List.getElem?_eq_getElem hlt)).le_seven hsq hd

theorem mem_ray_of_step (o : Nat → Bool) {t f : Nat} {df dr : Int} (h : Spec.step t df dr = some f) (n : Nat) :
    f ∈ Spec.ray o t df dr (n + 1) := by
  rw [ray_succ, h]
  simp only []
  split <;> simp

theorem ray_add_fuel (o : Nat → Bool) (df dr : Int) (m : Nat) :
    ∀ (n sq : Nat), (Spec.ray o sq df dr n).length < n → Spec.ray o sq df dr (n + m) = Spec.ray o sq df dr n := by
  intro n
  induction n with
  | zero => intro sq h; cases h
  | succ n ih =>
    intro sq h
    rw [Nat.add_right_comm, ray_succ]
    rw [ray_succ] at h ⊢
    cases hs : Spec.step sq df dr with
    | none => rfl
    | some s =>
      simp only [hs] at h ⊢
      split
      · rfl
      · rename_i ho
        rw [if_neg ho, List.length_cons] at h
        rw [ih s (by omega)]

def noOcc : Nat → Bool := fun _ => false

theorem ray_tail (df dr : Int) {f : Nat} {S : List Nat} : ∀ (pre : List Nat) (n t : Nat),
    Spec.ray noOcc t df dr n = pre ++ f :: S → Spec.ray noOcc f df dr (n - (pre.length + 1)) = S := by
  intro pre
  induction pre with
  | nil =>
    intro n t h
    cases n with
    | zero => cases h
    | succ n =>
      rw [ray_succ] at h
      cases hs : Spec.step t df dr with
      | none => rw [hs] at h; cases h
      | some s =>
        rw [hs] at h
        change s :: Spec.ray noOcc s df dr n = f :: S at h
        obtain ⟨rfl, h'⟩ := List.cons.inj h
        exact h'
  | cons a pre ih =>
    intro n t h
    cases n with
    | zero => cases h
    | succ n =>
      rw [ray_succ] at h
      cases hs : Spec.step t df dr with
      | none => rw [hs] at h; cases h
      | some s =>
        rw [hs] at h
        change s :: Spec.ray noOcc s df dr n = a :: (pre ++ f :: S) at h
        have := ih n s (List.cons.inj h).2
        rwa [List.length_cons, Nat.add_sub_add_right]

/-- the list up to and including its first occupied square -/
def takeThrough (o : Nat → Bool) : List Nat → List Nat
  | [] => []
  | s :: rest => if o s then [s] else s :: takeThrough o rest

theorem ray_eq_takeThrough (o : Nat → Bool) (df dr : Int) :
    ∀ (n sq : Nat), Spec.ray o sq df dr n = takeThrough o (Spec.ray noOcc sq df dr n) := by
  intro n
  induction n with
  | zero => intro sq; rfl
  | succ n ih =>
    intro sq
    simp only [ray_succ]
    cases hs : Spec.step sq df dr with
    | none => rfl
    | some s =>
      have e : (if noOcc s = true then [s] else s :: Spec.ray noOcc s df dr n) = s :: Spec.ray noOcc s df dr n := rfl
      simp only [e, takeThrough, ih s]

theorem takeThrough_pre (o : Nat → Bool) (L : List Nat) :
    ∀ pre : List Nat, (∀ x ∈ pre, o x = false) → takeThrough o (pre ++ L) = pre ++ takeThrough o L := by
  intro pre
  induction pre with
  | nil => intro _; rfl
  | cons s pre ih =>
    intro h
    have hs : o s = false := h s (List.mem_cons_self ..)
    simp only [List.cons_append, takeThrough, hs, Bool.false_eq_true, if_false]
    rw [ih (fun x hx => h x (List.mem_cons_of_mem _ hx))]

theorem takeThrough_split (o : Nat → Bool) {pre : List Nat} {f : Nat} (S : List Nat) (hpre : ∀ x ∈ pre, o x = false)
    (hf : o f = true) : takeThrough o (pre ++ f :: S) = pre ++ [f] := by
  rw [takeThrough_pre o _ pre hpre]
  simp [takeThrough, hf]

theorem takeThrough_congr {o o' : Nat → Bool} : ∀ L : List Nat, (∀ x ∈ L, o x = o' x) → takeThrough o L = takeThrough o' L := by
  intro L
  induction L with
  | nil => intro _; rfl
  | cons s L ih =>
    intro h
    simp only [takeThrough, h s (List.mem_cons_self ..), ih (fun x hx => h x (List.mem_cons_of_mem _ hx))]

theorem takeThrough_all_empty (o : Nat → Bool) : ∀ L : List Nat, (∀ x ∈ L, o x = false) → takeThrough o L = L := by
  intro L h
  have := takeThrough_pre o [] L h
  simpa [takeThrough] using this

/-- a list of squares is empty throughout, or has a first man -/
theorem split_first (o : Nat → Bool) (S : List Nat) :
    (∀ x ∈ S, o x = false) ∨ ∃ mid s S', S = mid ++ s :: S' ∧ (∀ x ∈ mid, o x = false) ∧ o s = true := by
  have h := List.takeWhile_append_dropWhile (p := fun x => !o x) (l := S)
  have hall : ∀ x ∈ S.takeWhile (fun x => !o x), o x = false := fun x hx => by
    simpa using List.all_eq_true.mp List.all_takeWhile x hx
  cases hd : S.dropWhile (fun x => !o x) with
  | nil =>
    left
    rw [hd, List.append_nil] at h
    rwa [h] at hall
  | cons s S' =>
    right
    refine ⟨S.takeWhile (fun x => !o x), s, S', by rw [← hd]; exact h.symm, hall, ?_⟩
    have := List.head?_dropWhile_not (fun x => !o x) S
    rw [hd] at this
    simpa using this

theorem takeThrough_subset (o : Nat → Bool) (L : List Nat) (x : Nat) (h : x ∈ takeThrough o L) : x ∈ L := by
  rcases split_first o L with hall | ⟨mid, s, S', rfl, hmid, hs⟩
  · rwa [takeThrough_all_empty o L hall] at h
  · rw [takeThrough_split o S' hmid hs] at h
    rcases List.mem_append.mp h with h | h
    · exact List.mem_append_left _ h
    · exact List.mem_append_right _ (List.mem_cons.mpr (Or.inl (List.mem_singleton.mp h)))

theorem takeThrough_mem_occ (o : Nat → Bool) (E : List Nat) (x : Nat) (h : x ∈ takeThrough o E) (hx : o x = true) :
    ∃ pre S, E = pre ++ x :: S ∧ ∀ y ∈ pre, o y = false := by
  rcases split_first o E with hall | ⟨pre, s, S, rfl, hpre, hs⟩
  · rw [hall x (takeThrough_subset o E x h)] at hx; cases hx
  · rw [takeThrough_split o S hpre hs] at h
    rcases List.mem_append.mp h with h | h
    · rw [hpre x h] at hx; cases hx
    · obtain rfl : x = s := by simpa using h
      exact ⟨pre, S, rfl, hpre⟩

/-- the occupancy with square `f` lifted -/
def without (o : Nat → Bool) (f : Nat) : Nat → Bool := fun s => o s && decide (s ≠ f)

theorem without_apply (o : Nat → Bool) (f s : Nat) : without o f s = (o s && decide (s ≠ f)) := rfl

theorem takeThrough_lift {o : Nat → Bool} {pre S : List Nat} {f : Nat} (hnd : (pre ++ f :: S).Nodup)
    (hpre : ∀ x ∈ pre, o x = false) : takeThrough (without o f) (pre ++ f :: S) = pre ++ f :: takeThrough o S := by
  have hfS : f ∉ S := (List.nodup_cons.mp (List.nodup_append.mp hnd).2.1).1
  rw [takeThrough_pre _ _ pre (fun y hy => by simp [without, hpre y hy])]
  have h1 : without o f f = false := by simp [without]
  have h2 : takeThrough (without o f) S = takeThrough o S :=
    takeThrough_congr S (fun y hy => by
      have : y ≠ f := fun c => hfS (c ▸ hy)
      simp [without, this])
  simp only [takeThrough, h1, Bool.false_eq_true, if_false, h2]

theorem takeThrough_new {o : Nat → Bool} {E : List Nat} {f a : Nat} (hnd : E.Nodup) (ha : a ∈ takeThrough (without o f) E)
    (hold : a ∉ takeThrough o E) :
    ∃ pre S, E = pre ++ f :: S ∧ (∀ x ∈ pre, o x = false) ∧ o f = true ∧ a ∈ takeThrough o S := by
  rcases split_first o E with hall | ⟨pre, s, S, rfl, hpre, hs⟩
  · rw [takeThrough_all_empty o E hall] at hold
    rw [takeThrough_all_empty _ E (fun x hx => by simp [without, hall x hx])] at ha
    exact absurd ha hold
  · rw [takeThrough_split o S hpre hs] at hold
    by_cases hsf : s = f
    · subst hsf
      rw [takeThrough_lift hnd hpre] at ha
      refine ⟨pre, S, rfl, hpre, hs, ?_⟩
      rcases List.mem_append.mp ha with h | h
      · exact absurd (List.mem_append_left _ h) hold
      · rcases List.mem_cons.mp h with h | h
        · exact absurd (by rw [h]; simp) hold
        · exact h
    · rw [takeThrough_split (without o f) S (fun x hx => by simp [without, hpre x hx]) (by simp [without, hs, hsf])] at ha
      exact absurd ha hold

def IsLine (k : Spec.Kind) : Prop := k = .rook ∨ k = .bishop

def dirsOf : Spec.Kind → List (Int × Int)
  | .rook => Spec.rookDirs
  | .bishop => Spec.bishopDirs
  | _ => []

def sliderOf : Spec.Kind → Piece
  | .rook => .rook
  | .bishop => .bishop
  | _ => .none

theorem sliderOf_ne_none {k : Spec.Kind} (hk : IsLine k) : sliderOf k ≠ .none := by
  rcases hk with rfl | rfl <;> simp [sliderOf]

theorem mem_lineTargets {o : Nat → Bool} {k : Spec.Kind} (hk : IsLine k) {t x : Nat} :
    x ∈ Spec.officerTargets o k t ↔ ∃ d ∈ dirsOf k, x ∈ Spec.ray o t d.1 d.2 8 := by
  rcases hk with rfl | rfl <;> simp only [Spec.officerTargets, dirsOf, List.mem_flatMap, Prod.exists]

theorem dirsOf_sub {k : Spec.Kind} (hk : IsLine k) {d : Int × Int} (hd : d ∈ dirsOf k) : d ∈ Spec.rookDirs ++ Spec.bishopDirs := by
  rcases hk with rfl | rfl
  · exact List.mem_append_left _ hd
  · exact List.mem_append_right _ hd

theorem dir_ne_zero {d : Int × Int} (hd : d ∈ Spec.rookDirs ++ Spec.bishopDirs) : d.1 ≠ 0 ∨ d.2 ≠ 0 := by
  simp only [Spec.rookDirs, Spec.bishopDirs, List.cons_append, List.nil_append, List.mem_cons, List.not_mem_nil, or_false] at hd
  rcases hd with rfl | rfl | rfl | rfl | rfl | rfl | rfl | rfl <;> decide

theorem ray_nodup (o : Nat → Bool) {d : Int × Int} (hd : d ∈ Spec.rookDirs ++ Spec.bishopDirs) (n sq : Nat) :
    (Spec.ray o sq d.1 d.2 n).Nodup :=
  Gen.ray_nodup o (dir_ne_zero hd) n sq

theorem ray_suffix {t : Nat} (ht : t < 64) {d : Int × Int} (hd : d ∈ Spec.rookDirs ++ Spec.bishopDirs) {pre S : List Nat} {f : Nat}
    (hE : Spec.ray noOcc t d.1 d.2 8 = pre ++ f :: S) : Spec.ray noOcc f d.1 d.2 8 = S := by
  have hlen := ray_length_le_seven noOcc (dir_ne_zero hd) ht 8
  rw [hE, List.length_append, List.length_cons] at hlen
  have h := ray_tail d.1 d.2 pre 8 t hE
  have e : 8 = (8 - (pre.length + 1)) + (pre.length + 1) := by omega
  rw [e, ray_add_fuel noOcc d.1 d.2 _ _ f (by rw [h]; omega), h]

/-- **The reference's `lineDir` recovers kind and direction of the ray a square lies on**, on every board. -/
theorem lineDir_of_mem_ray {o : Nat → Bool} {k : Spec.Kind} (hk : IsLine k) {d : Int × Int} (hd : d ∈ dirsOf k) {n t x : Nat}
    (hx : x ∈ Spec.ray o t d.1 d.2 n) : Spec.lineDir t x = some (k, d.1, d.2) := by
  obtain ⟨a', ha', e1, e2⟩ := ray_coords n t hx
  have ha : (0 : Int) < a' := by omega
  generalize (a' : Int) = a at e1 e2 ha
  have hs : a.sign = 1 := Int.sign_eq_one_of_pos ha
  have hn : a ≠ 0 := by omega
  have hn' : a ≠ -a := by omega
  simp only [Spec.lineDir, Spec.fileOf, Spec.rankOf, e1, e2]
  rcases hk with rfl | rfl
  · simp only [dirsOf, Spec.rookDirs, List.mem_cons, List.not_mem_nil, or_false] at hd
    rcases hd with rfl | rfl | rfl | rfl <;> simp [hs, hn]
  · simp only [dirsOf, Spec.bishopDirs, List.mem_cons, List.not_mem_nil, or_false] at hd
    rcases hd with rfl | rfl | rfl | rfl <;> simp [hs, hn, hn']

theorem rays_disjoint {o o' : Nat → Bool} {k k' : Spec.Kind} (hk : IsLine k) (hk' : IsLine k') {d d' : Int × Int}
    (hd : d ∈ dirsOf k) (hd' : d' ∈ dirsOf k') {n n' t s : Nat} (h1 : s ∈ Spec.ray o t d.1 d.2 n)
    (h2 : s ∈ Spec.ray o' t d'.1 d'.2 n') : k = k' ∧ d = d' := by
  have e := (lineDir_of_mem_ray hk hd h1).symm.trans (lineDir_of_mem_ray hk' hd' h2)
  simp only [Option.some.injEq, Prod.mk.injEq] at e
  exact ⟨e.1, Prod.ext e.2.1 e.2.2⟩

theorem newVis_iff {o : Nat → Bool} {k : Spec.Kind} (hk : IsLine k) {t : Nat} {d : Int × Int} (hd : d ∈ dirsOf k)
    {f : Nat} {pre S : List Nat} (hE : Spec.ray noOcc t d.1 d.2 8 = pre ++ f :: S) (hpre : ∀ x ∈ pre, o x = false)
    (hf : o f = true) (x : Nat) :
    (x ∈ Spec.officerTargets (without o f) k t ∧ x ∉ Spec.officerTargets o k t) ↔ x ∈ takeThrough o S := by
  have hdd := dirsOf_sub hk hd
  have hnd : (pre ++ f :: S).Nodup := hE ▸ ray_nodup noOcc hdd 8 t
  have hnd' := List.nodup_append.mp hnd
  have hfS : f ∉ S := (List.nodup_cons.mp hnd'.2.1).1
  have hray_o : Spec.ray o t d.1 d.2 8 = pre ++ [f] := by
    rw [ray_eq_takeThrough, hE, takeThrough_split o S hpre hf]
  have hray_w : Spec.ray (without o f) t d.1 d.2 8 = pre ++ f :: takeThrough o S := by
    rw [ray_eq_takeThrough, hE, takeThrough_lift hnd hpre]
  constructor
  · rintro ⟨hnew, hold⟩
    obtain ⟨d', hd', hx⟩ := (mem_lineTargets hk).mp hnew
    have hold' : x ∉ Spec.ray o t d'.1 d'.2 8 := fun c => hold ((mem_lineTargets hk).mpr ⟨d', hd', c⟩)
    rw [ray_eq_takeThrough] at hx hold'
    obtain ⟨pre', S', hE', hpre', _, hxS⟩ := takeThrough_new (ray_nodup noOcc (dirsOf_sub hk hd') 8 t) hx hold'
    -- `f` lies on both empty-board rays: they are the same ray, cut at the same place
    have e := (rays_disjoint hk hk hd hd' (s := f) (by rw [hE]; simp) (by rw [hE']; simp)).2
    subst e
    rw [hE] at hE'
    have h1 := takeThrough_split o S hpre hf
    rw [hE', takeThrough_split o S' hpre' hf] at h1
    obtain rfl := List.append_inj_left' h1 rfl
    obtain rfl := (List.cons.inj (List.append_cancel_left hE')).2
    exact hxS
  · intro hx
    have hx_w : x ∈ Spec.ray (without o f) t d.1 d.2 8 := by
      rw [hray_w]; exact List.mem_append_right _ (List.mem_cons_of_mem _ hx)
    refine ⟨(mem_lineTargets hk).mpr ⟨d, hd, hx_w⟩, ?_⟩
    intro c
    obtain ⟨d', hd', hc⟩ := (mem_lineTargets hk).mp c
    have e := (rays_disjoint hk hk hd hd' hx_w hc).2
    subst e
    rw [hray_o] at hc
    have hxS := takeThrough_subset o S x hx
    rcases List.mem_append.mp hc with h | h
    · exact hnd'.2.2 x h x (List.mem_cons_of_mem _ hxS) rfl
    · have : x = f := by simpa using h
      exact hfS (this ▸ hxS)

theorem isSameRankOrFile_eq {a b : Nat} (ha : a < 64) (hb : b < 64) :
    isSameRankOrFile a b = (decide (a % 8 = b % 8) || decide (a / 8 = b / 8)) := by
  have e1 : a / 8 % 8 = a / 8 := by omega
  have e2 : b / 8 % 8 = b / 8 := by omega
  simp only [isSameRankOrFile, sqFile_eq, sqRank_eq, e1, e2]
  rfl

theorem isSameDiagonal_eq {a b : Nat} (ha : a < 64) (hb : b < 64) :
    isSameDiagonal a b = (decide ((↑(a % 8) : Int) - ↑(b % 8) = ↑(a / 8) - ↑(b / 8)) ||
      decide ((↑(a % 8) : Int) - ↑(b % 8) = -(↑(a / 8) - ↑(b / 8)))) := by
  have e1 : a / 8 % 8 = a / 8 := by omega
  have e2 : b / 8 % 8 = b / 8 := by omega
  simp only [isSameDiagonal, sqFile_eq, sqRank_eq, e1, e2]
  rfl

theorem sameLine_of_lineDir {t x : Nat} (hx : x < 64) (ht : t < 64) {k : Spec.Kind} {dd : Int × Int}
    (h : Spec.lineDir t x = some (k, dd)) :
    isSameRankOrFile x t = decide (k = .rook) ∧ isSameDiagonal x t = decide (k = .bishop) := by
  rw [isSameRankOrFile_eq hx ht, isSameDiagonal_eq hx ht]
  simp only [Spec.lineDir] at h
  split at h
  · cases h
  · split at h
    · rename_i c1 c2
      simp only [Spec.fileOf, Spec.rankOf] at c1 c2
      cases h; constructor <;> simp <;> omega
    · split at h
      · rename_i c1 c2 c3
        simp only [Spec.fileOf, Spec.rankOf] at c1 c2 c3
        cases h; constructor <;> simp <;> omega
      · cases h

theorem knightTarget_off_lines (o : Nat → Bool) {f t : Nat} (hf : f < 64) (h : t ∈ Spec.officerTargets o .knight f) :
    isSameRankOrFile f t = false ∧ isSameDiagonal f t = false ∧ Spec.lineDir t f = none := by
  obtain ⟨⟨df, dr⟩, hj, hs⟩ := List.mem_filterMap.mp h
  obtain ⟨ht, h1, h2⟩ := step_off hs
  have hj' : df ≠ 0 ∧ dr ≠ 0 ∧ df ≠ dr ∧ df ≠ -dr := by
    simp only [Spec.knightJumps, List.mem_cons, List.not_mem_nil, or_false, Prod.mk.injEq] at hj
    rcases hj with ⟨rfl, rfl⟩ | ⟨rfl, rfl⟩ | ⟨rfl, rfl⟩ | ⟨rfl, rfl⟩ | ⟨rfl, rfl⟩ | ⟨rfl, rfl⟩ | ⟨rfl, rfl⟩ | ⟨rfl, rfl⟩ <;> decide
  have e1 : (↑(f % 8) : Int) - ↑(t % 8) = -df := by omega
  have e2 : (↑(f / 8) : Int) - ↑(t / 8) = -dr := by omega
  rw [isSameRankOrFile_eq hf ht, isSameDiagonal_eq hf ht]
  simp only [Spec.lineDir, Spec.fileOf, Spec.rankOf, e1, e2]
  refine ⟨?_, ?_, ?_⟩
  · simp; omega
  · simp; omega
  · rw [if_neg (by omega), if_neg (by omega), if_neg (by omega)]

theorem pawnTarget_step_back {f t : Nat} (hf : f < 64) {c : Spec.Color} (h : t ∈ Spec.pawnTargets c f) :
    ∃ d ∈ Spec.bishopDirs, Spec.step t d.1 d.2 = some f := by
  rcases mem_pawnTargets_iff.mp h with h | h
  · exact ⟨(-1, -Spec.fwd c), by cases c <;> decide, step_rev hf h⟩
  · exact ⟨(- -1, -Spec.fwd c), by cases c <;> decide, step_rev hf h⟩

end Morlock.Proofs.Sargon
