import Morlock.Proofs.AttackBits
/-!
# The transcribed `scan` loop walks exactly the reference `ray` (symbolic, all line states)

`scan_ray` is a lock-step simulation: the Go loop index `i` and the reference ray's current square
advance together. Its geometric side conditions are decidable per (square, index) and are bundled
in `geoOK`, which the `AttackGeo*` files discharge by kernel evaluation over all 64 squares; the
occupancy side condition comes from the rotated-bitboard invariant (`AttackRot`).
-/
namespace Morlock.Proofs.Attack
open Morlock Morlock.Model Morlock.Spec

/-- Lock-step simulation of the Go loop and the reference ray. `pos i` is the square the ray stands
    on when the loop is about to handle index `i`; indices below `start` are never visited. -/
theorem scan_ray (occ : Nat → Bool) (df dr : Int) (hi start : Nat) (cell bit pos : Nat → Nat) (state : Nat)
    (hgeo : ∀ i, start ≤ i → i < hi → step (pos i) df dr = some (cell i) ∧ pos (i + 1) = cell i ∧
      cell i < 64 ∧ occ (cell i) = (bitMask (bit i) &&& state != 0))
    (hend : step (pos hi) df dr = none) :
    ∀ fuel i tmp, start ≤ i → i ≤ hi →
      scan hi cell bit state fuel i tmp = tmp ||| toBB (ray occ (pos i) df dr fuel) := by
  intro fuel
  induction fuel with
  | zero => intro i tmp _ _; simp [scan, ray]
  | succ fuel ih =>
    intro i tmp hs hle
    unfold scan ray
    by_cases h : i < hi
    · obtain ⟨h1, h2, h3, h4⟩ := hgeo i hs h
      simp only [h, if_true, h1, h4]
      by_cases hb : (bitMask (bit i) &&& state != 0) = true
      · simp only [hb, if_true]
        rw [toBB_singleton, bitMask_eq' h3]
      · simp only [hb]
        rw [ih (i + 1) _ (by omega) (by omega), h2]
        simp only [Bool.false_eq_true, if_false]
        rw [toBB_cons, bitMask_eq' h3, Nat.or_assoc]
    · have e : i = hi := by omega
      subst e
      simp [h, hend]

/-- `step sq df dr = some t` for `t` on the board, tested in `Nat` with `df = fp - fn`, `dr = rp - rn`
    (the kernel is slow on `Int`). -/
def stepIs (sq t fp fn rp rn : Nat) : Bool :=
  decide (sq % 8 + fp = t % 8 + fn) && decide (sq / 8 + rp = t / 8 + rn)

theorem step_of_stepIs {sq t : Nat} {df dr : Int} (ht : t < 64)
    (h : stepIs sq t df.toNat (-df).toNat dr.toNat (-dr).toNat = true) : step sq df dr = some t := by
  simp only [stepIs, Bool.and_eq_true, decide_eq_true_eq] at h
  have h8 := Nat.mod_lt t (by decide : 8 > 0)
  have hd : t / 8 < 8 := Nat.div_lt_of_lt_mul ht
  have hdm := Nat.div_add_mod t 8
  rw [← Int.toNat_sub_toNat_neg df, ← Int.toNat_sub_toNat_neg dr]
  generalize df.toNat = fp, (-df).toNat = fn, dr.toNat = rp, (-dr).toNat = rn at h
  unfold step fileOf rankOf mkSq
  generalize sq % 8 = a, sq / 8 = b, t % 8 = c, t / 8 = d at h h8 hd hdm ⊢
  have hf : (a + (fp - fn) : Int) = c := by omega
  have hr : (b + (rp - rn) : Int) = d := by omega
  simp only [hf, hr, Int.toNat_natCast]
  rw [if_pos (by omega), hdm]

/-- One transcribed loop together with the reference direction it is meant to walk. -/
structure ScanSpec where
  hi : Nat
  cell : Nat → Nat
  bit : Nat → Nat
  start : Nat
  df : Int
  dr : Int

/-- Square the reference ray stands on before the loop handles index `i`. -/
def ScanSpec.pos (S : ScanSpec) (sq : Nat) (i : Nat) : Nat := if i ≤ S.start then sq else S.cell (i - 1)

/-- The decidable geometric side conditions for one loop on one square: every loop index below `hi`
    is one reference step further, lies on the board, and sits at bit `off + bit i` of the rotated
    board through table `tbl` and inside `mask`; at `hi` the reference ray leaves the board. -/
def geoOK (S : ScanSpec) (sq : Nat) (tbl : Nat → Nat) (off mask : Nat) : Bool :=
  decide (S.start ≤ S.hi) &&
  decide (step (S.pos sq S.hi) S.df S.dr = none) &&
  allBelow S.hi fun i =>
    decide (i < S.start) ||
      (stepIs (S.pos sq i) (S.cell i) S.df.toNat (-S.df).toNat S.dr.toNat (-S.dr).toNat &&
        decide (S.cell i < 64) && decide (S.bit i < 64) && decide (tbl (S.cell i) = off + S.bit i) &&
        mask.testBit (S.bit i))

theorem scan_eq_ray (S : ScanSpec) (sq : Nat) (tbl : Nat → Nat) (off mask occ rotX : Nat)
    (hgeo : geoOK S sq tbl off mask = true)
    (hinv : ∀ s, s < 64 → rotX.testBit (tbl s) = occ.testBit s) (tmp : Nat) :
    scan S.hi S.cell S.bit ((rotX >>> off) &&& mask) 8 S.start tmp =
      tmp ||| toBB (ray (fun s => occ.testBit s) sq S.df S.dr 8) := by
  simp only [geoOK, Bool.and_eq_true, decide_eq_true_eq] at hgeo
  obtain ⟨⟨hstart, hend⟩, hall⟩ := hgeo
  have hall := allBelow_spec hall
  have key := scan_ray (fun s => occ.testBit s) S.df S.dr S.hi S.start S.cell S.bit
    (S.pos sq) ((rotX >>> off) &&& mask) ?_ hend 8 S.start tmp (Nat.le_refl _) hstart
  · simpa [ScanSpec.pos] using key
  · intro i hs hi
    have h := hall i hi
    simp only [Bool.or_eq_true, Bool.and_eq_true, decide_eq_true_eq] at h
    rcases h with h | ⟨⟨⟨⟨h1, h2⟩, h3⟩, h4⟩, h5⟩
    · omega
    · refine ⟨step_of_stepIs h2 h1, ?_, h2, ?_⟩
      · simp only [ScanSpec.pos]; rw [if_neg (by omega)]; rfl
      · rw [bitMask_and_ne_zero _ h3, lineState_testBit, h5, Bool.and_true, ← h4, hinv _ h2]

end Morlock.Proofs.Attack
