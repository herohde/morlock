import Morlock.Proofs.FltFacts
/-!
# SARGON: the float32 facts used by `Points.Evaluate`

An `add`/`mul`/`div`-by-a-positive-integer whose exact result is at most `2^k ≤ 2^127` in magnitude is finite, and the
rounded result is still at most `2^k` (a power of two is a float32): `add_ok`, `mul_ok`, `div_ok`.
-/
namespace Morlock.Proofs.Sargon
open Morlock Morlock.Model Morlock.Model.Flt

def AbsLe (x : Q) (B : Nat) : Prop := x.num.natAbs ≤ B * x.den

theorem absLe_iff (x : Q) (B : Nat) : AbsLe x B ↔ Q.AbsLe x B := Iff.rfl

theorem rnd_pow_bound {x : Q} {k : Nat} (hk : k ≤ 127) (hd : 0 < x.den) (hb : AbsLe x (2 ^ k)) :
    ∃ z, rnd f32 x = some z ∧ 0 < z.den ∧ AbsLe z (2 ^ k) := by
  obtain ⟨z, hz⟩ := Option.isSome_iff_exists.mp
    (rnd_isSome_of_absLe f32 f32_wf (by decide) hd hb (Nat.pow_le_pow_right (by decide) hk))
  exact ⟨z, hz, (rnd_canon f32 hz).1, rnd32_facts_abs_le x z k hk hd hb hz⟩

theorem add_ok {x y : Q} {A B k : Nat} (hx : 0 < x.den) (hy : 0 < y.den) (ha : AbsLe x A) (hb : AbsLe y B) (hAB : A + B ≤ 2 ^ k)
    (hk : k ≤ 127) : ∃ z, Flt.add f32 x y = some z ∧ 0 < z.den ∧ AbsLe z (2 ^ k) :=
  rnd_pow_bound hk (Q.add_canon hx hy).1 (Q.AbsLe.mono (Q.AbsLe.add hx hy ha hb) hAB)

theorem mul_ok {x y : Q} {A B k : Nat} (hx : 0 < x.den) (hy : 0 < y.den) (ha : AbsLe x A) (hb : AbsLe y B) (hAB : A * B ≤ 2 ^ k)
    (hk : k ≤ 127) : ∃ z, Flt.mul f32 x y = some z ∧ 0 < z.den ∧ AbsLe z (2 ^ k) :=
  rnd_pow_bound hk (Q.mul_canon hx hy).1 (Q.AbsLe.mono (Q.AbsLe.mul hx hy ha hb) hAB)

/-- division by a positive integer does not increase the magnitude -/
theorem div_ok {x : Q} {d : Int} {A k : Nat} (hx : 0 < x.den) (hd : 0 < d) (ha : AbsLe x A) (hA : A ≤ 2 ^ k) (hk : k ≤ 127) :
    ∃ z, Flt.div f32 x (Q.ofInt d) = some z ∧ 0 < z.den ∧ AbsLe z (2 ^ k) := by
  have hy0 : (Q.ofInt d).num ≠ 0 := by simp only [Q.ofInt]; omega
  have hne : ((Q.ofInt d).num == 0) = false := by simpa using hy0
  unfold Flt.div
  rw [hne]
  simp only [Bool.false_eq_true, if_false]
  apply rnd_pow_bound hk (Q.div_canon hx hy0).1
  rw [Q.div_eq]
  have hdp := Q.divRaw_den_pos hx hy0
  apply Q.AbsLe.norm hdp
  obtain ⟨e1, e2⟩ := Q.divRaw_abs x (Q.ofInt d)
  unfold Q.AbsLe
  rw [e1, e2]
  simp only [Q.ofInt, Nat.mul_one]
  have h1 : 1 ≤ d.natAbs := by omega
  calc x.num.natAbs ≤ A * x.den := ha
    _ ≤ 2 ^ k * x.den := Nat.mul_le_mul_right _ hA
    _ = 2 ^ k * (x.den * 1) := by rw [Nat.mul_one]
    _ ≤ 2 ^ k * (x.den * d.natAbs) := Nat.mul_le_mul_left _ (Nat.mul_le_mul_left _ h1)

end Morlock.Proofs.Sargon
