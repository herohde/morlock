import Morlock.Proofs.MirrorLegal
import Morlock.Proofs.MirrorModel
import Morlock.Props.C01
/-!
# C20: mirror symmetry of the engine's legal moves (through C01)

The abstraction of a `WF` position satisfies the hypotheses of `Spec.legalMoves_mirror` (64 cells, at most
one king a side). Hence, if `q` is a `WF` position whose abstraction is the mirror image of that of `p`,
the engine's legal moves in `q` are, read through `absMove`, the mirror images of its legal moves in `p`.
-/
namespace Morlock.Proofs.Mirror
open Morlock Morlock.Model Morlock.Proofs Morlock.Proofs.Gen

theorem abs_size (p : Position) (turn : Color) : (abs p turn).board.size = 64 := by
  rw [abs_board]; exact absBoard_size _

theorem sym_abs {p : Position} {turn : Color} (hw : WF p turn) : Spec.Sym (abs p turn) where
  size := abs_size p turn
  kings := by
    intro c s1 s2 _ _ a1 a2
    obtain ⟨c0, rfl⟩ : ∃ c0, c = absColor c0 := by
      cases c
      · exact ⟨.white, rfl⟩
      · exact ⟨.black, rfl⟩
    exact hw.wfb.king_unique c0 s1 s2 ((hw.rep.abs_at_iff turn s1 c0 .king).mp a1)
      ((hw.rep.abs_at_iff turn s2 c0 .king).mp a2)

theorem model_legalMoves_mirror {p q : Position} {turn : Color} (hp : WF p turn) (hq : WF q turn.opp)
    (habs : abs q turn.opp = Spec.mirror (abs p turn)) :
    ((q.legalMoves turn.opp).map absMove).Perm (((p.legalMoves turn).map absMove).map Spec.mirrorMove) := by
  have h1 := Props.C01.legal_perm hq
  rw [habs] at h1
  have h2 := Spec.legalMoves_mirror (sym_abs hp).size ((sym_abs hp).kings _)
  exact h1.trans (h2.trans ((Props.C01.legal_perm hp).symm.map _))

theorem abs_eq_mirror {p q : Position} {b : Board} (hp : Rep p b) (hq : Rep q (mirrorBoard b)) (turn : Color)
    (hwk : (q.castling &&& wK != 0) = (p.castling &&& bK != 0))
    (hwq : (q.castling &&& wQ != 0) = (p.castling &&& bQ != 0))
    (hbk : (q.castling &&& bK != 0) = (p.castling &&& wK != 0))
    (hbq : (q.castling &&& bQ != 0) = (p.castling &&& wQ != 0))
    (hep0 : p.enpassant = 0 → q.enpassant = 0)
    (hep1 : p.enpassant ≠ 0 → q.enpassant = Spec.mirrorSq p.enpassant ∧ q.enpassant ≠ 0) :
    abs q turn.opp = Spec.mirror (abs p turn) := by
  refine Spec.Pos.ext' (Spec.arr_ext64 (abs_size _ _) (Spec.mirror_board_size _) fun i hi =>
    abs_at_mirror hp hq turn hi) (absColor_opp turn) hwk hwq hbk hbq ?_
  show (if q.enpassant = 0 then none else some q.enpassant) =
    (if p.enpassant = 0 then none else some p.enpassant).map Spec.mirrorSq
  by_cases h0 : p.enpassant = 0
  · rw [if_pos h0, if_pos (hep0 h0)]; rfl
  · obtain ⟨h1, h2⟩ := hep1 h0
    rw [if_neg h0, if_neg h2, h1]; rfl

end Morlock.Proofs.Mirror
