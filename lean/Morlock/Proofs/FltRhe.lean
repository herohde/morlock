import Morlock.Proofs.FltPow
/-! # `roundHalfEven a b`: the integer nearest to `a / b`, ties to even -/
namespace Morlock.Model.Flt

theorem rhe_spec_tie (a b : Nat) (hb : 0 < b) :
    (2 * roundHalfEven a b * b ≤ 2 * a + b ∧ 2 * a ≤ 2 * roundHalfEven a b * b + b) ∧
    (2 * roundHalfEven a b * b = 2 * a + b ∨ 2 * a = 2 * roundHalfEven a b * b + b → roundHalfEven a b % 2 = 0) := by
  generalize hm : roundHalfEven a b = m
  unfold roundHalfEven at hm
  simp only [] at hm
  have ha := Nat.div_add_mod a b
  have hr := Nat.mod_lt a hb
  generalize a / b = q at *
  generalize a % b = r at *
  subst ha
  have hqb : 2 * (q + 1) * b = 2 * (b * q) + 2 * b := by rw [Nat.mul_add, Nat.add_mul, Nat.mul_one]; ac_rfl
  have hqb' : 2 * q * b = 2 * (b * q) := by ac_rfl
  split at hm
  · subst hm; omega
  · split at hm
    · subst hm; omega
    · split at hm
      · rename_i hpar
        have : q % 2 = 0 := by simpa using hpar
        subst hm; omega
      · rename_i hpar
        have : q % 2 = 1 := by simp at hpar; omega
        subst hm; omega

theorem rhe_spec (a b : Nat) (hb : 0 < b) :
    2 * roundHalfEven a b * b ≤ 2 * a + b ∧ 2 * a ≤ 2 * roundHalfEven a b * b + b :=
  (rhe_spec_tie a b hb).1

theorem rhe_tie (a b : Nat) (hb : 0 < b)
    (h : 2 * roundHalfEven a b * b = 2 * a + b ∨ 2 * a = 2 * roundHalfEven a b * b + b) :
    roundHalfEven a b % 2 = 0 :=
  (rhe_spec_tie a b hb).2 h

theorem rhe_lt {a b k : Nat} (hb : 0 < b) (h : 2 * a + b < 2 * k * b) : roundHalfEven a b < k := by
  have := Nat.lt_of_mul_lt_mul_right (Nat.lt_of_le_of_lt (rhe_spec a b hb).1 h)
  omega

theorem rhe_exact (k b : Nat) (hb : 0 < b) : roundHalfEven (k * b) b = k := by
  unfold roundHalfEven
  simp [Nat.mul_mod_left, Nat.mul_div_cancel _ hb, hb]

/-- Nearest-even roundings are ordered like what they round, whatever computes them, on any strictly increasing scale `φ` of
the half units (`id` for `roundHalfEven`, the square for the root): `M' < M` squeezes
`φ(2M−1)·s₂s₂' ≤ s₁s₂' ≤ s₁'s₂ ≤ φ(2M'+1)·s₂s₂'` to equalities, two ties with `M = M' + 1`, which cannot both be even. -/
theorem nearestEven_mono (φ : Nat → Nat) (hφ : ∀ x y, x < y → φ x < φ y) {s1 s2 s1' s2' M M' : Nat}
    (hs2 : 0 < s2) (hs2' : 0 < s2') (hrs : s1 * s2' ≤ s1' * s2)
    (lo : M = 0 ∨ φ (2 * M - 1) * s2 ≤ s1) (tie : 1 ≤ M → φ (2 * M - 1) * s2 = s1 → M % 2 = 0)
    (hi' : s1' ≤ φ (2 * M' + 1) * s2') (tie' : 1 ≤ M' → s1' = φ (2 * M' + 1) * s2' → M' % 2 = 0) : M ≤ M' := by
  apply Nat.le_of_not_lt
  intro hlt
  have c2 : φ (2 * M - 1) * s2 * s2' ≤ s1 * s2' := Nat.mul_le_mul_right _ (lo.resolve_left (by omega))
  have c4 : s1' * s2 ≤ φ (2 * M' + 1) * s2' * s2 := Nat.mul_le_mul_right _ hi'
  have hcomm := Nat.mul_right_comm (φ (2 * M - 1)) s2' s2
  have eM : 2 * M - 1 = 2 * M' + 1 := by
    apply Nat.le_antisymm _ (by omega)
    apply Nat.le_of_not_lt
    intro h
    have := (Nat.mul_lt_mul_right hs2).mpr ((Nat.mul_lt_mul_right hs2').mpr (hφ _ _ h))
    omega
  rw [eM] at c2 hcomm tie
  have ev := tie (by omega) (Nat.eq_of_mul_eq_mul_right hs2' (by omega))
  rcases Nat.eq_zero_or_pos M' with h0 | h0
  · omega
  · have ev' := tie' h0 (Nat.eq_of_mul_eq_mul_right hs2 (by omega))
    omega

theorem rhe_mono {a b a' b' : Nat} (hb : 0 < b) (hb' : 0 < b') (h : a * b' ≤ a' * b) :
    roundHalfEven a b ≤ roundHalfEven a' b' := by
  obtain ⟨⟨lo, _⟩, tie⟩ := rhe_spec_tie a b hb
  obtain ⟨⟨_, hi'⟩, tie'⟩ := rhe_spec_tie a' b' hb'
  generalize roundHalfEven a b = m at *
  generalize roundHalfEven a' b' = m' at *
  -- the bounds in half units: `(2m − 1)·b ≤ 2a` and `2a' ≤ (2m' + 1)·b'`
  have e1 : 1 ≤ m → (2 * m - 1) * b + b = 2 * m * b := fun hm => by
    rw [← Nat.succ_mul, Nat.succ_eq_add_one, Nat.sub_add_cancel (by omega)]
  have e2 : (2 * m' + 1) * b' = 2 * m' * b' + b' := by rw [Nat.add_mul, Nat.one_mul]
  refine nearestEven_mono id (fun _ _ h => h) hb hb' (s1 := 2 * a) (s1' := 2 * a')
    (by rw [Nat.mul_assoc, Nat.mul_assoc]; exact Nat.mul_le_mul_left 2 h) ?_ ?_ (e2 ▸ hi') ?_
  · rcases Nat.eq_zero_or_pos m with h0 | h0
    · exact Or.inl h0
    · have := e1 h0; right; simp only [id]; omega
  · intro hm t
    have := e1 hm
    simp only [id] at t
    exact tie (Or.inl (by omega))
  · intro _ t
    simp only [id] at t
    exact tie' (Or.inr (by omega))

theorem rhe_congr {a b a' b' : Nat} (hb : 0 < b) (hb' : 0 < b') (h : a * b' = a' * b) :
    roundHalfEven a b = roundHalfEven a' b' :=
  Nat.le_antisymm (rhe_mono hb hb' (Nat.le_of_eq h)) (rhe_mono hb' hb (Nat.le_of_eq h.symm))

theorem rhe_le {a b k : Nat} (hb : 0 < b) (h : a ≤ k * b) : roundHalfEven a b ≤ k := by
  have := rhe_mono (a := a) (b := b) (a' := k * b) (b' := b) hb hb (Nat.mul_le_mul_right _ h)
  rwa [rhe_exact k b hb] at this

theorem le_rhe {a b k : Nat} (hb : 0 < b) (h : k * b ≤ a) : k ≤ roundHalfEven a b := by
  have := rhe_mono (a := k * b) (b := b) (a' := a) (b' := b) hb hb (Nat.mul_le_mul_right _ h)
  rwa [rhe_exact k b hb] at this

end Morlock.Model.Flt
