import Morlock.Proofs.ConcTT
/-!
# Non-overlapping runs of the concurrent table agree with the sequential model `Model/TT.lean`
-/
namespace Morlock.Proofs.ConcTT
open Morlock Morlock.Model Morlock.Model.TTConc

variable {π : Type}

/-- `k` consecutive steps of thread `i`, on the pair (shared state, thread) -/
def iterT (i : Nat) : Nat → State π × Thread π → State π × Thread π
  | 0, x => x
  | k + 1, x => iterT i k (stepT true x.1 i x.2)

theorem stepT_withThreads (b : Bool) (s : State π) (i : Nat) (t : Thread π) (x : List (Thread π)) :
    stepT b { s with threads := x } i t =
      ({ (stepT b s i t).1 with threads := x }, (stepT b s i t).2) := by
  -- an `if` between two results that commute with replacing `threads` commutes with it
  have hite : ∀ (c : Prop) [Decidable c] (a a' d d' : State π × Thread π),
      a' = ({ a.1 with threads := x }, a.2) → d' = ({ d.1 with threads := x }, d.2) →
      (if c then a' else d') = ({ (if c then a else d).1 with threads := x }, (if c then a else d).2) := by
    intro c _ a a' d d' ha hd; split <;> assumption
  obtain ⟨pc, calls⟩ := t
  cases pc with
  | call =>
    match calls with
    | [] => rfl
    | .read _ :: _ => rfl
    | .write .. :: _ => rfl
  | w0 f => rfl
  | w1 f p => exact hite _ _ _ _ _ rfl rfl
  | w2 f p => exact hite _ _ _ _ _ (hite _ _ _ _ _ rfl rfl) rfl
  | w3 f => cases b <;> rfl
  | w3b f tmp => rfl

theorem iterT_withThreads (i : Nat) (k : Nat) (s : State π) (t : Thread π) (x : List (Thread π)) :
    iterT i k ({ s with threads := x }, t) =
      ({ (iterT i k (s, t)).1 with threads := x }, (iterT i k (s, t)).2) := by
  induction k generalizing s t with
  | zero => rfl
  | succ k ih =>
    simp only [iterT]
    rw [stepT_withThreads]
    exact ih _ _

theorem run_replicate (s : State π) (i : Nat) (t : Thread π) (ht : s.threads[i]? = some t) (k : Nat) :
    run s (List.replicate k i) =
      { (iterT i k (s, t)).1 with threads := s.threads.set i (iterT i k (s, t)).2 } := by
  induction k generalizing s t with
  | zero =>
    simp only [List.replicate, run_nil, iterT]
    rw [set_self_of_getElem? ht]
  | succ k ih =>
    have hlt : i < s.threads.length := by
      rcases List.getElem?_eq_some_iff.1 ht with ⟨h, _⟩; exact h
    rw [List.replicate_succ, run_cons]
    rcases step_eq s i with ⟨hn, _⟩ | ⟨t', ht', he⟩
    · rw [hn] at ht; cases ht
    rw [ht] at ht'; cases ht'
    rw [he]
    have hth : ({ (stepT true s i t).1 with threads := s.threads.set i (stepT true s i t).2 } : State π).threads[i]? =
        some (stepT true s i t).2 := List.getElem?_set_self hlt
    rw [ih _ _ hth]
    simp only [iterT]
    rw [iterT_withThreads]
    simp only [List.set_set]

theorem samePtr_self (a : Option (Node π)) : samePtr a a = true := by simp [samePtr]

/-- number of steps the call `c` takes when run without interference from state `s` -/
def callLen (s : State π) : Call π → Nat
  | .read _ => 1
  | .write h _ v =>
    if valOf (slotAt s (key s h)) > v then 3
    else if (slotAt s (key s h)).isNone then 5 else 4

theorem stepT_call_read (s : State π) (i h : Nat) (cs : List (Call π)) :
    stepT true s i ⟨.call, .read h :: cs⟩ =
      ({ s with trace := .readRet i h (readResult (slotAt s (key s h)) h) :: s.trace }, ⟨.call, cs⟩) := rfl

theorem stepT_call_write (s : State π) (i h : Nat) (p : π) (v : Nat) (cs : List (Call π)) :
    stepT true s i ⟨.call, .write h p v :: cs⟩ =
      ({ s with nextId := s.nextId + 1 }, ⟨.w0 ⟨s.nextId, h, p, v⟩, .write h p v :: cs⟩) := rfl

theorem stepT_w0 (s : State π) (i : Nat) (f : Node π) (cs : List (Call π)) :
    stepT true s i ⟨.w0 f, cs⟩ = (s, ⟨.w1 f (slotAt s (key s f.hash)), cs⟩) := rfl

theorem stepT_w1_gt (s : State π) (i : Nat) (f : Node π) (q : Option (Node π)) (cs : List (Call π))
    (h : valOf q > f.val) : stepT true s i ⟨.w1 f q, cs⟩ = (logWrite s i f false, ⟨.call, cs.tail⟩) :=
  if_pos h

theorem stepT_w1_le (s : State π) (i : Nat) (f : Node π) (q : Option (Node π)) (cs : List (Call π))
    (h : ¬ valOf q > f.val) : stepT true s i ⟨.w1 f q, cs⟩ = (s, ⟨.w2 f q, cs⟩) :=
  if_neg h

theorem stepT_w2_none (s : State π) (i : Nat) (f : Node π) (cs : List (Call π))
    (h : slotAt s (key s f.hash) = none) :
    stepT true s i ⟨.w2 f none, cs⟩ = (publish s i f, ⟨.w3 f, cs⟩) := by
  simp [stepT, casOk, h, samePtr_self]

theorem stepT_w2_some (s : State π) (i : Nat) (f m : Node π) (cs : List (Call π))
    (h : slotAt s (key s f.hash) = some m) :
    stepT true s i ⟨.w2 f (some m), cs⟩ = (logWrite (publish s i f) i f true, ⟨.call, cs.tail⟩) := by
  simp [stepT, casOk, h, samePtr_self, Thread.ret]

theorem stepT_w3 (s : State π) (i : Nat) (f : Node π) (cs : List (Call π)) :
    stepT true s i ⟨.w3 f, cs⟩ = (logWrite { s with used := s.used + 1 } i f true, ⟨.call, cs.tail⟩) := rfl

theorem iterT_read (s : State π) (i : Nat) (h : Nat) (cs : List (Call π)) :
    iterT i 1 (s, ⟨.call, .read h :: cs⟩) =
      ({ s with trace := .readRet i h (readResult (slotAt s (key s h)) h) :: s.trace }, ⟨.call, cs⟩) := rfl

theorem iterT_write_skip (s : State π) (i : Nat) (h : Nat) (p : π) (v : Nat) (cs : List (Call π))
    (hv : valOf (slotAt s (key s h)) > v) :
    iterT i 3 (s, ⟨.call, .write h p v :: cs⟩) =
      ({ s with nextId := s.nextId + 1, trace := .writeRet i h p v false :: s.trace }, ⟨.call, cs⟩) := by
  simp only [iterT]
  rw [stepT_call_write]; simp only
  rw [stepT_w0]; simp only
  rw [stepT_w1_gt _ _ _ _ _ (by exact hv)]
  rfl

theorem iterT_write_ok (s : State π) (i : Nat) (h : Nat) (p : π) (v : Nat) (cs : List (Call π))
    (q : Option (Node π)) (he : slotAt s (key s h) = q) (hv : ¬ valOf q > v) :
    iterT i (if q.isNone then 5 else 4) (s, ⟨.call, .write h p v :: cs⟩) =
      ({ s with slots := s.slots.set (key s h) (some ⟨s.nextId, h, p, v⟩),
                used := if q.isNone then s.used + 1 else s.used, nextId := s.nextId + 1,
                trace := .writeRet i h p v true :: .cas i (key s h) q ⟨s.nextId, h, p, v⟩ :: s.trace },
       ⟨.call, cs⟩) := by
  have he' : slotAt { s with nextId := s.nextId + 1 } (key { s with nextId := s.nextId + 1 } h) = q := he
  cases q with
  | none =>
    simp only [Option.isNone_none, if_true, iterT]
    rw [stepT_call_write]; simp only
    rw [stepT_w0]; simp only
    rw [he', stepT_w1_le _ _ _ _ _ hv]; simp only
    rw [stepT_w2_none _ _ _ _ he']; simp only
    rw [stepT_w3]
    simp only [publish, logWrite, List.tail_cons]
    rw [he']
    rfl
  | some m =>
    simp only [Option.isNone_some, Bool.false_eq_true, if_false, iterT]
    rw [stepT_call_write]; simp only
    rw [stepT_w0]; simp only
    rw [he', stepT_w1_le _ _ _ _ _ hv]; simp only
    rw [stepT_w2_some _ _ _ _ _ he']
    simp only [publish, logWrite, List.tail_cons]
    rw [he']
    rfl

/-- a call whose arguments are consistent: the node's `hash` and `val` are those of its payload -/
def WFCall : Call TTEntry → Prop
  | .write h e v => e.hash = h ∧ v = TTState.val (some e)
  | .read _ => True

/-- the sequential model treats a negative depth as filtered (`depth < minDepth = 0`); Go's bare table has no
such test, so the comparison is stated for non-negative depths (all depths the search passes) -/
def Op.Valid : Op → Prop
  | .write _ _ _ depth _ _ => 0 ≤ depth
  | .read _ => True

theorem wfCall_ofOp (op : Op) : WFCall (Call.ofOp op) := by
  cases op <;> simp [Call.ofOp, WFCall, Op.entry]

theorem abs_size (s : State TTEntry) : (absState s).slots.size = s.slots.length := by
  simp [absState]

theorem abs_getD (s : State TTEntry) (k : Nat) :
    (absState s).slots.getD k none = (slotAt s k).map (·.payload) := by
  simp only [absState, slotAt, Array.getD_eq_getD_getElem?, List.getElem?_toArray, List.getElem?_map,
    List.getD_eq_getElem?_getD]
  cases s.slots[k]? <;> simp

theorem abs_read (s : State TTEntry) (hn : 0 < s.slots.length) (h : Nat)
    (hwf : ∀ n, slotAt s (key s h) = some n → n.payload.hash = n.hash) :
    (absState s).read h = (readResult (slotAt s (key s h)) h).map (·.payload) := by
  unfold TTState.read
  rw [abs_size, if_neg (by omega), abs_getD]
  show (match Option.map (·.payload) (slotAt s (key s h)) with
        | some e => if e.hash = h then some e else none | none => none) = _
  cases hs : slotAt s (key s h) with
  | none => simp [readResult]
  | some n =>
    have := hwf n hs
    simp only [Option.map, readResult, this]
    split <;> simp

theorem abs_val (s : State TTEntry) (k : Nat)
    (hwf : ∀ n, slotAt s k = some n → n.val = TTState.val (some n.payload)) :
    TTState.val ((absState s).slots.getD k none) = valOf (slotAt s k) := by
  rw [abs_getD]
  cases hs : slotAt s k with
  | none => simp [TTState.val, valOf]
  | some n => simp [valOf, hwf n hs]

theorem abs_set (s : State TTEntry) (k : Nat) (n : Node TTEntry) (u : Nat) (id : Nat) (tr : List (Event TTEntry))
    (ts : List (Thread TTEntry)) :
    absState { slots := s.slots.set k (some n), used := u, nextId := id, threads := ts, trace := tr } =
      { slots := (absState s).slots.setIfInBounds k (some n.payload), used := u, minDepth := 0 } := by
  simp [absState, List.map_set]

theorem abs_write (s : State TTEntry) (hn : 0 < s.slots.length) (hash bound : Nat) (ply depth : Int)
    (score : Score) (m : Move) (hd : 0 ≤ depth)
    (hwf : ∀ n, slotAt s (key s hash) = some n → n.val = TTState.val (some n.payload)) :
    (absState s).write hash bound ply depth score m =
      if valOf (slotAt s (key s hash)) > TTState.val (some (Op.entry hash bound ply depth score m)) then
        (absState s, false)
      else
        ({ slots := (absState s).slots.setIfInBounds (key s hash) (some (Op.entry hash bound ply depth score m)),
           used := if (slotAt s (key s hash)).isNone then s.used + 1 else s.used, minDepth := 0 }, true) := by
  unfold TTState.write
  rw [abs_size, if_neg (by omega)]
  have hmd : (absState s).minDepth = 0 := rfl
  rw [hmd, if_neg (by omega)]
  simp only
  have hk : hash % s.slots.length = key s hash := rfl
  rw [hk, abs_val s _ hwf, abs_getD]
  have : (Option.map (·.payload) (slotAt s (key s hash))).isNone = (slotAt s (key s hash)).isNone := by
    cases slotAt s (key s hash) <;> rfl
  rw [this]
  rfl

/-- **one call, run alone.** From a state in which thread `i` is about to make the call `op`, running thread `i`
for `callLen` consecutive steps completes exactly that call; the table then stands for the result of the
sequential `TTState.read`/`TTState.write`, and the events logged by the call carry the sequential result. -/
theorem call_seq (s : State TTEntry) (hn : 0 < s.slots.length) (hinv : NodeInv WFCall s) (i : Nat) (op : Op)
    (cs : List (Call TTEntry)) (ht : s.threads[i]? = some ⟨.call, Call.ofOp op :: cs⟩) (hv : Op.Valid op) :
    (run s (List.replicate (callLen s (Call.ofOp op)) i)).threads = s.threads.set i ⟨.call, cs⟩ ∧
    absState (run s (List.replicate (callLen s (Call.ofOp op)) i)) = (seqCall (absState s) op).1 ∧
    ∃ evs, (run s (List.replicate (callLen s (Call.ofOp op)) i)).trace = evs ++ s.trace ∧
      evs.reverse.filterMap Event.result = [(seqCall (absState s) op).2] := by
  have hwf : ∀ k n, slotAt s k = some n → n.payload.hash = n.hash ∧ n.val = TTState.val (some n.payload) :=
    fun k n hk => hinv.nodes n (.inl (slotAt_mem hk))
  rw [run_replicate s i _ ht]
  cases op with
  | read h =>
    simp only [Call.ofOp, callLen]
    rw [iterT_read]
    refine ⟨rfl, rfl, [_], rfl, ?_⟩
    simp [Event.result, seqCall, abs_read s hn h (fun n hk => (hwf _ n hk).1)]
  | write hash bound ply depth score m =>
    have hw := abs_write s hn hash bound ply depth score m hv (fun n hk => (hwf _ n hk).2)
    simp only [Call.ofOp, callLen, seqCall]
    rw [hw]
    by_cases hgt : valOf (slotAt s (key s hash)) > TTState.val (some (Op.entry hash bound ply depth score m))
    · rw [if_pos hgt, if_pos hgt, iterT_write_skip _ _ _ _ _ _ hgt]
      refine ⟨rfl, rfl, [_], rfl, ?_⟩
      simp [Event.result]
    · rw [if_neg hgt, if_neg hgt, iterT_write_ok _ _ _ _ _ _ _ rfl hgt]
      refine ⟨rfl, abs_set s _ _ _ _ _ _, [_, _], rfl, ?_⟩
      simp [List.filterMap, Event.result]

theorem slots_length_step (s : State π) (i : Nat) : (step s i).slots.length = s.slots.length := by
  rcases step_eq s i with ⟨_, he⟩ | ⟨t, ht, he⟩
  · rw [he]
  rw [he]
  simp only
  rcases stepT_effect s i t with ⟨_, e2⟩ | ⟨_, _, _, _, e2, _⟩ | ⟨_, _, e2, _⟩ | ⟨f, p, _, _, e2, _⟩ <;> rw [e2]
  simp

theorem slots_length_run (sched : List Nat) (s : State π) : (run s sched).slots.length = s.slots.length := by
  induction sched generalizing s with
  | nil => rfl
  | cons i is ih => rw [run_cons, ih, slots_length_step]

/-- The schedule in which the threads named in `order` run one complete call each, one after the other:
each call's steps are consecutive (`List.replicate (callLen ..) i`), so calls do not overlap. An entry of
`order` naming a thread with no call left (or no thread) contributes nothing. -/
def seqSched : State π → List Nat → List Nat
  | _, [] => []
  | s, i :: order =>
    match s.threads[i]? with
    | some ⟨.call, c :: _⟩ =>
      List.replicate (callLen s c) i ++ seqSched (run s (List.replicate (callLen s c) i)) order
    | _ => seqSched s order

/-- The same calls on the sequential model: `progs[i]` is the list of calls thread `i` still has to make. -/
def specRun : TTState → List (List Op) → List Nat → TTState × List SeqResult
  | t, _, [] => (t, [])
  | t, progs, i :: order =>
    match progs[i]? with
    | some (op :: rest) =>
      ((specRun (seqCall t op).1 (progs.set i rest) order).1,
       (seqCall t op).2 :: (specRun (seqCall t op).1 (progs.set i rest) order).2)
    | _ => specRun t progs order

/-- thread list of a state in which thread `i` is about to run the calls `progs[i]` -/
def threadsOf (progs : List (List Op)) : List (Thread TTEntry) :=
  progs.map (fun ops => ⟨.call, ops.map Call.ofOp⟩)

theorem seq_run (order : List Nat) (s : State TTEntry) (progs : List (List Op)) (hn : 0 < s.slots.length)
    (hinv : NodeInv WFCall s) (hth : s.threads = threadsOf progs)
    (hvalid : ∀ ops ∈ progs, ∀ op ∈ ops, Op.Valid op) :
    absState (run s (seqSched s order)) = (specRun (absState s) progs order).1 ∧
    AllIdle (run s (seqSched s order)) ∧
    ∃ evs, (run s (seqSched s order)).trace = evs ++ s.trace ∧
      evs.reverse.filterMap Event.result = (specRun (absState s) progs order).2 := by
  induction order generalizing s progs with
  | nil =>
    refine ⟨rfl, ?_, [], rfl, rfl⟩
    intro t ht
    simp only [seqSched, run_nil, hth, threadsOf, List.mem_map] at ht
    obtain ⟨_, _, rfl⟩ := ht; rfl
  | cons i order ih =>
    have hti : s.threads[i]? = (progs[i]?).map (fun ops => ⟨.call, ops.map Call.ofOp⟩) := by
      rw [hth, threadsOf, List.getElem?_map]
    cases hp : progs[i]? with
    | none =>
      rw [hp] at hti
      simp only [seqSched, hti, specRun, hp]
      exact ih s progs hn hinv hth hvalid
    | some ops =>
      rw [hp] at hti
      cases ops with
      | nil =>
        simp only [seqSched, hti, specRun, hp, Option.map, List.map_nil]
        exact ih s progs hn hinv hth hvalid
      | cons op rest =>
        simp only [Option.map, List.map_cons] at hti
        have hmem : (op :: rest) ∈ progs := List.mem_of_getElem? hp
        have hvop : Op.Valid op := hvalid _ hmem op (by simp)
        obtain ⟨c1, c2, evs1, c3, c4⟩ := call_seq s hn hinv i op (rest.map Call.ofOp) hti hvop
        simp only [seqSched, hti, specRun, hp, run_append]
        have hth' : (run s (List.replicate (callLen s (Call.ofOp op)) i)).threads = threadsOf (progs.set i rest) := by
          rw [c1, hth, threadsOf, threadsOf, List.map_set]
        have hvalid' : ∀ ops ∈ progs.set i rest, ∀ op ∈ ops, Op.Valid op := by
          intro ops hops o ho
          rcases List.mem_or_eq_of_mem_set hops with h | h
          · exact hvalid ops h o ho
          · subst h; exact hvalid _ hmem o (List.mem_cons_of_mem _ ho)
        obtain ⟨d1, d2, evs2, d3, d4⟩ := ih (run s (List.replicate (callLen s (Call.ofOp op)) i)) (progs.set i rest)
          (by rw [slots_length_run]; exact hn) (nodeInv_run _ s hinv) hth' hvalid'
        rw [c2] at d1 d4
        refine ⟨d1, d2, evs2 ++ evs1, ?_, ?_⟩
        · rw [d3, c3, List.append_assoc]
        · rw [List.reverse_append, List.filterMap_append, c4, d4]; rfl

end Morlock.Proofs.ConcTT
