import Morlock.Proofs.UciPosText
/-!
# Lexical layer of the FEN codec

`trimSpace` / `splitSpaces` on six space-free fields joined by single spaces, and the integer
reader `atoi` on the decimal numerals `itoa` produces (`atoi ∘ itoa = id` on `0 … 2^63-1`).
-/
namespace Morlock.Proofs.Fen
open Morlock Morlock.Model Morlock.Model.Fen

theorem char_le_iff (a b : Char) : a ≤ b ↔ a.toNat ≤ b.toNat := by
  rw [Char.le_def, UInt32.le_iff_toNat_le]; rfl

theorem isDigit_iff (c : Char) : c.isDigit = true ↔ 48 ≤ c.toNat ∧ c.toNat ≤ 57 := by
  simp only [Char.isDigit, ge_iff_le, Bool.and_eq_true, decide_eq_true_eq, UInt32.le_iff_toNat_le]
  exact Iff.rfl

theorem isAsciiDigit_eq_isDigit (c : Char) : isAsciiDigit c = c.isDigit := by
  rw [Bool.eq_iff_iff, isDigit_iff]
  simp only [isAsciiDigit, Bool.and_eq_true, decide_eq_true_eq, char_le_iff]
  exact Iff.rfl

theorem digitChar_table : ∀ d, d < 10 → Nat.digitChar d = Char.ofNat ('0'.toNat + d) := by decide +kernel

theorem digitChar_of_isDigit {c : Char} (h : c.isDigit = true) : Nat.digitChar (c.toNat - '0'.toNat) = c := by
  rw [isDigit_iff] at h
  have h0 : '0'.toNat = 48 := rfl
  rw [digitChar_table _ (by omega)]
  exact (congrArg Char.ofNat (by omega)).trans (Char.ofNat_toNat c)

/-- The test of the placement loop. -/
theorem rank18_iff (c : Char) : ('1' ≤ c && c ≤ '8') = true ↔ 49 ≤ c.toNat ∧ c.toNat ≤ 56 := by
  simp only [Bool.and_eq_true, decide_eq_true_eq, char_le_iff]
  exact Iff.rfl

theorem isSpace_of_range {c : Char} (h1 : 0x21 ≤ c.toNat) (h2 : c.toNat ≤ 0x7e) : isSpace c = false := by
  simp [isSpace]; omega

theorem isSpace_digit {c : Char} (h : c.isDigit = true) : isSpace c = false := by
  rw [isDigit_iff] at h; exact isSpace_of_range (by omega) (by omega)

/-- No character of `l` is a blank. -/
def NS (l : List Char) : Prop := ∀ c ∈ l, isSpace c = false

theorem NS.nil : NS [] := fun _ h => by cases h
theorem NS.cons {c : Char} {l : List Char} (hc : isSpace c = false) (hl : NS l) : NS (c :: l) := by
  intro x hx
  rcases List.mem_cons.mp hx with rfl | hx
  · exact hc
  · exact hl x hx
theorem NS.append {a b : List Char} (ha : NS a) (hb : NS b) : NS (a ++ b) := by
  intro x hx
  rcases List.mem_append.mp hx with hx | hx
  · exact ha x hx
  · exact hb x hx

theorem NS.ne_space {l : List Char} (h : NS l) : ∀ c ∈ l, c ≠ ' ' := by
  intro c hc e
  have := h c hc
  rw [e] at this
  revert this; decide

theorem go_last (f cur : List Char) (hf : ∀ c ∈ f, c ≠ ' ') :
    splitSpaces.go f cur = [cur.reverse ++ f] :=
  UciPosText.go_word f (fun h => hf ' ' h rfl) cur

theorem go_field (f rest cur : List Char) (hf : ∀ c ∈ f, c ≠ ' ') :
    splitSpaces.go (f ++ ' ' :: rest) cur = (cur.reverse ++ f) :: splitSpaces.go rest [] := by
  rw [UciPosText.go_append_space, go_last f cur hf]; rfl

/-- Six fields joined by single spaces. -/
def join6 (f0 f1 f2 f3 f4 f5 : List Char) : List Char :=
  f0 ++ ' ' :: (f1 ++ ' ' :: (f2 ++ ' ' :: (f3 ++ ' ' :: (f4 ++ ' ' :: f5))))

theorem decode_split {f0 f1 f2 f3 f4 f5 : List Char}
    (h0 : NS f0) (h1 : NS f1) (h2 : NS f2) (h3 : NS f3) (h4 : NS f4) (h5 : NS f5)
    (n0 : f0 ≠ []) (n5 : f5 ≠ []) :
    splitSpaces (trimSpace (join6 f0 f1 f2 f3 f4 f5)) = [f0, f1, f2, f3, f4, f5] := by
  have e : join6 f0 f1 f2 f3 f4 f5 =
      (f0 ++ ' ' :: (f1 ++ ' ' :: (f2 ++ ' ' :: (f3 ++ ' ' :: (f4 ++ [' ']))))) ++ f5 := by simp [join6]
  have hd : ∀ x, (f0 ++ x).dropWhile isSpace = f0 ++ x := by
    cases f0 with
    | nil => exact absurd rfl n0
    | cons a t => intro x; rw [List.cons_append, List.dropWhile_cons, h0 a (List.mem_cons_self ..)]; rfl
  rw [e, UciPosText.trimSpace_append_word _ _ ⟨n5, h5⟩, hd, ← e]
  unfold splitSpaces join6
  rw [go_field _ _ _ h0.ne_space, go_field _ _ _ h1.ne_space, go_field _ _ _ h2.ne_space,
    go_field _ _ _ h3.ne_space, go_field _ _ _ h4.ne_space, go_last _ _ h5.ne_space]
  simp

theorem atoi_foldl_eq (ds : List Char) :
    ds.foldl (fun acc c => acc * 10 + (c.toNat - '0'.toNat)) 0 = Nat.ofDigitChars 10 ds 0 := by
  unfold Nat.ofDigitChars
  congr 1
  funext acc c
  rw [Nat.mul_comm]

theorem atoi_digits (ds : List Char) (hne : ds ≠ []) (hd : ∀ c ∈ ds, c.isDigit = true) :
    atoi ds = if Nat.ofDigitChars 10 ds 0 ≤ 9223372036854775807
      then some ((Nat.ofDigitChars 10 ds 0 : Nat) : Int) else none := by
  have hall : ds.all isAsciiDigit = true := by
    rw [List.all_eq_true]; intro c hc; rw [isAsciiDigit_eq_isDigit]; exact hd c hc
  have hemp : ds.isEmpty = false := by cases ds with
    | nil => exact absurd rfl hne
    | cons _ _ => rfl
  have hplus : ∀ r, ds ≠ '+' :: r := by
    intro r e
    have := (isDigit_iff '+').mp (hd '+' (e ▸ List.mem_cons_self ..))
    revert this; decide
  have hminus : ∀ r, ds ≠ '-' :: r := by
    intro r e
    have := (isDigit_iff '-').mp (hd '-' (e ▸ List.mem_cons_self ..))
    revert this; decide
  unfold atoi
  split
  rename_i x neg ds' heq
  split at heq
  · exact absurd rfl (hplus _)
  · exact absurd rfl (hminus _)
  · cases heq
    simp only [hemp, hall, atoi_foldl_eq]
    simp

theorem itoa_natCast (n : Nat) : (itoa (n : Int)).toList = Nat.toDigits 10 n := by
  show (Int.repr (Int.ofNat n)).toList = _
  simp [Int.repr]

theorem toDigits_isDigit (n : Nat) : ∀ c ∈ Nat.toDigits 10 n, c.isDigit = true :=
  fun _ hc => Nat.isDigit_of_mem_toDigits (by decide) (by decide) hc

theorem toDigits_NS (n : Nat) : NS (Nat.toDigits 10 n) :=
  fun c hc => isSpace_digit (toDigits_isDigit n c hc)

theorem atoi_itoa (n : Nat) (h : n ≤ 9223372036854775807) : atoi (itoa (n : Int)).toList = some (n : Int) := by
  rw [itoa_natCast, atoi_digits _ Nat.toDigits_ne_nil (toDigits_isDigit n), Nat.ofDigitChars_ten_toDigits,
    if_pos h]

end Morlock.Proofs.Fen
