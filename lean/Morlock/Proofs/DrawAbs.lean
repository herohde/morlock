import Morlock.Proofs.DrawMeasure
import Morlock.Proofs.DrawMaterial
import Morlock.Proofs.RepAbs
/-!
# C05: the abstraction `abs` identifies positions, and what a sound move does to kings, clock and material
-/
namespace Morlock.Proofs.Draw
open Morlock Morlock.Model Morlock.Proofs Morlock.Proofs.Material

theorem castling_eq_of_bits {c d : Nat} (hc : c < 16) (hd : d < 16)
    (h0 : (c &&& wK != 0) = (d &&& wK != 0)) (h1 : (c &&& wQ != 0) = (d &&& wQ != 0))
    (h2 : (c &&& bK != 0) = (d &&& bK != 0)) (h3 : (c &&& bQ != 0) = (d &&& bQ != 0)) : c = d := by
  have hbit : ∀ {j : Nat}, (c &&& 2 ^ j != 0) = (d &&& 2 ^ j != 0) → c.testBit j = d.testBit j := fun h => by
    rwa [and_two_pow_ne_zero, and_two_pow_ne_zero] at h
  apply Nat.eq_of_testBit_eq
  intro i
  by_cases hi : i < 4
  · have : i = 0 ∨ i = 1 ∨ i = 2 ∨ i = 3 := by omega
    rcases this with rfl | rfl | rfl | rfl
    · exact hbit h0
    · exact hbit h1
    · exact hbit h2
    · exact hbit h3
  · have hp : (2 : Nat) ^ 4 ≤ 2 ^ i := Nat.pow_le_pow_right (by decide) (Nat.le_of_not_lt hi)
    rw [Nat.testBit_lt_two_pow (by omega), Nat.testBit_lt_two_pow (by omega)]

/-- `abs` identifies positions: reference positions are equal exactly when the model positions and sides are. -/
theorem abs_inj {p q : Position} {t t' : Color} (hp : Rep p p.square) (hq : Rep q q.square)
    (hpc : p.castling < 16) (hqc : q.castling < 16) (h : abs p t = abs q t') : p = q ∧ t = t' := by
  have hb : absBoard p.square = absBoard q.square := by
    rw [← abs_board p t, ← abs_board q t', h]
  have hsq : p.square = q.square := by
    funext i
    apply absCellB_inj (fun c => hp.wf i c) (fun c => hq.wf i c)
    rw [← absBoard_getD _ hp.out, ← absBoard_getD _ hq.out, hb]
  have hq' : Rep q p.square := by rw [hsq]; exact hq
  obtain ⟨v1, v2, v3⟩ := hp.views_eq hq'
  have ht : t = t' := by
    have := congrArg Spec.Pos.turn h
    cases t <;> cases t' <;> simp [abs, absColor] at this ⊢
  have hc : p.castling = q.castling :=
    castling_eq_of_bits hpc hqc (congrArg Spec.Pos.wk h) (congrArg Spec.Pos.wq h)
      (congrArg Spec.Pos.bk h) (congrArg Spec.Pos.bq h)
  have he : p.enpassant = q.enpassant := by
    have := congrArg Spec.Pos.ep h
    simp only [abs] at this
    by_cases h1 : p.enpassant = 0 <;> by_cases h2 : q.enpassant = 0 <;> simp [h1, h2] at this ⊢
    exact this
  refine ⟨?_, ht⟩
  cases p; cases q
  simp only [Position.mk.injEq]
  exact ⟨v1, v2, v3, hc, he⟩

theorem abs_beq {p q : Position} {t t' : Color} (hp : Rep p p.square) (hq : Rep q q.square)
    (hpc : p.castling < 16) (hqc : q.castling < 16) :
    (abs p t == abs q t') = (p == q && t == t') := by
  rw [Bool.eq_iff_iff]
  simp only [beq_iff_eq, Bool.and_eq_true]
  exact ⟨abs_inj hp hq hpc hqc, fun ⟨a, b⟩ => by rw [a, b]⟩

theorem andNot_lt_16 {c : Nat} (hc : c < 16) (y : Nat) : andNot c y < 16 := by
  show andNot c y < 2 ^ 4
  apply Nat.lt_pow_two_of_testBit
  intro i hi
  have hci : c < 2 ^ i := Nat.lt_of_lt_of_le (show c < 2 ^ 4 from hc) (Nat.pow_le_pow_right (by decide) hi)
  rw [testBit_andNot, Nat.testBit_lt_two_pow hci]
  rfl

def kingW (v : Option (Color × Piece)) (_ : Nat) : Nat :=
  match v with
  | some (_, k) => if k = .king then 1 else 0
  | none => 0

theorem kingCount_eq (b : Proofs.Board) : kingCount b = sumW kingW b := by
  unfold kingCount sumW
  rw [countP_range_sumTo]
  apply sumTo_congr
  intro i _
  rcases b i with _ | ⟨c, k⟩
  · simp [kingW]
  · by_cases hk : k = .king <;> simp [kingW, hk]

/-- What leaves the destination is no king, and the piece put down is a king iff the piece lifted was (only pawns
promote, and not to a king). -/
theorem kingCount_boardAfter {b : Proofs.Board} {m : Move} (hout : ∀ sq, 64 ≤ sq → b sq = none)
    (hok : MetaOKb b m = true) (hs : MoveSound b m = true) (hcap : m.capture ≠ .king) :
    kingCount (boardAfter b m) = kingCount b := by
  obtain ⟨turn, pc, hsq⟩ := metaOKb_from hok
  have hsum := sumW_boardAfter kingW (fun _ => rfl) hout hok hsq
  obtain ⟨_, hdest, hpromo, _⟩ := metaOKb_to hok hsq
  obtain ⟨_, _, honly⟩ := moveSound_spec hsq hs
  have hto : kingW (b m.to) m.to = 0 := by
    rcases hdest with h | h <;> rw [h] <;> simp [kingW, hcap]
  have hmoved : kingW (some (turn, movedPiece m pc)) m.to = kingW (some (turn, pc)) m.from := by
    unfold movedPiece
    split
    · rename_i hp
      have hpc : pc = .pawn := honly hp
      have hk : m.promotion ≠ .king := by
        intro e; have := hpromo hp; simp [promoOK, e] at this
      simp [kingW, hpc, hk]
    · rfl
  have hrook : ∀ sq, kingW (some (turn, Piece.rook)) sq = 0 := fun _ => rfl
  have hpawn : ∀ sq, kingW (some (turn.opp, Piece.pawn)) sq = 0 := fun _ => rfl
  simp only [hrook, hpawn, ite_self, Nat.add_zero] at hsum
  rw [kingCount_eq, kingCount_eq]
  omega

/-- What the link to the reference needs of a position: views agree, a side with a castling right has its king at
home, the castling field holds only the four rights bits, and there are exactly two kings. -/
structure PosOK (p : Position) : Prop where
  rep : Rep p p.square
  kingHome : KingHome p = true
  castling : p.castling < 16
  kings : kingCount p.square = 2

theorem posOK_move {p q : Position} {m : Move} (h : PosOK p) (hok : MetaOK p m = true)
    (hs : MoveSound p.square m = true) (hcap : m.capture ≠ .king) (hm : p.move m = some q) : PosOK q := by
  obtain ⟨hrep', hc', _⟩ := move_rep h.rep hok hm
  refine ⟨hrep'.self, kingHome_move h.rep hok h.kingHome hcap hm, ?_, ?_⟩
  · rw [hc']; exact andNot_lt_16 h.castling _
  · rw [← hrep'.board_eq]
    rw [kingCount_boardAfter h.rep.out (by rw [← h.rep.metaOK_iff]; exact hok) hs hcap]
    exact h.kings

theorem absCellB_isSome {v : Option (Color × Piece)} (hv : ∀ c, v ≠ some (c, .none)) :
    (absCellB v).isSome = v.isSome := by
  cases v with
  | none => rfl
  | some x =>
    obtain ⟨c, k⟩ := x
    have := hv c
    cases k <;> simp [absCellB, absKind] at this ⊢

theorem abs_occ {p : Position} {b : Proofs.Board} (h : Rep p b) (t : Color) (sq : Nat) :
    (abs p t).occ sq = (b sq).isSome := by
  unfold Spec.Pos.occ
  rw [h.abs_at, absCellB_isSome (fun c => h.wf sq c)]

theorem reset_eq {p : Position} {b : Proofs.Board} {m : Move} {t : Color} {pc : Piece} (h : Rep p b)
    (hsq : b m.from = some (t, pc)) (hs : MoveSound b m = true) :
    Spec.isPawnMoveOrCapture (abs p t) (absMove m) = isReset m := by
  have hpcne : pc ≠ .none := h.ne_none_of_some hsq
  rw [(moveSound_spec hsq hs).1]
  unfold Spec.isPawnMoveOrCapture
  simp only [absMove]
  rw [abs_occ h, h.abs_at, hsq, absCellB_some _ hpcne]
  cases pc <;> simp [kindOf] at hpcne ⊢

theorem insufficientB_false_of_major {b : Proofs.Board} {sq : Nat} {c : Color} {k : Piece} (hsq : sq < 64)
    (hb : b sq = some (c, k)) (hk : k = .rook ∨ k = .queen) : insufficientB b = false := by
  have hmem : (sq, c, k) ∈ others b := by
    unfold others
    rw [List.mem_filterMap]
    refine ⟨sq, List.mem_range.mpr hsq, ?_⟩
    rw [hb]
    rcases hk with rfl | rfl <;> simp
  unfold insufficientB
  generalize others b = o at hmem
  match o, hmem with
  | [], hmem => cases hmem
  | [(s1, c1, k1)], hmem =>
    simp only [List.mem_cons, List.not_mem_nil, or_false, Prod.mk.injEq] at hmem
    obtain ⟨_, _, rfl⟩ := hmem
    rcases hk with rfl | rfl <;> simp
  | [(s1, c1, k1), (s2, c2, k2)], hmem =>
    simp only [List.mem_cons, List.not_mem_nil, or_false, Prod.mk.injEq] at hmem
    rcases hmem with ⟨_, _, rfl⟩ | ⟨_, _, rfl⟩ <;> rcases hk with rfl | rfl <;> simp
  | _ :: _ :: _ :: _, _ => rfl

/-- The reference tests the material after every capture and every under-promotion (rook included), the model only
after `capture`-typed moves and (capture-)promotions to bishop or knight; the difference leaves a queen or rook on
the board, hence sufficient material. -/
theorem material_flag_eq {p q : Position} {m : Move} {t : Color} {pc : Piece} (h : PosOK p)
    (hok : MetaOK p m = true) (hsq : p.square m.from = some (t, pc)) (hcl : ClassOK (abs p t) m = true)
    (hs : MoveSound p.square m = true) (hcap : m.capture ≠ .king) (hm : p.move m = some q) :
    (((abs p t).occ (absMove m).to || ((absMove m).promo.isSome && decide ((absMove m).promo ≠ some Spec.Kind.queen))) &&
        Spec.insufficientMaterial (abs q t.opp)) =
      (materialTrigger m && q.hasInsufficientMaterial) := by
  have hq := posOK_move h hok hs hcap hm
  rw [spec_insufficient hq.rep, ← material_eq hq.rep hq.kings]
  cases hIq : q.hasInsufficientMaterial with
  | false => simp
  | true =>
    simp only [Bool.and_true]
    have hokb : MetaOKb p.square m = true := by rw [← h.rep.metaOK_iff]; exact hok
    obtain ⟨hto, _, hpromo, hcapt⟩ := metaOKb_to hokb hsq
    have hocc : (abs p t).occ (absMove m).to = m.isCapture := (abs_occ h.rep t _).trans hcapt
    unfold ClassOK at hcl
    simp only [Bool.and_eq_true, beq_iff_eq] at hcl
    have hP : m.isPromotion = (m.promotion != .none) := hcl.1.1.1.2
    rw [hocc]
    by_cases hp : m.isPromotion = true
    · -- under insufficient material the piece that has just appeared on `to` is no queen or rook
      have hqto : q.square m.to = some (t, m.promotion) := by
        rw [← (move_rep h.rep hok hm).1.board_eq, (boardAfter_spec hokb hsq).2.1]
        unfold movedPiece; rw [if_pos hp]
      have hminor : m.promotion = .bishop ∨ m.promotion = .knight := by
        have hpo := hpromo hp
        unfold promoOK at hpo
        simp only [Bool.or_eq_true, beq_iff_eq] at hpo
        rcases hpo with ((hk | hk) | hk) | hk
        · have := insufficientB_false_of_major hto hqto (Or.inr hk)
          rw [← material_eq hq.rep hq.kings, hIq] at this; cases this
        · have := insufficientB_false_of_major hto hqto (Or.inl hk)
          rw [← material_eq hq.rep hq.kings, hIq] at this; cases this
        · exact Or.inr hk
        · exact Or.inl hk
      unfold Move.isPromotion at hp
      rcases hminor with hk | hk <;> simp [materialTrigger, absMove, absKind, hk, hp]
    · have hnone : m.promotion = .none := by
        rw [Bool.not_eq_true] at hp
        rw [hp] at hP
        simpa using hP.symm
      unfold Move.isPromotion at hp
      unfold Move.isCapture materialTrigger
      simp only [Bool.or_eq_true, decide_eq_true_eq, not_or] at hp
      simp [absMove, absKind, hnone, hp.1, hp.2]

end Morlock.Proofs.Draw
