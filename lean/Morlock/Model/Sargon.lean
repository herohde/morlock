import Morlock.Model.EvalPins
import Morlock.Model.Board
import Morlock.Model.BoardGame
import Morlock.Model.Flt
/-!
# Model of `cmd/sargon/sargon`: `eval.go`, `exchange.go`, `search.go`

Function-by-function transcription. Conventions:

* A Go `*Attacker` chain (`Behind` pointers) is an `Attacker` = the front placement plus the list of the
  placements behind it (`att.Behind == nil` iff the list is empty).
* `Points.roots` (a Go `map[*board.Board]root`, one entry per board being searched) is `PointsMap`, keyed by the index of
  the board in the arena; the functions `reset`, `evaluateW` below work on one entry (`Points` = Go's `root`).
* `Pins` (a Go `map[Square][]Square`) is only ever *looked up* by key in this package, never iterated: it is
  the list of `(pinned, attacker)` pairs in insertion order, `pins[sq]` is the sub-list with key `sq`.
* `sort.Slice` is not stable by contract. Every function that sorts takes the sorter `srt` as a parameter;
  the functions without the `W` suffix use `stableSort` (insertion sort: what Go's `sort.Slice` actually runs
  for slices of at most 12 elements).
* `eval.Pawns` values that are sums and differences of small integers are carried as `Int` (every float32
  operation on integers below `2^24` is exact; the bounds are theorems in `Props/C20Sargon.lean`); the value
  of `Material` is a multiple of `1/2` and carried as an exact rational; the three rounding operations of
  `Points.Evaluate` (`mtrl*4`, `brdc/100`, the additions) are `Flt` operations on `float32`.
* Every place where the Go code could panic (`Attackboard` on a pawn, `defenders[0]`, `attackers[0]`), where
  a recursion or loop of the Go code has no a-priori bound (`addAttackerStack`, the `findSide` flattening loop,
  the `Exchange` loop), and where a float32 result could be infinite is an explicit error.
-/
namespace Morlock.Model
open Morlock
open Morlock.Model.Flt (Q f32)

namespace Sargon

/-- what can go wrong in the Go code -/
inductive SErr
  /-- a recursion / loop of the Go code did not terminate within the model's bound -/
  | fuel
  /-- `board.Attackboard` panicked ("invalid piece or Pawn") -/
  | attackboard
  /-- slice index out of range -/
  | index
  /-- a float32 operation overflowed or divided by zero -/
  | float
deriving DecidableEq, Repr, Inhabited

/-- `board.Placement`. -/
structure Placement where
  piece : Piece
  color : Color
  square : Nat
deriving DecidableEq, Repr, Inhabited

/-- `sargon.Attacker`: `front` = `Piece`, `behind` = the chain `Behind, Behind.Behind, …`. -/
structure Attacker where
  front : Placement
  behind : List Placement := []
deriving DecidableEq, Repr, Inhabited

/-- `att.Behind` (`none` = nil). -/
def Attacker.next (a : Attacker) : Option Attacker :=
  match a.behind with
  | [] => none
  | p :: rest => some { front := p, behind := rest }

/-- `sargon.Pins`: `(pinned, attacker)` in insertion order. -/
abbrev Pins := List (Nat × Nat)

/-- `pins[sq]`. -/
def pinsGet (pins : Pins) (sq : Nat) : List Nat := (pins.filter fun e => e.1 == sq).map (·.2)

/-- explicit monadic map (order of evaluation = list order) -/
def mapE {α β : Type} (f : α → Except SErr β) : List α → Except SErr (List β)
  | [] => .ok []
  | a :: as =>
    match f a with
    | .error e => .error e
    | .ok b =>
      match mapE f as with
      | .error e => .error e
      | .ok bs => .ok (b :: bs)

/-- the piece standing on a square as the Go code reads it with `_, piece, _ := pos.Square(sq)`: `NoPiece` if empty -/
def pieceAt (pos : Position) (sq : Nat) : Piece :=
  match pos.square sq with
  | some (_, k) => k
  | none => .none

/-! ## exchange.go -/

/-- `FindKingQueenPins`. -/
def findKingQueenPins (pos : Position) : Pins :=
  let pins : List Pin :=
    [Color.white, Color.black].flatMap fun side =>
      (Gen.listKingQueen.map Piece.ofCode).flatMap fun piece => findPins pos side piece
  pins.filterMap fun pin =>
    let att := pieceAt pos pin.attacker
    let dfn := pieceAt pos pin.target
    if att = dfn then none          -- omit: Q on Q pins
    else some (pin.pinned, pin.attacker)

/-- `board.IsSameRankOrFile`. -/
def isSameRankOrFile (a b : Nat) : Bool := sqFile a == sqFile b || sqRank a == sqRank b

/-- `board.IsSameDiagonal`. -/
def isSameDiagonal (a b : Nat) : Bool :=
  let x : Int := (sqFile a : Int) - (sqFile b : Int)
  let y : Int := (sqRank a : Int) - (sqRank b : Int)
  x == y || x == -y

/-- the test at the head of `addAttackerStack`: "attacker is pinned" -/
def isPinnedFor (pins : Pins) («from» target : Nat) : Bool :=
  let list := pinsGet pins «from»
  decide (list.length > 1) || (list.length == 1 && list.head? != some target)

/-- `addAttackerStack`: `ok none` = `(nil, false)`. The recursion of the Go code has no explicit bound; the
    model gives it `fuel` levels and reports `SErr.fuel` when they are used up. -/
def addAttackerStack (pos : Position) (pins : Pins) (side : Color) (target : Nat) :
    Nat → Rotated → Piece → Nat → Except SErr (Option Attacker)
  | 0, _, _, _ => .error .fuel
  | fuel + 1, r, piece, «from» =>
    if isPinnedFor pins «from» target then .ok none else
    let me : Placement := { piece := piece, color := side, square := «from» }
    if piece = .king then .ok (some { front := me }) else
    let next := r.xor «from»
    let bb : Bitboard :=
      if isSameRankOrFile «from» target then
        andNot (rookAttackboard next target) (rookAttackboard r target) &&&
          (pos.pieces side .queen ||| pos.pieces side .rook)
      else if isSameDiagonal «from» target then
        andNot (bishopAttackboard next target) (bishopAttackboard r target) &&&
          (pos.pieces side .queen ||| pos.pieces side .bishop)
      else 0
    if bb != 0 then
      let from' := lastPopSquare bb
      let piece' := pieceAt pos from'
      match addAttackerStack pos pins side target fuel next piece' from' with
      | .error e => .error e
      | .ok none => .ok (some { front := me })                  -- `ret.Behind, _ =`: a pinned piece behind is dropped
      | .ok (some b) => .ok (some { front := me, behind := b.front :: b.behind })
    else .ok (some { front := me })

/-- recursion budget given to `addAttackerStack` (a ray holds at most 7 squares, so the stack behind an attacker is at most 7 deep) -/
def stackFuel : Nat := 32

/-- the two inner loops of `FindAttackers` share this body: the stacks of the non-pinned pieces on `bb` -/
def stacksOn (pos : Position) (pins : Pins) (side : Color) (piece : Piece) (sq : Nat) (bb : Bitboard) :
    Except SErr (List Attacker) :=
  match mapE (fun «from» => addAttackerStack pos pins side sq stackFuel pos.rotated piece «from») (toSquares bb) with
  | .error e => .error e
  | .ok l => .ok (l.filterMap id)

def kqrnb : List Piece := Gen.listKingQueenRookKnightBishop.map Piece.ofCode

/-- `FindAttackers`. -/
def findAttackers (pos : Position) (pins : Pins) (sq : Nat) (side : Color) : Except SErr (List Attacker) :=
  let officers := mapE (fun piece =>
      match attackboard pos.rotated sq piece with
      | none => .error .attackboard
      | some ab => stacksOn pos pins side piece sq (ab &&& pos.pieces side piece)) kqrnb
  match officers with
  | .error e => .error e
  | .ok ls =>
    match stacksOn pos pins side .pawn sq (pawnCaptureboard side.opp (bitMask sq) &&& pos.pieces side .pawn) with
    | .error e => .error e
    | .ok ps => .ok (ls.flatten ++ ps)

/-- `NumAttackers`. -/
def numAttackers (l : List Attacker) : Nat := (l.map fun a => 1 + a.behind.length).sum

/-- `val`. -/
def val (a : Attacker) : Int := nominalValue a.front.piece

/-- insertion of one element as Go's `insertionSortLessFunc` moves it: leftwards while strictly smaller -/
def insertByVal (x : Attacker) : List Attacker → List Attacker
  | [] => [x]
  | y :: ys => if val x < val y then x :: y :: ys else y :: insertByVal x ys

/-- stable insertion sort by `val` (= `sort.Slice(list, byValue(list))` for `len(list) ≤ 12`) -/
def stableSort (l : List Attacker) : List Attacker := l.foldl (fun acc x => insertByVal x acc) []

/-- the flattening loop of `findSide`: `for i := 0; i < len(ret); i++ { … append(ret, att.Behind); sort(ret[i+1:]) }`.
    The argument is `ret[i:]`. The loop ends because every round consumes one placement; `fuel` is that count. -/
def flattenW (srt : List Attacker → List Attacker) : Nat → List Attacker → Except SErr (List Attacker)
  | _, [] => .ok []
  | 0, _ :: _ => .error .fuel
  | fuel + 1, att :: rest =>
    let rest' := match att.next with
      | none => rest
      | some b => srt (rest ++ [b])
    match flattenW srt fuel rest' with
    | .error e => .error e
    | .ok l => .ok (att :: l)

/-- `findSide`. -/
def findSideW (srt : List Attacker → List Attacker) (attackers : List Attacker) (turn : Color) : Except SErr (List Attacker) :=
  let ret := attackers.filter fun a => a.front.color == turn
  let ret := srt ret
  flattenW srt (numAttackers ret) ret

/-- the loop of `Exchange`; returns `(residue, cur)` -/
def exchangeLoop : Nat → List Attacker → List Attacker → Int → Int → Color → Except SErr (Int × Color)
  | _, [], _, residue, _, cur => .ok (residue, cur)
  | 0, _ :: _, _, _, _, _ => .error .fuel
  | fuel + 1, attacker :: attackers, defenders, residue, defender, cur =>
    -- Opposing side will attack, if undefended or not a loss.
    let w1 : Bool := defenders.isEmpty || decide (val attacker ≤ defender)
    let w2 : Except SErr Bool :=
      if w1 then .ok true else
        match attackers with
        | [] => .ok false
        | a2 :: _ =>
          match defenders with
          | [] => .error .index                  -- `defenders[0]`
          | d0 :: _ => .ok (decide (val attacker + val a2 ≤ defender + val d0))
    match w2 with
    | .error e => .error e
    | .ok false => .ok (residue, cur)
    | .ok true => exchangeLoop fuel defenders attackers (-(residue + defender)) (val attacker) cur.opp

/-- `Exchange`. -/
def exchangeW (srt : List Attacker → List Attacker) (pos : Position) (pins : Pins) (side : Color) (sq : Nat) : Except SErr Int :=
  match pos.square sq with
  | none => .ok 0
  | some (cur, piece) =>
    if piece = .king then .ok 0 else
    match findAttackers pos pins sq cur with
    | .error e => .error e
    | .ok da =>
    match findSideW srt da cur with
    | .error e => .error e
    | .ok defenders =>
    match findAttackers pos pins sq cur.opp with
    | .error e => .error e
    | .ok aa =>
    match findSideW srt aa cur.opp with
    | .error e => .error e
    | .ok attackers =>
    match exchangeLoop (attackers.length + defenders.length) attackers defenders 0 (nominalValue piece) cur with
    | .error e => .error e
    | .ok (residue, cur') => .ok (if cur' = side then -residue else residue)

/-! ## eval.go -/

/-- What the evaluation reads from a `*board.Board`. -/
structure BView where
  pos : Position
  turn : Color
  /-- `b.LastMove()` -/
  last : Option Move
  /-- `b.HasMoved(1000)` -/
  moved : Bitboard
  /-- `b.FullMoves()` -/
  fullMoves : Int
  castledW : Bool
  castledB : Bool
deriving Repr, Inhabited

def BView.hasCastled (v : BView) : Color → Bool
  | .white => v.castledW
  | .black => v.castledB

def BView.ofWorld (w : World) (b : Nat) : BView :=
  let bd := w.board b
  { pos := (w.cur b).pos, turn := bd.turn, last := w.lastMove b, moved := w.hasMoved b 1000,
    fullMoves := bd.moves, castledW := bd.castledW, castledB := bd.castledB }

/-- loop state of `Material` -/
structure MState where
  ptsl : Int := 0
  ptsw1 : Int := 0
  ptsw2 : Int := 0
  ptschk : Bool := false
deriving DecidableEq, Repr, Inhabited

/-- the `switch` in the loop of `Material` -/
def materialStep (last : Option Move) (sq : Nat) (v : Int) (s : MState) : MState :=
  if v < s.ptsl then
    { s with ptsl := v, ptschk := s.ptschk || (match last with | some m => m.to == sq | none => false) }
  else if s.ptsw1 < v then { s with ptsw1 := v, ptsw2 := s.ptsw1 }
  else if s.ptsw2 < v then { s with ptsw2 := v }
  else s

def materialLoop (srt : List Attacker → List Attacker) (v : BView) (pins : Pins) : List Nat → MState → Except SErr MState
  | [], s => .ok s
  | sq :: rest, s =>
    match exchangeW srt v.pos pins v.turn.opp sq with
    | .error e => .error e
    | .ok x => materialLoop srt v pins rest (materialStep v.last sq x s)

/-- `Material`: `(mtrl, ptschk)`; `mtrl` is a multiple of 1/2, returned as the integer `2·mtrl`. -/
def materialW (srt : List Attacker → List Attacker) (v : BView) (pins : Pins) : Except SErr (Int × Bool) :=
  let mtrl := materialPawns v.pos v.turn
  match materialLoop srt v pins (toSquares v.pos.all) {} with
  | .error e => .error e
  | .ok s =>
    -- Use PTSW2 if moving piece is moving into losing exchange.
    let ptsw2 := if s.ptschk then 0 else s.ptsw2        -- `ptsw1, ptsw2 = ptsw2, 0`
    let loss := if s.ptsl < 0 then 2 * s.ptsl + 1 else s.ptsl
    -- win = (2*ptsw2 - 1) / 2, kept doubled
    let win2 := if ptsw2 > 0 then 2 * ptsw2 - 1 else 2 * ptsw2
    .ok (2 * mtrl - (2 * loss + win2), s.ptschk)

/-- `Mobility`. -/
def mobilityLoop (v : BView) (pins : Pins) : List Nat → Int → Except SErr Int
  | [], acc => .ok acc
  | sq :: rest, acc =>
    match findAttackers v.pos pins sq v.turn with
    | .error e => .error e
    | .ok att =>
      match findAttackers v.pos pins sq v.turn.opp with
      | .error e => .error e
      | .ok opp => mobilityLoop v pins rest (acc + ((numAttackers att : Int) - (numAttackers opp : Int)))

def mobility (v : BView) (pins : Pins) : Except SErr Int := mobilityLoop v pins (List.range 64) 0

/-- `king`. -/
def kingDev (castled moved : Bool) : Int := if castled then 6 else if moved then -2 else 0

/-- `Development`. -/
def development (v : BView) : Int :=
  let pos := v.pos
  let own := v.turn
  let opp := own.opp
  let mask := v.moved
  let pc (c : Color) (k : Piece) (unmoved : Bool) : Int :=
    (popCount (if unmoved then andNot (pos.pieces c k) mask else pos.pieces c k &&& mask) : Int)
  let pawns : Int := -2 * (pc own .knight true - pc opp .knight true)
  let pawns := pawns - 2 * (pc own .bishop true - pc opp .bishop true)
  let pawns :=
    if v.fullMoves < 7 then
      let pawns := pawns - 2 * (pc own .rook false - pc opp .rook false)
      pawns - 2 * (pc own .queen false - pc opp .queen false)
    else pawns
  let pawns := pawns + kingDev (v.hasCastled own) ((pos.pieces own .king &&& mask) != 0)
  pawns - kingDev (v.hasCastled opp) ((pos.pieces opp .king &&& mask) != 0)

/-- `BoardControl`. (Go evaluates `Development` first; neither has side effects.) -/
def boardControl (v : BView) (pins : Pins) : Except SErr Int :=
  match mobility v pins with
  | .error e => .error e
  | .ok m => .ok (development v + m)

/-- `eval.Limit` on integers. -/
def limit (pawns lim : Int) : Int := if pawns < -lim then -lim else if lim < pawns then lim else pawns

/-- `sargon.root`: the reference values `Points.Reset` captures for one searched board. The default is Go's zero value
    (`side0 = White`, `brdc0 = 0`): what `Points.Evaluate` reads for a board `Reset` was never called on. -/
structure Points where
  side0 : Color := .white
  brdc0 : Int := 0
deriving DecidableEq, Repr, Inhabited

/-- the value `Points.Reset` stores for the board: `root{side0: b.Turn(), brdc0: BoardControl(ctx, b, pins)}` -/
def reset (v : BView) : Except SErr Points :=
  match boardControl v (findKingQueenPins v.pos) with
  | .error e => .error e
  | .ok b => .ok { side0 := v.turn, brdc0 := b }

/-- `sargon.Points`: `roots map[*board.Board]root` (the mutex has no sequential meaning). A board is identified by its
    index in the arena (`World.boards`), as a Go board is by its pointer. -/
structure PointsMap where
  roots : List (Nat × Points) := []
deriving Repr, Inhabited

namespace PointsMap

/-- `p.roots[b]` (zero value when absent) -/
def root (m : PointsMap) (b : Nat) : Points :=
  match m.roots.find? (fun e => e.1 == b) with
  | some e => e.2
  | none => {}

/-- `Points.Reset(ctx, b)`: `p.roots[b] = r` -/
def reset (m : PointsMap) (b : Nat) (v : BView) : Except SErr PointsMap :=
  match Sargon.reset v with
  | .error e => .error e
  | .ok r => .ok { roots := (b, r) :: m.roots.filter (fun e => e.1 != b) }

/-- `Points.Forget(b)`: `delete(p.roots, b)` -/
def forget (m : PointsMap) (b : Nat) : PointsMap := { roots := m.roots.filter (fun e => e.1 != b) }

end PointsMap

def ofOpt (x : Option Q) : Except SErr Q := match x with | some q => .ok q | none => .error .float

/-- every intermediate value of `Points.Evaluate` -/
structure Parts where
  pins : Pins
  brdc : Int
  /-- `2 · mtrl` -/
  mtrl2 : Int
  ptschk : Bool
  points : Q
deriving Repr, Inhabited

/-- `Points.Evaluate` with all components; `p` is `p.root(b)`, the values stored for the board evaluated. NB: the Go code
    computes a local `brdc0` (negated when the side to move differs from `side0`) and then does not use it: the formula
    reads `r.brdc0`. Transcribed as written. -/
def evaluatePartsW (srt : List Attacker → List Attacker) (p : Points) (v : BView) : Except SErr Parts :=
  let pins := findKingQueenPins v.pos
  match boardControl v pins with
  | .error e => .error e
  | .ok brdc =>
  match materialW srt v pins with
  | .error e => .error e
  | .ok (mtrl2, ptschk) =>
  let mtrl : Q := Q.halves mtrl2
  match ofOpt (Flt.mul f32 mtrl (Q.ofInt 4)) with
  | .error e => .error e
  | .ok m4 =>
  match ofOpt (Flt.div f32 (Q.ofInt brdc) (Q.ofInt 100)) with
  | .error e => .error e
  | .ok q =>
  if ptschk then
    match ofOpt (Flt.add f32 m4 q) with
    | .error e => .error e
    | .ok r => .ok { pins := pins, brdc := brdc, mtrl2 := mtrl2, ptschk := ptschk, points := r }
  else
    let _brdc0 : Int := if v.turn != p.side0 then -p.brdc0 else p.brdc0    -- dead store in the Go code
    match ofOpt (Flt.add f32 m4 (Q.ofInt (limit (brdc - p.brdc0) 6))) with
    | .error e => .error e
    | .ok s =>
    match ofOpt (Flt.add f32 s q) with
    | .error e => .error e
    | .ok r => .ok { pins := pins, brdc := brdc, mtrl2 := mtrl2, ptschk := ptschk, points := r }

/-- `Points.Evaluate`. -/
def evaluateW (srt : List Attacker → List Attacker) (p : Points) (v : BView) : Except SErr Q :=
  match evaluatePartsW srt p v with
  | .error e => .error e
  | .ok r => .ok r.points

/-- `Points.Evaluate(ctx, b)` on the map: the values of the last `Reset` for the same board, else the zero values. -/
def PointsMap.evaluateW (srt : List Attacker → List Attacker) (m : PointsMap) (b : Nat) (v : BView) : Except SErr Q :=
  Sargon.evaluateW srt (m.root b) v

/-! ### the instances with the stable sort -/

def findSide := findSideW stableSort
def exchange := exchangeW stableSort
def material := materialW stableSort
def evaluateParts := evaluatePartsW stableSort
def evaluate := evaluateW stableSort

/-! ## search.go -/

/-- `SkipUnderPromotions`: `(search.MVVLVA, board.Move.IsNotUnderPromotion)`. -/
def skipUnderPromotions : Explore := { prio := mvvlva, pick := fun m => !m.isUnderPromotion }

/-- `OnePlyIfChecked.QuietSearch` over an abstract game whose `eval` is the leaf evaluation: `(nodes, score)`,
    the nodes added to the state's counter. When in check, a fresh `AlphaBeta{Eval: q.Leaf}` (full exploration,
    static leaf) searches one ply with the caller's search context (window, table); its error is discarded, so a
    halted search yields `(0, InvalidScore)`. -/
def onePlyIfChecked {P : Type} (g : Game P) (p : P) (alpha beta : Score) (st : SState) : Score × SState :=
  if !g.inCheck p then (Score.heuristicScore (g.eval p), { st with nodes := st.nodes + 1 })
  else
    let (res, st') := alphaBetaSearch g (constEx fullExploration) .static p 1 alpha beta st
    match res with
    | none => (Score.invalidScore, { st' with nodes := st.nodes })
    | some r => (r.score, { st' with nodes := st.nodes + r.nodes })

/-- `Hook.Search`: `Reset(b)`, run the search (which evaluates with the map), `Forget(b)` on the way out.
    `search` gets the map in which `b` is registered; its result is returned unchanged. -/
def hookSearch {α : Type} (m : PointsMap) (b : Nat) (v : BView) (search : PointsMap → α) : Except SErr (α × PointsMap) :=
  match m.reset b v with
  | .error e => .error e
  | .ok m' => .ok (search m', m'.forget b)

end Sargon
end Morlock.Model
