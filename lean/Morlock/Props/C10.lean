import Morlock.Model.UciSeq
import Morlock.Proofs.UciPosRobust
/-!
# C10 — the engine game equals the one the last `position` command describes

The `position` handler of the driver model (`Morlock.Driver.Uci`, tied to the real `uci.Driver` by the `ucidet` stream)
*is* `Morlock.Model.UciPos.position` on the concrete engine model; everything here holds for every engine
(`UciPos.Eng E`: `Reset` and `Move` as partial functions). The handler sets the game up from scratch unless
`continuation` recognises the line as an extension of the previous one *and* all extra words can be played. The two
paths cut words differently (`strings.Fields` at every `unicode.IsSpace` rune, `strings.Split` at single blanks), so
the theorems speak of well-formed lines, whose words are free of all white space; on other lines the paths can differ.

Where a concrete line is evaluated, `repeat rw [String.toList_ofList]` first puts the list of characters in place of
every `"…".toList` (a string literal is `String.ofList` of its characters by `rfl`): left to evaluate `String.toList`,
the kernel decodes the UTF-8 bytes one index at a time, in time quadratic in the length of the line.
-/
namespace Morlock.Props.C10
open Morlock.Model Morlock.Model.UciSeq

/-- A verbatim repeat is an extension with no extra words. -/
theorem continuation_self (l : List Char) (h : Fen.trimSpace l ≠ []) : continuation l l = some [] :=
  (Proofs.UciPosText.continuation_eq_some l l []).2
    ⟨h, [], (List.append_nil _).symm, Or.inl rfl, Proofs.UciPosText.fields_nil.symm⟩

/-- An extension is only recognised at a word boundary: `… 0 1` does not extend to `… 0 10 moves e2e4`. -/
theorem continuation_word_boundary :
    continuation "position fen 4k3/8/8/8/8/8/4P3/4K3 w - - 0 1".toList
      "position fen 4k3/8/8/8/8/8/4P3/4K3 w - - 0 10 moves e2e4".toList = none := by
  repeat rw [String.toList_ofList]
  decide +kernel

/-- … while a real extension yields exactly the extra words. -/
theorem continuation_extends :
    continuation "position startpos moves e2e4".toList "position startpos moves e2e4 e7e5 g1f3".toList
      = some ["e7e5".toList, "g1f3".toList] ∧
    continuation "position startpos".toList "position startpos moves e2e4".toList
      = some ["moves".toList, "e2e4".toList] := by
  repeat rw [String.toList_ofList]
  decide +kernel

/-- A shortened line is not an extension (the previous line is not a prefix of it). -/
theorem continuation_shorten :
    continuation "position startpos moves e2e4 e7e5".toList "position startpos moves e2e4".toList = none := by
  repeat rw [String.toList_ofList]
  decide +kernel

example : continuation "a b".toList "a b c".toList = some ["c".toList] := by
  repeat rw [String.toList_ofList]
  decide +kernel

/-- The extra words are cut at every Unicode white space, as `strings.Fields` does (`unicode.IsSpace`): a tab, a
    no-break space U+00A0, an ideographic space U+3000, runs of them. -/
theorem continuation_unicode_space :
    continuation "position startpos moves e2e4".toList "position startpos moves e2e4 e7e5\tg1f3".toList
      = some ["e7e5".toList, "g1f3".toList] ∧
    continuation "position startpos moves e2e4".toList
        ("position startpos moves e2e4 e7e5".toList ++ [Char.ofNat 0xa0] ++ "g1f3".toList ++ [Char.ofNat 0x3000, '\r', ' '] ++ "b8c6".toList)
      = some ["e7e5".toList, "g1f3".toList, "b8c6".toList] := by
  repeat rw [String.toList_ofList]
  decide +kernel


open Morlock.Model.UciPos Morlock.Proofs.UciPos Morlock.Proofs.UciPosText

variable {E : Type}

/-- The handler sets a well-formed playable line up right, from any state in which the extension path — if it is
    taken and succeeds — ends in the game of the line (`hg`: in the game `d` of the command `c` the line is the text
    of). -/
theorem position_eq_denote (eng : Eng E) (st : E × List Char) (line : List Char) (hw : WellFormed line) (hp : Playable eng line)
    (hg : ∀ rest e', continuation st.2 line = some rest → extend eng st.1 rest = (e', true) →
      ∀ c d, c.Ok → line = c.render → denoteC eng c = some d → e' = d) :
    denote eng line = some (position eng st line).1 ∧ (position eng st line).2 = line := by
  obtain ⟨c, hok, rfl, -⟩ := hw
  obtain ⟨d, hd⟩ := Option.isSome_iff_exists.1 hp
  have hd' := (denote_render eng c hok).symm.trans hd
  rcases position_cases eng st c.render with ⟨e1, h⟩ | ⟨rest, e', hcont, hx, h⟩
  · rw [h, (fresh_spec eng e1 c.render).1 d ((scratch_render eng c hok).trans hd')]
    exact ⟨hd, rfl⟩
  · rw [h, hg rest e' hcont hx c d hok rfl hd']
    exact ⟨hd, rfl⟩

theorem position_of_good (eng : Eng E) (st : E × List Char) (line : List Char) (hg : Good eng st)
    (hw : WellFormed line) (hp : Playable eng line) :
    denote eng line = some (position eng st line).1 ∧ (position eng st line).2 = line :=
  position_eq_denote eng st line hw hp fun rest e' h1 h2 c d hok hl hd => hg c d e' rest hok hd (hl ▸ h1) h2

/-- Whenever the handler takes the new-position path for a well-formed playable line — here: the line
    is not recognised as an extension — the engine ends in the game the line describes and the line is
    remembered. `e` and `last` are arbitrary. -/
theorem fresh_eq_denote (eng : Eng E) (e : E) (last line : List Char)
    (hw : WellFormed line) (hp : Playable eng line) (hc : continuation last line = none) :
    denote eng line = some (position eng (e, last) line).1 ∧ (position eng (e, last) line).2 = line :=
  position_eq_denote eng (e, last) line hw hp fun _ _ h1 => nomatch hc.symm.trans h1

/-- … and when the line is recognised as an extension but the extra words cannot all be played
    (the engine is then left advanced by some of them, and reset). -/
theorem fallback_eq_denote (eng : Eng E) (e : E) (last line : List Char) (rest : List (List Char))
    (hw : WellFormed line) (hp : Playable eng line) (hc : continuation last line = some rest)
    (hx : (extend eng e rest).2 = false) :
    denote eng line = some (position eng (e, last) line).1 ∧ (position eng (e, last) line).2 = line :=
  position_eq_denote eng (e, last) line hw hp fun rest' e' h1 h2 => by
    cases hc.symm.trans h1
    rw [h2] at hx
    cases hx

theorem good_of_wf (eng : Eng E) (e : E) (last : List Char) (hwl : WellFormed last) (he : denote eng last = some e) :
    Good eng (e, last) := by
  obtain ⟨c1, hok1, rfl, -⟩ := hwl
  exact good_of_denote eng c1 e hok1 ((denote_render eng c1 hok1).symm.trans he)

/-- **A command that extends the previous one has the same effect as setting the whole line up from
    scratch.** The previous line is well-formed and the engine holds its game (`he`; this includes that
    it is playable); the new line is well-formed, playable and recognised as an extension. Then — by
    whichever path — the engine ends in the game of the new line, and the new line is remembered. -/
theorem extend_eq_scratch (eng : Eng E) (e : E) (last line : List Char) (rest : List (List Char))
    (hwl : WellFormed last) (he : denote eng last = some e)
    (hw : WellFormed line) (hp : Playable eng line) (hc : continuation last line = some rest) :
    denote eng line = some (position eng (e, last) line).1 ∧ (position eng (e, last) line).2 = line :=
  position_eq_denote eng (e, last) line hw hp fun rest' e' h1 h2 c d hok hl hd => by
    cases hc.symm.trans h1
    exact good_of_wf eng e last hwl he c d e' rest hok hd (hl ▸ h1) h2

theorem position_wf (eng : Eng E) (st : E × List Char) (line : List Char)
    (hst : st.2 = [] ∨ (WellFormed st.2 ∧ denote eng st.2 = some st.1))
    (hw : WellFormed line) (hp : Playable eng line) :
    denote eng line = some (position eng st line).1 ∧ (position eng st line).2 = line := by
  refine position_of_good eng st line ?_ hw hp
  rcases hst with h | ⟨hwl, he⟩
  · exact good_nil eng st h
  · exact good_of_wf eng st.1 st.2 hwl he

def Regular (eng : Eng E) (c : Command) : Prop :=
  c = .newgame ∨ ∃ l, c = .position l ∧ WellFormed l ∧ Playable eng l

/-- The invariant: `ll` is the line of the last `position` command so far. -/
def Inv (eng : Eng E) (st : E × List Char) (ll : Option (List Char)) : Prop :=
  (∀ l, ll = some l → WellFormed l ∧ denote eng l = some st.1) ∧ (st.2 = [] ∨ ll = some st.2)

theorem step_inv (eng : Eng E) (st : E × List Char) (ll : Option (List Char)) (c : Command)
    (hi : Inv eng st ll) (hc : Regular eng c) : Inv eng (step eng st c) (lastLineFrom ll [c]) := by
  rcases hc with rfl | ⟨l, rfl, hw, hp⟩
  · refine ⟨fun l hl => hi.1 l hl, Or.inl rfl⟩
  · have hst : st.2 = [] ∨ (WellFormed st.2 ∧ denote eng st.2 = some st.1) := by
      rcases hi.2 with h | h
      · exact Or.inl h
      · exact Or.inr (hi.1 _ h)
    have := position_wf eng st l hst hw hp
    refine ⟨fun l' hl' => ?_, Or.inr ?_⟩
    · have : l = l' := by simpa [lastLineFrom] using hl'
      subst this
      exact ⟨hw, by simpa [step] using this.1⟩
    · simp [lastLineFrom, step, this.2]

theorem run_inv (eng : Eng E) (st : E × List Char) (ll : Option (List Char)) (cmds : List Command)
    (hi : Inv eng st ll) (hc : ∀ c ∈ cmds, Regular eng c) : Inv eng (run eng st cmds) (lastLineFrom ll cmds) := by
  induction cmds generalizing st ll with
  | nil => exact hi
  | cons c cs ih =>
    have h1 := step_inv eng st ll c hi (hc c (by simp))
    exact ih (step eng st c) (lastLineFrom ll [c]) h1 (fun c' hc' => hc c' (by simp [hc']))

/-- **C10.** After any sequence of `ucinewgame` and well-formed playable `position` commands — fresh,
    extended, repeated verbatim, shortened, other position — starting with no remembered line and any
    engine state, the engine holds exactly the game the last `position` command describes; and the
    remembered line is empty or that last line. -/
theorem state_eq_last (eng : Eng E) (e0 : E) (cmds : List Command) (hc : ∀ c ∈ cmds, Regular eng c) :
    (∀ l, lastLine cmds = some l → denote eng l = some (run eng (e0, []) cmds).1) ∧
    ((run eng (e0, []) cmds).2 = [] ∨
      (lastLine cmds = some (run eng (e0, []) cmds).2 ∧
        denote eng (run eng (e0, []) cmds).2 = some (run eng (e0, []) cmds).1)) := by
  have h := run_inv eng (e0, []) none cmds ⟨fun l hl => by simp at hl, Or.inl rfl⟩ hc
  refine ⟨fun l hl => (h.1 l hl).2, ?_⟩
  rcases h.2 with h2 | h2
  · exact Or.inl h2
  · exact Or.inr ⟨h2, (h.1 _ h2).2⟩

/-- Every state reachable from "no remembered line" by *arbitrary* commands (malformed, unplayable,
    garbage `position` lines included) handles a following well-formed playable line right — for a
    strict engine. -/
theorem robust_state_eq_last (eng : Eng E) (hS : eng.Strict) (e0 : E) (pre : List Command) (line : List Char)
    (hw : WellFormed line) (hp : Playable eng line) :
    denote eng line = some (run eng (e0, []) (pre ++ [.position line])).1 ∧
    (run eng (e0, []) (pre ++ [.position line])).2 = line := by
  have : run eng (e0, []) (pre ++ [.position line]) = position eng (run eng (e0, []) pre) line := by
    simp only [run, List.foldl_append, List.foldl_cons, List.foldl_nil, step]
  rw [this]
  exact position_of_good eng _ line (run_good eng hS (e0, []) (good_nil eng _ rfl) pre) hw hp

/-- After ANY line at all, a following well-formed playable line still ends in the game it describes.
    `_partial`: proved for a strict engine and an intermediate state reachable from "no remembered
    line" (by arbitrary commands) — not for an arbitrary `(e, last)`, and not for every engine: both
    restrictions are needed, see `malformed_then_wellformed_false_unrelated` / `_false_reachable`. -/
theorem malformed_then_wellformed_partial (eng : Eng E) (hS : eng.Strict) (e0 : E) (pre : List Command)
    (garbage line : List Char) (hw : WellFormed line) (hp : Playable eng line) :
    denote eng line = some (position eng (position eng (run eng (e0, []) pre) garbage) line).1 ∧
    (position eng (position eng (run eng (e0, []) pre) garbage) line).2 = line := by
  have := robust_state_eq_last eng hS e0 (pre ++ [.position garbage]) line hw hp
  simpa [run, List.foldl_append, step] using this

theorem wellFormed_render (c : Cmd) (hok : c.Ok) : WellFormed c.render := ⟨c, hok, rfl, trimSpace_render c hok⟩

theorem wellFormed_of_cmd {line : List Char} {c : Cmd} (h : c.Ok ∧ line = c.render) : WellFormed line :=
  h.2 ▸ wellFormed_render c h.1

theorem playable_of_cmd (eng : Eng E) {line : List Char} {c : Cmd} (h : c.Ok ∧ line = c.render)
    (hp : (denoteC eng c).isSome) : Playable eng line := by
  unfold Playable; rwa [denote_of_cmd eng h]

theorem not_playable_of_cmd (eng : Eng E) {line : List Char} {c : Cmd} (h : c.Ok ∧ line = c.render)
    (hp : (denoteC eng c).isSome = false) : ¬ Playable eng line := by
  unfold Playable; rw [denote_of_cmd eng h, hp]; exact Bool.false_ne_true

/-- Not `Strict`. -/
def tiny : Eng (List Char × List (List Char)) where
  reset f := some (f, [])
  move s w := if w = [] then none else some (s.1, s.2 ++ [w])

def tinyStrict : Eng (List (List Char)) where
  reset f := if f = initialFen then some [] else none
  move s w := if w.length = 4 then some (s ++ [w]) else none

theorem tinyStrict_strict : tinyStrict.Strict := by
  refine ⟨fun e => by simp [tinyStrict, kwStartpos], fun fs f hl hr e => ?_⟩
  have hne : fs ≠ [] := by intro h; subst h; simp at hl
  simp only [tinyStrict] at hr ⊢
  split at hr
  · rename_i h
    rw [joinSp_concat fs f hne] at h
    -- the fifth character from the end of `fen.Initial` is not a blank
    have hi : initialFen.length = 56 ∧ initialFen[51]? ≠ some ' ' := by
      unfold initialFen; rw [String.toList_ofList]; decide +kernel
    have h1 : (joinSp fs).length + (1 + f.length) = 56 := by
      have := congrArg List.length h
      simp only [List.length_append, List.length_cons] at this
      omega
    have h2 : initialFen[(joinSp fs).length]? = some ' ' := by rw [← h]; simp
    by_cases h4 : f.length = 4
    · have : (joinSp fs).length = 51 := by omega
      rw [this] at h2
      exact absurd h2 hi.2
    · simp [h4]
  · simp at hr

private def l0 := "position startpos".toList
private def l1 := "position startpos moves e2e4".toList
private def l2 := "position startpos moves e2e4 e7e5".toList
private def l3 := "position fen 4k3/8/8/8/8/8/4P3/4K3 w - - 0 1 moves e2e4".toList
private def lSix := "position fen a b c d e f moves e2e4".toList
private def lTab := "position startpos moves e2e4 e7e5\tg1f3".toList
private def lTwo := "position startpos moves e2e4  e7e5".toList

def c0 : Cmd := ⟨none, []⟩
def c1 : Cmd := ⟨none, ["e2e4".toList]⟩
def c2 : Cmd := ⟨none, ["e2e4".toList, "e7e5".toList]⟩
def c3 : Cmd := ⟨some ["4k3/8/8/8/8/8/4P3/4K3".toList, ['w'], ['-'], ['-'], ['0'], ['1']], ["e2e4".toList]⟩

theorem l0_cmd : c0.Ok ∧ l0 = c0.render := by
  unfold l0 c0
  repeat rw [String.toList_ofList]
  decide +kernel
theorem l1_cmd : c1.Ok ∧ l1 = c1.render := by
  unfold l1 c1
  repeat rw [String.toList_ofList]
  decide +kernel
theorem l2_cmd : c2.Ok ∧ l2 = c2.render := by
  unfold l2 c2
  repeat rw [String.toList_ofList]
  decide +kernel
theorem l3_cmd : c3.Ok ∧ l3 = c3.render := by
  unfold l3 c3
  repeat rw [String.toList_ofList]
  decide +kernel

theorem wf_l0 : WellFormed l0 := wellFormed_of_cmd l0_cmd
theorem wf_l1 : WellFormed l1 := wellFormed_of_cmd l1_cmd
theorem wf_l2 : WellFormed l2 := wellFormed_of_cmd l2_cmd
theorem wf_l3 : WellFormed l3 := wellFormed_of_cmd l3_cmd

example : denote tiny l2 = some (initialFen, ["e2e4".toList, "e7e5".toList]) := by
  rw [denote_of_cmd tiny l2_cmd]; simp [denoteC, fenStr, c2, tiny, play]
example : denote tiny l3 = some ("4k3/8/8/8/8/8/4P3/4K3 w - - 0 1".toList, ["e2e4".toList]) := by
  rw [denote_of_cmd tiny l3_cmd, c3]
  repeat rw [String.toList_ofList]
  decide +kernel

/-- Evaluated together: every one of these vectors makes the handler read `fen.Initial` (`initialFen`, a string literal
    inside the model), which the kernel decodes once per evaluation. -/
theorem toy_vectors :
    ((run tiny (([], []), []) [.position l0, .position l1, .position l2] = ((initialFen, ["e2e4".toList, "e7e5".toList]), l2) ∧
    run tiny (([], []), []) [.position l2, .position l2] = ((initialFen, ["e2e4".toList, "e7e5".toList]), l2) ∧
    run tiny (([], []), []) [.position l2, .position l1] = ((initialFen, ["e2e4".toList]), l1) ∧
    run tiny (([], []), []) [.position l2, .position l3] = (("4k3/8/8/8/8/8/4P3/4K3 w - - 0 1".toList, ["e2e4".toList]), l3) ∧
    run tiny (([], []), []) [.position l1, .newgame, .position l2] = ((initialFen, ["e2e4".toList, "e7e5".toList]), l2)) ∧
    (position tiny ((initialFen, ["d2d4".toList]), l0) l1 = ((initialFen, ["d2d4".toList, "e2e4".toList]), l1) ∧
    denote tiny l1 = some (initialFen, ["e2e4".toList])) ∧
    (run tiny (([], []), []) [.position "position fen a b c d e".toList, .position lSix]
      = ((initialFen, [['f'], "e2e4".toList]), lSix) ∧
    denote tiny lSix = some ("a b c d e f".toList, ["e2e4".toList]) ∧
    run tiny (([], []), []) [.position "position".toList, .position l1]
      = ((initialFen, [kwStartpos, "e2e4".toList]), l1))) ∧
    (position tinyStrict (["e2e4".toList, "e7e5".toList], l2) "position startpos moves e2e4 e7e5 xx".toList
    = (["e2e4".toList, "e7e5".toList], [])) ∧
    (position tinyStrict (["e2e4".toList], l1) lTab
      = (["e2e4".toList, "e7e5".toList, "g1f3".toList], lTab) ∧
    position tinyStrict ([], []) lTab = (["e2e4".toList], [])) ∧
    (position tinyStrict (["e2e4".toList], l1) lTwo
      = (["e2e4".toList, "e7e5".toList], lTwo) ∧
    position tinyStrict ([], []) lTwo = (["e2e4".toList], [])) := by
  unfold l0 l1 l2 l3 lSix lTab lTwo
  repeat rw [String.toList_ofList]
  -- the `Decidable` instance of the whole conjunction is beyond the default instance search; found part by part it is not
  refine @of_decide_eq_true _ (@instDecidableAnd _ _
    (@instDecidableAnd _ _ (by infer_instance) (by infer_instance)) (by infer_instance)) ?_
  decide +kernel

/-- The handler evaluated: set up, extend (twice), repeat verbatim, shorten, other position, new game. -/
example :
    run tiny (([], []), []) [.position l0, .position l1, .position l2] = ((initialFen, ["e2e4".toList, "e7e5".toList]), l2) ∧
    run tiny (([], []), []) [.position l2, .position l2] = ((initialFen, ["e2e4".toList, "e7e5".toList]), l2) ∧
    run tiny (([], []), []) [.position l2, .position l1] = ((initialFen, ["e2e4".toList]), l1) ∧
    run tiny (([], []), []) [.position l2, .position l3] = (("4k3/8/8/8/8/8/4P3/4K3 w - - 0 1".toList, ["e2e4".toList]), l3) ∧
    run tiny (([], []), []) [.position l1, .newgame, .position l2] = ((initialFen, ["e2e4".toList, "e7e5".toList]), l2) :=
  toy_vectors.1.1

/-- `state_eq_last` instantiated. -/
example : denote tiny l2 = some (run tiny (([], []), []) [.position l0, .newgame, .position l1, .position l2]).1 := by
  have hreg : ∀ c ∈ [Command.position l0, .newgame, .position l1, .position l2], Regular tiny c := by
    intro c hc
    simp only [List.mem_cons, List.not_mem_nil, or_false] at hc
    rcases hc with rfl | rfl | rfl | rfl
    · exact Or.inr ⟨l0, rfl, wf_l0, playable_of_cmd tiny l0_cmd rfl⟩
    · exact Or.inl rfl
    · exact Or.inr ⟨l1, rfl, wf_l1, playable_of_cmd tiny l1_cmd rfl⟩
    · exact Or.inr ⟨l2, rfl, wf_l2, playable_of_cmd tiny l2_cmd rfl⟩
  exact (state_eq_last tiny ([], []) _ hreg).1 l2 rfl

/-- The engine is left advanced when the extension fails, then reset: `e2e4 e7e5` is remembered,
    the new line adds a word the strict engine refuses, the line is rejected as a whole and the
    engine is left where the from-scratch attempt stopped. -/
example : position tinyStrict (["e2e4".toList, "e7e5".toList], l2) "position startpos moves e2e4 e7e5 xx".toList
    = (["e2e4".toList, "e7e5".toList], []) :=
  toy_vectors.2.1

/-- `malformed_then_wellformed_partial` without its hypothesis on the state is false, for an arbitrary `(e, last)`: if the engine does not hold the
    game of the remembered line, a successful extension inherits the difference. -/
theorem malformed_then_wellformed_false_unrelated :
    position tiny ((initialFen, ["d2d4".toList]), l0) l1 = ((initialFen, ["d2d4".toList, "e2e4".toList]), l1) ∧
    denote tiny l1 = some (initialFen, ["e2e4".toList]) :=
  toy_vectors.1.2.1

/-- `malformed_then_wellformed_partial` is false for a *reachable* state if the engine is not strict: the
    malformed line `position fen a b c d e` (five fields) is accepted as the start position and
    remembered; the well-formed line `position fen a b c d e f moves e2e4` extends it, and an engine
    that accepts the sixth field `f` as a move ends with the moves `f e2e4` played from the start
    position instead of `e2e4` from `a b c d e f`. (Likewise `position` followed by
    `position startpos moves …` if `startpos` is accepted as a move.) The real engine refuses such
    words (`board.ParseMove`), so there the fallback is taken: see `robust_state_eq_last`. -/
theorem malformed_then_wellformed_false_reachable :
    run tiny (([], []), []) [.position "position fen a b c d e".toList, .position "position fen a b c d e f moves e2e4".toList]
      = ((initialFen, [['f'], "e2e4".toList]), "position fen a b c d e f moves e2e4".toList) ∧
    denote tiny "position fen a b c d e f moves e2e4".toList = some ("a b c d e f".toList, ["e2e4".toList]) ∧
    run tiny (([], []), []) [.position "position".toList, .position l1]
      = ((initialFen, [kwStartpos, "e2e4".toList]), l1) :=
  toy_vectors.1.2.2

/-- `robust_state_eq_last` instantiated: garbage, an accepted malformed line and a half-accepted line
    first, then a well-formed playable line. -/
example : denote tinyStrict l2 = some (run tinyStrict ([], [])
    [.position "position fen a b c".toList, .position "position".toList, .position "hello world".toList,
     .position "position startpos moves e2e4 e7e5 toolong".toList, .position l2]).1 :=
  (robust_state_eq_last tinyStrict tinyStrict_strict []
    [.position "position fen a b c".toList, .position "position".toList, .position "hello world".toList,
     .position "position startpos moves e2e4 e7e5 toolong".toList] l2 wf_l2
    (playable_of_cmd tinyStrict l2_cmd (by simp [denoteC, fenStr, c2, tinyStrict, play]))).1

/-- Why `Cmd.Ok` also asks the FEN fields not to be the word `moves`: the new-position path starts
    the move list at the first `moves`, also inside the position text. (No position text the real
    `fen.Decode` accepts has such a field.) -/
theorem fen_field_moves_differs :
    position tiny (([], []), []) "position fen moves b c d e f".toList
      = (("moves b c d e f".toList, [['b'], ['c'], ['d'], ['e'], ['f']]), "position fen moves b c d e f".toList) ∧
    denote tiny "position fen moves b c d e f".toList = some ("moves b c d e f".toList, []) := by
  repeat rw [String.toList_ofList]
  decide +kernel

/-- Not covered by the theorems either (a tab is not a word separator of a well-formed line): the extension
    path (`strings.Fields`) cuts at the tab and plays both moves, the new-position path (`strings.Split(_, " ")`)
    sees the one move `e7e5\tg1f3` and rejects the line. The real driver does the same (`ucidet` stream,
    family `malformed`). -/
theorem tab_paths_differ :
    position tinyStrict (["e2e4".toList], l1) "position startpos moves e2e4 e7e5\tg1f3".toList
      = (["e2e4".toList, "e7e5".toList, "g1f3".toList], "position startpos moves e2e4 e7e5\tg1f3".toList) ∧
    position tinyStrict ([], []) "position startpos moves e2e4 e7e5\tg1f3".toList = (["e2e4".toList], []) :=
  toy_vectors.2.2.1

/-- Not covered by the theorems (the line is not well-formed): with two spaces between moves the
    extension path (`strings.Fields`) accepts the line, the new-position path (`strings.Split`) sees an
    empty move and rejects it — extending and setting up from scratch differ on such lines. -/
theorem double_space_paths_differ :
    position tinyStrict (["e2e4".toList], l1) "position startpos moves e2e4  e7e5".toList
      = (["e2e4".toList, "e7e5".toList], "position startpos moves e2e4  e7e5".toList) ∧
    position tinyStrict ([], []) "position startpos moves e2e4  e7e5".toList = (["e2e4".toList], []) :=
  toy_vectors.2.2.2

end Morlock.Props.C10
