import Morlock.Model.Turochamp
import Morlock.Gen.Engines
/-!
# Tie between `Model/Turochamp.lean` and the constants regenerated from `cmd/turochamp/turochamp`

Same form as `Props/GenTieEngines.lean`: each model function equals, on its whole domain, the same function written with
the constants of `Morlock.Gen.Engines` (rewritten from the Go source on every check) in the place of its literals.
A rational literal of the source (`3.5`, `0.2`) is generated as the exact pair `(numerator, denominator)`.

The statements repeat the definitions of `Model/Turochamp.lean`.
-/
namespace Morlock.Props.GenTieTurochamp
open Morlock Morlock.Model Morlock.Model.Flt Morlock.Model.Turochamp

/-- the exact rational of a generated literal -/
def q (x : Int × Nat) : Q := ⟨x.1, x.2⟩

abbrev pcs (l : List Nat) : List Piece := l.map Piece.ofCode

/-- `pieceValue`: the whole switch; a piece without a `case` panics. -/
theorem pieceValue_tie : ∀ k : Piece, pieceValue k = (Gen.turochampPieceValue.lookup k.code).map q := by
  intro k; cases k <;> rfl

theorem pieceValue_keys_nodup : (Gen.turochampPieceValue.map (·.1)).Nodup := by decide

/-- the lists ranged over by `material` and by the two defender loops of `PositionPlay`. -/
theorem lists_tie : qrnbp = pcs Gen.turochampMaterialPieces ∧ kqrnb = pcs Gen.turochampDefenderOfficers ∧
    kqrnb = pcs Gen.turochampPawnDefenders := by decide

/-- `material`: `if score == 0 { return 0.5 }`. -/
theorem material_tie (pos : Position) (turn : Color) :
    material pos turn =
      (materialLoop pos turn (pcs Gen.turochampMaterialPieces) q0).map fun score =>
        if score.beq (q Gen.turochampMaterialZero) then q Gen.turochampMaterialBare else score := rfl

/-- `Material.Evaluate`: `return 0` for equal material. -/
theorem materialEvaluate_tie (pos : Position) (turn : Color) :
    materialEvaluate pos turn =
      (material pos turn).bind fun own =>
      (material pos turn.opp).bind fun opp =>
      if own.beq opp then some (q Gen.turochampRatioEqual)
      else if opp.lt own then div f32 own opp
      else div f32 opp.neg own := rfl

/-- `0.2` and `0.3`. -/
theorem pawnConstants_tie : c02 = rnd f32 (q Gen.turochampPawnRank) ∧ c03 = rnd f32 (q Gen.turochampPawnDefended) := ⟨rfl, rfl⟩

/-- `eval.Pawns(math.Round(10*math.Sqrt(float64(n)))) / 10`; the mobility and the king-safety term use the same literals. -/
theorem sqrtTerm_tie (n : Nat) :
    Gen.turochampSafetyScale = Gen.turochampSqrtScale ∧ Gen.turochampSafetyDiv = Gen.turochampSqrtDiv ∧
    sqrtTerm n =
      ((sqrt f64 (Q.ofNat n)).bind fun s =>
       (mul f64 (q Gen.turochampSqrtScale) s).bind fun t =>
       (pawnsOfInt t.roundAway).bind fun v =>
       div f32 v (q Gen.turochampSqrtDiv)) := ⟨rfl, rfl, rfl⟩

/-- loop (1): moves of every piece but the pawn count, captures twice. -/
theorem mobility_tie (pos : Position) (turn : Color) :
    mobility pos turn =
      (pos.legalMoves turn).foldl (fun mob m =>
        if m.piece != Piece.ofCode Gen.turochampMobilityExcluded && !m.isCastle then
          let mob := mobBump mob m.from
          if m.ty.code = Gen.turochampMobilityDouble then mobBump mob m.from else mob
        else mob) [] := by
  unfold mobility
  congr 1
  funext mob m
  obtain ⟨ty, fr, to, piece, promotion, capture⟩ := m
  cases ty <;> rfl

/-- the five bonuses before the mobility sum. -/
theorem prePlay_tie (pos : Position) (hasCastled : Bool) (turn : Color) :
    prePlay pos hasCastled turn =
      ((addIf (pos.castling &&& castlingRights turn != 0) (q Gen.turochampCastlingRights) q0).bind fun s =>
       (addIf hasCastled (q Gen.turochampHasCastled) s).bind fun s =>
       (addIf (pos.isChecked turn.opp) (q Gen.turochampGivesCheck) s).bind fun s =>
       (addIf (mayCheckMate pos turn) (q Gen.turochampMayMate) s).bind fun s =>
       addIf (mayCastle pos turn) (q Gen.turochampMayCastle) s) := rfl

/-- part (2): the pieces whose defence counts, the pawn defenders, the two thresholds and bonuses. -/
theorem middle_tie (pos : Position) (turn : Color) :
    Gen.turochampMiddle.length = 3 ∧
    middle pos turn =
      pos.pieces turn (Piece.ofCode (Gen.turochampMiddle.getD 0 0)) ||| pos.pieces turn (Piece.ofCode (Gen.turochampMiddle.getD 1 0)) |||
        pos.pieces turn (Piece.ofCode (Gen.turochampMiddle.getD 2 0)) := ⟨rfl, rfl⟩

theorem defenders_tie (pos : Position) (turn : Color) (sq : Nat) :
    defenders pos turn sq =
      (defendersLoop pos turn sq (pcs Gen.turochampDefenderOfficers) 0).map fun d =>
        let bb := pawnCaptureboard turn (pos.pieces turn (Piece.ofCode Gen.turochampDefenderPawn)) &&& bitMask sq
        if bb != 0 then d + popCount bb else d := rfl

theorem defenceLoop_tie (pos : Position) (turn : Color) (sq : Nat) (rest : List Nat) (score : Q) :
    defenceLoop pos turn (sq :: rest) score =
      ((defenders pos turn sq).bind fun d =>
       (addIf (decide ((d : Int) > Gen.turochampDefendedAbove)) (q Gen.turochampDefended) score).bind fun s =>
       (addIf (decide ((d : Int) > Gen.turochampDefendedTwiceAbove)) (q Gen.turochampDefendedTwice) s).bind
         (defenceLoop pos turn rest)) := by
  show ((defenders pos turn sq).bind fun d =>
       (addIf (decide (d > 0)) q1 score).bind fun s =>
       (addIf (decide (d > 1)) qHalf s).bind (defenceLoop pos turn rest)) = _
  congr 1
  funext d
  have h0 : decide (d > 0) = decide ((d : Int) > Gen.turochampDefendedAbove) := by
    unfold Gen.turochampDefendedAbove; rw [decide_eq_decide]; omega
  have h1 : decide (d > 1) = decide ((d : Int) > Gen.turochampDefendedTwiceAbove) := by
    unfold Gen.turochampDefendedTwiceAbove; rw [decide_eq_decide]; omega
  rw [h0, h1]; rfl

/-- part (3): the piece whose square the imaginary queen stands on. -/
theorem kingSafety_tie (pos : Position) (turn : Color) (score : Q) :
    kingSafety pos turn score =
      (if pos.pieces turn (Piece.ofCode Gen.turochampSafetyPiece) != 0 then
        ((sqrtTerm (popCount (andNot (queenAttackboard pos.rotated (lastPopSquare (pos.pieces turn (Piece.ofCode Gen.turochampSafetyPiece))))
            (pos.pieces turn .none)))).bind fun t => sub f32 score t)
       else some score) := rfl

/-- part (4): `from.Rank() - Rank2` / `Rank7 - from.Rank()` (in `uint8`). -/
theorem pawnRanks_tie (turn : Color) (sq : Nat) :
    pawnRanks turn sq =
      if turn.code = Gen.turochampPawnSide then (sqRank sq + 256 - Gen.turochampPawnHome) % 256
      else (Gen.turochampPawnHomeOpp + 256 - sqRank sq) % 256 := by
  cases turn <;> rfl

/-- parts (2)-(4): the pawns looped over. -/
theorem postPlay_tie (pos : Position) (turn : Color) (score : Q) :
    postPlay pos turn score =
      ((defenceLoop pos turn (toSquares (middle pos turn)) score).bind fun s =>
       (kingSafety pos turn s).bind fun s =>
       pawnLoop pos turn (toSquares (pos.pieces turn (Piece.ofCode Gen.turochampPawnPiece))) s) := rfl

/-- `Eval.Evaluate`: `math.Round(float64(mat)*100) * 10`, `math.Round(float64(pp)*100) / 1000`. -/
theorem combine_tie (mat pp : Q) :
    combine mat pp =
      ((mul f64 mat (q Gen.turochampMatScale)).bind fun m100 =>
       (mul f64 (Q.ofInt m100.roundAway) (q Gen.turochampMatShift)).bind fun m64 =>
       (rnd f32 m64).bind fun m =>
       (mul f64 pp (q Gen.turochampPlayScale)).bind fun p100 =>
       (div f64 (Q.ofInt p100.roundAway) (q Gen.turochampPlayDiv)).bind fun p64 =>
       (rnd f32 p64).bind fun p =>
       add f32 m p) := rfl

end Morlock.Props.GenTieTurochamp
