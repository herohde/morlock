import Morlock.Proofs.FenPrint
import Morlock.Props.C05Sync
import Morlock.Model.EngineM
/-!
# C14 — the FEN a board reports is the standard FEN of the game played on it

`C05Sync.fen_agrees`: the fields `fen.Encode` is given for a board are the fields of the reference game (`Spec.Game`: start
position plus the list of moves, everything recomputed from the whole history). `Proofs/FenPrint.lean`: on equal fields
`fen.Encode` and the reference printer write the same string. Together: on every board reachable by set-up, generated moves,
take-backs and forks, the FEN the board encodes is the FEN of the reference game: half-move clock = half-moves since the
last pawn move or capture, full-move number incremented after each Black move.
-/
namespace Morlock.Props.C14Print
open Morlock Morlock.Model Morlock.Model.World Morlock.Model.Fen Morlock.Proofs Morlock.Proofs.Arena
  Morlock.Proofs.Draw Morlock.Proofs.Chain Morlock.Proofs.Gen Morlock.Proofs.FenPrint Morlock.Props.C05
  Morlock.Props.C05Sync Morlock.Props.C07Board

/-- `fen.Encode` writes exactly what the reference printer writes for the abstraction of the position, the side to move and
the two clocks. -/
theorem encode_eq_printFen (p : Position) (turn : Color) (np fm : Int) (hc : p.castling < 16)
    (he : p.enpassant < 64) (hnp : 0 ≤ np) (hfm : 0 ≤ fm) :
    encode p turn np fm = Spec.printFen { pos := abs p turn, halfmove := np.toNat, fullmove := fm.toNat } := by
  rw [Morlock.Proofs.Fen.encode_eq, printFen_eq, placement_eq p turn, castling_eq p turn hc, ep_eq p turn he, itoa_toNat hnp,
    itoa_toNat hfm]
  cases turn <;> rfl

/-- On a well-formed position the en-passant bound follows. -/
theorem encode_eq_printFen_wf {p : Position} {turn : Color} (hw : WF p turn) (np fm : Int) (hc : p.castling < 16)
    (hnp : 0 ≤ np) (hfm : 0 ≤ fm) :
    encode p turn np fm = Spec.printFen { pos := abs p turn, halfmove := np.toNat, fullmove := fm.toNat } := by
  have he : p.enpassant < 64 := by
    by_cases h0 : p.enpassant = 0
    · rw [h0]; decide
    · exact (hw.wfb.ep_ok h0).1
  exact encode_eq_printFen p turn np fm hc he hnp hfm

/-- `Rep p b` is not used by the proof; it is what makes `abs p turn` the mailbox board `b`. -/
theorem encode_eq_printFen_rep {p : Position} {b : Proofs.Board} (_h : Rep p b) (turn : Color) (np fm : Int)
    (hc : p.castling < 16) (he : p.enpassant < 64) (hnp : 0 ≤ np) (hfm : 0 ≤ fm) :
    encode p turn np fm = Spec.printFen { pos := abs p turn, halfmove := np.toNat, fullmove := fm.toNat } :=
  encode_eq_printFen p turn np fm hc he hnp hfm

/-- Both bounds are necessary. Rights: a fifth bit alone prints as the empty field, the reference prints `-`.
Target: `Square.String` takes the rank modulo 8 (`64 ↦ h1`), the reference does not (`h9`). -/
theorem bounds_needed :
    encode { castling := 16 } .white 0 1 ≠
      Spec.printFen { pos := abs { castling := 16 } .white, halfmove := 0, fullmove := 1 } ∧
    encode { enpassant := 64 } .white 0 1 ≠
      Spec.printFen { pos := abs { enpassant := 64 } .white, halfmove := 0, fullmove := 1 } := by
  -- the placement fields agree (`placement_eq`); the other fields are compared as character lists
  simp only [ne_eq, ← String.toList_inj, Morlock.Proofs.Fen.encode_toList, Morlock.Proofs.Fen.boardStr_toList,
    printFen_eq, ← placement_eq, String.toList_append]
  repeat rw [String.toList_ofList]
  decide +kernel

/-- On every generated board the string `fen.Encode` returns for the board's current position, side to move, clock and move
counter is the FEN of the reference game carried along. -/
theorem reported_fen_is_standard {z : ZTable} (hz : z.enpassant 0 = 0) {w : World} {b : Nat} {g : Spec.Game}
    (hg : GenGame z w b g) :
    encode (w.cur b).pos (w.board b).turn (w.cur b).noprogress (w.board b).moves = g.fen := by
  obtain ⟨_, _, _, hl⟩ := genBoard_inv hz (genGame_genBoard hg)
  obtain ⟨hs, _⟩ := genBoard_sync hz hg
  obtain ⟨_, h2, h3, _⟩ := position_agrees hz hg
  have hnp : 0 ≤ (w.cur b).noprogress := by rw [← h2]; exact Int.natCast_nonneg _
  have hfm : 0 ≤ (w.board b).moves := by rw [← h3]; exact Int.natCast_nonneg _
  rw [fen_agrees hz hg]
  exact encode_eq_printFen_wf hl.cur.wf _ _ hs.sync.cur_posOK.castling hnp hfm

theorem reported_fen_fields {z : ZTable} (hz : z.enpassant 0 = 0) {w : World} {b : Nat} {g : Spec.Game}
    (hg : GenGame z w b g) :
    encode (w.cur b).pos (w.board b).turn (w.cur b).noprogress (w.board b).moves =
      Spec.printFen { pos := g.current, halfmove := g.halfmove, fullmove := g.fullmove } :=
  reported_fen_is_standard hz hg

/-- `Engine.Position` is `fen.Encode` on board 0. -/
theorem engine_position_is_standard {z : ZTable} (hz : z.enpassant 0 = 0) {e : EngineM} {g : Spec.Game}
    (hg : GenGame z e.w 0 g) : e.position = g.fen :=
  reported_fen_is_standard hz hg

theorem engine_position_is_standard' {z : ZTable} (hz : z.enpassant 0 = 0) {w : World} {g : Spec.Game}
    (hg : GenGame z w 0 g) : (EngineM.mk w).position = g.fen :=
  reported_fen_is_standard hz hg

/-! ## A concrete game: 1. e4 d5 2. exd5 Qxd5 -/

section Example

/-- 1… d5 -/
def d7d5 : Move := { ty := .jump, «from» := 52, to := 36, piece := .pawn }
/-- 2. exd5 -/
def exd5 : Move := { ty := .capture, «from» := 27, to := 36, piece := .pawn, capture := .pawn }
/-- 2… Qxd5 -/
def qxd5 : Move := { ty := .capture, «from» := 60, to := 36, piece := .queen, capture := .pawn }

/-- 1. e4 (`C05Sync.f1`) d5 -/
def p2 : World := (f1.pushMove exZ 0 d7d5).getD default
/-- 2. exd5 -/
def p3 : World := (p2.pushMove exZ 0 exd5).getD default
/-- 2… Qxd5 -/
def p4 : World := (p3.pushMove exZ 0 qxd5).getD default

/-- The two side conditions of `GenGame.push`, as one evaluable test. -/
def pushOK (z : ZTable) (w : World) (b : Nat) (m : Move) : Bool :=
  decide (m ∈ (w.cur b).pos.pseudoLegalMoves (w.board b).turn) && (w.pushMove z b m).isSome

theorem push_ok {z : ZTable} {w : World} {b : Nat} {m : Move} {g : Spec.Game} (hg : GenGame z w b g)
    (h : pushOK z w b m = true) : GenGame z ((w.pushMove z b m).getD default) b (gsnoc g (absMove m)) := by
  rw [pushOK, Bool.and_eq_true, decide_eq_true_eq] at h
  exact GenGame.push hg h.1 (push_getD h.2)

/-- The four moves of the example game are generated and pushed, and what `fen.Encode` writes after 2… Qxd5 and after
    1… d5. -/
theorem ex_eval :
    (pushOK exZ e0 0 e2e4 && pushOK exZ f1 0 d7d5 && pushOK exZ p2 0 exd5 && pushOK exZ p3 0 qxd5) = true ∧
    encode (p4.cur 0).pos (p4.board 0).turn (p4.cur 0).noprogress (p4.board 0).moves =
      "rnb1kbnr/ppp1pppp/8/3q4/8/8/PPPP1PPP/RNBQKBNR w KQkq - 0 3" ∧
    encode (p2.cur 0).pos (p2.board 0).turn (p2.cur 0).noprogress (p2.board 0).moves =
      "rnbqkbnr/ppp1pppp/8/3p4/4P3/8/PPPP1PPP/RNBQKBNR w KQkq d6 0 2" := by
  -- the strings field by field, as character lists
  simp only [← String.toList_inj, Morlock.Proofs.Fen.encode_toList, Morlock.Proofs.Fen.boardStr_toList]
  unfold p4 p3 p2 f1 e0
  rw [startPos_val]
  repeat rw [String.toList_ofList]
  decide +kernel

theorem ex_p4 :
    GenGame exZ p4 0 (gsnoc (gsnoc (gsnoc (gsnoc g0 (absMove e2e4)) (absMove d7d5)) (absMove exd5)) (absMove qxd5)) := by
  have h := ex_eval.1
  simp only [Bool.and_eq_true] at h
  exact push_ok (push_ok (push_ok (push_ok ex_e0 h.1.1.1) h.1.1.2) h.1.2) h.2

def gEx : Spec.Game :=
  { start := { pos := abs startPos .white, halfmove := 0, fullmove := 1 },
    moves := [absMove e2e4, absMove d7d5, absMove exd5, absMove qxd5] }

theorem gEx_eq :
    gsnoc (gsnoc (gsnoc (gsnoc g0 (absMove e2e4)) (absMove d7d5)) (absMove exd5)) (absMove qxd5) = gEx := rfl

theorem p4_fen : encode (p4.cur 0).pos (p4.board 0).turn (p4.cur 0).noprogress (p4.board 0).moves = gEx.fen :=
  gEx_eq ▸ reported_fen_is_standard (z := exZ) rfl ex_p4

example : encode (p4.cur 0).pos (p4.board 0).turn (p4.cur 0).noprogress (p4.board 0).moves = gEx.fen := p4_fen

/-- The capture has reset the clock, the two Black moves have advanced the move number; after 1. e4 d5 the target square
`d6` is written. -/
example :
    encode (p4.cur 0).pos (p4.board 0).turn (p4.cur 0).noprogress (p4.board 0).moves =
      "rnb1kbnr/ppp1pppp/8/3q4/8/8/PPPP1PPP/RNBQKBNR w KQkq - 0 3" ∧
    gEx.fen = "rnb1kbnr/ppp1pppp/8/3q4/8/8/PPPP1PPP/RNBQKBNR w KQkq - 0 3" ∧
    encode (p2.cur 0).pos (p2.board 0).turn (p2.cur 0).noprogress (p2.board 0).moves =
      "rnbqkbnr/ppp1pppp/8/3p4/4P3/8/PPPP1PPP/RNBQKBNR w KQkq d6 0 2" :=
  ⟨ex_eval.2.1, p4_fen ▸ ex_eval.2.1, ex_eval.2.2⟩

example : encode Proofs.exPos .black 7 12 =
    Spec.printFen { pos := abs Proofs.exPos .black, halfmove := 7, fullmove := 12 } :=
  encode_eq_printFen Proofs.exPos .black 7 12 (by decide +kernel) (by decide +kernel) (by decide) (by decide)

example : (EngineM.mk p4).position = gEx.fen :=
  gEx_eq ▸ engine_position_is_standard' (z := exZ) rfl ex_p4

end Example

end Morlock.Props.C14Print

section Axioms
open Morlock.Props.C14Print
#print axioms Morlock.Proofs.FenPrint.square_ne_none
#print axioms Morlock.Proofs.FenPrint.placement_eq
#print axioms Morlock.Proofs.FenPrint.castling_eq
#print axioms Morlock.Proofs.FenPrint.ep_eq
#print axioms Morlock.Proofs.FenPrint.itoa_toNat
#print axioms Morlock.Props.C14Print.encode_eq_printFen
#print axioms encode_eq_printFen_wf
#print axioms encode_eq_printFen_rep
#print axioms bounds_needed
#print axioms reported_fen_is_standard
#print axioms reported_fen_fields
#print axioms engine_position_is_standard
#print axioms engine_position_is_standard'
#print axioms ex_p4
end Axioms
