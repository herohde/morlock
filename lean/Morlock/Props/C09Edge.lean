import Morlock.Props.C09
/-!
# C09 — the branches the order theorems exclude, stated outright

`Props/C09.lean` proves the order laws for `Valid` scores. The transcription of `score.go` is total,
so the excluded inputs (the `Invalid` score, `MateInXScore(0)`) still have a behaviour, and the
`score` stream compares it with the implementation. These theorems say what that behaviour is for
EVERY partner score, so that the "partial" notes of the evidence are statements, not remarks:
neither value is ever ranked against a heuristic score, in either direction, and the selection
helpers `Max` / `Min` never invent a score.
-/
namespace Morlock.Props.C09Edge
open Morlock Morlock.Model Morlock.Model.Score Morlock.Spec Morlock.Props.C09

/-- `MateInXScore(0)` is neither below nor above any heuristic score (and differs from each). -/
theorem mate0_incomparable (p : Int) :
    (mateInXScore 0).less (heuristicScore p) = false ∧
    (heuristicScore p).less (mateInXScore 0) = false ∧
    mateInXScore 0 ≠ heuristicScore p := by
  simp [less, mateInXScore, heuristicScore]

theorem mate0_between_inf :
    negInfScore.less (mateInXScore 0) = true ∧ (mateInXScore 0).less infScore = true := by decide

/-- With a zero mate distance the chain breaks: it is above every mated AND every mating score ... -/
theorem mate0_above_all_mates (k : Int) (hk : k ≠ 0) :
    (mateInXScore k).less (mateInXScore 0) = true := by
  by_cases h : k < 0 <;> simp [less, mateInXScore, h] <;> omega

/-- ... so transitivity fails through it (`h < mate 1 < mate 0` but not `h < mate 0`): no rank could
    place it, which is why `Valid` demands `Mate ≠ 0` (as the field's documentation does). -/
theorem mate0_breaks_transitivity (p : Int) :
    (heuristicScore p).less (mateInXScore 1) = true ∧ (mateInXScore 1).less (mateInXScore 0) = true ∧
    (heuristicScore p).less (mateInXScore 0) = false := by
  refine ⟨?_, mate0_above_all_mates 1 (by decide), (mate0_incomparable p).2.1⟩
  simp [less, mateInXScore, heuristicScore]

/-- The `Invalid` score is never ordered against a heuristic or mate score, in either direction. -/
theorem invalid_incomparable (b : Score) (hb : b.ty = .heuristic ∨ b.ty = .mateInX) :
    invalidScore.less b = false ∧ b.less invalidScore = false := by
  obtain ⟨tb, mb, pb⟩ := b
  rcases hb with h | h <;> simp at h <;> subst h <;> simp [less, invalidScore]

/-- ... but the two infinities bound it like everything else (the first two tests of `Less`). -/
theorem invalid_between_inf :
    negInfScore.less invalidScore = true ∧ invalidScore.less infScore = true ∧
    invalidScore.less negInfScore = false ∧ infScore.less invalidScore = false := by decide

theorem invalid_fixed : invalidScore.negate = invalidScore ∧ invalidScore.incMate = invalidScore := by
  decide

theorem max_mem (a b : Score) : Score.max a b = a ∨ Score.max a b = b := by
  unfold Score.max; split <;> simp

theorem min_mem (a b : Score) : Score.min a b = a ∨ Score.min a b = b := by
  unfold Score.min; split <;> simp

theorem max_min_partition (a b : Score) :
    (Score.max a b = a ∧ Score.min a b = b) ∨ (Score.max a b = b ∧ Score.min a b = a) := by
  unfold Score.max Score.min; split <;> simp

theorem min_not_above_max (a b : Score) (ha : Valid a) (hb : Valid b) :
    (Score.max a b).less (Score.min a b) = false := by
  have hmax : Valid (Score.max a b) := by rcases max_mem a b with h | h <;> rw [h] <;> assumption
  have hmin : Valid (Score.min a b) := by rcases min_mem a b with h | h <;> rw [h] <;> assumption
  have h := lt_iff_rank _ _ hmax hmin
  have hr := max_min a b ha hb
  cases hl : (Score.max a b).less (Score.min a b)
  · rfl
  · have := h.1 hl
    omega

/-- Non-vacuity: valid scores exist on every stretch of the chain. -/
example : Valid (mateInXScore (-3)) ∧ Valid (heuristicScore 125) ∧ Valid (mateInXScore 7) ∧
    Valid infScore ∧ Valid negInfScore := by decide

end Morlock.Props.C09Edge
