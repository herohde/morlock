import Morlock.Props.C08
import Morlock.Proofs.ForkMany
/-!
# C08, continued — any number of boards, forks of forks, adjudication

Isolation for any number of boards, forks made at any time during the run (forks of forks included) and
`AdjudicateNoLegalMoves`. `D : Nat → Option Nat` says which boards take part and how many moves each is above its
floor: the node at which it stood when the run started, when it was created by a fork, or when it was last forked
(a fork shares everything below the current node with the new board, so the forked board's height is reset as
well). The side condition `aboveN` - no board is taken back below its floor - is the condition `above2 0 0` of
`fork_isolated` per board; `pop_below_fork_clobbers` shows it cannot be dropped. The lineage of a board
(`lineOf`) is the operations addressed to its ancestors up to and including the fork, followed by its own;
`soloOps` addresses it to the board of the initial world it descends from (`rootOf`).
-/
namespace Morlock.Props.C08Many
open Morlock Morlock.Model Morlock.Model.World Morlock.Proofs.Arena

def soloOps (n : Nat) (ops : List (Nat × OpN)) (b : Nat) : List (Nat × OpN) :=
  (lineOf n ops b).map fun o => (rootOf n ops b, o)

theorem lineage_initial {n b : Nat} (ops : List (Nat × OpN)) (hb : b < n) :
    rootOf n ops b = b ∧ soloOps n ops b = ops.filter (fun p => p.1 == b) := by
  obtain ⟨h1, h2⟩ := lineages_initial ops n id (fun _ => []) b hb
  have hr : rootOf n ops b = b := h1
  refine ⟨hr, ?_⟩
  unfold soloOps lineOf
  rw [hr, h2, List.nil_append]
  exact filter_map_addr b ops

theorem solo_of_view {z : ZTable} {ws w' : World} {r b : Nat} {l : List OpN} (hws : WFWorld ws)
    (hr : r < ws.boards.size) (hw' : WFWorld w') (h : viewRunN z (view ws r) l = some (view w' b)) :
    ∃ wb, runN z ws (l.map fun o => (r, o)) = some wb ∧ obs w' b = obs wb r ∧
      (w'.board b).result = (wb.board r).result := by
  rw [← runN_view_one l hws hr] at h
  obtain ⟨wb, hrun, hv⟩ := Option.map_eq_some_iff.mp h
  have hwb := (runN_wf _ hws (fun p hp => by obtain ⟨o, _, rfl⟩ := List.mem_map.mp hp; exact hr) hrun).1
  exact ⟨wb, hrun, same_of_view_eq hw' hwb hv.symm⟩

theorem solo_initial {z : ZTable} {ws w' : World} {r b : Nat} {ops : List (Nat × OpN)} (hws : WFWorld ws)
    (hr : r < ws.boards.size) (hw' : WFWorld w')
    (h : viewRunN z (view ws r) ((ops.filter fun p => p.1 == r).map (·.2)) = some (view w' b)) :
    ∃ wb, runN z ws (ops.filter fun p => p.1 == r) = some wb ∧ obs w' b = obs wb r ∧
      (w'.board b).result = (wb.board r).result :=
  filter_map_addr r ops ▸ solo_of_view hws hr hw' h

/-- The final world is well-formed, its participating boards are separated again, and every board that descends
from a participating board sees what the view-run of its lineage, started from its root's view in the initial
world, produces. -/
theorem isolated_many_view {w w' : World} {z : ZTable} {D : Nat → Option Nat} {ops : List (Nat × OpN)}
    (hw : WFWorld w) (hD : Separated w D)
    (habove : aboveN w.boards.size D ops = true)
    (hrun : runN z w ops = some w') :
    WFWorld w' ∧ w'.boards.size = boardsAfter w.boards.size ops ∧
    Separated w' (depthsAfter w.boards.size D ops) ∧
    ∀ b, b < w'.boards.size → D (rootOf w.boards.size ops b) ≠ none →
      rootOf w.boards.size ops b < w.boards.size ∧
      viewRunN z (view w (rootOf w.boards.size ops b)) (lineOf w.boards.size ops b) = some (view w' b) := by
  obtain ⟨hI, hsz, hact⟩ := runN_inv D ops (inv_init (z := z) hw hD) (fun _ _ h => h) habove hrun
  refine ⟨hI.wf, hsz, hI.separated, ?_⟩
  intro b hb hroot
  cases hd : depthsAfter w.boards.size D ops b with
  | none => exact absurd hd (hact b hb hroot)
  | some d => exact ⟨hI.root_lt b d hd, hI.hist b d hd⟩

theorem isolated_initial_view {w w' : World} {z : ZTable} {D : Nat → Option Nat} {ops : List (Nat × OpN)}
    (hw : WFWorld w) (hD : Separated w D) (habove : aboveN w.boards.size D ops = true)
    (hrun : runN z w ops = some w') {x : Nat} (hx : D x ≠ none) :
    x < w.boards.size ∧ WFWorld w' ∧
      viewRunN z (view w x) ((ops.filter fun p => p.1 == x).map (·.2)) = some (view w' x) := by
  obtain ⟨hw', hsz, _, hall⟩ := isolated_many_view hw hD habove hrun
  have hlt : x < w.boards.size := by
    cases hDx : D x with
    | none => exact absurd hDx hx
    | some d => exact hD.act_lt x d hDx
  obtain ⟨h1, h2⟩ := lineages_initial ops w.boards.size id (fun _ => []) x hlt
  have hv := (hall x (Nat.lt_of_lt_of_le hlt (hsz ▸ boardsAfter_ge ops _)) (by rw [rootOf, h1]; exact hx)).2
  rw [rootOf, lineOf, h1, h2] at hv
  exact ⟨hlt, hw', hv⟩

/-- Let the participating boards `D` of a well-formed world be separated (a single board, `separated_only`, or the
boards left by a previous allowed run, `separated_after`). Run any list of moves, take-backs, forks and
adjudications, addressed to any participating board or to any board forked off during the run, in which no board is
taken back below its floor. Then every board `b` of the final world that descends from a participating board
reports exactly what the board it descends from would report after a solo run in the initial world of the
operations of `b`'s lineage only (for a board of the initial world the operations addressed to it,
`lineage_initial`): the solo run succeeds, and all observations and the result itself agree. -/
theorem isolated_many {w w' : World} {z : ZTable} {D : Nat → Option Nat} {ops : List (Nat × OpN)}
    (hw : WFWorld w) (hD : Separated w D)
    (habove : aboveN w.boards.size D ops = true)
    (hrun : runN z w ops = some w') :
    ∀ b, b < w'.boards.size → D (rootOf w.boards.size ops b) ≠ none →
      ∃ wb, runN z w (soloOps w.boards.size ops b) = some wb ∧
        obs w' b = obs wb (rootOf w.boards.size ops b) ∧
        (w'.board b).result = (wb.board (rootOf w.boards.size ops b)).result := by
  obtain ⟨hw', _, _, hall⟩ := isolated_many_view hw hD habove hrun
  intro b hb hroot
  obtain ⟨hr, hv⟩ := hall b hb hroot
  exact solo_of_view hw hr hw' hv

/-- Each board of the initial world reports what it would report had only the operations addressed to it been
run. -/
theorem isolated_many_initial {w w' : World} {z : ZTable} {D : Nat → Option Nat} {ops : List (Nat × OpN)}
    (hw : WFWorld w) (hD : Separated w D)
    (habove : aboveN w.boards.size D ops = true)
    (hrun : runN z w ops = some w') {b : Nat} (hb : D b ≠ none) :
    ∃ wb, runN z w (ops.filter fun p => p.1 == b) = some wb ∧ obs w' b = obs wb b ∧
      (w'.board b).result = (wb.board b).result := by
  obtain ⟨hlt, hw', hv⟩ := isolated_initial_view hw hD habove hrun hb
  exact solo_initial hw hlt hw' hv

/-- Runs compose: after an allowed run the participating boards are separated again, at their new heights. -/
theorem separated_after {w w' : World} {z : ZTable} {D : Nat → Option Nat} {ops : List (Nat × OpN)}
    (hw : WFWorld w) (hD : Separated w D)
    (habove : aboveN w.boards.size D ops = true)
    (hrun : runN z w ops = some w') :
    WFWorld w' ∧ Separated w' (depthsAfter w.boards.size D ops) :=
  let h := isolated_many_view hw hD habove hrun
  ⟨h.1, h.2.2.1⟩

/-- The three participating boards of `fork_of_fork_isolated`: `b`, its fork `n`, and the fork's fork `n + 1`,
all at their floor. -/
def three (b n : Nat) : Nat → Option Nat := fun i => if i = b ∨ i = n ∨ i = n + 1 then some 0 else none

theorem three_ne_none {b n i : Nat} (h : i = b ∨ i = n ∨ i = n + 1) : three b n i ≠ none := by
  rw [three, if_pos h]
  exact Option.some_ne_none 0

theorem separated_three {w : World} {b : Nat} (hw : WFWorld w) (hb : b < w.boards.size) :
    WFWorld ((w.fork b).1.fork w.boards.size).1 ∧
    Separated ((w.fork b).1.fork w.boards.size).1 (three b w.boards.size) := by
  have h0 : Inv ⟨fun _ _ _ => 0, fun _ => 0, fun _ => 0, fun _ => 0⟩ w w (only b) id (fun _ => []) :=
    inv_init hw (separated_only hb)
  have h1 := stepN_inv h0 (x := b) (o := .fork) (depthStep_of (d := 0) (if_pos rfl) rfl) rfl
  have h2 := stepN_inv h1 (x := w.boards.size) (o := .fork)
    (depthStep_of (d := 0) ((upd_self _ _ _).trans (upd_self _ _ _)) rfl) rfl
  refine ⟨h2.wf, ?_⟩
  have hD : forkUpd .fork (w.fork b).1.boards.size w.boards.size
      (upd (forkUpd .fork w.boards.size b (upd (only b) b (some 0))) w.boards.size (some 0))
      = three b w.boards.size := by
    funext i
    simp only [forkUpd, upd, only, three, fork_boards_size]
    by_cases e1 : i = w.boards.size + 1
    · simp [e1]
    · by_cases e2 : i = w.boards.size
      · simp [e2]
      · by_cases e3 : i = b
        · simp [e3]
        · simp [e1, e2, e3]
  exact hD ▸ h2.separated

/-- Fork board `b` (giving `f`, id `w.boards.size`), fork `f` (giving `ff`, id `w.boards.size + 1`), then apply any
interleaving of moves, take-backs, adjudications and further forks to the three boards and to those forked off
later, in which no board is taken back below its floor. Each of the three then reports what it would report had
the others not been touched: `b` as if only its operations had been run in the world without any fork, `f` as if
only its operations had been run after the first fork, `ff` as if only its own after the second. -/
theorem fork_of_fork_isolated {w w' : World} {z : ZTable} {b : Nat} {ops : List (Nat × OpN)}
    (hw : WFWorld w) (hb : b < w.boards.size)
    (habove : aboveN (w.boards.size + 2) (three b w.boards.size) ops = true)
    (hrun : runN z ((w.fork b).1.fork (w.fork b).2).1 ops = some w') :
    (∃ wb, runN z w (ops.filter fun p => p.1 == b) = some wb ∧ obs w' b = obs wb b ∧
        (w'.board b).result = (wb.board b).result) ∧
    (∃ wf, runN z (w.fork b).1 (ops.filter fun p => p.1 == (w.fork b).2) = some wf ∧
        obs w' (w.fork b).2 = obs wf (w.fork b).2 ∧
        (w'.board (w.fork b).2).result = (wf.board (w.fork b).2).result) ∧
    (∃ wff, runN z ((w.fork b).1.fork (w.fork b).2).1
          (ops.filter fun p => p.1 == ((w.fork b).1.fork (w.fork b).2).2) = some wff ∧
        obs w' ((w.fork b).1.fork (w.fork b).2).2 = obs wff ((w.fork b).1.fork (w.fork b).2).2 ∧
        (w'.board ((w.fork b).1.fork (w.fork b).2).2).result =
          (wff.board ((w.fork b).1.fork (w.fork b).2).2).result) := by
  have hw1 := wf_fork hw b
  obtain ⟨hw2, hsep⟩ := separated_three hw hb
  have hn1 : w.boards.size < (w.fork b).1.boards.size := fork_boards_size w b ▸ Nat.lt_succ_self _
  have hn2 : (w.fork b).1.boards.size < ((w.fork b).1.fork w.boards.size).1.boards.size :=
    fork_boards_size (w.fork b).1 _ ▸ Nat.lt_succ_self _
  have habove' : aboveN ((w.fork b).1.fork w.boards.size).1.boards.size (three b w.boards.size) ops = true := by
    rw [fork_boards_size, fork_boards_size]; exact habove
  have key := fun x hx => isolated_initial_view hw2 hsep habove' hrun (x := x) hx
  obtain ⟨_, hw', k0⟩ := key b (three_ne_none (.inl rfl))
  obtain ⟨_, _, k1⟩ := key w.boards.size (three_ne_none (.inr (.inl rfl)))
  obtain ⟨_, _, k2⟩ := key (w.fork b).1.boards.size (three_ne_none (.inr (.inr (fork_boards_size w b))))
  rw [view_fork_old hw1 _ (Nat.lt_trans hb hn1), view_fork_old hw b hb] at k0
  rw [view_fork_old hw1 _ hn1] at k1
  exact ⟨solo_initial hw hb hw' k0, solo_initial hw1 hn1 hw' k1, solo_initial hw2 hn2 hw' k2⟩

/-- The fork of a fork continues like the original would: it reports what board `b` itself would report in the
world without any fork after playing the operations addressed to the fork's fork (`soloOps` is `fork, fork`, then
those operations, all addressed to `b`). -/
theorem fork_of_fork_replays {w w' : World} {z : ZTable} {b : Nat} {ops : List (Nat × OpN)}
    (hw : WFWorld w) (hb : b < w.boards.size)
    (habove : aboveN w.boards.size (only b) ((b, .fork) :: (w.boards.size, .fork) :: ops) = true)
    (hrun : runN z ((w.fork b).1.fork (w.fork b).2).1 ops = some w') :
    ∃ wb, runN z w (soloOps w.boards.size ((b, .fork) :: (w.boards.size, .fork) :: ops) (w.boards.size + 1))
        = some wb ∧
      rootOf w.boards.size ((b, .fork) :: (w.boards.size, .fork) :: ops) (w.boards.size + 1) = b ∧
      obs w' (w.boards.size + 1) = obs wb b ∧
      (w'.board (w.boards.size + 1)).result = (wb.board b).result := by
  have hrun' : runN z w ((b, .fork) :: (w.boards.size, .fork) :: ops) = some w' := hrun
  -- the root of the fork's fork: read through the two leading forks, then `lineages_initial`
  have hroot : rootOf w.boards.size ((b, .fork) :: (w.boards.size, .fork) :: ops) (w.boards.size + 1) = b :=
    (lineages_initial ops (w.boards.size + 1 + 1) _ _ (w.boards.size + 1) (Nat.lt_succ_self _)).1.trans
      ((upd_self _ _ _).trans (upd_self _ _ _))
  obtain ⟨hw', hsz, _, _⟩ := isolated_many_view hw (separated_only hb) habove hrun'
  have hlt : w.boards.size + 1 < w'.boards.size := by
    rw [hsz]
    exact Nat.lt_of_lt_of_le (Nat.lt_succ_self _) (boardsAfter_ge ops (w.boards.size + 1 + 1))
  obtain ⟨wb, h1, h2, h3⟩ := isolated_many hw (separated_only hb) habove hrun' (w.boards.size + 1) hlt
    (by rw [hroot, only, if_pos rfl]; exact Option.some_ne_none 0)
  rw [hroot] at h2 h3
  exact ⟨wb, h1, hroot, h2, h3⟩

/-- `AdjudicateNoLegalMoves` on board `b` changes nothing any other board reports: neither its board record, nor
any observation, nor its result. -/
theorem adjudicate_isolated {w : World} {a b : Nat} (hw : WFWorld w) (hab : b ≠ a) :
    (w.adjudicateNoLegalMoves b).1.board a = w.board a ∧
    (w.adjudicateNoLegalMoves b).1.nodes = w.nodes ∧
    obs (w.adjudicateNoLegalMoves b).1 a = obs w a ∧
    ((w.adjudicateNoLegalMoves b).1.board a).result = (w.board a).result := by
  have hbd : (w.adjudicateNoLegalMoves b).1.board a = w.board a := by
    rw [adjudicate_eq, setBoard_board, if_neg (fun c => hab c.1)]
  exact ⟨hbd, rfl, (same_of_view_eq (wf_adjudicate' hw b) hw (view_adjudicate_other w hab)).1, by rw [hbd]⟩

/-- On the adjudicated board itself only the result changes: it is the one returned - checkmate against the side
to move if it is in check, stalemate otherwise - and the board refuses further moves. -/
theorem adjudicate_own {w : World} {b : Nat} (hw : WFWorld w) (hb : b < w.boards.size) :
    obsNoResult (w.adjudicateNoLegalMoves b).1 b = obsNoResult w b ∧
    ((w.adjudicateNoLegalMoves b).1.board b).result = (w.adjudicateNoLegalMoves b).2 ∧
    (w.adjudicateNoLegalMoves b).2 = adjResult (w.cur b).pos (w.board b).turn ∧
    blocked (w.adjudicateNoLegalMoves b).1 b = true := by
  have hres : ((w.adjudicateNoLegalMoves b).1.board b).result = adjResult (w.cur b).pos (w.board b).turn := by
    rw [adjudicate_board_self w hb]
  refine ⟨?_, hres.trans (adjudicate_result w b).symm, adjudicate_result w b, ?_⟩
  · rw [obsNoResult_eq (wf_adjudicate' hw b), obsNoResult_eq hw, view_adjudicate_self w hb, viewAdj,
      obsOfView_setResult]
  · show blockedR ((w.adjudicateNoLegalMoves b).1.board b).result = true
    rw [hres]
    exact blockedR_adjResult _ _

section Example
open Morlock.Props.C08

/-- Board 0 of `w0` (lone knight) is forked (board 1), the fork is forked (board 2); each of the three plays
`m0`, the first fork takes it back, and the fork's fork is adjudicated. -/
def ops3 : List (Nat × OpN) :=
  [(0, .fork), (1, .fork), (0, .push m0), (1, .push m0), (2, .push m0), (1, .pop), (2, .adjudicate)]

theorem ops3_ok :
    WFWorld w0 ∧ Separated w0 (only 0) ∧ aboveN w0.boards.size (only 0) ops3 = true ∧
    (runN z0 w0 ops3).isSome = true :=
  ⟨w0_wf, separated_only (by decide +kernel), by decide +kernel, by decide +kernel⟩

/-- The hypotheses of `fork_of_fork_isolated` hold for the same run without its two leading forks. -/
example :
    aboveN (w0.boards.size + 2) (three 0 w0.boards.size) (ops3.drop 2) = true ∧
    (runN z0 ((w0.fork 0).1.fork (w0.fork 0).2).1 (ops3.drop 2)).isSome = true :=
  ⟨by decide +kernel, by decide +kernel⟩

/-- The lineages of the three boards, computed: all descend from board 0; board 2's lineage is the two forks,
its move and its adjudication. -/
example :
    soloOps 1 ops3 0 = [(0, .fork), (0, .push m0)] ∧
    soloOps 1 ops3 1 = [(0, .fork), (0, .fork), (0, .push m0), (0, .pop)] ∧
    soloOps 1 ops3 2 = [(0, .fork), (0, .fork), (0, .push m0), (0, .adjudicate)] := by
  decide +kernel

/-- What the three boards report at the end, checked directly on the arena: the original and the fork's fork
have played `m0`, the first fork has nothing left to take back, and only the fork's fork is decided. -/
example :
    (runN z0 w0 ops3).map (fun w => decide (w.boards.size = 3 ∧
        w.lastMove 0 = some m0 ∧ w.lastMove 1 = none ∧ w.lastMove 2 = some m0 ∧
        (w.board 0).result = {} ∧ (w.board 1).result = { outcome := .undecided } ∧
        (w.board 2).result = { outcome := .draw, reason := .stalemate })) = some true := by
  decide +kernel

/-- The same by applying `isolated_many`: board 2 reports what board 0 of `w0` reports after the solo run
`fork, fork, m0, adjudicate`. -/
example : ∃ w' wb, runN z0 w0 ops3 = some w' ∧ runN z0 w0 (soloOps 1 ops3 2) = some wb ∧
    obs w' 2 = obs wb 0 ∧ (w'.board 2).result = (wb.board 0).result := by
  obtain ⟨hw, hD, habove, hsome⟩ := ops3_ok
  obtain ⟨w', hrun⟩ := Option.isSome_iff_exists.mp hsome
  have hsz : w'.boards.size = 3 := by
    rw [(isolated_many_view hw hD habove hrun).2.1]
    decide +kernel
  obtain ⟨wb, h1, h2, h3⟩ := isolated_many hw hD habove hrun 2 (by omega) (by decide +kernel)
  exact ⟨w', wb, hrun, h1, h2, h3⟩

/-- The side condition resets the height of the FORKED board too, and it has to: board 0 plays `m0`, is
forked, and takes `m0` back (below the point where it was forked, so `aboveN` is false). The fork (board 1)
then reports the zero move as its last move, not `m0`. -/
example :
    aboveN 1 (only 0) [(0, .push m0), (0, .fork), (0, .pop)] = false ∧
    aboveN 1 (only 0) [(0, .push m0), (0, .fork)] = true ∧
    (runN z0 w0 [(0, .push m0), (0, .fork)]).map (fun w => decide (w.lastMove 1 = some m0)) = some true ∧
    (runN z0 w0 [(0, .push m0), (0, .fork), (0, .pop)]).map (fun w => decide (w.lastMove 1 = some {})) = some true := by
  decide +kernel

/-- Two independent games (`NewBoard` twice) are separated, so `isolated_many` applies to worlds with
several unrelated boards as well. -/
example : WFWorld ((w0.newBoard z0 pos0 .black 3 7).1) ∧
    Separated ((w0.newBoard z0 pos0 .black 3 7).1) (upd (only 0) 1 (some 0)) :=
  ⟨wf_newBoard w0_wf _ _ _ _ _, separated_newBoard w0_wf (separated_only (by decide +kernel)) _ _ _ _ _⟩

end Example

end Morlock.Props.C08Many
