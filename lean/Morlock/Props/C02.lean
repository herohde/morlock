import Morlock.Proofs.RepAbs
import Morlock.Proofs.RepExample
/-!
# C02 — the bitboard position update refines the mailbox rules

Subject: `Morlock.Model.Position` (`xor`, `square`, `newPosition`, `move`), the transcription of
`pkg/board/position.go`. `Rep p b` (`Morlock/Proofs/Rep.lean`) says that *all* redundant views of
`p` — occupancy, per-colour sets, per-piece sets, the three rotated occupancies — are exactly what
the mailbox board `b : Nat → Option (Color × Piece)` dictates, with no bits ≥ 64 anywhere.
`MetaOK p m` (`Morlock/Proofs/RepMove.lean`, a `Bool`) says the metadata carried by `m` is accurate.

`move_untouched`: the model is a pure function, `p.move m` cannot modify `p`; there is nothing to
prove (in Go the receiver is a pointer but `Move` starts from a copy `*p`; that is checked by the
differential harness, not here).

Everything here is proved for *all* positions and moves; no enumeration is involved.
-/
namespace Morlock.Props.C02
open Morlock Morlock.Model Morlock.Proofs

theorem square_of_rep {p : Position} {b : Board} (h : Rep p b) (sq : Nat) : p.square sq = b sq :=
  h.square_eq sq

theorem isEmpty_of_rep {p : Position} {b : Board} (h : Rep p b) (sq : Nat) :
    p.isEmpty sq = (b sq).isNone := h.isEmpty_eq sq

theorem pieces_of_rep {p : Position} {b : Board} (h : Rep p b) (c : Color) {k : Piece} (hk : k ≠ .none)
    (sq : Nat) : isSet (p.pieces c k) sq = decide (b sq = some (c, k)) := h.isSet_pieces c hk sq

theorem colour_of_rep {p : Position} {b : Board} (h : Rep p b) (c : Color) (sq : Nat) :
    isSet (p.pieces c .none) sq = colAt b sq c := h.isSet_all c sq

theorem rep_unique {p : Position} {b b' : Board} (h : Rep p b) (h' : Rep p b') : b = b' := h.unique h'

theorem rep_determines_views {p q : Position} {b : Board} (hp : Rep p b) (hq : Rep q b) :
    p.white = q.white ∧ p.black = q.black ∧ p.rotated = q.rotated := hp.views_eq hq

theorem xor_places {p : Position} {b : Board} (h : Rep p b) {sq : Nat} (hsq : sq < 64) (c : Color)
    {k : Piece} (hk : k ≠ .none) (hempty : b sq = none) :
    Rep (p.xor sq c k) (upd b sq (some (c, k))) := h.xor_place hsq c hk hempty

theorem xor_removes {p : Position} {b : Board} (h : Rep p b) {sq : Nat} {c : Color} {k : Piece}
    (hfull : b sq = some (c, k)) : Rep (p.xor sq c k) (upd b sq none) := h.xor_remove hfull

theorem newPosition_rep {pl : List (Nat × Color × Piece)} {castling ep : Nat} {p : Position}
    (hv : ValidPlacements pl) (hp : Position.newPosition pl castling ep = some p) :
    Rep p (placeAll emptyBoard pl) ∧ p.castling = castling ∧ p.enpassant = ep :=
  Proofs.newPosition_rep hv hp

theorem newPosition_succeeds_iff {pl : List (Nat × Color × Piece)} (castling ep : Nat)
    (hv : ValidPlacements pl) :
    (Position.newPosition pl castling ep).isSome ↔ (pl.map (·.1)).Nodup :=
  newPosition_isSome_iff castling ep hv

theorem placeAll_lookup {pl : List (Nat × Color × Piece)} (hnd : (pl.map (·.1)).Nodup) :
    (∀ sq c k, (sq, c, k) ∈ pl → placeAll emptyBoard pl sq = some (c, k)) ∧
    (∀ sq, sq ∉ pl.map (·.1) → placeAll emptyBoard pl sq = none) :=
  ⟨fun _ _ _ hm => placeAll_mem hnd hm, fun _ hn => placeAll_not_mem hn⟩

/-- **C02 `move_refines`.** An accepted `Position.Move` with accurate metadata keeps every view in
    agreement with the board the rules prescribe (`boardAfter`, spelled out in `board_prescribed`). -/
theorem move_refines {p p' : Position} {b : Board} {m : Move} (h : Rep p b)
    (hok : MetaOK p m = true) (hm : p.move m = some p') :
    Rep p' (boardAfter b m) ∧
      p'.castling = andNot p.castling m.castlingRightsLost ∧
      p'.enpassant = m.enPassantTarget :=
  move_rep h hok hm

theorem board_prescribed {b : Board} {m : Move} {turn : Color} {pc : Piece}
    (hok : MetaOKb b m = true) (hsq : b m.from = some (turn, pc)) :
    boardAfter b m m.from = none ∧
    boardAfter b m m.to = some (turn, if m.isPromotion then m.promotion else pc) ∧
    (m.ty = .enPassant → boardAfter b m m.enPassantCapture = none) ∧
    (m.isCastle = true → boardAfter b m m.castlingRookMove.1 = none ∧
      boardAfter b m m.castlingRookMove.2 = some (turn, Piece.rook)) ∧
    (∀ sq, sq ≠ m.from → sq ≠ m.to → (m.ty = .enPassant → sq ≠ m.enPassantCapture) →
      (m.isCastle = true → sq ≠ m.castlingRookMove.1 ∧ sq ≠ m.castlingRookMove.2) →
      boardAfter b m sq = b sq) :=
  boardAfter_spec hok hsq

/-- A right survives iff the move touches neither of its home squares; for the king's square only
    *leaving* it counts (the rules also count landing there, see `LandOK`). -/
theorem castling_rights_after {p p' : Position} {b : Board} {m : Move} (h : Rep p b)
    (hok : MetaOK p m = true) (hm : p.move m = some p') :
    ((p'.castling &&& wK != 0) = ((p.castling &&& wK != 0) && !decide (m.from = E1) && !touches m H1)) ∧
    ((p'.castling &&& wQ != 0) = ((p.castling &&& wQ != 0) && !decide (m.from = E1) && !touches m A1)) ∧
    ((p'.castling &&& bK != 0) = ((p.castling &&& bK != 0) && !decide (m.from = E8) && !touches m H8)) ∧
    ((p'.castling &&& bQ != 0) = ((p.castling &&& bQ != 0) && !decide (m.from = E8) && !touches m A8)) ∧
    (∀ i, 4 ≤ i → p'.castling.testBit i = p.castling.testBit i) := by
  obtain ⟨_, hc, _⟩ := move_rep h hok hm
  rw [hc]
  exact ⟨right_wK _ _, right_wQ _ _, right_bK _ _, right_bQ _ _, fun i hi => by
    have : ¬0 = i ∧ ¬1 = i ∧ ¬2 = i ∧ ¬3 = i := by omega
    rw [testBit_andNot, lost_testBit]; simp [this]⟩

/-- The geometry hypothesis is needed: `EnPassantTarget` looks only at the type and the rank of `to`. -/
theorem enpassant_after {p p' : Position} {b : Board} {m : Move} (h : Rep p b)
    (hok : MetaOK p m = true) (hm : p.move m = some p') :
    (m.ty ≠ .jump → p'.enpassant = 0) ∧
    (m.ty = .jump → m.to < 64 →
      ((m.to = m.from + 16 ∧ sqRank m.to = 3) ∨ (m.from = m.to + 16 ∧ sqRank m.to = 4)) →
      p'.enpassant = (m.from + m.to) / 2 ∧ p'.enpassant ≠ 0) := by
  obtain ⟨_, _, he⟩ := move_rep h hok hm
  rw [he]
  refine ⟨fun hj => ?_, fun hj hto hg => ?_⟩
  · unfold Move.enPassantTarget; simp [hj]
  · have := enPassantTarget_skipped m hj hto hg
    refine ⟨this, ?_⟩
    rw [this]; simp only [sqRank_eq] at hg; omega

/-- **Link to the reference.** With the type recorded in `m` the class the rules assign (`ClassOK`) and
    nothing landing on a king's home square while that side has a right (`LandOK`), the abstraction of
    the result is `Spec.apply` of the abstraction of `p`. -/
theorem move_refines_spec {p p' : Position} {b : Board} {m : Move} {turn : Color} {pc : Piece}
    (h : Rep p b) (hok : MetaOK p m = true) (hsq : p.square m.from = some (turn, pc))
    (hcl : ClassOK (abs p turn) m = true) (hland : LandOK (abs p turn) m = true)
    (hm : p.move m = some p') :
    abs p' turn.opp = Spec.apply (abs p turn) (absMove m) :=
  abs_move h hok hsq hcl hland hm

theorem landOK_of_kingHome {p : Position} {b : Board} {m : Move} (h : Rep p b)
    (hok : MetaOK p m = true) (hkh : KingHome p = true) (hcap : m.capture ≠ .king) (turn : Color) :
    LandOK (abs p turn) m = true := Proofs.landOK_of_kingHome h hok hkh hcap turn

theorem kingHome_preserved {p p' : Position} {b : Board} {m : Move} (h : Rep p b)
    (hok : MetaOK p m = true) (hkh : KingHome p = true) (hcap : m.capture ≠ .king)
    (hm : p.move m = some p') : KingHome p' = true := kingHome_move h hok hkh hcap hm

/-- **`reachable_rep`.** An error in a redundant view cannot appear along accepted moves with accurate
    metadata, hence cannot surface later. -/
theorem reachable_rep {p q : Position} {b : Board} (h : Rep p b) (hr : Reach p q) :
    ∃ b', Rep q b' ∧ b' = q.square :=
  ⟨q.square, reach_rep h hr, rfl⟩

theorem playAll_rep {p q : Position} {b : Board} {ms : List Move} (h : Rep p b)
    (hp : playAll p ms = some q) : Rep q q.square :=
  reach_rep h (playAll_reach hp)

/-- **Sequences refine the reference**: playing `StepOK` moves and abstracting is abstracting and playing
    on the reference; `Rep` and `KingHome` hold at the end (by taking prefixes, throughout). -/
theorem play_refines {p q : Position} {b : Board} {turn t : Color} {ms : List Move}
    (h : Rep p b) (hk : KingHome p = true) (hp : playS p turn ms = some (q, t)) :
    Rep q q.square ∧ KingHome q = true ∧
      abs q t = ms.foldl (fun s m => Spec.apply s (absMove m)) (abs p turn) := by
  induction ms generalizing p turn b with
  | nil =>
    simp only [playS, Option.some.injEq, Prod.mk.injEq] at hp
    obtain ⟨rfl, rfl⟩ := hp
    exact ⟨h.self, hk, rfl⟩
  | cons m ms ih =>
    simp only [playS] at hp
    split at hp
    · rename_i hstep
      unfold StepOK at hstep
      simp only [Bool.and_eq_true, bne_iff_ne, ne_eq] at hstep
      obtain ⟨⟨⟨hok, hcl⟩, hcap⟩, hcol⟩ := hstep
      cases hsq : p.square m.from with
      | none => rw [hsq] at hcol; cases hcol
      | some x =>
        obtain ⟨c, pc⟩ := x
        rw [hsq] at hcol
        have hc : c = turn := by simpa using hcol
        subst hc
        cases hm : p.move m with
        | none => rw [hm] at hp; cases hp
        | some r =>
          rw [hm] at hp
          simp only at hp
          have hrep' := (move_rep h hok hm).1
          have hk' := kingHome_move h hok hk hcap hm
          have habs := abs_move h hok hsq hcl (landOK_of_kingHome h hok hk hcap c) hm
          obtain ⟨g1, g2, g3⟩ := ih hrep' hk' hp
          refine ⟨g1, g2, ?_⟩
          rw [g3, habs]; rfl
    · cases hp

example : Rep exPos (placeAll emptyBoard exPl) ∧ KingHome exPos = true :=
  ⟨exPos_rep, by decide +kernel⟩

/-- The hypotheses are satisfiable: White's 36 pseudo-legal moves in `exPos` (castling both sides, en
    passant, promotions, capture-promotions, captures on rook home squares) all satisfy `StepOK`. -/
example :
    (exPos.pseudoLegalMoves .white).length = 36 ∧
    (exPos.pseudoLegalMoves .white).all (fun m => StepOK exPos .white m && (exPos.move m).isSome) = true := by
  rw [exPos_val]; decide +kernel

/-- The same for Black in the mirrored position (36 moves) and both sides in "Kiwipete" (48 and 43). -/
example :
    Rep exPosB exPosB.square ∧ KingHome exPosB = true ∧
    (exPosB.pseudoLegalMoves .black).all (StepOK exPosB .black) = true ∧
    Rep kiwiPos kiwiPos.square ∧ KingHome kiwiPos = true ∧
    (kiwiPos.pseudoLegalMoves .white).all (StepOK kiwiPos .white) = true ∧
    (kiwiPos.pseudoLegalMoves .black).all (StepOK kiwiPos .black) = true :=
  -- one evaluation per position, so that the kernel generates each move list once
  have hB : KingHome exPosB = true ∧ (exPosB.pseudoLegalMoves .black).all (StepOK exPosB .black) = true := by
    rw [exPosB_val]; decide +kernel
  ⟨exPosB_rep, hB.1, hB.2, kiwiPos_rep, by rw [kiwiPos_val]; decide +kernel⟩

example : ∃ p', exPos.move exEP = some p' ∧ Rep p' (boardAfter (placeAll emptyBoard exPl) exEP) ∧
    p'.square 36 = none ∧ p'.square 44 = some (.white, .pawn) ∧ p'.enpassant = 0 := by
  have hm : (exPos.move exEP).isSome = true := by rw [exPos_val]; decide +kernel
  obtain ⟨p', hp'⟩ := Option.isSome_iff_exists.mp hm
  have hok : MetaOK exPos exEP = true := by decide +kernel
  obtain ⟨h1, _, h3⟩ := move_refines exPos_rep hok hp'
  have hb := board_prescribed (b := placeAll emptyBoard exPl) (m := exEP) (turn := .white) (pc := .pawn)
    (by rw [← exPos_rep.metaOK_iff]; exact hok) (by rw [← exPos_rep.square_eq]; decide +kernel)
  refine ⟨p', hp', h1, ?_, ?_, ?_⟩
  · rw [h1.square_eq]; exact hb.2.2.1 rfl
  · rw [h1.square_eq]; exact hb.2.1
  · rw [h3]; rfl

example : ∃ q t, playS exPos .white exLine = some (q, t) ∧
    abs q t = exLine.foldl (fun s m => Spec.apply s (absMove m)) (abs exPos .white) := by
  have hs : (playS exPos .white exLine).isSome = true := by rw [exPos_val]; decide +kernel
  obtain ⟨⟨q, t⟩, hq⟩ := Option.isSome_iff_exists.mp hs
  exact ⟨q, t, hq, (play_refines exPos_rep (by decide +kernel) hq).2.2⟩

end Morlock.Props.C02
