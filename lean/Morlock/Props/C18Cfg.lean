import Morlock.Model.EngineCfg

/-!
# C18 / C15: what an analysis is given depends on the game and on what was asked - the configuration side

Theorems over `Model/EngineCfg.lean` (the transcription of the option / table / noise bookkeeping of `engine.Engine`), for
every sequence of operations: only the setters write the options; a search is launched with the depth asked for, else the
configured one, with the table of the current game - which only a successful `Reset` replaces, by a fresh one or by none -
and with the noise the game was started with, under a seed no other search of that game gets.
-/
namespace Morlock.Props.C18Cfg
open Morlock.Model.EngineCfg

/-- The effect of an operation on the options: only the three setters have one. -/
def setOpts (o : Opts) : Op → Opts
  | .setDepth n => { o with depth := n }
  | .setHash n => { o with hash := n }
  | .setNoise n => { o with noise := n }
  | _ => o

theorem step_opts (c : Cfg) (op : Op) : (step c op).1.opts = setOpts c.opts op := by
  cases op with
  | reset ok => cases ok <;> rfl
  | move p => cases p <;> rfl
  | analyze lim => simp only [step]; split <;> rfl
  | halt => simp only [step]; split <;> rfl
  | _ => rfl

theorem step_frame (c : Cfg) (op : Op) (h : op ≠ .reset true) :
    (step c op).1.table = c.table ∧ (step c op).1.bytes = c.bytes ∧ (step c op).1.noise = c.noise ∧
    (step c op).1.resets = c.resets ∧ ((∀ lim, op ≠ .analyze lim) → (step c op).1.searches = c.searches) := by
  cases op with
  | reset ok =>
    cases ok
    · exact ⟨rfl, rfl, rfl, rfl, fun _ => rfl⟩
    · exact absurd rfl h
  | move p => cases p <;> exact ⟨rfl, rfl, rfl, rfl, fun _ => rfl⟩
  | analyze lim => simp only [step]; split <;> exact ⟨rfl, rfl, rfl, rfl, fun h => absurd rfl (h lim)⟩
  | halt => simp only [step]; split <;> exact ⟨rfl, rfl, rfl, rfl, fun _ => rfl⟩
  | _ => exact ⟨rfl, rfl, rfl, rfl, fun _ => rfl⟩
/-- An analysis (with or without an explicit limit, accepted or refused) leaves the options as they were. -/
theorem analyze_keeps_options (c : Cfg) (lim : Option Nat) : (step c (.analyze lim)).1.opts = c.opts := by
  rw [step_opts]; rfl

theorem run_fst_cons (c : Cfg) (op : Op) (ops : List Op) : (run c (op :: ops)).1 = (run (step c op).1 ops).1 := by
  simp [run]

/-- After any sequence of operations the options are what the setters in it made them - nothing else writes them. -/
theorem opts_eq_fold_setters (c : Cfg) (ops : List Op) : (run c ops).1.opts = ops.foldl setOpts c.opts := by
  induction ops generalizing c with
  | nil => simp [run]
  | cons op ops ih => rw [run_fst_cons, ih, step_opts]; rfl

theorem launched_eq (c : Cfg) (lim : Option Nat) (l : Launch) (h : (step c (.analyze lim)).2 = .launched l) :
    c.active = false ∧ l = ⟨lim.getD c.opts.depth, c.table, c.bytes,
      if c.noise > 0 then some (c.noise, if c.noise > 0 then c.searches + 1 else c.searches) else none⟩ := by
  simp only [step] at h
  split at h
  · cases h
  · cases h; exact ⟨by simpa using ‹¬ c.active = true›, rfl⟩

/-- The depth limit of a launched search: the explicit one, else the configured depth. -/
theorem launch_depth (c : Cfg) (lim : Option Nat) (l : Launch) (h : (step c (.analyze lim)).2 = .launched l) :
    l.depthLimit = lim.getD c.opts.depth := by
  rw [(launched_eq c lim l h).2]

/-- A launched search works on the table of the current game. -/
theorem launch_table (c : Cfg) (lim : Option Nat) (l : Launch) (h : (step c (.analyze lim)).2 = .launched l) :
    l.table = c.table ∧ l.bytes = c.bytes := by
  rw [(launched_eq c lim l h).2]; exact ⟨rfl, rfl⟩

/-- Only a successful `Reset` replaces the game's table. -/
theorem table_changed_only_by_reset (c : Cfg) (op : Op) (h : op ≠ .reset true) :
    (step c op).1.table = c.table ∧ (step c op).1.bytes = c.bytes :=
  ⟨(step_frame c op h).1, (step_frame c op h).2.1⟩

/-- With the hash switched off, a new game has no table: the old one is gone, contents and all. -/
theorem hash_off_no_table (c : Cfg) (h : c.opts.hash = 0) :
    (step c (.reset true)).1.table = none ∧ (step c (.reset true)).1.bytes = 0 := by
  simp [step, startGame, h]

/-- ... and with the hash on, it has a table of the configured size. -/
theorem hash_on_table (c : Cfg) (h : c.opts.hash > 0) :
    (step c (.reset true)).1.table = some (c.resets + 1) ∧ (step c (.reset true)).1.bytes = c.opts.hash <<< 20 := by
  simp [step, startGame, h]

/-- Tables are numbered by the reset that made them: never ahead of the counter. -/
def TableOk (c : Cfg) : Prop := ∀ g, c.table = some g → g ≤ c.resets

theorem tableOk_new (o : Opts) : TableOk (new o) := by
  intro g h
  simp only [new, startGame] at h ⊢
  split at h
  · cases h; exact Nat.le_refl _
  · cases h

theorem resets_mono (c : Cfg) (op : Op) : c.resets ≤ (step c op).1.resets := by
  by_cases hr : op = .reset true
  · subst hr; exact Nat.le_succ _
  · exact Nat.le_of_eq (step_frame c op hr).2.2.2.1.symm

theorem tableOk_step (c : Cfg) (op : Op) (h : TableOk c) : TableOk (step c op).1 := by
  by_cases hr : op = .reset true
  · subst hr
    intro g hg
    simp only [step, startGame] at hg ⊢
    split at hg
    · cases hg; exact Nat.le_refl _
    · cases hg
  · intro g hg
    rw [(table_changed_only_by_reset c op hr).1] at hg
    exact Nat.le_trans (h g hg) (resets_mono c op)

theorem tableOk_run (c : Cfg) (ops : List Op) (h : TableOk c) : TableOk (run c ops).1 := by
  induction ops generalizing c with
  | nil => simpa [run] using h
  | cons op ops ih => rw [run_fst_cons]; exact ih _ (tableOk_step c op h)

/-- The table of a new game is not the table of the game before it (nor, by `TableOk`, of any earlier one). -/
theorem reset_table_fresh (c : Cfg) (h : TableOk c) (hh : c.opts.hash > 0) :
    (step c (.reset true)).1.table ≠ c.table := by
  rw [(hash_on_table c hh).1]
  intro he
  have := h (c.resets + 1) he.symm
  omega

/-- For every engine, after every sequence of operations: a new game's table was never used before. -/
theorem reset_table_fresh_reachable (o : Opts) (ops : List Op) (hh : (run (new o) ops).1.opts.hash > 0) :
    (step (run (new o) ops).1 (.reset true)).1.table ≠ (run (new o) ops).1.table :=
  reset_table_fresh _ (tableOk_run _ ops (tableOk_new o)) hh

/-- The noise a search is launched with is the noise the GAME was started with (the option as it was at the last `Reset`),
whatever the option says now. -/
theorem launch_noise_of_game (c : Cfg) (lim : Option Nat) (l : Launch) (h : (step c (.analyze lim)).2 = .launched l) :
    l.noise = if c.noise > 0 then some (c.noise, c.searches + 1) else none := by
  rw [(launched_eq c lim l h).2]
  by_cases hn : c.noise > 0 <;> simp [hn]

theorem setNoise_keeps_game_noise (c : Cfg) (n : Nat) : (step c (.setNoise n)).1.noise = c.noise := by
  simp [step]

theorem reset_takes_noise (c : Cfg) : (step c (.reset true)).1.noise = c.opts.noise ∧ (step c (.reset true)).1.searches = 0 := by
  simp [step, startGame]

/-- The search counter of a game never decreases except at a new game, and a launch on a noisy game increases it: so two
searches of one game are never handed the same noise source. -/
theorem noise_seeds_increase (c : Cfg) (lim : Option Nat) (l : Launch) (h : (step c (.analyze lim)).2 = .launched l)
    (hn : c.noise > 0) : (step c (.analyze lim)).1.searches = c.searches + 1 ∧ l.noise = some (c.noise, c.searches + 1) := by
  obtain ⟨ha, rfl⟩ := launched_eq c lim l h
  simp [step, ha, hn]

theorem searches_changed_only_by_reset_and_launch (c : Cfg) (op : Op) (h1 : op ≠ .reset true) (h2 : ∀ lim, op ≠ .analyze lim) :
    (step c op).1.searches = c.searches :=
  (step_frame c op h1).2.2.2.2 h2

/-- A second analysis while one is running is refused and changes nothing. -/
theorem analyze_while_active (c : Cfg) (lim : Option Nat) (h : c.active = true) : step c (.analyze lim) = (c, .error) := by
  simp [step, h]

/-- hash 1, depth 2: analyse with limit 4, then without a limit (configured depth again), switch the hash off, new game. -/
example :
    let c0 := new { depth := 2, hash := 1, noise := 0 }
    let r := run c0 [.analyze (some 4), .halt, .analyze none, .halt, .setHash 0, .reset true, .analyze none]
    r.2 = [.launched ⟨4, some 1, 1 <<< 20, none⟩, .done, .launched ⟨2, some 1, 1 <<< 20, none⟩, .done, .done, .done,
           .launched ⟨2, none, 0, none⟩]
    ∧ r.1.opts = { depth := 2, hash := 0, noise := 0 } := by
  decide +kernel

example :
    let c0 := new { depth := 1, hash := 0, noise := 5 }
    (run c0 [.analyze none, .halt, .setNoise 0, .analyze none, .halt, .reset true, .analyze none]).2
      = [.launched ⟨1, none, 0, some (5, 1)⟩, .done, .done, .launched ⟨1, none, 0, some (5, 2)⟩, .done, .done,
         .launched ⟨1, none, 0, none⟩] := by
  decide +kernel

end Morlock.Props.C18Cfg
