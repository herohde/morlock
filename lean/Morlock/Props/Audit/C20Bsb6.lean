import Morlock.Props.C20Books
/-! The opening books: a line with an unparsable move (`e2e9`) and one whose text matches no legal move (`e2e5`) make
    `NewBook` return an error, not panic. -/
namespace Morlock.Props.Audit.C20Bsb6
open Morlock Morlock.Model Morlock.Model.Book Morlock.Model.Fen Morlock.Proofs Morlock.Proofs.Gen Morlock.Proofs.Book Morlock.Props.C20Books
example : ∃ e, newBook [["e2e9".toList]] = .error e ∧ e ≠ .panic :=
  newBook_rejects (line := ["e2e9".toList]) (by simp) (pre := []) (s := "e2e9".toList) (post := []) rfl
    (p := startPos) (t := .white) rfl (Or.inl (by decide +kernel))
-- a legal-looking text that matches no legal move at the start: e2e5
example : ∃ e, newBook [["e2e5".toList]] = .error e ∧ e ≠ .panic :=
  newBook_rejects (line := ["e2e5".toList]) (by simp) (pre := []) (s := "e2e5".toList) (post := []) rfl
    (p := startPos) (t := .white) rfl (Or.inr ⟨{ «from» := 11, to := 35 }, by decide +kernel, fun c hc => by
      simpa using List.all_eq_true.mp sargon_checked.2.2 c hc⟩)

end Morlock.Props.Audit.C20Bsb6
