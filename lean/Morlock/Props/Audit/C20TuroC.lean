import Morlock.Props.C20
import Morlock.Props.C20TurochampFlt
/-! TUROCHAMP: `evaluate_mirror_quiet` applied to Kiwipete and its mirror image (which is a different position). -/
namespace Morlock.Props.Audit.C20TuroC
open Morlock Morlock.Model Morlock.Proofs Morlock.Proofs.Gen Morlock.Proofs.Mirror Morlock.Model.Turochamp
open Morlock.Props Morlock.Proofs.Turochamp

def kiwiPlB : List (Nat × Color × Piece) := kiwiPl.map fun x => (Spec.mirrorSq x.1, x.2.1.opp, x.2.2)
def kiwiPosB : Position := (Position.newPosition kiwiPlB 15 0).getD {}
theorem kiwiPosB_eq : Position.newPosition kiwiPlB 15 0 = some kiwiPosB := by decide +kernel

theorem kiwiPosB_rep : Rep kiwiPosB kiwiPosB.square := rep_of_placements (by decide +kernel) kiwiPosB_eq

theorem kiwiPosB_repM : Rep kiwiPosB (mirrorBoard kiwiPos.square) :=
  repM_of_square kiwiPos_rep kiwiPosB_rep (by decide +kernel)

theorem kiwiB_wfplay : ∀ c, Chain.WFplay kiwiPosB c := fun c => by
  have h : (WFc kiwiPosB .white && WFc kiwiPosB .black && !kiwiPosB.isChecked .white && !kiwiPosB.isChecked .black) =
      true := by decide +kernel
  simp only [Bool.and_eq_true, Bool.not_eq_true'] at h
  cases c
  · exact ⟨⟨kiwiPosB_rep, h.1.1.1⟩, h.2⟩
  · exact ⟨⟨kiwiPosB_rep, h.1.1.2⟩, h.1.2⟩

theorem kiwi_wfplay : ∀ c, Chain.WFplay kiwiPos c := fun c => by
  cases c
  · exact Chain.kiwiPos_wfplay.1
  · exact Chain.kiwiPos_wfplay.2

-- kiwipete is not its own mirror image
example : kiwiPosB.square 18 ≠ kiwiPos.square 18 := by decide +kernel

theorem kiwi_mirror (oS oO oS' oO' : List (Nat × Nat) → List (Nat × Nat))
    (hpS : ∀ l, (oS l).Perm l) (hpO : ∀ l, (oO l).Perm l) (hpS' : ∀ l, (oS' l).Perm l) (hpO' : ∀ l, (oO' l).Perm l) :
    evaluateCoreOrd oS oO kiwiPosB false false .black = evaluateCoreOrd oS' oO' kiwiPos false false .white :=
  C20Turochamp.evaluate_mirror_quiet kiwiPos_rep kiwiPosB_repM kiwi_wfplay kiwiB_wfplay (by decide +kernel) (by decide +kernel) (by decide +kernel)
    (by decide +kernel) (fun _ => by decide +kernel) (fun h => absurd (by decide +kernel) h)
    (by decide +kernel) (by decide +kernel)
    false false .white oS oO oS' oO' hpS hpO hpS' hpO'

#eval (evaluateCoreOrd id id kiwiPos false false .white).bind Flt.bits32
#eval (evaluateCoreOrd id id kiwiPosB false false .black).bind Flt.bits32
#eval (evaluateCoreOrd id id kiwiPos false false .black).bind Flt.bits32

end Morlock.Props.Audit.C20TuroC
