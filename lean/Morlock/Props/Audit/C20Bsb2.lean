import Morlock.Props.C20Sargon
/-! SARGON: `findAttackers`, `findPins`, the hook search and the exchange applied to concrete positions (two queens on a
    line, a pinned piece, Kiwipete): the hypotheses of the `C20Sargon` theorems can be met. -/
namespace Morlock.Props.Audit.C20Bsb2
open Morlock Morlock.Model Morlock.Model.Sargon Morlock.Proofs Morlock.Proofs.Sargon Morlock.Proofs.Gen Morlock.Props Morlock.Props.C20Sargon

example : ∃ l, findAttackers twoQ [] 28 .white = .ok l ∧
    (∀ a ∈ l, a.front.color = Color.white ∧ Attacks twoQ.square .white a.front.piece a.front.square 28) ∧
    (∃ a ∈ l, a.front.square = 30) := by
  obtain ⟨l, hl, _, _⟩ := findAttackers_total twoQ_rep [] (sq := 28) (by decide) .white
  refine ⟨l, hl, fun a ha => ?_, ?_⟩
  · have := findAttackers_sound twoQ_rep [] (by decide) .white hl a ha
    exact ⟨this.1, this.2.2.1⟩
  · exact findAttackers_complete twoQ_rep [] (by decide) .white hl 30 .queen (by decide +kernel)
      (Or.inr ⟨by decide, by decide, by decide +kernel⟩) (by decide)

theorem pinPos_rep : Rep pinPos pinPos.square :=
  (rep_getD_newPosition (v := pinPos) rfl (by decide +kernel) (by decide +kernel)).self
example := C20Sargon.findPins_sound pinPos_rep .white (piece := .king) (by decide)
  (pin := { attacker := 51, pinned := 27, target := 3 }) (by decide +kernel)
example : (51, 27, 3) ∈ Spec.specPins (abs pinPos .white) .white .king :=
  (C20Sargon.findPins_eq_specPins pinPos_rep .white .white (piece := .king) (by decide) 51 27 3).mp (by decide +kernel)

example : ∃ a m', hookSearch ({} : PointsMap) 0 (viewOf kiwiPos .white) (fun m => (m.root 0).brdc0) = .ok (a, m') ∧ m'.root 0 = {} := by
  obtain ⟨pts, h, _⟩ := reset_total kiwiPos_rep (viewOf kiwiPos .white) rfl
  obtain ⟨a, m', e⟩ := hookSearch_ok (m := {}) (b := 0) (fun m => (m.root 0).brdc0) h
  exact ⟨a, m', e, (hookSearch_spec e).2.1⟩
example := exchange_total kiwiPos_rep stableSort_ok (findKingQueenPins kiwiPos) .white (sq := 35) (by decide)

end Morlock.Props.Audit.C20Bsb2
