import Morlock.Props.C20
import Morlock.Props.C20TuroMirror
/-! TUROCHAMP: the mirror theorems applied to `exPos` and its mirror image (a non-zero e.p. target, castling rights for
    both sides): their hypotheses can be met. -/
namespace Morlock.Props.Audit.C20TuroA
open Morlock Morlock.Model Morlock.Proofs Morlock.Proofs.Gen Morlock.Proofs.Mirror Morlock.Model.Turochamp
open Morlock.Props

theorem exPosB_repM : Rep exPosB (mirrorBoard (placeAll emptyBoard exPl)) :=
  Turochamp.repM_of_square exPos_rep exPosB_rep (by decide +kernel)

-- abs_eq_mirror with a non-zero e.p. target
theorem t1 : abs exPosB Color.white.opp = Spec.mirror (abs exPos .white) :=
  C20.abs_eq_mirror exPos_rep exPosB_repM .white (by decide +kernel) (by decide +kernel) (by decide +kernel) (by decide +kernel)
    (fun h => absurd h (by decide +kernel)) (fun _ => by decide +kernel)

example : materialPawns exPosB Color.white.opp = materialPawns exPos .white :=
  C20.material_mirror_model exPos_rep exPosB_repM .white

example (c : Color) : exPosB.isChecked c.opp = exPos.isChecked c :=
  C20Turochamp.check_mirror exPos_wf.1 exPos_rep exPosB_repM t1 c

example (c : Color) : (exPosB.pieces c.opp .king = 0 ↔ exPos.pieces c .king = 0) ∧
    (exPos.pieces c .king ≠ 0 → safety exPosB c.opp = safety exPos c) :=
  C20Turochamp.kingSafety_mirror exPos_wf.1 exPos_rep exPosB_repM c

example : pawnRanks Color.white.opp (Spec.mirrorSq 54) = pawnRanks .white 54 ∧
    officerDefended exPosB Color.white.opp (Spec.mirrorSq 54) kqrnb = officerDefended exPos .white 54 kqrnb :=
  C20Turochamp.pawnCredit_mirror exPos_rep exPosB_repM .white (by decide)

#eval (pawnRanks .white 54, officerDefended exPos .white 54 kqrnb, safety exPos .white, safety exPos .black, exPos.isChecked .white)
-- the statements in the model's own terms
#check @C20Turochamp.material_mirror
#check @C20Turochamp.evaluate_finite

open Morlock.Proofs.Turochamp in
theorem gapB : MirrorGap exPos exPosB .black :=
  C20TuroMirror.mirrorGap_any exPos_wf.1 exPos_rep exPosB_repM (by decide +kernel) (by decide +kernel) (by decide +kernel)
    (by decide +kernel) (fun h => absurd h (by decide +kernel)) (fun _ => by decide +kernel) .black

open Morlock.Proofs.Turochamp in
theorem exMover (oS oO oS' oO' : List (Nat × Nat) → List (Nat × Nat))
    (hpS : ∀ l, (oS l).Perm l) (hpO : ∀ l, (oO l).Perm l) (hpS' : ∀ l, (oS' l).Perm l) (hpO' : ∀ l, (oO' l).Perm l) :
    evaluateCoreOrd oS oO exPosB false false Color.white.opp = evaluateCoreOrd oS' oO' exPos false false .white :=
  C20Turochamp.evaluate_mirror_mover (t := .white) exPos_rep exPosB_repM ⟨exPos_wf.1, by decide +kernel⟩ ⟨exPos_wf.2, by decide +kernel⟩
    (by decide +kernel) (by decide +kernel) (by decide +kernel) (by decide +kernel)
    (fun h => absurd h (by decide +kernel)) (fun _ => by decide +kernel)
    (by decide +kernel) (by decide +kernel)
    gapB false false oS oO oS' oO' hpS hpO hpS' hpO'
#eval (evaluateCoreOrd id id exPos false false .white).bind Flt.bits32
#eval (evaluateCoreOrd id id exPosB false false .black).bind Flt.bits32

end Morlock.Props.Audit.C20TuroA
