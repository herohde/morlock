import Morlock.Props.C20Sargon
/-! SARGON: `onePlyIfChecked` on the position of the game `tiny` in which the side to move is in check. -/
namespace Morlock.Props.Audit.C20Bsb3
open Morlock Morlock.Model Morlock.Model.Sargon Morlock.Model.Score Morlock.Proofs Morlock.Proofs.AB Morlock.Props Morlock.Props.C20Sargon Morlock.Props.C13
open Morlock.Spec (rank)
-- position 3 of `tiny` is in check
example := onePlyIfChecked_clip tiny tiny_evalOk 3 invalidScore invalidScore {} (by decide) rfl rfl (by decide) (by decide) (by decide)
example : (onePlyIfChecked tiny 3 invalidScore invalidScore {}).1 = V tiny (constEx fullExploration) .static (tiny.ply 3) 1 3 := by decide
#eval (onePlyIfChecked tiny 3 invalidScore invalidScore {}).1

end Morlock.Props.Audit.C20Bsb3
