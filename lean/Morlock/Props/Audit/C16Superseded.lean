import Morlock.Props.C16
/-!
# C16 — once the latest `go` is superseded and `ensureInactive` has stored 0, no search can commit

Complements `C16.no_stale_partial` (which speaks of commits against later `go`s) for the other superseding commands.
-/
namespace Morlock.Props.Audit.C16Superseded
open Morlock.Model.UciConc Morlock.Proofs.ConcUci

/-- `d.active ≠ 0` only while the latest well-formed go is not superseded, except in the one-step window
between receiving the superseding command and `ensureInactive`'s `Store(0)` -/
def K (s : State) : Prop := s.active ≠ 0 → (cur s.log).isSome = true ∨ ∃ a, s.loop = .ensureStore a

theorem K_init (cmds : List Cmd) (pcap : Nat) : K (init cmds pcap) := by
  intro h; simp [init] at h

def atStore0 : LPc → Bool
  | .ensureStore _ => true
  | _ => false

/-- `K` reads only `active`, the request and whether the loop is at `Store(0)` -/
theorem K_frame {s s' : State} {pc : LPc} (h : K s) (hpc : s.loop = pc) (ha : s'.active = s.active ∨ s'.active = 0)
    (hc : cur s'.log = cur s.log) (hl : atStore0 pc = false ∨ s'.loop = pc) : K s' := by
  intro h0
  rcases ha with ha | ha
  · rw [hc]
    refine (h (ha ▸ h0)).imp_right fun ⟨a, e⟩ => ?_
    rcases hl with hl | hl
    · rw [← hpc, e] at hl; cases hl
    · exact ⟨a, by rw [hl, ← hpc, e]⟩
  · exact absurd ha h0

theorem K_step {s s' : State} {pc : LPc} (st : Step s pc s') (hpc : s.loop = pc) (hr : ReqInv s) (h : K s) : K s' := by
  induction st
  case ready | ponderSend | sendInfo | sendBest => exact K_frame h hpc (.inl rfl) (cur_out ..) (.inl rfl)
  case commit _ => exact K_frame h hpc (.inr rfl) rfl (.inl rfl)
  case ensureStore => exact fun h0 => absurd rfl h0
  case recvCmd cmd _ _ =>
    -- a superseding command moves to `ensureInactive`, the others keep the request
    cases cmd
    case isready | stop | other => exact K_frame h hpc (.inl rfl) rfl (.inl rfl)
    all_goals exact fun _ => .inr ⟨_, rfl⟩
  case bookStore =>
    obtain ⟨⟨g, e, _⟩, _⟩ := hpc ▸ hr.pc
    exact fun _ => .inl (e ▸ rfl)
  case goStore => exact fun _ => .inl ((hpc ▸ hr.pc).1 ▸ rfl)
  case fRecv | fEnd | fPond | fCasLost | fDone | timerSend | timerDrop | searchIter | searchExit =>
    exact K_frame h rfl (.inl rfl) rfl (.inr rfl)
  case fCommit => exact K_frame h rfl (.inr rfl) rfl (.inr rfl)
  case fSendInfo | fSendBest => exact K_frame h rfl (.inl rfl) (cur_out ..) (.inr rfl)
  all_goals exact K_frame h hpc (.inl rfl) rfl (.inl rfl)

theorem K_run (cmds : List Cmd) (pcap : Nat) (sched : List Act) : K (run (init cmds pcap) sched) :=
  (inv_run (I := fun s => AllInv s ∧ K s) (fun st hpc h => ⟨allInv_step st hpc h.1, K_step st hpc h.1.req h.2⟩) sched _
    ⟨allInv_init cmds pcap, K_init cmds pcap⟩).2

/-- No search commits (wins the CAS that entitles it to print `bestmove`) once the latest go has been superseded by
`position` / `ucinewgame` / a malformed go / `quit` / EOF and the loop has executed the `Store(0)` of that command:
a commit step needs `active ≠ 0`. -/
theorem no_commit_when_superseded (cmds : List Cmd) (pcap : Nat) (sched : List Act)
    (hsup : cur (run (init cmds pcap) sched).log = none)
    (hwin : ∀ a, (run (init cmds pcap) sched).loop ≠ .ensureStore a) :
    (run (init cmds pcap) sched).active = 0 := by
  have := K_run cmds pcap sched
  unfold K at this
  by_cases h : (run (init cmds pcap) sched).active = 0
  · exact h
  · rcases this h with x | ⟨a, x⟩
    · rw [hsup] at x; cases x
    · exact absurd x (hwin a)

end Morlock.Props.Audit.C16Superseded
