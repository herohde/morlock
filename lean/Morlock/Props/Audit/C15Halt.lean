import Morlock.Props.C15
/-!
# C15 — a `Halt` call that has returned hands back a completed iteration of depth at least 1

`C15.halt_after_depth1` allows "or the searcher has returned"; the invariant `J` (on top of `IterInv`) removes that
alternative: the searcher cannot return before depth 1 is stored.
-/
namespace Morlock.Props.Audit.C15Halt
open Morlock.Model.IterConc Morlock.Proofs.ConcIter

def HOk (s : State) : HPc → Prop
  | .closeQuit _ | .lock _ | .read _ => s.init = true
  | .unlock _ r | .done _ r => 1 ≤ r.depth
  | _ => True

/-- stronger invariant: once `init` is closed, depth 1 is stored; quit implies init -/
structure J (s : State) : Prop where
  initPv : s.init = true → 1 ≤ s.pv.depth
  quitInit : s.quit = true → s.init = true
  canc : s.cancelled = true → s.quit = true ∨ s.spc.afterCancel = true
  exitPv : s.spc.exiting = true → 1 ≤ s.pv.depth
  halts : ∀ h ∈ s.halts, HOk s h

theorem HOk_mono {s s' : State} (hi : s.init = true → s'.init = true) {h : HPc} (hh : HOk s h) : HOk s' h := by
  cases h <;> simp only [HOk] at hh ⊢ <;> first | exact hi hh | exact hh

theorem J_init (n : Nat) : J (init n) := by
  refine ⟨by simp [init], by simp [init], by simp [init], by simp [init, SPc.exiting], ?_⟩
  intro h hh; simp [init] at hh; rw [hh.2]; trivial

theorem J.frame {s : State} (h : J s) {pc pc' : SPc} (hpc : s.spc = pc) {mu buf c o r}
    (hx : pc'.exiting = pc.exiting ∨ s.quit = true)
    (hc : c = s.cancelled ∧ pc'.afterCancel = pc.afterCancel ∨ s.quit = true ∨ pc'.afterCancel = true) :
    J { s with spc := pc', mu := mu, buf := buf, cancelled := c, outClosed := o, received := r } := by
  subst hpc
  refine ⟨h.initPv, h.quitInit, fun hc' => ?_, fun he => hx.elim (fun e => h.exitPv (e ▸ he)) fun q => h.initPv (h.quitInit q),
    h.halts⟩
  rcases hc with ⟨e1, e2⟩ | hc | hc
  · exact (h.canc (e1 ▸ hc')).imp_right (e2 ▸ id)
  · exact .inl hc
  · exact .inr hc

theorem J_searcher {cfg : Cfg} {s s' : State} {pc} (st : SStep cfg s pc s') (hpc : s.spc = pc) (hi : IterInv cfg s) (h : J s) :
    J s' := by
  have hcan {pc' : SPc} (e : pc'.afterCancel = pc.afterCancel) (hc : s.cancelled = true) :
      s.quit = true ∨ pc'.afterCancel = true := (h.canc hc).imp_right (hpc ▸ e ▸ id)
  induction st with
  | topGo | searchDone | lock | unlock | drain => exact h.frame hpc (.inl rfl) (.inl ⟨rfl, rfl⟩)
  | exitCancel | exitCloseOut => exact h.frame hpc (.inl rfl) (.inr (.inr rfl))
  | topQuit hq => exact h.frame hpc (.inr hq) (.inr (.inl hq))
  | searchHalted hc =>
    have hq := (h.canc hc).resolve_right (hpc ▸ Bool.noConfusion)
    exact h.frame hpc (.inr hq) (.inr (.inl hq))
  | @store d =>
    exact ⟨fun _ => (hpc ▸ hi.atDepth d (hpc ▸ rfl)).1, h.quitInit, hcan rfl, Bool.noConfusion, h.halts⟩
  | send => exact ⟨h.initPv, h.quitInit, hcan rfl, Bool.noConfusion, h.halts⟩
  | @closeInitStop d _ | @closeInitNext d _ =>
    obtain ⟨a1, (a2 : s.pv.depth = d), _⟩ := hpc ▸ hi.atDepth d (hpc ▸ rfl)
    exact ⟨fun _ => a2 ▸ a1, fun _ => rfl, hcan rfl, fun _ => a2 ▸ a1, fun x hx => HOk_mono (fun _ => rfl) (h.halts x hx)⟩
  | exitCloseInit =>
    have := h.exitPv (hpc ▸ rfl)
    exact ⟨fun _ => this, fun _ => rfl, fun _ => .inr rfl, fun _ => this, fun x hx => HOk_mono (fun _ => rfl) (h.halts x hx)⟩

theorem J_halt {s s' : State} {k x} (st : HStep s k x s') (hk : s.halts[k]? = some x) (h : J s) : J s' := by
  have hok := h.halts x (List.mem_of_getElem? hk)
  -- the other callers keep what is known about them; the stepping caller gets `hy`
  have hset {y} (hy : HOk s y) : ∀ z ∈ s.halts.set k y, HOk s z := fun z hz =>
    (List.mem_or_eq_of_mem_set hz).elim (h.halts z) (· ▸ hy)
  induction st with
  | start => exact ⟨h.initPv, h.quitInit, h.canc, h.exitPv, hset trivial⟩
  | await hi => exact ⟨h.initPv, h.quitInit, h.canc, h.exitPv, hset hi⟩
  | closeQuit => exact ⟨h.initPv, fun _ => hok, fun _ => .inl rfl, h.exitPv, hset hok⟩
  | lock | unlock => exact ⟨h.initPv, h.quitInit, h.canc, h.exitPv, hset hok⟩
  | read => exact ⟨h.initPv, h.quitInit, h.canc, h.exitPv, hset (h.initPv hok)⟩

theorem J_step {cfg : Cfg} {s s' : State} (st : Step cfg s s') (hi : IterInv cfg s) (h : J s) : J s' := by
  induction st with
  | searcher st => exact J_searcher st rfl hi h
  | watcher hq => exact h.frame rfl (.inl rfl) (.inr (.inl hq))
  | halt hk st => exact J_halt st hk h
  | consumer => exact h.frame rfl (.inl rfl) (.inl ⟨rfl, rfl⟩)

theorem J_run (cfg : Cfg) (n : Nat) (sched : List Act) : J (run cfg (init n) sched) :=
  (run_induction (I := fun s => IterInv cfg s ∧ J s) (inv_step fun st h => ⟨st.iterInv h.1, J_step st h.1 h.2⟩)
    sched _ ⟨iterInv_init cfg n, J_init n⟩).2

/-- the statement the property asks for: a Halt that has returned returns a completed iteration of depth ≥ 1 -/
theorem halt_returns_depth1 (cfg : Cfg) (n : Nat) (sched : List Act) (k snap : Nat) (res : PV)
    (hk : (run cfg (init n) sched).halts[k]? = some (.done snap res)) : 1 ≤ res.depth :=
  (J_run cfg n sched).halts _ (List.mem_of_getElem? hk)

end Morlock.Props.Audit.C15Halt
