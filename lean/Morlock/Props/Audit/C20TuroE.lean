import Morlock.Props.C20TurochampFlt
/-! TUROCHAMP: `Eval.Evaluate` is finite and bounded on every well-formed position for every pair of iteration orders of
    the two mobility maps. -/
namespace Morlock.Props.Audit.C20TuroE
open Morlock Morlock.Model Morlock.Proofs Morlock.Proofs.Gen Morlock.Model.Turochamp Morlock.Proofs.Turochamp Morlock.Model.Flt
open Morlock.Props.C20Turochamp

theorem evaluateCoreOrd_finite {pos : Position} {t : Color} (hw : WF pos t) (cs co : Bool) (turn : Color)
    (oS oO : List (Nat × Nat) → List (Nat × Nat)) (hpS : ∀ l, (oS l).Perm l) (hpO : ∀ l, (oO l).Perm l) :
    ∃ v, evaluateCoreOrd oS oO pos cs co turn = some v ∧ 0 < v.den ∧ v.num.natAbs ≤ evalBound * v.den := by
  obtain ⟨mat, h1, b1⟩ := Turochamp.materialEvaluate_total fltFacts pos turn
  obtain ⟨ppS, h2, b2⟩ := positionPlay_finite hw cs turn oS hpS
  obtain ⟨ppO, h3, b3⟩ := positionPlay_finite hw co turn.opp oO hpO
  obtain ⟨pp, h4, b4⟩ := sub32 fltFacts b2 b3 (by decide)
  obtain ⟨v, h5, b5⟩ := combine_total fltFacts b1 b4
  refine ⟨v, ?_, b5⟩
  unfold evaluateCoreOrd
  rw [h1, Option.bind_some, h2, Option.bind_some, h3, Option.bind_some, h4, Option.bind_some]
  exact h5

end Morlock.Props.Audit.C20TuroE
