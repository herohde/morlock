import Morlock.Props.C20
/-! Outside well-formed boards the reference rules are not colour-blind: `twoKings` has 2 legal moves, its mirror image
    at least 3 (the hypothesis `Spec.Sym` of `C20.perft_mirror` cannot be dropped). -/
namespace Morlock.Props.Audit.C20MirrorI
open Morlock Morlock.Props.C20
#eval (Spec.legalMoves twoKings).length
#eval (Spec.legalMoves (Spec.mirror twoKings)).length
#eval (Spec.perft 1 twoKings, Spec.perft 1 (Spec.mirror twoKings), Spec.perft 2 twoKings, Spec.perft 2 (Spec.mirror twoKings))
example : Spec.perft 1 (Spec.mirror twoKings) ≠ Spec.perft 1 twoKings := by
  -- two legal moves against at least three (the first three the mirror image generates)
  have h1 : Spec.perft 1 twoKings = 2 := by decide +kernel
  have h2 : [⟨24, 25, none⟩, ⟨24, 32, none⟩, ⟨24, 16, none⟩].Sublist (Spec.legalMoves (Spec.mirror twoKings)) := by
    decide +kernel
  have := h2.length_le
  rw [Spec.perft_one, h1]
  intro h; rw [h] at this; exact absurd this (by decide)

end Morlock.Props.Audit.C20MirrorI
