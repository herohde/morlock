import Morlock.Props.C04
/-! C04 `answered` can be applied: its hypotheses hold of the quiescent end state of the session `isready; go`. -/
namespace Morlock.Props.Audit.C04Answered
open Morlock.Model.UciConc Morlock.Proofs.ConcUci Morlock.Props.C04

theorem qs : Quiescent session := session_quiescent

example := answered [.isready, .go {}] 400 _ qs {} (by decide) (by decide) (.inr (.inl rfl))

end Morlock.Props.Audit.C04Answered
