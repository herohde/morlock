import Morlock.Props.C20Bernstein
/-! BERNSTEIN: the evaluation is total on Kiwipete also for factors outside the range of the option (-5, 1000000). -/
namespace Morlock.Props.Audit.C20Bsb7
open Morlock Morlock.Model Morlock.Model.Bernstein Morlock.Proofs
example : (evalEvaluate kiwiPos (-5) .white).isSome = true ∧ (evalEvaluate kiwiPos 1000000 .white).isSome = true :=
  have hk : kiwiPos.kingSquare .white < 64 ∧ kiwiPos.kingSquare .black < 64 := by decide +kernel
  ⟨Bernstein.evalEvaluate_isSome_wide (by decide) (by decide) hk.1 hk.2,
   Bernstein.evalEvaluate_isSome_wide (by decide) (by decide) hk.1 hk.2⟩

end Morlock.Props.Audit.C20Bsb7
