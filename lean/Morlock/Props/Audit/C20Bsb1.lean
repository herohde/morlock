import Morlock.Props.C20Bernstein
/-! Instantiations and strengthenings contributed by the audit of the property theorems (see DESIGN.md). -/
namespace Morlock.Props.Audit.C20Bsb1
open Morlock Morlock.Model Morlock.Model.Bernstein Morlock.Proofs Morlock.Proofs.Gen Morlock.Props Morlock.Props.C20Bernstein

example : (evalEvaluate kiwiPos 20 .white).isSome = true :=
  eval_total_closed kiwiPos_rep (by decide) (by decide) (by decide +kernel) (by decide +kernel)

def loneKingPl : List (Nat × Color × Piece) := [(3, .white, .king), (12, .white, .pawn)]
def loneKing : Position := (Position.newPosition loneKingPl 0 0).getD {}
theorem loneKing_eq : Position.newPosition loneKingPl 0 0 = some loneKing := by decide +kernel
theorem loneKing_rep : Rep loneKing (placeAll emptyBoard loneKingPl) :=
  (newPosition_rep (by intro x hx; simp [loneKingPl] at hx; rcases hx with rfl | rfl <;> decide) loneKing_eq).1
example : evalEvaluate loneKing 20 .white = none :=
  eval_panics_without_king loneKing_rep 20 .white (Or.inr (by decide +kernel))

example := plausible_sound kiwiPos_wf.1
example : (findPlausibleMoves startPos .white).Perm ((startPos.legalMoves .white).filter fun m => !m.isUnderPromotion) :=
  plausible_complete_without_castling fun m hm => by simpa using List.all_eq_true.mp startPos_white.2.2.1 m hm
example := (table_within_limit (p := kiwiPos) (turn := .white) 7).2.2.2 kiwiPos_wf.1 kiwi_legal_ne_nil

example := (findCapture_nil_iff kiwiPos_rep .white .black (sq := 35) (by decide))
example := (isSafe_spec kiwiPos_rep .white .white .knight (sq := 35) (by decide))

theorem phantom_eq : Position.newPosition [(3, .white, .king), (59, .black, .king), (51, .black, .pawn), (36, .black, .pawn)] 0 44 = some phantomPos := by decide +kernel
theorem phantom_rep : Rep phantomPos phantomPos.square :=
  (newPosition_rep (by intro x hx; simp at hx; rcases hx with rfl | rfl | rfl | rfl <;> decide) phantom_eq).1.self
example :=
  opponent_mobility_phantoms (c := .white) ⟨phantom_rep, by decide +kernel⟩ (by decide +kernel)

end Morlock.Props.Audit.C20Bsb1
