import Morlock.Proofs.ABFuel
import Morlock.Proofs.ABChessTree
/-!
# C13 — alpha-beta and quiescence only ever clip the true minimax value

All theorems are about `Model.alphabeta` / `Model.quiesce`, the transcriptions of `runAlphaBeta.search`
and `runQuiescence.search`, for **every** abstract `Game`, exploration, depth and window, run without a
transposition table (`st.tt.slots.size = 0`, i.e. `NoTranspositionTable`) and without cancellation
(`st.cancelAt = none`).

Reference values (defined in `Morlock/Proofs/ABRef.lean`, no window / table / ordering / state):
* `lift s = (incMate s).negate` — how a parent sees a child value;
* `V g ex le rootPly d p` — plain negamax: `0` if `p` is drawn and not the search root
  (`g.ply p ≠ rootPly`), mated (`negInf`) / stalemate (`0`) if no move of `g.moves p` is legal, the leaf
  value at depth 0, otherwise the maximum of `lift (V … (d-1) c)` over the explored legal children `c`
  (`negInf` if none is explored);
* `Path g ex n p pv` — `pv` consists of at most `n` moves, each explored (`(ex p).pick`) and legal (`g.push`
  succeeds) in the position reached by the previous ones; `Principal g ex le rootPly n p pv` — moreover each
  move attains the negamax value: `lift (V … (n-1) c) = V … n p` along the line;
* `Q g ex fuel p` — full-window quiescence: `0` if drawn, mated / stalemate if no move is legal, otherwise
  the better of the static evaluation and `lift (Q … (fuel-1) c)` over the explored legal children; like
  `Model.quiesce` it is cut off with value `0` when the fuel is used up (`Q … 0 p = 0`). **Fuel
  convention:** the clip theorems hold for *every* fuel against the reference cut off at the same fuel, with
  no side condition; `enough_fuel` adds that under the explicit fuel bound `QDone g ex fuel p` (all explored
  lines from `p` end in fewer than `fuel` plies) the reference does not depend on the fuel and
  `Model.quiesce` leaves `fuelOut` untouched. **On the chess game the fuel is immaterial** (`chess_enough_fuel`,
  `chess_V_fuel_irrelevant`): the Go code has no fuel; for every exploration that picks only captures (the driver's
  quiescence exploration) every explored move removes a man, so at every world reached by legal play
  (`Inv`, `Morlock/Proofs/ABChessFuel.lean`) `QDone … 64` holds, `Q` and `V` are the same for every fuel `≥ 64`, and
  `quiesce` with fuel 64 never runs out of fuel.

`Clip a b v r` (in `rank` space): `a < v < b → r = v`, `v ≤ a → v ≤ r ≤ a`, `b ≤ v → b ≤ r ≤ v`.

**Mate distances live in an `int8`** (`C09.int8_edge`), so validity is graded:
`okN n s := Valid s ∧ (s is a mate score → |s.mate| ≤ n)`. Leaf values have grade `leafGrade le`
(`0` for the static leaf, `fuel` for a quiescence leaf), a node at remaining depth `d` has grade `K + d`
for any `K ≥ leafGrade le`, and the window bounds of that node may be any scores of grade `K + d`
(so mate-score bounds are included). The only restriction is `K + d ≤ 127`; for the quiescence search
`K + fuel ≤ 127`. (`EvalOk g` says the static evaluation is the key of a non-NaN `float32`.)

The move order (`heapOrder`) is only used through `ABHeap.heapOrder_perm` (it is a permutation).
-/
namespace Morlock.Props.C13
open Morlock Morlock.Model Morlock.Model.Score Morlock.Spec Morlock.Proofs.AB
variable {P : Type}

/-- **C13 (main search).** For every game, exploration, leaf evaluation, depth, position and every proper
    window `alpha < beta` of graded-valid scores (mate-score bounds included), without table and without
    cancellation, the score returned by `alphabeta` is the negamax value `V` clipped to the window. -/
theorem alphabeta_clip (g : Game P) (ex : P → Explore) (le : LeafEval P) (rootPly : Int) (hev : EvalOk g)
    (K d : Nat) (hK : leafGrade le ≤ K) (hKd : K + d ≤ 127)
    (p : P) (alpha beta : Score) (st : SState) (htt : st.tt.slots.size = 0) (hc : st.cancelAt = none)
    (ha : okN (K + d) alpha) (hb : okN (K + d) beta) (hab : rank alpha < rank beta) :
    Clip (rank alpha) (rank beta) (rank (V g ex le rootPly d p))
      (rank (alphabeta g ex le rootPly d p alpha beta st).1) :=
  (alphabeta_quiet hev ex le rootPly K hK d hKd p alpha beta st ⟨htt, hc⟩ ha hb).2.2.2.1 hab

/-- **C13 (every window, also improper or degenerate ones).** The returned score is a valid score of the
    node's grade, it is either the exact negamax value or at least `alpha`, the returned PV is a path of
    explored legal moves of length `≤ d` — and a principal variation (`Principal`: every move of it attains
    the negamax value of the position it is played in) whenever the returned score is the exact value —
    and the state still has no table and no cancellation. -/
theorem alphabeta_any_window (g : Game P) (ex : P → Explore) (le : LeafEval P) (rootPly : Int) (hev : EvalOk g)
    (K d : Nat) (hK : leafGrade le ≤ K) (hKd : K + d ≤ 127)
    (p : P) (alpha beta : Score) (st : SState) (htt : st.tt.slots.size = 0) (hc : st.cancelAt = none)
    (ha : okN (K + d) alpha) (hb : okN (K + d) beta) :
    okN (K + d) (alphabeta g ex le rootPly d p alpha beta st).1 ∧
    ((alphabeta g ex le rootPly d p alpha beta st).1 = V g ex le rootPly d p ∨
      rank alpha ≤ rank (alphabeta g ex le rootPly d p alpha beta st).1) ∧
    Path g ex d p (alphabeta g ex le rootPly d p alpha beta st).2.1 ∧
    ((alphabeta g ex le rootPly d p alpha beta st).1 = V g ex le rootPly d p →
      Principal g ex le rootPly d p (alphabeta g ex le rootPly d p alpha beta st).2.1) ∧
    (alphabeta g ex le rootPly d p alpha beta st).2.2.tt.slots.size = 0 ∧
    (alphabeta g ex le rootPly d p alpha beta st).2.2.cancelAt = none := by
  obtain ⟨h1, h2, h3, _, h5⟩ := alphabeta_quiet hev ex le rootPly K hK d hKd p alpha beta st ⟨htt, hc⟩ ha hb
  exact ⟨h2, h3, h5.1, h5.2, h1.1, h1.2⟩

/-- **C13 (quiescence).** For every fuel, position and proper window of graded-valid scores, the score
    returned by `quiesce` is the full-window quiescence value `Q` (cut off at the same fuel) clipped to the
    window. Also for fuel 0, where both are `0`. -/
theorem quiescence_clip (g : Game P) (ex : P → Explore) (hev : EvalOk g) (K fuel : Nat) (hKf : K + fuel ≤ 127)
    (p : P) (alpha beta : Score) (st : SState) (htt : st.tt.slots.size = 0) (hc : st.cancelAt = none)
    (ha : okN (K + fuel) alpha) (hb : okN (K + fuel) beta) (hab : rank alpha < rank beta) :
    Clip (rank alpha) (rank beta) (rank (Q g ex fuel p)) (rank (quiesce g ex fuel p alpha beta st).1) :=
  (quiesce_quiet hev ex K fuel hKf p alpha beta st ⟨htt, hc⟩ ha hb).2.2.2 hab

/-- Quiescence on an arbitrary window: graded-valid result, exact or at least `alpha`, state stays quiet. -/
theorem quiescence_any_window (g : Game P) (ex : P → Explore) (hev : EvalOk g) (K fuel : Nat) (hKf : K + fuel ≤ 127)
    (p : P) (alpha beta : Score) (st : SState) (htt : st.tt.slots.size = 0) (hc : st.cancelAt = none)
    (ha : okN (K + fuel) alpha) (hb : okN (K + fuel) beta) :
    okN (K + fuel) (quiesce g ex fuel p alpha beta st).1 ∧
    ((quiesce g ex fuel p alpha beta st).1 = Q g ex fuel p ∨
      rank alpha ≤ rank (quiesce g ex fuel p alpha beta st).1) ∧
    (quiesce g ex fuel p alpha beta st).2.tt.slots.size = 0 ∧
    (quiesce g ex fuel p alpha beta st).2.cancelAt = none := by
  obtain ⟨h1, h2, h3, _⟩ := quiesce_quiet hev ex K fuel hKf p alpha beta st ⟨htt, hc⟩ ha hb
  exact ⟨h2, h3, h1.1, h1.2⟩

theorem Q_graded (g : Game P) (ex : P → Explore) (hev : EvalOk g) (fuel : Nat) (hf : fuel ≤ 127) (p : P) :
    okN fuel (Q g ex fuel p) :=
  Q_ok hev ex fuel p hf

/-- **C13 (stand pat).** A position that is not drawn and in which the side to move has a legal move is
    never rated below its static evaluation: neither by the full-window quiescence value `Q`, nor by
    `quiesce` on *any* window of graded-valid scores (in particular when the static value is inside the
    window); the latter also never returns less than `alpha`. -/
theorem standpat (g : Game P) (ex : P → Explore) (hev : EvalOk g) (K fuel : Nat) (hKf : K + fuel + 1 ≤ 127)
    (p : P) (hd : g.isDraw p = false) (hl : legalAny g p (g.moves p) = true) :
    rank (heuristicScore (g.eval p)) ≤ rank (Q g ex (fuel + 1) p) ∧
    ∀ (alpha beta : Score) (st : SState), st.tt.slots.size = 0 → st.cancelAt = none →
      okN (K + fuel + 1) alpha → okN (K + fuel + 1) beta →
      rank (heuristicScore (g.eval p)) ≤ rank (quiesce g ex (fuel + 1) p alpha beta st).1 ∧
      rank alpha ≤ rank (quiesce g ex (fuel + 1) p alpha beta st).1 := by
  constructor
  · rw [rank_Q_succ hev ex fuel p (by omega) hd hl]
    exact maxR_ge _ _
  · intro alpha beta st htt hc ha hb
    exact (quiesce_succ_tt hev ex K fuel hKf (quiesce_recTT hev ex (fun _ => True) K fuel (by omega)) p alpha beta st
      trivial ha hb _ rfl (live_of_none ((quiesce_same g ex _ p alpha beta st).2.1.trans hc))).2.2.2.1 hd hl

/-- **C13 (terminal positions).** A position that is not drawn and has no legal move is rated exactly
    `negInf` (mated) if the side to move is in check and exactly `0` (stalemate) otherwise: by the
    reference `Q` and by `quiesce` on every window of graded-valid scores. -/
theorem quiescence_terminal (g : Game P) (ex : P → Explore) (hev : EvalOk g) (K fuel : Nat) (hKf : K + fuel + 1 ≤ 127)
    (p : P) (hd : g.isDraw p = false) (hl : legalAny g p (g.moves p) = false) :
    Q g ex (fuel + 1) p = (if g.inCheck p then negInfScore else zeroScore) ∧
    ∀ (alpha beta : Score) (st : SState), st.tt.slots.size = 0 → st.cancelAt = none →
      okN (K + fuel + 1) alpha → okN (K + fuel + 1) beta →
      (quiesce g ex (fuel + 1) p alpha beta st).1 = (if g.inCheck p then negInfScore else zeroScore) := by
  constructor
  · simp [Q, hd, hl, terminal]
  · intro alpha beta st htt hc ha hb
    exact (quiesce_succ_tt hev ex K fuel hKf (quiesce_recTT hev ex (fun _ => True) K fuel (by omega)) p alpha beta st
      trivial ha hb _ rfl (live_of_none ((quiesce_same g ex _ p alpha beta st).2.1.trans hc))).2.2.2.2 hd hl

/-- **Enough fuel.** If every line of explored legal moves from `p` ends (drawn position, or no explored
    legal move) in fewer than `fuel` plies (`QDone g ex fuel p`), the reference value is the same for every
    larger fuel, and `quiesce` does not report `fuelOut` (any window, any state). -/
theorem enough_fuel (g : Game P) (ex : P → Explore) (fuel : Nat) (p : P) (h : QDone g ex fuel p) :
    (∀ fuel', fuel ≤ fuel' → Q g ex fuel' p = Q g ex fuel p) ∧
    ∀ a b st, (quiesce g ex fuel p a b st).2.fuelOut = st.fuelOut :=
  ⟨Q_stable g ex fuel p h, quiesce_fuelOut g ex fuel p h⟩

/-! ## Non-vacuity: a tiny concrete game on `Nat` positions

Binary tree `0 → 1, 2`, `1 → 3, 4`, `2 → 5, 6`; the leaves have no legal move, `3` is mated. -/

def mv (k : Nat) : Move := { to := k }

def tiny : Game Nat where
  isDraw := fun p => p == 4
  hash := id
  ply := fun p => if p = 0 then 0 else if p < 3 then 1 else 2
  moves := fun p => if p < 3 then [mv 0, mv 1, mv 2] else [mv 0]
  push := fun p m => if p < 3 ∧ m.to < 2 then some (2 * p + 1 + m.to) else none
  inCheck := fun p => p == 3
  eval := fun p => 10 * ((p % 8 : Nat) : Int) - 35

def allMoves : Nat → Explore := fun _ => { prio := fun m => m.to, pick := fun _ => true }

theorem tiny_evalOk : EvalOk tiny := by
  intro p; simp only [tiny]; omega

-- hypotheses are satisfiable with mate-score bounds
example : okN 5 (mateInXScore (-3)) ∧ okN 5 (mateInXScore 5) ∧
    rank (mateInXScore (-3)) < rank (mateInXScore 5) := by decide

-- an instance of the theorem: depth 3, window (mated in 3, mate in 5), static leaf
example : Clip (rank (mateInXScore (-3))) (rank (mateInXScore 5))
    (rank (V tiny allMoves .static 0 3 0))
    (rank (alphabeta tiny allMoves .static 0 3 0 (mateInXScore (-3)) (mateInXScore 5) {}).1) :=
  alphabeta_clip tiny allMoves .static 0 tiny_evalOk 2 3 (by decide) (by decide) 0 _ _ {} rfl rfl
    (by decide) (by decide) (by decide)

-- and what the two sides evaluate to (position 1 is "mate in 1" for the side to move at depth 3;
-- at depth 2 the root is worth 15: inside, above and below the window)
example : V tiny allMoves .static 0 3 0 = heuristicScore 0 ∧
    V tiny allMoves .static 0 3 1 = mateInXScore 1 ∧
    (alphabeta tiny allMoves .static 0 3 1 (mateInXScore (-3)) (mateInXScore 5) {}).1 = mateInXScore 1 ∧
    (alphabeta tiny allMoves .static 0 3 1 (heuristicScore 0) infScore {}).1 = mateInXScore 1 ∧
    V tiny allMoves .static 0 2 0 = heuristicScore 15 ∧
    (alphabeta tiny allMoves .static 0 2 0 (heuristicScore 0) (heuristicScore 50) {}).1 = heuristicScore 15 ∧
    (alphabeta tiny allMoves .static 0 2 0 (heuristicScore (-5)) (heuristicScore 5) {}).1 = heuristicScore 5 ∧
    (alphabeta tiny allMoves .static 0 2 0 (heuristicScore 20) (heuristicScore 50) {}).1 = heuristicScore 20 := by
  decide +kernel

example : Clip (rank (heuristicScore (-5))) (rank (heuristicScore 5))
    (rank (Q tiny allMoves 3 0))
    (rank (quiesce tiny allMoves 3 0 (heuristicScore (-5)) (heuristicScore 5) {}).1) :=
  quiescence_clip tiny allMoves tiny_evalOk 0 3 (by decide) 0 _ _ {} rfl rfl (by decide) (by decide) (by decide)

example : Q tiny allMoves 3 0 = heuristicScore 0 ∧ Q tiny allMoves 3 1 = mateInXScore 1 ∧
    (quiesce tiny allMoves 3 0 (heuristicScore (-5)) (heuristicScore 5) {}).1 = heuristicScore 0 ∧
    (quiesce tiny allMoves 3 1 (heuristicScore (-5)) (heuristicScore 5) {}).1 = mateInXScore 1 ∧
    (quiesce tiny allMoves 3 0 (heuristicScore (-5)) (heuristicScore 5) {}).2.fuelOut = false := by decide +kernel

example : QDone tiny allMoves 3 0 := by
  simp only [QDone]
  right; intro m c hm _ hpush
  right; intro m' c' hm' _ hpush'
  simp only [tiny] at hm hpush hm' hpush'
  split at hpush <;> simp at hpush
  split at hpush' <;> simp at hpush'
  right; intro m'' c'' _ _ hpush''
  simp only [tiny] at hpush''
  split at hpush'' <;> simp at hpush''
  omega

/-! ## The chess game: the hypotheses hold, the fuel is immaterial -/

/-- `EvalOk` holds for the chess game with the material evaluation (for every world, also junk ones). -/
theorem chess_evalOk (z : ZTable) : EvalOk (materialGame z) := materialGame_evalOk z

/-- **C13 (enough fuel on the chess game).** For every Zobrist table, evaluation and exploration `ex` that picks
    only captures (`CapturesOnly ex`; the driver's `capturesOnly`), at every world `w` satisfying the play
    invariant `Inv` (arena well formed, board 0 exists, its position satisfies C01's `WFplay`; it holds for
    `newBoard` on a `WFplay` position and is preserved by `pushMove` of generated moves): the explored quiescence
    tree is exhausted within 64 plies, the reference `Q` is the same for every fuel `≥ 64`, and `quiesce` with fuel 64
    does not report `fuelOut`. -/
theorem chess_enough_fuel (z : ZTable) (ev : Position → Model.Color → Int) (ex : World → Explore) (hex : CapturesOnly ex)
    (w : World) (h : Inv w) :
    QDone (boardGame z ev) ex 64 w ∧
    (∀ fuel', 64 ≤ fuel' → Q (boardGame z ev) ex fuel' w = Q (boardGame z ev) ex 64 w) ∧
    ∀ a b st, (quiesce (boardGame z ev) ex 64 w a b st).2.fuelOut = st.fuelOut :=
  ⟨boardGame_qdone z ev ex hex w h, (boardGame_enough_fuel z ev ex hex w h).1, (boardGame_enough_fuel z ev ex hex w h).2⟩

/-- **C13 (the reference of the main search does not depend on the fuel on the chess game).** -/
theorem chess_V_fuel_irrelevant (z : ZTable) (ev : Position → Model.Color → Int) (ex qx : World → Explore) (hq : CapturesOnly qx)
    (rootPly : Int) (fuel : Nat) (hf : 64 ≤ fuel) (d : Nat) (w : World) (h : Inv w) :
    V (boardGame z ev) ex (.quiescence qx fuel) rootPly d w = V (boardGame z ev) ex (.quiescence qx 64) rootPly d w :=
  V_fuel_irrelevant z ev ex qx hq rootPly fuel hf d w h

/-! ## Non-vacuity on the chess game (`gX = materialGame exZ`; `Morlock/Proofs/ABChessTree.lean`)

`wE` = `r3k2r/1P6/8/3pP3/8/8/8/R3K2R w KQkq d6` (stand pat `+1`, quiescence value `+14`: `b7xa8=Q`), `wM` = Black is
mated, `wT` = Black is stalemated, `capX` = the captures-only exploration. No table (`{}`), no cancellation. -/

section Chess

set_option maxRecDepth 100000 in
-- `alphabeta_clip` / `alphabeta_any_window`: depth 3 with quiescence leaves (fuel 64), window (mated in 2, mate in 5)
example : Clip (rank (mateInXScore (-2))) (rank (mateInXScore 5))
      (rank (V gX fullX (.quiescence capX 64) 1 3 wE))
      (rank (alphabeta gX fullX (.quiescence capX 64) 1 3 wE (mateInXScore (-2)) (mateInXScore 5) {}).1) ∧
    Path gX fullX 3 wE
      (alphabeta gX fullX (.quiescence capX 64) 1 3 wE (mateInXScore (-2)) (mateInXScore 5) {}).2.1 :=
  ⟨alphabeta_clip gX fullX (.quiescence capX 64) 1 gX_evalOk 64 3 (Nat.le_refl _) (by decide) wE (mateInXScore (-2)) (mateInXScore 5) {} rfl rfl
      (by decide) (by decide) (by decide),
   (alphabeta_any_window gX fullX (.quiescence capX 64) 1 gX_evalOk 64 3 (Nat.le_refl _) (by decide) wE (mateInXScore (-2)) (mateInXScore 5) {} rfl rfl
      (by decide) (by decide)).2.2.1⟩

-- `quiescence_clip` / `quiescence_any_window`: window (-5 pawns-keys, +5)
example : Clip (rank (heuristicScore (-5))) (rank (heuristicScore 5)) (rank (Q gX capX 64 wE))
      (rank (quiesce gX capX 64 wE (heuristicScore (-5)) (heuristicScore 5) {}).1) ∧
    okN 64 (quiesce gX capX 64 wE (heuristicScore (-5)) (heuristicScore 5) {}).1 :=
  ⟨quiescence_clip gX capX gX_evalOk 0 64 (by decide) wE (heuristicScore (-5)) (heuristicScore 5) {} rfl rfl (by decide) (by decide) (by decide),
   (quiescence_any_window gX capX gX_evalOk 0 64 (by decide) wE (heuristicScore (-5)) (heuristicScore 5) {} rfl rfl (by decide) (by decide)).1⟩

-- `standpat`: `wE` is not drawn and has a legal move
example : rank (heuristicScore (gX.eval wE)) ≤ rank (Q gX capX 64 wE) ∧
    rank (heuristicScore (gX.eval wE)) ≤ rank (quiesce gX capX 64 wE (heuristicScore (-5)) (heuristicScore 5) {}).1 :=
  have h := standpat gX capX gX_evalOk 0 63 (by decide) wE wE_notDraw wE_legal
  ⟨h.1, (h.2 (heuristicScore (-5)) (heuristicScore 5) {} rfl rfl (by decide) (by decide)).1⟩

-- `quiescence_terminal`: mate and stalemate
example : Q gX capX 64 wM = negInfScore ∧
    (quiesce gX capX 64 wM (heuristicScore (-5)) (heuristicScore 5) {}).1 = negInfScore ∧
    Q gX capX 64 wT = zeroScore ∧
    (quiesce gX capX 64 wT (heuristicScore (-5)) (heuristicScore 5) {}).1 = zeroScore := by
  have hM := quiescence_terminal gX capX gX_evalOk 0 63 (by decide) wM wM_facts.1 wM_facts.2.1
  have hT := quiescence_terminal gX capX gX_evalOk 0 63 (by decide) wT wT_facts.1 wT_facts.2.1
  rw [wM_facts.2.2.1] at hM
  rw [wT_facts.2.2.1] at hT
  exact ⟨hM.1, hM.2 (heuristicScore (-5)) (heuristicScore 5) {} rfl rfl (by decide) (by decide), hT.1, hT.2 (heuristicScore (-5)) (heuristicScore 5) {} rfl rfl (by decide) (by decide)⟩

set_option maxRecDepth 100000 in
-- `enough_fuel` with `boardGame_qdone` (`chess_enough_fuel`) on `wE`; and the quiescence search there is not trivial:
-- stand pat is `+1` (`0x3F800000`), the quiescence value `+14` (`0x41600000`)
example : (∀ fuel', 64 ≤ fuel' → Q gX capX fuel' wE = Q gX capX 64 wE) ∧
    ∀ a b st, (quiesce gX capX 64 wE a b st).2.fuelOut = st.fuelOut :=
  enough_fuel gX capX 64 wE (boardGame_qdone Proofs.exZ (fun pos turn => f32keyOfInt (materialPawns pos turn)) capX capX_capturesOnly wE wE_inv)

set_option maxRecDepth 100000 in
example : heuristicScore (gX.eval wE) = heuristicScore 1065353216 ∧ Q gX capX 3 wE = heuristicScore 1096810496 := by
  decide +kernel

set_option maxRecDepth 100000 in
example (fuel : Nat) (hf : 64 ≤ fuel) (d : Nat) :
    V gX fullX (.quiescence capX fuel) 1 d wE = V gX fullX (.quiescence capX 64) 1 d wE :=
  chess_V_fuel_irrelevant Proofs.exZ (fun pos turn => f32keyOfInt (materialPawns pos turn)) fullX capX capX_capturesOnly 1 fuel hf d wE wE_inv

end Chess

end Morlock.Props.C13
