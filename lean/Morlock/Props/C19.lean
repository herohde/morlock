import Morlock.Model.Fen
import Morlock.Proofs.FenCanon
import Morlock.Proofs.EngineMove
import Morlock.Proofs.RepExample
/-!
# C19 — textual input is handled totally

`Fen.decode`, `Fen.parseMove`, `Fen.parseSquareStr` are total functions into `Option` (`none` = the Go error return), so
"never crashes" holds of the model by construction *provided* the indices the Go code computes stay in range. That proviso
is `placements_in_range`. Beyond it: whatever any string decodes to is a position all of whose views agree with one mailbox
board (`Rep`; not necessarily `WF` of C01, see `C19Any`) and survives a round trip;
and (section *The engine*, about `Model/EngineM.lean`, which the `engine` stream ties to `engine.Engine`) a move text is
accepted exactly when it denotes a legal move of the current position, and rejected input leaves the whole state unchanged.
-/
namespace Morlock.Props.C19
open Morlock Morlock.Model Morlock.Model.Fen Morlock.Proofs Morlock.Proofs.Fen

/-- Squares in placement order are strictly decreasing and below the bound `hi`. -/
def Decreasing : Int → List (Nat × Color × Piece) → Prop
  | _, [] => True
  | hi, (sq, _, _) :: rest => (sq : Int) ≤ hi ∧ Decreasing ((sq : Int) - 1) rest

theorem decreasing_of_pairwise {hi : Int} {l : List (Nat × Color × Piece)} (hb : ∀ x ∈ l, (x.1 : Int) ≤ hi)
    (hp : l.Pairwise fun x y => y.1 < x.1) : Decreasing hi l := by
  induction l generalizing hi with
  | nil => trivial
  | cons x xs ih =>
    obtain ⟨h1, h2⟩ := List.pairwise_cons.1 hp
    exact ⟨hb x (List.mem_cons_self ..), ih (fun y hy => by have := h1 y hy; omega) h2⟩

/-- Every placement `Decode` passes to `NewPosition` is on the board, and the squares strictly decrease: no index out
    of range, no square placed twice. -/
theorem placements_in_range (cs : List Char) (sq' : Int) (out : List (Nat × Color × Piece))
    (h : placements cs 63 [] = some (sq', out)) : Decreasing 63 out := by
  obtain ⟨tail, h1, h2, h3⟩ := placements_desc cs 63 [] sq' out h
  rw [h1]
  exact decreasing_of_pairwise (fun x hx => (h2 x hx).1) h3

/-- The witnesses of the repaired defect are rejected, not crashed on. -/
theorem overflow_witness_rejected :
    decode ("8/8/8/8/8/8/8/8P" ++ String.ofList (List.replicate 28 '9') ++ "3 w - - 0 1").toList = none := by
  -- the literals as character lists
  rw [String.toList_append, String.toList_append]
  repeat rw [String.toList_ofList]
  decide +kernel

example : (decode "8/8/8/8/8/8/8/4K2k w - - 0 1".toList).isSome = true := by
  repeat rw [String.toList_ofList]
  decide +kernel

/-- Whatever `Decode` accepts, of any string: all redundant views of the position agree with one mailbox board (`Rep`),
    the rights are among the four bits, the target is a square, both clocks are in `0 … MaxInt64`. -/
theorem decoded_wellformed {s : List Char} {d : Decoded} (h : decode s = some d) :
    (∃ b, Rep d.pos b) ∧ d.pos.castling < 16 ∧ d.pos.enpassant < 64 ∧
      (0 ≤ d.noprogress ∧ d.noprogress ≤ 9223372036854775807) ∧
      (0 ≤ d.fullmoves ∧ d.fullmoves ≤ 9223372036854775807) := by
  obtain ⟨p0, p1, p2, p3, p4, p5, pl, cr, ep, _, h0, _, h2, h3, h4, h4', h5, h5', h6⟩ := decode_eq_some_iff.mp h
  obtain ⟨hr, hc, he⟩ := newPosition_rep (placements_valid h0).1 h6
  exact ⟨⟨_, hr⟩, by rw [hc]; exact parseCastling_lt h2, by rw [he]; exact epField_lt h3,
    ⟨h4', (atoi_range h4).2⟩, ⟨h5', (atoi_range h5).2⟩⟩

theorem decoded_rep_square {s : List Char} {d : Decoded} (h : decode s = some d) : Rep d.pos d.pos.square := by
  obtain ⟨⟨b, hb⟩, _⟩ := decoded_wellformed h
  rw [← hb.board_eq]; exact hb

/-- Whatever `Decode` accepts re-encodes to a FEN that decodes to the same value: no input is "half-parsed". -/
theorem accepted_roundtrip {s : List Char} {d : Decoded} (h : decode s = some d) :
    decode (encode d.pos d.turn d.noprogress d.fullmoves).toList = some d := by
  obtain ⟨⟨b, hb⟩, hc, he, ⟨n0, n1⟩, ⟨f0, f1⟩⟩ := decoded_wellformed h
  have := decode_encode_of_rep hb hc he d.turn d.noprogress.toNat d.fullmoves.toNat (by omega) (by omega)
  rwa [Int.toNat_of_nonneg n0, Int.toNat_of_nonneg f0] at this

/-- One round trip normalises every accepted spelling (upper-case side, repeated or unordered rights, signs, leading
    zeros, surrounding blanks, misplaced `/`) to the standard grammar. -/
theorem accepted_normalised {s : List Char} {d : Decoded} (h : decode s = some d) :
    Canonical (encode d.pos d.turn d.noprogress d.fullmoves).toList := by
  obtain ⟨⟨b, hb⟩, hc, he, ⟨n0, _⟩, ⟨f0, _⟩⟩ := decoded_wellformed h
  have := encode_canonical hb hc he d.turn d.noprogress.toNat d.fullmoves.toNat
  rwa [Int.toNat_of_nonneg n0, Int.toNat_of_nonneg f0] at this

example : ∃ d, decode "  4k3/8/8/8/8/8/8/R3K2R W QKQ - +007 012 ".toList = some d ∧
    (∃ b, Rep d.pos b) ∧ encode d.pos d.turn d.noprogress d.fullmoves = "4k3/8/8/8/8/8/8/R3K2R w KQ - 7 12" ∧
    decode "4k3/8/8/8/8/8/8/R3K2R w KQ - 7 12".toList = some d := by
  have he : (decode "  4k3/8/8/8/8/8/8/R3K2R W QKQ - +007 012 ".toList).map
      (fun d => (encode d.pos d.turn d.noprogress d.fullmoves).toList) =
        some "4k3/8/8/8/8/8/8/R3K2R w KQ - 7 12".toList := by
    simp only [encode_toList, boardStr_toList]
    repeat rw [String.toList_ofList]
    decide +kernel
  obtain ⟨d, hd, he⟩ := Option.map_eq_some_iff.mp he
  rw [String.toList_inj] at he
  exact ⟨d, hd, (decoded_wellformed hd).1, he, he ▸ accepted_roundtrip hd⟩

/-! ## The engine

`e.move z txt`, `e.takeBack`, `e.reset z txt` return the new engine and whether the Go method returned `nil`; `e.pos`,
`e.turn` are `e.b.Position()`, `e.b.Turn()`. `Engine.Ok e`: well-formed arena, board 0 exists and is not adjudicated as
checkmate or stalemate (`Engine.Open`; only the search adjudicates, on forks, and `PushMove` refuses every move on such a
board). `WFplay` is `WF` of C01 plus "the side that has just moved is not in check", the form play preserves. -/
section Engine
open Morlock.Proofs.Gen Morlock.Proofs.Chain Morlock.Proofs.Arena Morlock.Model.World

/-- If `Engine.Move` returns an error the engine is the one it was given: the whole world, not only what `Position()`
    prints. -/
theorem move_rejected_unchanged (z : ZTable) (e : EngineM) (txt : List Char) (h : (e.move z txt).2 = false) :
    (e.move z txt).1 = e := Engine.move_rejected_unchanged z e txt h

theorem takeBack_rejected_unchanged (e : EngineM) (h : e.takeBack.2 = false) : e.takeBack.1 = e :=
  Engine.takeBack_rejected_unchanged e h

theorem reset_rejected_unchanged (z : ZTable) (e : EngineM) (txt : List Char) (h : (e.reset z txt).2 = false) :
    (e.reset z txt).1 = e := Engine.reset_rejected_unchanged z e txt h

/-- On a well-formed current position `Engine.Move` accepts a text iff `board.ParseMove` accepts it and the candidate
    (from, to, promotion) is a legal move of the reference rules there. The loop lets the *first* generated move that
    `Equals` the candidate decide; that is right because no two generated moves share from, to and promotion
    (C01 `pseudo_nodup`). -/
theorem move_accepted_iff (z : ZTable) (e : EngineM) (txt : List Char) (hw : WF e.pos e.turn) (ho : Engine.Open e) :
    (e.move z txt).2 = true ↔
      ∃ cand, parseMove txt = some cand ∧ absMove cand ∈ Spec.legalMoves (abs e.pos e.turn) := by
  rw [Engine.move_accepted_iff_model z e txt hw ho]
  constructor
  · rintro ⟨cand, m, h1, h2, h3⟩; exact ⟨cand, h1, (Engine.denotes_legal_iff hw cand).2 ⟨m, h2, h3⟩⟩
  · rintro ⟨cand, h1, h2⟩
    obtain ⟨m, hm, he⟩ := (Engine.denotes_legal_iff hw cand).1 h2
    exact ⟨cand, m, h1, hm, he⟩

theorem move_accepted_iff_model (z : ZTable) (e : EngineM) (txt : List Char) (hw : WF e.pos e.turn) (ho : Engine.Open e) :
    (e.move z txt).2 = true ↔
      ∃ cand m, parseMove txt = some cand ∧ m ∈ e.pos.legalMoves e.turn ∧ cand.equals m = true :=
  Engine.move_accepted_iff_model z e txt hw ho

/-- When `Engine.Move` accepts, the new state is `PushMove` of the legal move the text denotes; `LastMove` reports it; the
    new position is the reference position after the move; and `Ok`, `WFplay` hold again, so the next text is judged by
    `move_accepted_iff` too. -/
theorem move_accepted_push (z : ZTable) (e : EngineM) (txt : List Char) (hk : Engine.Ok e) (hw : WFplay e.pos e.turn)
    (h : (e.move z txt).2 = true) :
    ∃ cand m, parseMove txt = some cand ∧ m ∈ e.pos.legalMoves e.turn ∧ absMove m = absMove cand ∧
      absMove cand ∈ Spec.legalMoves (abs e.pos e.turn) ∧
      e.w.pushMove z 0 m = some (e.move z txt).1.w ∧
      (e.move z txt).1.w.lastMove 0 = some m ∧
      (e.move z txt).1.turn = e.turn.opp ∧
      abs (e.move z txt).1.pos (e.move z txt).1.turn = Spec.apply (abs e.pos e.turn) (absMove cand) ∧
      WFplay (e.move z txt).1.pos (e.move z txt).1.turn ∧ Engine.Ok (e.move z txt).1 := by
  obtain ⟨cand, m, h1, h2, h3, h4, h5, h6, h7, hk'⟩ := Engine.move_accepted_pos z e txt hk h
  have hm := (C01.legal_iff _ _ _).1 h2
  have he := (Engine.equals_iff_absMove cand m).1 h3
  refine ⟨cand, m, h1, h2, he.symm, (Engine.denotes_legal_iff hw.1 cand).2 ⟨m, h2, h3⟩, h4, h7, h6, ?_, ?_, hk'⟩
  · rw [h6, he]; exact step_refines hw hm.1 h5
  · rw [h6]; exact wf_preserved hw hm.1 h5

theorem takeBack_accepted_iff (e : EngineM) : e.takeBack.2 = true ↔ (e.w.lastMove 0).isSome = true := by
  unfold EngineM.takeBack
  rw [popMove_eq]
  unfold lastMove
  cases (e.w.cur 0).prev <;> simp

theorem takeBack_accepted_pop (e : EngineM) (hk : Engine.Ok e) (h : e.takeBack.2 = true) :
    (∃ m, e.w.lastMove 0 = some m ∧ e.w.popMove 0 = some (e.takeBack.1.w, m)) ∧ Engine.Ok e.takeBack.1 := by
  refine ⟨?_, ?_⟩
  · unfold EngineM.takeBack at h ⊢
    rw [popMove_eq] at h ⊢
    unfold lastMove
    cases hp : (e.w.cur 0).prev with
    | none => simp [hp] at h
    | some pi => exact ⟨_, rfl, rfl⟩
  · unfold EngineM.takeBack at h ⊢
    split
    · rename_i hp; simp [hp] at h
    · rename_i w' m hp
      refine ⟨wf_pop hk.wf hp, by rw [boards_size_pop hp]; exact hk.live, ?_⟩
      have hv := pop_view_some hk.wf hk.live hp
      unfold viewPop at hv
      split at hv
      · cases hv
      · have hres := congrArg (fun r => r.1.result) (Option.some.inj hv)
        dsimp only at hres
        show blockedR (view w' 0).result = false
        rw [← hres]; rfl

/-- An accepted move can be taken back, and then everything the board reports is as before the move (C08 `push_pop`;
    `CastleFresh`: nobody castles with his has-castled flag already set); the result is `Undecided`. -/
theorem move_takeBack (z : ZTable) (e : EngineM) (txt : List Char) (hk : Engine.Ok e) (h : (e.move z txt).2 = true)
    (hc : ∀ m ∈ e.pos.legalMoves e.turn, CastleFresh e.w 0 m) :
    (e.move z txt).1.takeBack.2 = true ∧
    obsNoResult (e.move z txt).1.takeBack.1.w 0 = obsNoResult e.w 0 ∧
    ((e.move z txt).1.takeBack.1.w.board 0).result = { outcome := .undecided } := by
  obtain ⟨cand, m, _, hm, _, hpush⟩ := Engine.move_accepted z e txt h
  obtain ⟨w'', hpop, hobs, _, _, hres⟩ := C08.push_pop hk.wf hk.live hpush (hc m hm)
  unfold EngineM.takeBack
  rw [hpop]
  exact ⟨rfl, hobs, hres⟩

theorem reset_accepted_iff (z : ZTable) (e : EngineM) (txt : List Char) :
    (e.reset z txt).2 = true ↔ (decode txt).isSome = true := by
  unfold EngineM.reset
  cases decode txt <;> simp

/-- After an accepted `Reset` the game is a new board on the decoded value, without history; `Position()` prints the
    standard spelling of the text. -/
theorem reset_accepted_new (z : ZTable) (e : EngineM) (txt : List Char) (d : Decoded) (hd : decode txt = some d) :
    (e.reset z txt).2 = true ∧
    (e.reset z txt).1.w = (({} : World).newBoard z d.pos d.turn d.noprogress d.fullmoves).1 ∧
    (e.reset z txt).1.pos = d.pos ∧ (e.reset z txt).1.turn = d.turn ∧ (e.reset z txt).1.w.lastMove 0 = none ∧
    decode (e.reset z txt).1.position.toList = some d ∧
    Rep (e.reset z txt).1.pos (e.reset z txt).1.pos.square ∧ Engine.Ok (e.reset z txt).1 := by
  obtain ⟨h1, h2, h3, h4, h5, h6, hk⟩ := Engine.reset_accepted z e txt d hd
  refine ⟨h1, h2, h3, h4, h5, ?_, ?_, hk⟩
  · rw [h6]; exact accepted_roundtrip hd
  · rw [h3]; exact decoded_rep_square hd

/-- A list of texts given to `Engine.Move` one after the other, accepted or not. -/
def feed (z : ZTable) : EngineM → List (List Char) → EngineM
  | e, [] => e
  | e, t :: ts => feed z (e.move z t).1 ts

theorem feed_inv (z : ZTable) (e : EngineM) (ts : List (List Char)) (hk : Engine.Ok e) (hw : WFplay e.pos e.turn) :
    Engine.Ok (feed z e ts) ∧ WFplay (feed z e ts).pos (feed z e ts).turn := by
  induction ts generalizing e with
  | nil => exact ⟨hk, hw⟩
  | cons t ts ih =>
    cases h : (e.move z t).2 with
    | false =>
      have := move_rejected_unchanged z e t h
      simp only [feed, this]; exact ih e hk hw
    | true =>
      obtain ⟨_, _, _, _, _, _, _, _, _, _, hw', hk'⟩ := move_accepted_push z e t hk hw h
      exact ih _ hk' hw'

theorem fed_move_accepted_iff (z : ZTable) (e1 : EngineM) (hk : Engine.Ok e1) (hw : WFplay e1.pos e1.turn)
    (ts : List (List Char)) (txt : List Char) :
    let e := feed z e1 ts
    ((e.move z txt).2 = true ↔ ∃ cand, parseMove txt = some cand ∧ absMove cand ∈ Spec.legalMoves (abs e.pos e.turn)) ∧
    ((e.move z txt).2 = false → (e.move z txt).1 = e) := by
  obtain ⟨hk', hw'⟩ := feed_inv z e1 ts hk hw
  exact ⟨move_accepted_iff z _ txt hw'.1 hk'.notBlocked, move_rejected_unchanged z _ txt⟩

/-- C19 for a whole game: set up from a text `fen.Decode` accepts whose position satisfies `WFplay`, and fed any list of
    strings, the next string is accepted exactly when it denotes a legal move of the reference rules in the position then
    current, and a rejected string changes nothing. -/
theorem game_move_accepted_iff (z : ZTable) (e0 : EngineM) (fenTxt : List Char) (d : Decoded) (hd : decode fenTxt = some d)
    (hw : WFplay d.pos d.turn) (ts : List (List Char)) (txt : List Char) :
    let e := feed z (e0.reset z fenTxt).1 ts
    ((e.move z txt).2 = true ↔ ∃ cand, parseMove txt = some cand ∧ absMove cand ∈ Spec.legalMoves (abs e.pos e.turn)) ∧
    ((e.move z txt).2 = false → (e.move z txt).1 = e) := by
  obtain ⟨_, _, h3, h4, _, _, _, hk⟩ := reset_accepted_new z e0 fenTxt d hd
  exact fed_move_accepted_iff z _ hk (by rw [h3, h4]; exact hw) ts txt

/-! ### On the start position -/

open Morlock.Proofs (exZ)

private def startFen : List Char := "rnbqkbnr/pppppppp/8/8/8/8/PPPPPPPP/RNBQKBNR w KQkq - 0 1".toList

/-- The engine after `Reset(fen.Initial)` (sample Zobrist table `exZ`). -/
def exEngine : EngineM := ((default : EngineM).reset exZ startFen).1

/-- The start FEN is what `Encode` writes for `startPos`, so it decodes to `startPos` by `decode_encode_of_rep`. -/
theorem startFen_decode : decode startFen = some ⟨startPos, .white, 0, 1⟩ := by
  have e : encode startPos .white 0 1 = "rnbqkbnr/pppppppp/8/8/8/8/PPPPPPPP/RNBQKBNR w KQkq - 0 1" := by
    rw [← String.toList_inj, encode_toList, boardStr_toList, startPos_val]
    repeat rw [String.toList_ofList]
    decide +kernel
  have hb : startPos.castling < 16 ∧ startPos.enpassant < 64 := by rw [startPos_val]; decide
  delta startFen
  rw [← e]
  exact decode_encode_of_rep startPos_rep hb.1 hb.2 .white 0 1 (by decide) (by decide)

/-- `exEngine` is the new board on `startPos`, and `Ok`. -/
theorem exEngine_spec : exEngine = ⟨(({} : World).newBoard exZ startPos .white 0 1).1⟩ ∧
    Engine.Ok exEngine ∧ exEngine.pos = startPos ∧ exEngine.turn = .white := by
  unfold exEngine
  obtain ⟨_, h2, h3, h4, _, _, _, hk⟩ := reset_accepted_new exZ default startFen _ startFen_decode
  generalize ((default : EngineM).reset exZ startFen).1 = e at h2 h3 h4 hk
  cases e
  exact ⟨congrArg EngineM.mk h2, hk, h3, h4⟩

theorem exEngine_inv : Engine.Ok exEngine ∧ exEngine.pos = startPos ∧ exEngine.turn = .white := exEngine_spec.2

/-- What the model answers on the start position; the examples below cite it. -/
theorem exEngine_eval :
    ((exEngine.move exZ "e2e4".toList).2 = true ∧ (exEngine.move exZ "E2E4".toList).2 = true ∧
      (exEngine.move exZ "e2e5".toList).2 = false ∧ (exEngine.move exZ "e1e2".toList).2 = false ∧
      (exEngine.move exZ "zzzz".toList).2 = false ∧ (exEngine.move exZ "e2é".toList).2 = false ∧
      (exEngine.move exZ [] ).2 = false ∧ (exEngine.move exZ "e2e4q".toList).2 = false) ∧
    exEngine.takeBack.2 = false ∧
    ((exEngine.move exZ "e2e4".toList).1.takeBack.2 = true ∧
      (exEngine.move exZ "e2e4".toList).1.takeBack.1.position = exEngine.position ∧
      (exEngine.move exZ "e2e4".toList).1.takeBack.1.takeBack.2 = false) := by
  -- the two FENs field by field, as character lists
  simp only [← String.toList_inj, EngineM.position, encode_toList, boardStr_toList]
  rw [exEngine_spec.1, startPos_val]; decide +kernel

/-- `e2e5` (no such move), `e1e2` (own pawn in the way), `e2é` (three runes, one not ASCII), `e2e4q` (a promotion that
    is none) … -/
example : (exEngine.move exZ "e2e4".toList).2 = true ∧ (exEngine.move exZ "E2E4".toList).2 = true ∧
    (exEngine.move exZ "e2e5".toList).2 = false ∧ (exEngine.move exZ "e1e2".toList).2 = false ∧
    (exEngine.move exZ "zzzz".toList).2 = false ∧ (exEngine.move exZ "e2é".toList).2 = false ∧
    (exEngine.move exZ [] ).2 = false ∧ (exEngine.move exZ "e2e4q".toList).2 = false := exEngine_eval.1

/-- … and through `move_accepted_iff` that is the verdict of the reference rules. -/
example : (⟨11, 27, none⟩ : Spec.SMove) ∈ Spec.legalMoves (abs startPos .white) ∧
    (⟨11, 35, none⟩ : Spec.SMove) ∉ Spec.legalMoves (abs startPos .white) := by
  obtain ⟨hk, hp, ht⟩ := exEngine_inv
  have hw : WF exEngine.pos exEngine.turn := by rw [hp, ht]; exact startPos_wfplay.1
  have hiff := fun txt => move_accepted_iff exZ exEngine txt hw hk.notBlocked
  rw [hp, ht] at hiff
  constructor
  · obtain ⟨cand, hc, hl⟩ := (hiff _).1 exEngine_eval.1.1
    cases hc; exact hl
  · intro hl
    have := (hiff "e2e5".toList).2 ⟨_, rfl, hl⟩
    rw [exEngine_eval.1.2.2.1] at this; cases this

example : (exEngine.move exZ "e2é".toList).1 = exEngine ∧ (exEngine.move exZ "e2e5".toList).1 = exEngine ∧
    exEngine.takeBack.1 = exEngine ∧ (exEngine.reset exZ "8/8 w - - 0 1".toList).1 = exEngine :=
  ⟨move_rejected_unchanged exZ _ _ exEngine_eval.1.2.2.2.2.2.1, move_rejected_unchanged exZ _ _ exEngine_eval.1.2.2.1,
   takeBack_rejected_unchanged _ exEngine_eval.2.1, reset_rejected_unchanged exZ _ _ (by decide +kernel)⟩

example : (exEngine.move exZ "e2e4".toList).1.takeBack.2 = true ∧
    (exEngine.move exZ "e2e4".toList).1.takeBack.1.position = exEngine.position ∧
    (exEngine.move exZ "e2e4".toList).1.takeBack.1.takeBack.2 = false := exEngine_eval.2.2

example (ts : List (List Char)) (txt : List Char) :
    ((feed exZ exEngine ts).move exZ txt).2 = true ↔
      ∃ cand, parseMove txt = some cand ∧
        absMove cand ∈ Spec.legalMoves (abs (feed exZ exEngine ts).pos (feed exZ exEngine ts).turn) :=
  (fed_move_accepted_iff exZ exEngine exEngine_inv.1
    (by rw [exEngine_inv.2.1, exEngine_inv.2.2]; exact startPos_wfplay) ts txt).1

end Engine

end Morlock.Props.C19
