import Morlock.Proofs.ArenaObs
/-!
# C08 — take-back and fork on the game-history arena are exact inverses and isolated

All theorems are about `Morlock.Model.World` (`Morlock/Model/Board.lean`), the transcription of
`pkg/board/board.go` on an arena of nodes, under the arena invariant `WFWorld` (kept by every operation, true of
the empty world). What a board reports is `obsNoResult`: position, side to move, hash, half-move clock, ply and
full-move counters, the has-castled flags, `lastMove`, `secondToLastMove`, `hasMoved k` for every `k`, the whole
repetition map and `identicalPositionCount` of the current node for all arguments; `obs` adds the class of the
result (drawn or not; checkmate / stalemate or not - the only results that make `pushMove` refuse).
-/
namespace Morlock.Props.C08
open Morlock Morlock.Model Morlock.Model.World Morlock.Proofs.Arena

/-- Taking back a move just played succeeds, returns that move, and restores everything the board reports, in
particular the whole repetition map; the result is `Undecided`. (The arena keeps one unreachable node more and the
`next` field of the current node is cleared: no observation reads either.) -/
theorem push_pop {w w' : World} {z : ZTable} {b : Nat} {m : Move}
    (hw : WFWorld w) (hb : b < w.boards.size)
    (hpush : w.pushMove z b m = some w') (hc : CastleFresh w b m) :
    ∃ w'', w'.popMove b = some (w'', m) ∧
      obsNoResult w'' b = obsNoResult w b ∧
      resultNotDrawn w'' b ∧
      (∀ h, repGet (w''.board b).repetitions h = repGet (w.board b).repetitions h) ∧
      (w''.board b).result = { outcome := .undecided } := by
  obtain ⟨w'', hpop, hw'', _, hview⟩ := view_push_pop hw hb hpush hc
  obtain ⟨h1, h2, h3⟩ := report_of_view_setResult hw'' hw hview
  exact ⟨w'', hpop, h1, by show drawnR (w''.board b).result = false; rw [h3]; rfl, h2, h3⟩

/-- The hypothesis `CastleFresh` of `push_pop` is necessary: whenever a castling move is taken back, the
mover's has-castled flag reads `false` afterwards — also when it was already `true` before the move. -/
theorem castled_flag_lost {w w' w'' : World} {z : ZTable} {b : Nat} {m m' : Move}
    (hw : WFWorld w) (hb : b < w.boards.size)
    (hpush : w.pushMove z b m = some w') (hm : m.isCastle = true) (hpop : w'.popMove b = some (w'', m')) :
    ((w.board b).turn = .white → (w''.board b).castledW = false) ∧
    ((w.board b).turn = .black → (w''.board b).castledB = false) := by
  have hw' := wf_push hw hb hpush
  have hb' : b < w'.boards.size := by rw [boards_size_push hpush]; exact hb
  obtain ⟨_, next, _, hv'⟩ := viewPush_eq_some (push_view_some hw hb hpush)
  have h2 := pop_view_some hw' hb' hpop
  rw [hv', viewPop_of_past (p := (view w b).top m) (r := (view w b).past) rfl, Option.some.injEq, Prod.mk.injEq] at h2
  show ((view w b).turn = .white → (view w'' b).castledW = false) ∧
    ((view w b).turn = .black → (view w'' b).castledB = false)
  rw [← h2.1]
  simp only [View.popped, View.pushed, View.top, Color.opp_opp, hm, Bool.true_and]
  constructor <;> intro ht <;> simp [ht]

/-- After the moves `ms` (all accepted) and as many take-backs, every take-back succeeds, the moves come back in
reverse order, and the board reports exactly what it reported at the start (with result `Undecided` as soon as
one move was played). -/
theorem pushes_pops {w w' : World} {z : ZTable} {b : Nat} {ms : List Move}
    (hw : WFWorld w) (hb : b < w.boards.size)
    (hpush : pushAll z b w ms = some w') (hc : CastleOnce z b w ms) :
    ∃ w'', popN b w' ms.length = some (w'', ms.reverse) ∧
      obsNoResult w'' b = obsNoResult w b ∧
      (∀ h, repGet (w''.board b).repetitions h = repGet (w.board b).repetitions h) ∧
      (ms ≠ [] → (w''.board b).result = { outcome := .undecided } ∧ resultNotDrawn w'' b) ∧
      (ms = [] → w'' = w) := by
  obtain ⟨w'', hpop, hw'', _, hview⟩ := popN_pushAll ms hw hb hpush hc
  obtain ⟨h1, h2, h3⟩ := report_of_view_setResult hw'' hw hview
  refine ⟨w'', hpop, h1, h2, fun hne => ?_, fun he => ?_⟩
  · rw [if_neg hne] at h3
    exact ⟨h3, by show drawnR (w''.board b).result = false; rw [h3]; rfl⟩
  · subst he
    cases hpush
    cases hpop
    rfl

/-- After a move and its take-back every sequence of further moves and take-backs succeeds exactly when it would
have without the detour, and leads to the same observations; from the first operation on the results are equal
too (before it the result is `Undecided` after the detour). -/
theorem continue_identically {w w' w'' : World} {z : ZTable} {b : Nat} {m m' : Move}
    (hw : WFWorld w) (hb : b < w.boards.size)
    (hpush : w.pushMove z b m = some w') (hc : CastleFresh w b m) (hpop : w'.popMove b = some (w'', m'))
    (ops : List Op) :
    OptRel (fun wa wb => obsNoResult wa b = obsNoResult wb b ∧ blocked wa b = blocked wb b ∧
        (ops ≠ [] → obs wa b = obs wb b ∧ (wa.board b).result = (wb.board b).result))
      (run z b w ops) (run z b w'' ops) := by
  obtain ⟨w2, hpop2, hw'', hb'', hview⟩ := view_push_pop hw hb hpush hc
  cases hpop.symm.trans hpop2
  refine run_sim hw hw'' hb hb'' ?_ ops
  rw [hview]
  exact SimW.setResult (viewPush_eq_some (push_view_some hw hb hpush)).1

/-- The case of one further move `m2`: it is accepted exactly when it would have been without the detour, and
the very same result comes out (`pushMove` recomputes it from scratch). -/
theorem continue_same {w w' w'' : World} {z : ZTable} {b : Nat} {m m' : Move}
    (hw : WFWorld w) (hb : b < w.boards.size)
    (hpush : w.pushMove z b m = some w') (hc : CastleFresh w b m) (hpop : w'.popMove b = some (w'', m'))
    (m2 : Move) :
    OptRel (fun wa wb => obs wa b = obs wb b ∧ (wa.board b).result = (wb.board b).result)
      (w.pushMove z b m2) (w''.pushMove z b m2) := by
  have h := continue_identically (z := z) hw hb hpush hc hpop [Op.push m2]
  rw [run_single, run_single] at h
  exact h.imp fun _ _ _ _ hr => hr.2.2 (List.cons_ne_nil _ _)

/-- Fork board `b`, then apply any interleaving of moves and take-backs to the original (`true`) and to the fork
(`false`) in which neither is taken back below the fork point. Each board then reports what it would report had
the other not been touched: the original as if it had played its own operations in the world without the fork,
the fork as if it alone had played after forking. -/
theorem fork_isolated {w w' : World} {z : ZTable} {b : Nat} {ops : List (Bool × Op)}
    (hw : WFWorld w) (hb : b < w.boards.size)
    (habove : above2 0 0 ops = true)
    (hrun : run2 z b (w.fork b).2 (w.fork b).1 ops = some w') :
    (∃ wb, run z b w (proj true ops) = some wb ∧ obs w' b = obs wb b ∧
        (w'.board b).result = (wb.board b).result) ∧
    (∃ wf, run z (w.fork b).2 (w.fork b).1 (proj false ops) = some wf ∧
        obs w' (w.fork b).2 = obs wf (w.fork b).2 ∧
        (w'.board (w.fork b).2).result = (wf.board (w.fork b).2).result) := by
  have hw1 := wf_fork hw b
  have hb1 := fork_old_lt b hb
  have hf1 := fork_new_lt w b
  have hne : b ≠ (w.fork b).2 := Nat.ne_of_lt hb
  obtain ⟨hs1, hs2⟩ := sep_fork hw hb
  have hwf' := (run2_wf ops hw1 hb1 hf1 hrun).1
  obtain ⟨hva, hvb⟩ := run2_view ops hw1 hb1 hf1 hne hs1 hs2 habove hrun
  rw [view_fork_old hw b hb] at hva
  exact ⟨run_of_viewRun hw hb hwf' hva, run_of_viewRun hw1 hf1 hwf' hvb⟩

/-- Operations on the fork only leave what the original reports unchanged. -/
theorem fork_isolated_original {w w' : World} {z : ZTable} {b : Nat} {ops : List Op}
    (hw : WFWorld w) (hb : b < w.boards.size)
    (habove : above 0 ops = true)
    (hrun : run z (w.fork b).2 (w.fork b).1 ops = some w') :
    obs w' b = obs w b ∧ (w'.board b).result = (w.board b).result := by
  have h2 : run2 z b (w.fork b).2 (w.fork b).1 (ops.map fun o => (false, o)) = some w' := by
    rw [run2_snd]; exact hrun
  have ha : above2 0 0 (ops.map fun o => (false, o)) = true := by rw [above2_snd]; exact habove
  obtain ⟨⟨wb, hr, ho, hres⟩, _⟩ := fork_isolated hw hb ha h2
  rw [proj_map_other (by decide)] at hr
  cases hr
  exact ⟨ho, hres⟩

/-- Operations on the original only leave what the fork reports unchanged - which is what the original reported
when it was forked. -/
theorem fork_isolated_fork {w w' : World} {z : ZTable} {b : Nat} {ops : List Op}
    (hw : WFWorld w) (hb : b < w.boards.size)
    (habove : above 0 ops = true)
    (hrun : run z b (w.fork b).1 ops = some w') :
    obs w' (w.fork b).2 = obs (w.fork b).1 (w.fork b).2 ∧ obs w' (w.fork b).2 = obs w b ∧
      (w'.board (w.fork b).2).result = (w.board b).result := by
  have h2 : run2 z b (w.fork b).2 (w.fork b).1 (ops.map fun o => (true, o)) = some w' := by
    rw [run2_fst]; exact hrun
  have ha : above2 0 0 (ops.map fun o => (true, o)) = true := by rw [above2_fst]; exact habove
  obtain ⟨_, ⟨wf, hr, ho, hres⟩⟩ := fork_isolated hw hb ha h2
  rw [proj_map_other (by decide)] at hr
  cases hr
  have hv := same_of_view_eq (wf_fork hw b) hw (view_fork_new hw b)
  exact ⟨ho, ho.trans hv.1, hres.trans hv.2⟩

/-- The exclusion in `fork_isolated` is necessary: taking the fork back *below* the fork point clears the
shared `next` field, and the original then reports the zero move as its last move. -/
theorem pop_below_fork_clobbers {w w' : World} {b : Nat} {m : Move}
    (hw : WFWorld w) (hb : b < w.boards.size)
    (hpop : (w.fork b).1.popMove (w.fork b).2 = some (w', m)) :
    w'.lastMove b = some {} ∧ w.lastMove b = some m := by
  have hc := hw.cur_lt b hb
  have hbd : w'.board b = w.board b :=
    (pop_board_other hpop (Nat.ne_of_gt hb)).trans (fork_board_old b hb)
  obtain ⟨pi, hp, hm, rfl⟩ := popMove_some hpop
  -- the fork stands on a copy of `b`'s current node: it returns to `b`'s previous node `pi`
  rw [fork_id, fork_cur_new] at hp
  have hp' : (w.cur b).prev = some pi := hp
  have hlt : pi < (w.board b).current := hw.prev_lt _ _ hp'
  have hpi : (w.fork b).1.node pi = w.node pi := fork_node_old b (Nat.lt_trans hlt hc)
  constructor
  · unfold lastMove cur
    rw [hbd, setBoard_node, setNode_node, if_neg (fun h => Nat.ne_of_lt hlt h.1), fork_node_old b hc]
    show ((w.cur b).prev).map _ = _
    rw [hp', Option.map_some, setBoard_node, setNode_node, fork_nodes_size,
      if_pos ⟨rfl, Nat.lt_succ_of_lt (Nat.lt_trans hlt hc)⟩]
  · unfold lastMove
    rw [hp', hm, hpi]
    rfl

/-- Right after forking the fork reports exactly what the original reports, `identicalPositionCount` for every
argument included (the common history is visible to both), and the original is unaffected. -/
theorem fork_shares_past {w : World} {b : Nat} (hw : WFWorld w) (hb : b < w.boards.size) :
    obs (w.fork b).1 (w.fork b).2 = obs w b ∧
    obs (w.fork b).1 b = obs w b ∧
    ((w.fork b).1.board (w.fork b).2).result = (w.board b).result ∧
    (∀ turn t0 limit,
      (w.fork b).1.identicalPositionCount ((w.fork b).1.cur (w.fork b).2) turn t0 limit =
        w.identicalPositionCount (w.cur b) turn t0 limit) ∧
    (∀ turn t0 limit,
      (w.fork b).1.identicalPositionCount ((w.fork b).1.cur b) turn t0 limit =
        w.identicalPositionCount (w.cur b) turn t0 limit) := by
  have hw1 := wf_fork hw b
  have h1 := same_of_view_eq hw1 hw (view_fork_new hw b)
  have h2 := (same_of_view_eq hw1 hw (view_fork_old hw b hb)).1
  exact ⟨h1.1, h2, h1.2,
    fun turn t0 limit => congrFun (congrFun (congrFun (congrArg (fun o => o.nr.identical) h1.1) turn) t0) limit,
    fun turn t0 limit => congrFun (congrFun (congrFun (congrArg (fun o => o.nr.identical) h2) turn) t0) limit⟩

/-- Any sequence of moves and take-backs on the fork (also below the fork point) succeeds iff it succeeds on the
original in the world without the fork, and both report the same, result included: the fork detects every
repetition against the common past that the original would detect. -/
theorem fork_replays {w : World} {z : ZTable} {b : Nat} (hw : WFWorld w) (hb : b < w.boards.size)
    (ops : List Op) :
    OptRel (fun wf wo => obs wf (w.fork b).2 = obs wo b ∧ (wf.board (w.fork b).2).result = (wo.board b).result)
      (run z (w.fork b).2 (w.fork b).1 ops) (run z b w ops) := by
  have hw1 := wf_fork hw b
  have hf1 := fork_new_lt w b
  have hrel : OptRel (fun wa wb => view wa (w.fork b).2 = view wb b)
      (run z (w.fork b).2 (w.fork b).1 ops) (run z b w ops) := by
    apply OptRel.of_map (R := fun v v' => v = v')
    rw [run_view ops hw1 hf1, run_view ops hw hb, view_fork_new hw b]
    exact OptRel.refl (fun _ => rfl) _
  exact hrel.imp fun wa wb ea eb h => same_of_view_eq (run_wf ops hw1 hf1 ea).1 (run_wf ops hw hb eb).1 h

section Example

/-- a trivial Zobrist table -/
def z0 : ZTable := ⟨fun _ _ _ => 0, fun _ => 0, fun _ => 0, fun _ => 0⟩
/-- a lone white knight on H1 -/
def pos0 : Position := (Position.newPosition [(0, .white, .knight)] 0 0).getD {}
def m0 : Move := { ty := .normal, «from» := 0, to := 10, piece := .knight }
def m1 : Move := { ty := .normal, «from» := 10, to := 0, piece := .knight }
/-- one board on that position -/
def w0 : World := (({} : World).newBoard z0 pos0 .white 0 1).1

theorem w0_wf : WFWorld w0 := wf_newBoard wf_empty _ _ _ _ _

/-- The hypotheses of `push_pop`, `pushes_pops` (depth 2), `continue_same` and `fork_isolated` hold in a
concrete world: board 0 of `w0` accepts `m0` then `m1`, neither is a castling move, and after forking,
the interleaving "original plays `m0`, fork plays `m0`, fork takes back, original takes back" runs. -/
example :
    WFWorld w0 ∧ 0 < w0.boards.size ∧
    (∃ w', w0.pushMove z0 0 m0 = some w') ∧ CastleFresh w0 0 m0 ∧
    (∃ w', pushAll z0 0 w0 [m0, m1] = some w') ∧ CastleOnce z0 0 w0 [m0, m1] ∧
    above2 0 0 [(true, .push m0), (false, .push m0), (false, .pop), (true, .pop)] = true ∧
    (∃ w', run2 z0 0 (w0.fork 0).2 (w0.fork 0).1
      [(true, .push m0), (false, .push m0), (false, .pop), (true, .pop)] = some w') := by
  refine ⟨w0_wf, by decide +kernel, ?_, ?_, ?_, ?_, by decide +kernel, ?_⟩
  · exact Option.isSome_iff_exists.mp (by decide +kernel)
  · intro h; exact absurd h (by decide +kernel)
  · exact Option.isSome_iff_exists.mp (by decide +kernel)
  · refine ⟨fun h => absurd h (by decide +kernel), fun _ _ => ⟨fun h => absurd h (by decide +kernel), fun _ _ => trivial⟩⟩
  · exact Option.isSome_iff_exists.mp (by decide +kernel)

end Example

end Morlock.Props.C08
