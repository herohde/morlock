import Morlock.Model.Abs
import Morlock.Spec.Chess
import Morlock.Proofs.GenExample
import Morlock.Proofs.ChainExample
/-!
# C01 — legal move generation is exactly the FIDE legal-move set

Subject: `Position.pseudoLegalMoves`, `legalMoves`, `move` (`pkg/board/position.go`), against the
mailbox reference `Spec.pseudoMoves`, `Spec.isLegal`, `Spec.legalMoves`.

**Proved here, for every position satisfying `WF` (no enumeration of positions):** `statement_holds :
Statement WF` — the model's legal moves, read through `absMove`, are a permutation of the reference
legal moves (`legal_perm`). The proof is staged by move kind (A: `toSquares` and the emitters,
B: officers and king steps, C: pawns, D: castling, E: the whole pseudo-legal list with accurate
metadata and without duplicates, F (in `C06Queries`): `IsAttacked`/`IsChecked`, G: `Position.Move`
accepts exactly the legal moves); every stage is delivered as its own theorem below.

`WF p turn` is `Rep p p.square` (C02: all bitboard views agree with one mailbox board) plus the
decidable chess-level conditions `WFc p turn` (see `Morlock/Proofs/GenWF.lean`): at most one king per
side, castling rights imply the king on its home square, an en-passant target is an empty square on
the mover's sixth rank with an enemy pawn directly behind it.
-/
namespace Morlock.Props.C01
open Morlock Morlock.Model

/-- The full C01 statement for the model: on every well-formed position the model's legal moves,
    read through `absMove`, are a permutation of the reference legal moves. -/
def Statement (WF : Position → Color → Prop) : Prop :=
  ∀ p c, WF p c → ((p.legalMoves c).map absMove).Perm (Spec.legalMoves (abs p c))

theorem legal_iff (p : Position) (c : Color) (m : Move) :
    m ∈ p.legalMoves c ↔ m ∈ p.pseudoLegalMoves c ∧ (p.move m).isSome = true := by
  simp [Position.legalMoves, List.mem_filter]

theorem legal_sublist (p : Position) (c : Color) : (p.legalMoves c).Sublist (p.pseudoLegalMoves c) := by
  simp [Position.legalMoves]

theorem isCheckMate_iff (p : Position) (c : Color) :
    p.isCheckMate c = true ↔ p.isChecked c = true ∧ p.legalMoves c = [] := by
  simp [Position.isCheckMate, List.isEmpty_iff]


/-!
# The proof of `Statement WF`, staged by move kind

Notation: `Rep p b` (C02) — every view of `p` agrees with the mailbox board `b`; `abs p turn` — the
reference position read off `p`; `occB b` — the occupancy predicate of `b`.
The predicates `StepMove`, `PawnMove`, `CastleMove`, `PseudoMove` (in `Morlock/Proofs/Gen*.lean`)
describe a move *with its metadata* in terms of the mailbox board and the reference geometry
(`Spec.step`, `Spec.officerTargets`, `Spec.pawnTargets`) only.
-/
open Morlock.Proofs Morlock.Proofs.Gen

theorem toSquares_mem (b : Bitboard) (hb : b < 2 ^ 64) (sq : Nat) :
    sq ∈ toSquares b ↔ b.testBit sq = true := mem_toSquares hb sq

theorem toSquares_sorted (b : Bitboard) (hb : b < 2 ^ 64) :
    (toSquares b).Pairwise (· < ·) ∧ (toSquares b).Nodup ∧ ∀ sq ∈ toSquares b, sq < 64 :=
  ⟨Gen.toSquares_sorted hb, toSquares_nodup hb, fun _ h => toSquares_lt hb h⟩

theorem emitMove_mem (p : Position) (turn : Color) (t : MoveType) (piece : Piece) (fr ab : Nat)
    (hab : ab < 2 ^ 64) (m : Move) :
    m ∈ p.emitMove turn t piece fr ab ↔
      ab.testBit m.to = true ∧ m.ty = t ∧ m.piece = piece ∧ m.from = fr ∧ m.promotion = .none ∧
      m.capture = (if t = .capture then p.captureAt m.to turn else .none) := mem_emitMove hab m

theorem emitPromo_mem (p : Position) (turn : Color) (t : MoveType) (piece : Piece) (fr ab : Nat)
    (hab : ab < 2 ^ 64) (m : Move) :
    m ∈ p.emitPromo turn t piece fr ab ↔
      ab.testBit m.to = true ∧ m.ty = t ∧ m.piece = piece ∧ m.from = fr ∧
      m.promotion ∈ Position.promoPieces ∧
      m.capture = (if t = .capturePromotion then p.captureAt m.to turn else .none) := mem_emitPromo hab m

theorem captureAt_eq {p : Position} {b : Board} (h : Rep p b) (sq : Nat) (turn : Color) :
    p.captureAt sq turn =
      match b sq with
      | some (c, k) => if c = turn.opp then k else .none
      | none => .none := captureAt_of_rep h sq turn

theorem pseudoLegalMoves_parts (p : Position) (turn : Color) :
    p.pseudoLegalMoves turn = genOfficers p turn ++ genPawns p turn ++ genKing p turn :=
  pseudoLegalMoves_eq p turn

theorem stepMove_iff (b : Board) (turn : Color) (pc : Piece) (m : Move) :
    StepMove b turn pc m ↔
      b m.from = some (turn, pc) ∧ m.piece = pc ∧ m.promotion = .none ∧
      m.to ∈ Spec.officerTargets (occB b) (kindOf pc) m.from ∧
      ((b m.to = none ∧ m.ty = .normal ∧ m.capture = .none) ∨
       (∃ k, b m.to = some (turn.opp, k) ∧ m.ty = .capture ∧ m.capture = k)) := Iff.rfl

/-- **Stage B.** The officers part of the generator output is exactly: a `turn` queen, rook, knight or
    bishop on `from`, `to` among its reference targets for the board's occupancy, `to` empty (type
    `Normal`, no capture recorded) or enemy-occupied (type `Capture`, that piece recorded). -/
theorem officers_iff {p : Position} {b : Board} (h : Rep p b) (turn : Color) (m : Move) :
    m ∈ genOfficers p turn ↔ ∃ pc ∈ Position.promoPieces, StepMove b turn pc m :=
  mem_genOfficers h turn m

/-- **Stage B.** The king-step part: the same for the lowest-numbered `turn` king. -/
theorem kingSteps_iff {p : Position} {b : Board} (h : Rep p b) (turn : Color)
    (hk : p.pieces turn .king ≠ 0) (m : Move) :
    m ∈ genSteps p turn .king (lastPopSquare (p.pieces turn .king)) ↔
      m.from = lastPopSquare (p.pieces turn .king) ∧ StepMove b turn .king m :=
  mem_genKingSteps h turn hk m

theorem stepMove_sound {p : Position} {b : Board} (h : Rep p b) {turn : Color} {pc : Piece} {m : Move}
    (hpw : pc ≠ .pawn) (hm : StepMove b turn pc m) :
    absMove m ∈ Spec.pseudoMoves (abs p turn) ∧ MetaOK p m = true ∧ ClassOK (abs p turn) m = true :=
  ⟨hm.abs_mem_pseudoMoves h hpw, by rw [h.metaOK_iff]; exact hm.metaOKb, hm.classOK h hpw⟩

/-- **Stage C.** The pawns part of the generator output is exactly the pawn moves of `PawnMove`
    (single push ± promotion ×4, double push from the start rank over two empty squares, capture ±
    promotion ×4, en passant onto the recorded target), for every represented position. -/
theorem pawns_iff {p : Position} {b : Board} (h : Rep p b) (turn : Color) (m : Move) :
    m ∈ genPawns p turn ↔ PawnMove b p.enpassant turn m := mem_genPawns h turn m

/-- `ep` is the position's en-passant field, 0 = none. -/
theorem pawnMove_iff (b : Board) (ep : Nat) (turn : Color) (m : Move) :
    PawnMove b ep turn m ↔
      b m.from = some (turn, .pawn) ∧ m.piece = .pawn ∧
      ((Spec.step m.from 0 (Spec.fwd (absColor turn)) = some m.to ∧ b m.to = none ∧ m.capture = .none ∧
        ((Spec.rankOf m.to ≠ Spec.lastRank (absColor turn) ∧ m.ty = .push ∧ m.promotion = .none) ∨
         (Spec.rankOf m.to = Spec.lastRank (absColor turn) ∧ m.ty = .promotion ∧
            m.promotion ∈ Position.promoPieces))) ∨
       (∃ t1, Spec.step m.from 0 (Spec.fwd (absColor turn)) = some t1 ∧
        Spec.step t1 0 (Spec.fwd (absColor turn)) = some m.to ∧
        Spec.rankOf m.from = Spec.startRank (absColor turn) ∧ b t1 = none ∧ b m.to = none ∧
        m.ty = .jump ∧ m.promotion = .none ∧ m.capture = .none) ∨
       (m.to ∈ Spec.pawnTargets (absColor turn) m.from ∧ ∃ k, b m.to = some (turn.opp, k) ∧ m.capture = k ∧
        ((Spec.rankOf m.to ≠ Spec.lastRank (absColor turn) ∧ m.ty = .capture ∧ m.promotion = .none) ∨
         (Spec.rankOf m.to = Spec.lastRank (absColor turn) ∧ m.ty = .capturePromotion ∧
            m.promotion ∈ Position.promoPieces))) ∨
       (ep ≠ 0 ∧ m.to = ep ∧ m.to ∈ Spec.pawnTargets (absColor turn) m.from ∧ colAt b m.to turn = false ∧
        m.ty = .enPassant ∧ m.promotion = .none ∧ m.capture = .none)) := Iff.rfl

theorem pawnMove_sound {p : Position} {turn : Color} (hw : WF p turn) {m : Move}
    (hm : PawnMove p.square p.enpassant turn m) :
    absMove m ∈ Spec.pseudoMoves (abs p turn) ∧ MetaOK p m = true ∧ ClassOK (abs p turn) m = true :=
  ⟨hm.abs_mem_pseudoMoves hw.rep hw.wfb, by rw [hw.rep.metaOK_iff]; exact hm.metaOKb hw.wfb,
    hm.classOK hw.rep hw.wfb⟩

/-- **Stage D.** The castle emissions for a king recorded on `fr`: right present, between-squares
    empty, own rook on its home square — the king's own square is not tested. -/
theorem castles_iff {p : Position} {b : Board} (h : Rep p b) (turn : Color) (fr : Nat) (m : Move) :
    m ∈ genCastles p turn fr ↔ m.from = fr ∧ CastleMove b p.castling turn m := mem_genCastles h turn fr m

/-- What `CastleMove b castling turn m` says; `castleParams turn` lists, king side first,
    (right bit, squares that must be empty, rook home square, move type, king destination). -/
theorem castleMove_iff (b : Board) (castling : Nat) (turn : Color) (m : Move) :
    CastleMove b castling turn m ↔
      ∃ cs ∈ castleParams turn,
        (castling &&& cs.right != 0) = true ∧ (∀ s ∈ cs.cmask, b s = none) ∧
        b cs.rookSq = some (turn, .rook) ∧
        m.ty = cs.ty ∧ m.piece = .king ∧ m.to = cs.to ∧ m.promotion = .none ∧ m.capture = .none := Iff.rfl

example : castleParams .white =
    [⟨wK, [G1, F1], H1, .kingSideCastle, G1⟩, ⟨wQ, [B1, C1, D1], A1, .queenSideCastle, C1⟩] ∧
  castleParams .black =
    [⟨bK, [G8, F8], H8, .kingSideCastle, G8⟩, ⟨bQ, [B8, C8, D8], A8, .queenSideCastle, C8⟩] := ⟨rfl, rfl⟩

theorem castleMove_sound {p : Position} {turn : Color} (hw : WF p turn) {m : Move}
    (hm : CastleMove p.square p.castling turn m) (hfr : m.from = kingHomeSq turn) :
    absMove m ∈ Spec.pseudoMoves (abs p turn) ∧ MetaOK p m = true ∧ ClassOK (abs p turn) m = true :=
  ⟨hm.abs_mem_pseudoMoves hw.rep hw.wfb hfr, by rw [hw.rep.metaOK_iff]; exact hm.metaOKb hw.wfb hfr,
    hm.classOK hw.rep hw.wfb hfr⟩

theorem king_iff {p : Position} {turn : Color} (hw : WF p turn) (m : Move) :
    m ∈ genKing p turn ↔
      StepMove p.square turn .king m ∨ (m.from = kingHomeSq turn ∧ CastleMove p.square p.castling turn m) :=
  mem_genKing hw.rep hw.wfb m

theorem pseudoMove_iff (b : Board) (castling ep : Nat) (turn : Color) (m : Move) :
    PseudoMove b castling ep turn m ↔
      (∃ pc ∈ Position.promoPieces, StepMove b turn pc m) ∨ PawnMove b ep turn m ∨
      StepMove b turn .king m ∨ (m.from = kingHomeSq turn ∧ CastleMove b castling turn m) := Iff.rfl

theorem pseudoLegalMoves_iff {p : Position} {turn : Color} (hw : WF p turn) (m : Move) :
    m ∈ p.pseudoLegalMoves turn ↔ PseudoMove p.square p.castling p.enpassant turn m :=
  mem_pseudoLegalMoves hw.rep hw.wfb m

/-- **Stage E `pseudo_iff`.** The generated moves, read through `absMove`, are exactly the reference
    pseudo-legal moves. -/
theorem pseudo_iff {p : Position} {turn : Color} (hw : WF p turn) (sm : Spec.SMove) :
    (∃ m, m ∈ p.pseudoLegalMoves turn ∧ absMove m = sm) ↔ sm ∈ Spec.pseudoMoves (abs p turn) :=
  pseudo_iff_aux hw.rep hw.wfb sm

/-- **Stage E `pseudo_metaOK`.** Every generated move carries accurate metadata and the class the
    rules assign — the hypotheses of C02 `move_refines` / `move_refines_spec`. -/
theorem pseudo_metaOK {p : Position} {turn : Color} (hw : WF p turn) :
    ∀ m ∈ p.pseudoLegalMoves turn, MetaOK p m = true ∧ ClassOK (abs p turn) m = true :=
  fun m hm => ((mem_pseudoLegalMoves hw.rep hw.wfb m).mp hm).metaOK_classOK hw.rep hw.wfb

/-- **Stage E `pseudo_nodup`.** No two generated moves share `(from, to, promotion)`. -/
theorem pseudo_nodup {p : Position} {turn : Color} (hw : WF p turn) :
    ((p.pseudoLegalMoves turn).map absMove).Nodup := pseudo_nodup_aux hw.rep hw.wfb

theorem pseudoLegalMoves_nodup {p : Position} {b : Board} (h : Rep p b) (turn : Color) :
    (p.pseudoLegalMoves turn).Nodup := Gen.pseudoLegalMoves_nodup h turn

theorem spec_pseudoMoves_nodup (s : Spec.Pos) : (Spec.pseudoMoves s).Nodup := pseudoMoves_nodup s

theorem pseudo_perm {p : Position} {turn : Color} (hw : WF p turn) :
    ((p.pseudoLegalMoves turn).map absMove).Perm (Spec.pseudoMoves (abs p turn)) :=
  pseudo_perm_aux hw.rep hw.wfb

theorem move_isSome_iff {p : Position} {m : Move} {turn : Color} {pc : Piece}
    (hsq : p.square m.from = some (turn, pc)) :
    (p.move m).isSome = true ↔
      ¬ (m.isCastle = true ∧ ∃ sq ∈ Position.safeCastlingSquares turn m.ty, p.isAttacked turn sq = true) ∧
      (moveRaw p turn pc m).isChecked turn = false := by
  rw [move_isSome_eq hsq, Bool.and_eq_true, Bool.not_eq_true', Bool.not_eq_true', ← Bool.not_eq_true,
    Bool.and_eq_true, List.any_eq_true]

/-- **Stage G `move_isSome_iff_legal`.** For a generated move, `Position.Move` succeeds iff the
    reference calls the move legal (not castling out of / through check, own king not left in check). -/
theorem move_isSome_iff_legal {p : Position} {turn : Color} (hw : WF p turn) {m : Move}
    (hm : m ∈ p.pseudoLegalMoves turn) :
    (p.move m).isSome = true ↔ Spec.isLegal (abs p turn) (absMove m) = true := by
  rw [move_isSome_eq_legal hw.rep hw.wfb ((mem_pseudoLegalMoves hw.rep hw.wfb m).mp hm)]

/-- **Stage G `legal_perm`.** The model's legal moves, read through `absMove`, are a permutation of
    the reference legal moves. -/
theorem legal_perm {p : Position} {turn : Color} (hw : WF p turn) :
    ((p.legalMoves turn).map absMove).Perm (Spec.legalMoves (abs p turn)) :=
  legal_perm_aux hw.rep hw.wfb

/-- **C01.** The full statement holds for the model with the well-formedness predicate `WF`. -/
theorem statement_holds : Statement WF := fun _ _ hw => legal_perm hw

theorem legal_length {p : Position} {turn : Color} (hw : WF p turn) :
    (p.legalMoves turn).length = (Spec.legalMoves (abs p turn)).length := by
  rw [← (legal_perm hw).length_eq, List.length_map]

theorem legal_nil_iff {p : Position} {turn : Color} (hw : WF p turn) :
    p.legalMoves turn = [] ↔ Spec.legalMoves (abs p turn) = [] := by
  rw [← List.length_eq_zero_iff, ← List.length_eq_zero_iff, legal_length hw]

theorem isCheckMate_iff_spec {p : Position} {turn : Color} (hw : WF p turn) :
    p.isCheckMate turn = true ↔
      Spec.inCheck (abs p turn) (absColor turn) = true ∧ Spec.legalMoves (abs p turn) = [] := by
  rw [isCheckMate_iff, isChecked_eq hw.rep turn turn, legal_nil_iff hw]

theorem wf_iff (p : Position) (turn : Color) :
    WF p turn ↔ Rep p p.square ∧ WFc p turn = true := Iff.rfl

theorem wf_board {p : Position} {turn : Color} (hw : WF p turn) :
    (∀ c s1 s2, p.square s1 = some (c, Piece.king) → p.square s2 = some (c, Piece.king) → s1 = s2) ∧
    ((p.castling &&& wK != 0 || p.castling &&& wQ != 0) = true → p.square E1 = some (Color.white, Piece.king)) ∧
    ((p.castling &&& bK != 0 || p.castling &&& bQ != 0) = true → p.square E8 = some (Color.black, Piece.king)) ∧
    (p.enpassant ≠ 0 → p.enpassant < 64 ∧ p.square p.enpassant = none ∧
      p.enpassant / 8 = epRank turn ∧
      p.square (epVictim turn p.enpassant) = some (turn.opp, Piece.pawn)) :=
  ⟨hw.wfb.king_unique, hw.wfb.home_white, hw.wfb.home_black, hw.wfb.ep_ok⟩

/-- The initial position, "Kiwipete" (both sides to move), and the en-passant/promotion test
    positions of C02 (`r3k2r/1P6/8/3pP3/8/8/8/R3K2R w KQkq d6` and its mirror image) satisfy `WF`. -/
example : WF startPos .white ∧ WF kiwiPos .white ∧ WF kiwiPos .black ∧ WF exPos .white ∧ WF exPosB .black :=
  ⟨startPos_wf, kiwiPos_wf.1, kiwiPos_wf.2, exPos_wf.1, exPos_wf.2⟩

/-- Instantiation: the reference has exactly 20 legal moves in the initial position and 48 in
    "Kiwipete" — read off the engine's move list by `legal_length`. -/
example : (Spec.legalMoves (abs startPos .white)).length = 20 ∧
    (Spec.legalMoves (abs kiwiPos .white)).length = 48 := by
  rw [← legal_length startPos_wf, ← legal_length kiwiPos_wf.1, startPos_val, kiwiPos_val]
  decide +kernel

/-- Instantiation: in `exPos` the en-passant capture e5xd6 (35 → 44) is a reference pseudo-legal
    move, because the engine generates it. -/
example : (⟨35, 44, none⟩ : Spec.SMove) ∈ Spec.pseudoMoves (abs exPos .white) :=
  (pseudo_iff exPos_wf.1 _).mp ⟨exEP, by rw [exPos_val]; decide +kernel, rfl⟩

/-- `WF` cannot be dropped: with two white kings the generator moves only the lower-numbered one. -/
example : ∃ p : Position, Rep p p.square ∧
    ((p.pseudoLegalMoves .white).map absMove).length < (Spec.pseudoMoves (abs p .white)).length := by
  refine ⟨(Position.newPosition [(3, .white, .king), (35, .white, .king), (59, .black, .king)] 0 0).getD {}, ?_, ?_⟩
  · exact (newPosition_rep (validPlacements_of_all (by decide))
      (eq_some_getD_of_isSome _ (by decide +kernel))).1.self
  · decide +kernel

/-! ## Reachable positions: the chain C01 → C02 → C05 → C18

`WF` of the start position is not enough for "every reachable position is well-formed": when the side *not*
to move is in check the generator emits the capture of its king and `Position.Move` accepts it
(`wf_not_preserved`). The invariant that *is* preserved is
`WFplay p turn := WF p turn ∧ p.isChecked turn.opp = false` (`Morlock/Proofs/ChainWF.lean`).
`GenReach p t q t'` — `q` with `t'` to move is reached from `p` with `t` to move by generated moves that
`Position.Move` accepts; `GenPlay p t ms` — the moves `ms` played in turn from `p` are generated moves;
`playMoves p t ms` plays them (`Morlock/Proofs/ChainReach.lean`). The C05 step conditions (`MoveSound`,
`GoodStep`, `FullStep`) for generated moves are in `C05.pseudo_moveSound` / `C05.generated_fullStep`, the C18
ones in `C18.goodGen_of_wf`.
-/
section Reachable
open Morlock.Proofs.Chain

theorem wfplay_iff (p : Position) (turn : Color) :
    WFplay p turn ↔ WF p turn ∧ p.isChecked turn.opp = false := Iff.rfl

theorem pseudo_mover {p : Position} {turn : Color} (hw : WF p turn) :
    ∀ m ∈ p.pseudoLegalMoves turn, p.square m.from = some (turn, m.piece) := Chain.pseudo_mover hw

theorem pseudo_noKingCapture {p : Position} {turn : Color} (hw : WFplay p turn) :
    ∀ m ∈ p.pseudoLegalMoves turn, m.capture ≠ .king := Chain.pseudo_noKingCapture hw

/-- **`wf_preserved`.** `WFplay` is preserved by every generated move that `Position.Move` accepts: the new
position is well-formed for the other side to move (views agree — C02 `move_refines`; at most one king per side;
`KingHome` — C02 `kingHome_preserved`; the en-passant target, if any, is the empty square skipped by the double
push just made, with that pawn behind it), and the side that has just moved is not in check. -/
theorem wf_preserved {p q : Position} {turn : Color} {m : Move} (hw : WFplay p turn)
    (hm : m ∈ p.pseudoLegalMoves turn) (hq : p.move m = some q) : WFplay q turn.opp :=
  Chain.wf_preserved hw hm hq

/-- `WF` alone is **not** preserved: a position satisfying `WF` with the side not to move in check, a generated
move (the capture of that king) accepted by `Position.Move`, and a result violating `WF`. -/
theorem wf_not_preserved : ∃ (p q : Position) (m : Move),
    WF p .white ∧ m ∈ p.pseudoLegalMoves .white ∧ p.move m = some q ∧ ¬ WF q .black ∧
      p.isChecked .black = true := Chain.wf_not_preserved

/-- **`reachable_wf`.** `WFplay`, hence `WF`, holds at every position reachable from a `WFplay` position by
generated moves; so everything proved above under `WF` holds there. -/
theorem reachable_wf {p q : Position} {t t' : Color} (hw : WFplay p t) (hr : GenReach p t q t') :
    WFplay q t' ∧ WF q t' ∧
    (∀ m ∈ q.pseudoLegalMoves t',
      MetaOK q m = true ∧ ClassOK (abs q t') m = true ∧
      q.square m.from = some (t', m.piece) ∧ m.capture ≠ .king) ∧
    ((q.legalMoves t').map absMove).Perm (Spec.legalMoves (abs q t')) := by
  have hq := reach_wfplay hw hr
  refine ⟨hq, hq.1, fun m hm => ?_, legal_perm hq.1⟩
  obtain ⟨h1, h2⟩ := pseudo_metaOK hq.1 m hm
  exact ⟨h1, h2, Chain.pseudo_mover hq.1 m hm, Chain.pseudo_noKingCapture hq m hm⟩

/-- **Reachable positions refine the reference game**: C02 `play_refines` with every per-move hypothesis
discharged. -/
theorem reachable_refines {p q : Position} {t t' : Color} {ms : List Move} (hw : WFplay p t)
    (hg : GenPlay p t ms) (hp : playMoves p t ms = some (q, t')) :
    GenReach p t q t' ∧ WFplay q t' ∧
      abs q t' = ms.foldl (fun s m => Spec.apply s (absMove m)) (abs p t) :=
  ⟨genReach_of_play ms p t (GenReach.refl p t) hg q t' hp, play_refines_gen ms hw hg hp⟩

theorem reachable_legal {p q r : Position} {t t' : Color} {m : Move} (hw : WFplay p t) (hr : GenReach p t q t')
    (hm : m ∈ q.pseudoLegalMoves t') (hq : q.move m = some r) :
    absMove m ∈ Spec.legalMoves (abs q t') := by
  have hwq := (reach_wfplay hw hr).1
  unfold Spec.legalMoves
  rw [List.mem_filter]
  refine ⟨(pseudo_iff hwq _).mp ⟨m, hm, rfl⟩, ?_⟩
  rw [← move_isSome_iff_legal hwq hm, hq]
  rfl

example : WFplay startPos .white ∧ WFplay kiwiPos .white ∧ WFplay kiwiPos .black :=
  ⟨startPos_wfplay, kiwiPos_wfplay.1, kiwiPos_wfplay.2⟩

example : ∀ q t', GenReach startPos .white q t' →
    WF q t' ∧ ((q.legalMoves t').map absMove).Perm (Spec.legalMoves (abs q t')) ∧
    ∀ m ∈ q.pseudoLegalMoves t', MetaOK q m = true ∧ m.capture ≠ .king :=
  fun _ _ hr =>
    have h := reachable_wf startPos_wfplay hr
    ⟨h.2.1, h.2.2.2, fun m hm => ⟨(h.2.2.1 m hm).1, (h.2.2.1 m hm).2.2.2⟩⟩

/-- 1. e4 e5 2. Nf3 from the initial position. -/
def exOpening : List Move :=
  [{ ty := .jump, «from» := 11, to := 27, piece := .pawn }, { ty := .jump, «from» := 51, to := 35, piece := .pawn },
   { ty := .normal, «from» := 1, to := 18, piece := .knight }]

example : ∃ q, playMoves startPos .white exOpening = some (q, .black) ∧ WFplay q .black ∧
    abs q .black = exOpening.foldl (fun s m => Spec.apply s (absMove m)) (abs startPos .white) := by
  -- both facts in one evaluation: the kernel then plays the line once
  have hs : ((playMoves startPos .white exOpening).map (·.2)) = some Color.black ∧
      genPlayCheck startPos .white exOpening = true := by rw [startPos_val]; decide +kernel
  cases hp : playMoves startPos .white exOpening with
  | none => rw [hp] at hs; cases hs.1
  | some x =>
    obtain ⟨q, t'⟩ := x
    rw [hp] at hs
    obtain rfl : t' = Color.black := Option.some.inj hs.1
    have h := reachable_refines startPos_wfplay (genPlay_of_check _ _ _ hs.2) hp
    exact ⟨q, rfl, h.2.1, h.2.2⟩

end Reachable

end Morlock.Props.C01
