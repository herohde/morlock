import Morlock.Model.Position
import Morlock.Model.Score
import Morlock.Gen.Facts
import Morlock.Gen.Tables
/-!
# Tie between the hand-written models and facts regenerated from the Go source

`Morlock.Gen.*` is rewritten from `/repo` on every check. The models hard-wire enum orders, named
squares and castling-rights bits; these theorems fail to build when the source no longer says so.
-/
namespace Morlock.Props.GenTie
open Morlock Morlock.Model

/-- `Piece` iota order is the one `Piece.code` assumes. -/
theorem enumPiece_tie : Gen.enumPiece =
    [("NoPiece", 0), ("Pawn", 1), ("Bishop", 2), ("Knight", 3), ("Rook", 4), ("Queen", 5), ("King", 6)] := rfl

theorem enumColor_tie : Gen.enumColor = [("White", 0), ("Black", 1)] := rfl

/-- `MoveType` iota order is the one `MoveType.code` assumes. -/
theorem enumMoveType_tie : Gen.enumMoveType =
    [("Normal", 1), ("Push", 2), ("Jump", 3), ("EnPassant", 4), ("QueenSideCastle", 5), ("KingSideCastle", 6),
     ("Capture", 7), ("Promotion", 8), ("CapturePromotion", 9)] := rfl

theorem enumCastling_tie : Gen.enumCastling.take 4 =
    [("WhiteKingSideCastle", wK), ("WhiteQueenSideCastle", wQ), ("BlackKingSideCastle", bK), ("BlackQueenSideCastle", bQ)] := rfl

theorem enumScoreType_tie : Gen.enumScoreType =
    [("Invalid", 0), ("Heuristic", 1), ("MateInX", 2), ("Inf", 3), ("NegInf", 4)] := rfl

theorem enumOutcome_tie : Gen.enumOutcome =
    [("Unknown", 0), ("Undecided", 1), ("WhiteWins", 2), ("BlackWins", 3), ("Draw", 4)] := rfl

theorem enumBound_tie : Gen.enumBound = [("ExactBound", 0), ("LowerBound", 1)] := rfl

/-- Square numbering: `H1 = 0 … A8 = 63`, eight per rank, h-file first. -/
theorem enumSquare_tie : Gen.enumSquare.map (·.2) = List.range 64 ∧
    Gen.enumSquare.lookup "E1" = some E1 ∧ Gen.enumSquare.lookup "A1" = some A1 ∧ Gen.enumSquare.lookup "H1" = some H1 ∧
    Gen.enumSquare.lookup "E8" = some E8 ∧ Gen.enumSquare.lookup "A8" = some A8 ∧ Gen.enumSquare.lookup "H8" = some H8 ∧
    Gen.enumSquare.lookup "G1" = some G1 ∧ Gen.enumSquare.lookup "F1" = some F1 ∧ Gen.enumSquare.lookup "D1" = some D1 ∧
    Gen.enumSquare.lookup "C1" = some C1 ∧ Gen.enumSquare.lookup "G8" = some G8 ∧ Gen.enumSquare.lookup "F8" = some F8 ∧
    Gen.enumSquare.lookup "D8" = some D8 ∧ Gen.enumSquare.lookup "C8" = some C8 := by decide +kernel

theorem enumFileRank_tie : Gen.enumFile.map (·.2) = List.range 8 ∧ Gen.enumRank.map (·.2) = List.range 8 ∧
    Gen.enumFile.lookup "FileH" = some fileH ∧ Gen.enumFile.lookup "FileA" = some fileA ∧
    Gen.enumFile.lookup "FileG" = some fileG ∧ Gen.enumFile.lookup "FileB" = some fileB := by decide +kernel

theorem counts_tie : Gen.zeroPiece = 1 ∧ Gen.numPieces = 7 ∧ Gen.numSquares = 64 ∧ Gen.numCastling = 16 ∧
    Gen.numStates = 256 := by decide

/-- The piece lists whose *order* fixes the generator order. -/
theorem lists_tie : Position.allPiecesList = [.king, .queen, .rook, .knight, .bishop, .pawn] ∧
    Position.promoPieces = [.queen, .rook, .knight, .bishop] := by decide

/-- The draw limits are the ones C05 states. -/
theorem limits_tie : Gen.repetition3Limit = 3 ∧ Gen.repetition5Limit = 5 ∧ Gen.noprogressPlyLimit = 100 := by decide

/-- The colour mask used for "two bishops on squares of one colour" selects exactly the squares
    of one of the two colour classes (`(file + rank)` even, or odd). -/
theorem whiteSquareMask_is_a_colour :
    (∀ sq, sq < 64 → (Gen.whiteSquareMask.testBit sq = ((sq % 8 + sq / 8) % 2 == 0))) ∨
    (∀ sq, sq < 64 → (Gen.whiteSquareMask.testBit sq = ((sq % 8 + sq / 8) % 2 == 1))) := by decide

/-- The castling masks are the squares between king and rook. -/
theorem castlingMasks_tie :
    Position.maskOf Gen.whiteKingSideCastlingMask = Position.maskOf [F1, G1] ∧
    Position.maskOf Gen.whiteQueenSideCastlingMask = Position.maskOf [B1, C1, D1] ∧
    Position.maskOf Gen.blackKingSideCastlingMask = Position.maskOf [F8, G8] ∧
    Position.maskOf Gen.blackQueenSideCastlingMask = Position.maskOf [B8, C8, D8] := by decide

end Morlock.Props.GenTie
