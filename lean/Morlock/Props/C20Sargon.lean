import Morlock.Proofs.SargonEval
import Morlock.Proofs.SargonSound
import Morlock.Proofs.SargonDet
import Morlock.Proofs.SargonSpec
import Morlock.Props.C13
import Morlock.Proofs.MirrorModel
import Morlock.Proofs.PromoModel
import Morlock.Proofs.GenExample
/-!
# C20 (SARGON) — the SARGON evaluation (`cmd/sargon/sargon`) is total and bounded; its filter is `C20.pick`

Subject: `Model/Sargon.lean` + `Model/EvalPins.lean`, the transcription of `eval.go`, `exchange.go`, `search.go` and
`pkg/eval/pins.go`, tied to the Go code by the `sargon` stream (every component, bit for bit). The statements hold on every
position whose views are consistent (`Rep p b`), for every history-dependent input of the evaluation (`BView`: last move, moved
mask, move number, castled flags), every state captured by `Reset` and every implementation of `sort.Slice` that returns a
permutation: no `Attackboard` panic, no `defenders[0]` / `attackers[0]` out of range, the three unbounded loops / recursions of
the Go code (`addAttackerStack`, the `findSide` flattening, the `Exchange` loop) end within the model's budgets, no float32
overflow or division by zero; `FindPins` and `FindAttackers` are the executable references of `Spec/Pins.lean`; what the
unspecified tie order of `sort.Slice` can change is shown on concrete positions.
-/
namespace Morlock.Props.C20Sargon
open Morlock Morlock.Model Morlock.Model.Sargon Morlock.Proofs Morlock.Proofs.Sargon Morlock.Proofs.Gen
open Morlock.Model.Flt (Q f32)

/-- What is assumed of `sort.Slice`: it returns a rearrangement of its input. The stable insertion sort of the
    model satisfies it. -/
theorem sortOK_def (srt : List Attacker → List Attacker) : SortOK srt ↔ ∀ l, (srt l).Perm l := Iff.rfl

theorem stableSort_sortOK : SortOK stableSort := stableSort_ok

theorem absLe_def (x : Q) (B : Nat) : AbsLe x B ↔ x.num.natAbs ≤ B * x.den := Iff.rfl

/-- **`FindAttackers` is total**: for every square of the board and both sides it returns a list (no panic of
    `Attackboard`, the recursion `addAttackerStack` ends) of at most 384 stacks, each at most 32 deep. -/
theorem findAttackers_total {p : Position} {b : Proofs.Board} (h : Rep p b) (pins : Pins) {sq : Nat} (hsq : sq < 64) (side : Color) :
    ∃ l, findAttackers p pins sq side = .ok l ∧ l.length ≤ 384 ∧ ∀ a ∈ l, a.behind.length < 32 :=
  findAttackers_ok h pins hsq side

/-- **`Exchange` is total and bounded**, whatever `sort.Slice` does with ties. -/
theorem exchange_total {p : Position} {b : Proofs.Board} (h : Rep p b) {srt : List Attacker → List Attacker} (hs : SortOK srt)
    (pins : Pins) (side : Color) {sq : Nat} (hsq : sq < 64) :
    ∃ v, exchangeW srt p pins side sq = .ok v ∧ -2457600 ≤ v ∧ v ≤ 2457600 := by
  obtain ⟨v, hv, h1, h2⟩ := exchangeW_ok h hs pins side hsq
  have e : (200 * (sideMax : Int)) = 2457600 := by decide
  exact ⟨v, hv, by omega, by omega⟩

theorem reset_total {p : Position} {b : Proofs.Board} (h : Rep p b) (v : BView) (hv : v.pos = p) :
    ∃ pts, reset v = .ok pts ∧ pts.side0 = v.turn ∧ -786964 ≤ pts.brdc0 ∧ pts.brdc0 ≤ 786964 := by
  obtain ⟨pts, h1, h2, h3, h4⟩ := reset_ok h v hv
  rw [brdcMax_eq] at h3 h4
  exact ⟨pts, h1, h2, h3, h4⟩

theorem find_filter_ne (l : List (Nat × Points)) {b b' : Nat} (h : b' ≠ b) :
    (l.filter (fun e => e.1 != b)).find? (fun e => e.1 == b') = l.find? (fun e => e.1 == b') := by
  rw [List.find?_filter]
  congr 1; funext e
  by_cases he : e.1 = b' <;> simp [he, h]

theorem find_filter_self (l : List (Nat × Points)) (b : Nat) :
    (l.filter (fun e => e.1 != b)).find? (fun e => e.1 == b) = none := by
  rw [List.find?_filter, List.find?_eq_none]
  intro e _; simp

theorem reset_eq_ok {m m' : PointsMap} {b : Nat} {v : BView} (h : m.reset b v = .ok m') :
    ∃ r, reset v = .ok r ∧ m' = { roots := (b, r) :: m.roots.filter (fun e => e.1 != b) } := by
  unfold PointsMap.reset at h
  cases hr : reset v with
  | error e => rw [hr] at h; cases h
  | ok r => rw [hr] at h; cases h; exact ⟨r, rfl, rfl⟩

/-- `Evaluate(b)` after `Reset(b)` reads what `Reset` captured. -/
theorem root_after_reset {m m' : PointsMap} {b : Nat} {v : BView} {r : Points} (h : m.reset b v = .ok m')
    (hr : reset v = .ok r) : m'.root b = r := by
  obtain ⟨r', hr', rfl⟩ := reset_eq_ok h
  rw [hr] at hr'
  cases hr'
  simp [PointsMap.root]

/-- **Isolation** (the point of keeping the values per board): `Reset` for one board leaves the reference values of every
    other board untouched. -/
theorem root_after_reset_other {m m' : PointsMap} {b b' : Nat} {v : BView} (h : m.reset b v = .ok m') (hb : b' ≠ b) :
    m'.root b' = m.root b' := by
  obtain ⟨r, _, rfl⟩ := reset_eq_ok h
  have h2 : ((b, r).1 == b') = false := by simp; exact fun c => hb c.symm
  simp only [PointsMap.root]
  rw [List.find?_cons, h2, find_filter_ne _ hb]

/-- after `Forget(b)` the board reads the zero values again; other boards are not affected -/
theorem root_after_forget (m : PointsMap) (b : Nat) : (m.forget b).root b = {} := by
  simp only [PointsMap.forget, PointsMap.root, find_filter_self]

theorem root_after_forget_other (m : PointsMap) {b b' : Nat} (hb : b' ≠ b) : (m.forget b).root b' = m.root b' := by
  simp only [PointsMap.forget, PointsMap.root, find_filter_ne _ hb]

/-- `Hook.Search` on board `b`: the search runs with `b` registered, afterwards `b` is forgotten, and no other board's
    reference values have changed. -/
theorem hookSearch_spec {α : Type} {m m' : PointsMap} {b : Nat} {v : BView} {search : PointsMap → α} {a : α}
    (h : hookSearch m b v search = .ok (a, m')) :
    (∃ m1 r, reset v = .ok r ∧ m1.root b = r ∧ a = search m1) ∧ m'.root b = {} ∧ ∀ b', b' ≠ b → m'.root b' = m.root b' := by
  unfold hookSearch at h
  cases hm : m.reset b v with
  | error e => rw [hm] at h; cases h
  | ok m1 =>
    rw [hm] at h
    cases h
    obtain ⟨r, hr, _⟩ := reset_eq_ok hm
    refine ⟨⟨m1, r, hr, root_after_reset hm hr, rfl⟩, root_after_forget _ _, ?_⟩
    intro b' hb
    rw [root_after_forget_other _ hb, root_after_reset_other hm hb]

theorem hookSearch_ok {α : Type} {m : PointsMap} {b : Nat} {v : BView} {r : Points} (search : PointsMap → α) (h : reset v = .ok r) :
    ∃ a m', hookSearch m b v search = .ok (a, m') := by
  unfold hookSearch PointsMap.reset
  rw [h]
  exact ⟨_, _, rfl⟩

/-- `Points.Evaluate` returns a finite value on every represented position: for every board view
    `v` over the position, every root state `pts`, every permutation-returning sorter. The value is a float32
    (`0 < den`) of magnitude at most `2^28`; the components are bounded as stated. -/
theorem points_total {p : Position} {b : Proofs.Board} (h : Rep p b) {srt : List Attacker → List Attacker} (hs : SortOK srt)
    (pts : Points) (v : BView) (hv : v.pos = p) :
    ∃ r, evaluatePartsW srt pts v = .ok r ∧ evaluateW srt pts v = .ok r.points ∧
      0 < r.points.den ∧ AbsLe r.points (2 ^ 28) ∧
      -786964 ≤ r.brdc ∧ r.brdc ≤ 786964 ∧ -14761090 ≤ r.mtrl2 ∧ r.mtrl2 ≤ 14761090 := by
  obtain ⟨r, hr, h1, h2, h3, h4, h5, h6⟩ := evaluatePartsW_ok h hs pts v hv
  rw [brdcMax_eq] at h3 h4
  rw [mtrl2Max_eq] at h5 h6
  exact ⟨r, hr, by simp only [evaluateW, hr], h1, h2, h3, h4, h5, h6⟩

/-- **A dead store in `Points.Evaluate`** (a defect of the code, `Points.Evaluate` in `eval.go`, still present after commit 353417e). `Evaluate` computes a local
    `brdc0`, negated when the side to move is not the side `Reset` captured, and then does not use it: the formula reads
    `r.brdc0`. Consequently the field `side0` captured by `Reset` has no influence whatsoever on the evaluation; after an
    odd number of plies below the root the board-control term `Limit(brdc − brdc0, 6)` compares the mover's board control
    with the *opponent's* root value. (Implementation witness: stream `sargon`, `info.dead-store-brdc0`.) -/
theorem evaluate_ignores_side0 (srt : List Attacker → List Attacker) (c1 c2 : Color) (x : Int) (v : BView) :
    evaluatePartsW srt { side0 := c1, brdc0 := x } v = evaluatePartsW srt { side0 := c2, brdc0 := x } v := rfl

/-- the instance the engine runs (stable sort = Go's insertion sort for at most 12 elements) -/
theorem points_total_stable {p : Position} {b : Proofs.Board} (h : Rep p b) (pts : Points) (v : BView) (hv : v.pos = p) :
    ∃ q, evaluate pts v = .ok q ∧ 0 < q.den ∧ AbsLe q (2 ^ 28) := by
  obtain ⟨r, _, h2, h3, h4, _⟩ := points_total h stableSort_ok pts v hv
  exact ⟨r.points, h2, h3, h4⟩

/-- The `eval.Pawns` values that the model carries as integers are below `2^23` in magnitude, so
    every float32 operation the Go code performs on them (sums, differences, doubling, the halves `(2·ptsw2 − 1)/2`
    and `mtrl − (loss + win)`) is exact: exchange values, `2·ptsl + 1`, `loss + win`, `mtrl`, `brdc`. -/
theorem exact_range :
    (2457600 : Int) < 2 ^ 23 ∧ 2 * 2457600 + 1 < (2 : Int) ^ 23 ∧ (2 * 2457600 + 1) + 2457600 < (2 : Int) ^ 23 ∧
    (14761090 : Int) < 2 * 2 ^ 23 ∧ (786964 : Int) < 2 ^ 23 := by decide

def viewOf (p : Position) (turn : Color) : BView :=
  { pos := p, turn := turn, last := none, moved := 0, fullMoves := 1, castledW := false, castledB := false }

/-- "Kiwipete" (`r3k2r/p1ppqpb1/bn2pnp1/3PN3/1p2P3/2N2Q1p/PPPBBPPP/R3K2R w KQkq -`): both evaluations are finite. -/
example : ∃ q, evaluate {} (viewOf kiwiPos .white) = .ok q ∧ 0 < q.den ∧ AbsLe q (2 ^ 28) :=
  points_total_stable kiwiPos_rep {} _ rfl

example : ∃ pts, reset (viewOf exPos .white) = .ok pts ∧ pts.side0 = .white ∧ -786964 ≤ pts.brdc0 ∧ pts.brdc0 ≤ 786964 :=
  reset_total exPos_rep _ rfl

/-- The predicate of `sargon.SkipUnderPromotions` (`board.Move.IsNotUnderPromotion`) is `C20.pick`, its priority is
    `search.MVVLVA`. -/
theorem skipUnderPromotions_pick : skipUnderPromotions.pick = Promo.pick ∧ skipUnderPromotions.prio = mvvlva :=
  ⟨rfl, rfl⟩

/-- Hence (C20 `skip_underpromo_legal_and_nonempty`): on every `WF` position SARGON's exploration keeps a legal move
    whenever there is one, and keeps only legal moves, each once. -/
theorem skipUnderPromotions_keeps_a_legal_move {p : Position} {turn : Color} (hw : WF p turn) :
    (p.legalMoves turn ≠ [] → (p.legalMoves turn).filter skipUnderPromotions.pick ≠ []) ∧
    ((p.legalMoves turn).filter skipUnderPromotions.pick).Sublist (p.legalMoves turn) ∧
    ((p.legalMoves turn).filter skipUnderPromotions.pick).Nodup :=
  ⟨Promo.filter_pick_ne_nil hw, (Promo.filter_pick_sound hw.rep turn).1, (Promo.filter_pick_sound hw.rep turn).2⟩

example : (kiwiPos.legalMoves .white).filter skipUnderPromotions.pick ≠ [] :=
  (skipUnderPromotions_keeps_a_legal_move kiwiPos_wf.1).1 (by rw [kiwiPos_val]; decide +kernel)

/-- The reference geometry of a pin (`Proofs/SargonPins.lean`), spelled out: walking from `target` in direction `d` on
    the board with the pinned piece lifted one meets empty squares `pre`, the square `pinned`, empty squares `mid`, the
    square `attacker`; on the board as it is, the walk ends at `pinned`. -/
theorem pinLine_def (o : Nat → Bool) (target : Nat) (d : Int × Int) (pinned attacker : Nat) :
    PinLine o target d pinned attacker ↔
      ∃ pre mid, Spec.ray (fun s => o s && decide (s ≠ pinned)) target d.1 d.2 8 = pre ++ pinned :: (mid ++ [attacker]) ∧
        Spec.ray o target d.1 d.2 8 = pre ++ [pinned] ∧
        (∀ x ∈ pre, o x = false) ∧ (∀ x ∈ mid, o x = false) ∧ o pinned = true ∧ o attacker = true := Iff.rfl

/-- Every `Pin` returned by `FindPins(pos, side, piece)`: the target is a `piece` of `side`; the
    pinned square holds a piece of `side`; the attacker is an enemy queen, or an enemy rook (on a rook line) / bishop
    (on a diagonal); and target – pinned – attacker stand on one line in that order with nothing else between. -/
theorem findPins_sound {p : Position} {b : Proofs.Board} (h : Rep p b) (side : Color) {piece : Piece} (hk : piece ≠ .none)
    {pin : Pin} (hpin : pin ∈ findPins p side piece) :
    b pin.target = some (side, piece) ∧ (∃ kp, b pin.pinned = some (side, kp)) ∧
      ∃ line, (line = Spec.Kind.rook ∨ line = Spec.Kind.bishop) ∧
        (b pin.attacker = some (side.opp, .queen) ∨ b pin.attacker = some (side.opp, sliderOf line)) ∧
        ∃ d ∈ dirsOf line, PinLine (occB b) pin.target d pin.pinned pin.attacker :=
  Proofs.Sargon.findPins_sound h side hk hpin

/-- Conversely, every such configuration is reported: a `piece` of `side` on `target`, a piece
    of `side` on `pinned`, an enemy queen or slider of the line on `att`, standing on one line as `PinLine` says, gives
    the pin `⟨att, pinned, target⟩` in `FindPins(pos, side, piece)`. -/
theorem findPins_complete {p : Position} {b : Proofs.Board} (h : Rep p b) (side : Color) {piece : Piece} (hk : piece ≠ .none)
    {target pinned att : Nat} (hbt : b target = some (side, piece)) {kp : Piece} (hbp : b pinned = some (side, kp))
    {line : Spec.Kind} (hline : line = Spec.Kind.rook ∨ line = Spec.Kind.bishop)
    (hba : b att = some (side.opp, .queen) ∨ b att = some (side.opp, sliderOf line))
    {d : Int × Int} (hd : d ∈ dirsOf line) (hpl : PinLine (occB b) target d pinned att) :
    { attacker := att, pinned := pinned, target := target } ∈ findPins p side piece :=
  Proofs.Sargon.findPins_complete h side hk hbt hbp hline hba hd hpl

/-- in Kiwipete nobody is pinned to a king or queen; in `twoQ` neither; in `pinPos` (`4k3/4r3/8/8/4N3/8/8/4K3 w`) the
    knight e4 is pinned to the king by the rook e7 -/
def pinPl : List (Nat × Color × Piece) :=
  [(3, .white, .king), (27, .white, .knight), (51, .black, .rook), (59, .black, .king)]
def pinPos : Position := (Position.newPosition pinPl 0 0).getD {}

example : findPins pinPos .white .king = [{ attacker := 51, pinned := 27, target := 3 }] := by decide +kernel
example : findKingQueenPins pinPos = [(27, 51)] := by decide +kernel

theorem attacks_def (b : Proofs.Board) (c : Color) (k : Piece) (s t : Nat) :
    Attacks b c k s t ↔
      (k = .pawn ∧ t ∈ Spec.pawnTargets (absColor c) s) ∨
      (k ≠ .pawn ∧ k ≠ .none ∧ t ∈ Spec.officerTargets (occB b) (kindOf k) s) := Iff.rfl

/-- Every stack returned by `FindAttackers(pos, pins, sq, side)` is headed by a piece of
    `side` that stands there, attacks `sq` by the rules and is not pinned away from `sq` (`pins`), and the pieces
    behind it form an x-ray chain: each is a queen or the slider of the line, of the same side, not pinned away, and is
    the second piece on the line from `sq` whose first piece is its predecessor (once the predecessors before are
    lifted). -/
theorem findAttackers_sound {p : Position} {b : Proofs.Board} (h : Rep p b) (pins : Pins) {sq : Nat} (hsq : sq < 64) (side : Color)
    {l : List Attacker} (hl : findAttackers p pins sq side = .ok l) :
    ∀ a ∈ l, a.front.color = side ∧ b a.front.square = some (side, a.front.piece) ∧
      Attacks b side a.front.piece a.front.square sq ∧ isPinnedFor pins a.front.square sq = false ∧
      Chain b side pins sq (occB b) a.front.square a.behind :=
  (Proofs.Sargon.findAttackers_sound h pins hsq side hl).1

/-- Completeness for the direct attackers: every non-pinned piece of `side` that attacks `sq` heads a stack. -/
theorem findAttackers_complete {p : Position} {b : Proofs.Board} (h : Rep p b) (pins : Pins) {sq : Nat} (hsq : sq < 64) (side : Color)
    {l : List Attacker} (hl : findAttackers p pins sq side = .ok l) :
    ∀ s k, b s = some (side, k) → Attacks b side k s sq → isPinnedFor pins s sq = false → ∃ a ∈ l, a.front.square = s :=
  (Proofs.Sargon.findAttackers_sound h pins hsq side hl).2

theorem chain_cons (b : Proofs.Board) (side : Color) (pins : Pins) (t : Nat) (o : Nat → Bool) (f : Nat) (q : Placement)
    (rest : List Placement) :
    Chain b side pins t o f (q :: rest) ↔
      (q.color = side ∧ b q.square = some (side, q.piece) ∧ isPinnedFor pins q.square t = false ∧
       (∃ line, (line = Spec.Kind.rook ∨ line = Spec.Kind.bishop) ∧ (q.piece = .queen ∨ q.piece = sliderOf line) ∧
          ∃ d ∈ dirsOf line, PinLine o t d f q.square) ∧
       Chain b side pins t (fun s => o s && decide (s ≠ f)) q.square rest) := Iff.rfl

/-- `twoQ`: d4 (28) is attacked by the white queen f2 (10) and by the queen b4 (30) with the rook a4 (31) behind it -/
example : (findAttackers twoQ [] 28 .white).toOption =
    some [{ front := ⟨.queen, .white, 10⟩ }, { front := ⟨.queen, .white, 30⟩, behind := [⟨.rook, .white, 31⟩] }] := by
  decide +kernel

/-- What every `sort.Slice(list, byValue(list))` guarantees. -/
theorem isValSort_def (srt : List Attacker → List Attacker) :
    IsValSort srt ↔ ∀ l, (srt l).Perm l ∧ (srt l).Pairwise (fun a b => val a ≤ val b) := Iff.rfl

/-- **Without x-ray stacks the unspecified order of ties is irrelevant.** If no attacker and no defender of `sq` has
    anybody behind it, every implementation of `sort.Slice` gives the same exchange value. (The loop of `Exchange` reads
    only the values of the two lists, and two sorted permutations of a list carry the same values.) -/
theorem exchange_independent_of_tie_order_without_stacks {s1 s2 : List Attacker → List Attacker}
    (h1 : IsValSort s1) (h2 : IsValSort s2) (pos : Position) (pins : Pins) (side : Color) (sq : Nat)
    (hno : ∀ c l, findAttackers pos pins sq c = .ok l → ∀ a ∈ l, a.behind = []) :
    exchangeW s1 pos pins side sq = exchangeW s2 pos pins side sq :=
  exchange_no_stacks h1 h2 pos pins side sq hno

/-- **With stacks it is not**: in `twoQ` (`3q3k/8/8/8/RQ1r4/8/5Q2/7K`, `WF` for both colours) the two valid sorters
    `stableSort` and `revTieSort` give the exchange values `0` and `−5` for the rook on d4. -/
theorem exchange_tie_order_matters :
    IsValSort stableSort ∧ IsValSort revTieSort ∧ WF twoQ .white ∧
    (exchangeW stableSort twoQ (findKingQueenPins twoQ) .black 28).toOption = some 0 ∧
    (exchangeW revTieSort twoQ (findKingQueenPins twoQ) .black 28).toOption = some (-5) :=
  ⟨Proofs.Sargon.exchange_tie_order_matters.1, Proofs.Sargon.exchange_tie_order_matters.2.1, twoQ_wf.1,
   Proofs.Sargon.exchange_tie_order_matters.2.2.1, Proofs.Sargon.exchange_tie_order_matters.2.2.2⟩

/-- the colour-swapped mirror image of `twoQ`: `7k/5q2/8/rq1R4/8/8/8/3Q3K b - -` -/
def twoQmPl : List (Nat × Color × Piece) :=
  [(56, .black, .king), (50, .black, .queen), (36, .white, .rook), (38, .black, .queen), (39, .black, .rook),
   (0, .white, .king), (4, .white, .queen)]
def twoQm : Position := (Position.newPosition twoQmPl 0 0).getD {}

/-- `Reset` and `Evaluate` at the same board without history: the float32 bits of the result -/
def pointsBits (p : Position) (turn : Color) : Option Nat :=
  match reset (viewOf p turn) with
  | .error _ => none
  | .ok pts => match evaluate pts (viewOf p turn) with
    | .error _ => none
    | .ok q => Flt.bits32 q

/-- A defect of the code, reproduced by the implementation (stream `sargon`, curated
    position, `info.not-colour-blind`): `twoQm` with Black to move is the colour-swapped mirror image of `twoQ` with
    White to move, yet the evaluations for the side to move are `0x4210999a` (36.15) and `0x42904ccd` (72.15). The
    implementation with Go's own sort agrees with both numbers. Cause: the tie between the two queens is broken by
    square number (`LastPopSquare` order, kept by the stable sort), and mirroring reverses it. -/
theorem points_not_colour_blind :
    abs twoQm .black = Spec.mirror (abs twoQ .white) ∧
    pointsBits twoQ .white = some 0x4210999a ∧ pointsBits twoQm .black = some 0x42904ccd := by
  decide +kernel

/-- `6k1/8/6p1/3p3Q/4N3/8/8/6K1 b - -` after White's `Ng3-e4`: the knight (e4 = 27) and the queen (h5 = 32) are both
    en prise to pawns. -/
def hangPl : List (Nat × Color × Piece) :=
  [(57, .black, .king), (41, .black, .pawn), (36, .black, .pawn), (32, .white, .queen), (27, .white, .knight), (1, .white, .king)]
def hangPos : Position := (Position.newPosition hangPl 0 0).getD {}
/-- its colour-swapped mirror image `6k1/8/8/4n3/3P3q/6P1/8/6K1 w - -` after Black's `Ng6-e5` -/
def hangPlM : List (Nat × Color × Piece) :=
  [(1, .white, .king), (17, .white, .pawn), (28, .white, .pawn), (24, .black, .queen), (35, .black, .knight), (57, .black, .king)]
def hangPosM : Position := (Position.newPosition hangPlM 0 0).getD {}

def viewAfter (p : Position) (turn : Color) (to : Nat) : BView :=
  { pos := p, turn := turn, last := some { ty := .normal, «from» := 0, to := to, piece := .knight }, moved := bitMask to,
    fullMoves := 9, castledW := false, castledB := false }

/-- **`Material`'s `ptschk` depends on the numbering of the squares** (second source of colour-dependence; the code has
    the comment "not cleared if later square is greater loss?"). The loop visits the men in `LastPopSquare` order; the
    flag is set when the piece that just moved is the greatest loss *so far*. In `hangPos` the knight that just moved
    (e4, loss 3) is visited before the queen (h5, loss 9): `ptschk = true`. In the mirror image the queen (h4) comes
    first: `ptschk = false`. `Material` returns `(7, true)` and `(6.5, false)`, `Points.Evaluate` `0x41de6666` (27.8) and
    `0x41ce6666` (25.8) — as the implementation does (stream `sargon`, curated position). -/
theorem material_ptschk_depends_on_square_order :
    abs hangPosM .white = Spec.mirror (abs hangPos .black) ∧
    (material (viewAfter hangPos .black 27) (findKingQueenPins hangPos)).toOption = some (14, true) ∧
    (material (viewAfter hangPosM .white 35) (findKingQueenPins hangPosM)).toOption = some (13, false) := by
  decide +kernel

set_option maxRecDepth 100000 in
/-- Kiwipete evaluates to `0x41a0b852` (20.09), as the implementation says (first line of the stream). -/
example : pointsBits kiwiPos .white = some 0x41a0b852 := by
  rw [kiwiPos_val]; decide +kernel

/-- `FindPins(pos, side, piece)` returns exactly the pins the reference finds by walking the eight
    rays of the mailbox board from every `piece` of `side` (first man seen: own; with it lifted, first man seen: enemy queen,
    or rook on orthogonals / bishop on diagonals): the same set of `(attacker, pinned, target)`. -/
theorem findPins_eq_specPins {p : Position} {b : Proofs.Board} (h : Rep p b) (turn side : Color) {piece : Piece} (hk : piece ≠ .none)
    (a f t : Nat) :
    ({ attacker := a, pinned := f, target := t } : Pin) ∈ findPins p side piece ↔
      (a, f, t) ∈ Spec.specPins (abs p turn) (absColor side) (kindOf piece) :=
  Proofs.Sargon.findPins_eq_specPins h turn side hk a f t

/-- The squares heading the stacks of `FindAttackers(pos, pins, sq, side)` are exactly
    the reference's direct attackers: the men of `side` that attack `sq` by the rules and that `pins` does not pin away. -/
theorem findAttackers_fronts_eq_specDirect {p : Position} {b : Proofs.Board} (h : Rep p b) (turn : Color) (pins : Pins) {sq : Nat}
    (hsq : sq < 64) (side : Color) {l : List Attacker} (hl : findAttackers p pins sq side = .ok l) (s : Nat) :
    (∃ a ∈ l, a.front.square = s) ↔
      s ∈ Spec.specDirect (abs p turn) (fun s => isPinnedFor pins s sq) sq (absColor side) :=
  Proofs.Sargon.findAttackers_fronts_eq_specDirect h turn pins hsq side hl s

example : Spec.specPins (abs pinPos .white) .white .king = [(51, 27, 3)] := by decide +kernel

section QuietSearch
open Morlock.Model.Score Morlock.Proofs.AB
open Morlock.Spec (rank)
variable {P : Type}

/-- Not in check: `OnePlyIfChecked` is the static leaf of `Model.Search` (`search.Leaf.QuietSearch`). -/
theorem onePlyIfChecked_of_not_inCheck (g : Game P) (p : P) (a b : Score) (st : SState) (h : g.inCheck p = false) :
    onePlyIfChecked g p a b st = quietSearch g .static p a b st := by
  simp [onePlyIfChecked, quietSearch, h]

/-- In check: `OnePlyIfChecked` is `AlphaBeta.Search` of `Model.Search` at depth 1 with the static leaf, full exploration, the
    caller's window and state; a halted search gives `(0 nodes, InvalidScore)`. -/
theorem onePlyIfChecked_of_inCheck (g : Game P) (p : P) (a b : Score) (st : SState) (h : g.inCheck p = true) :
    onePlyIfChecked g p a b st =
      match alphaBetaSearch g (constEx fullExploration) .static p 1 a b st with
      | (none, st') => (invalidScore, { st' with nodes := st.nodes })
      | (some r, st') => (r.score, { st' with nodes := st.nodes + r.nodes }) := by
  simp only [onePlyIfChecked, h, Bool.not_true, Bool.false_eq_true, if_false]
  rcases alphaBetaSearch g (constEx fullExploration) .static p 1 a b st with ⟨_ | r, st'⟩ <;> rfl

/-- … and, one level further down, the score is that of `runAlphaBeta.search` (`Model.alphabeta`) at depth 1 on the window
    `[a or −∞, b or +∞]`, unless the final poll reports cancellation. -/
theorem onePlyIfChecked_score (g : Game P) (p : P) (a b : Score) (st : SState) (h : g.inCheck p = true) :
    (onePlyIfChecked g p a b st).1 =
      if (poll (alphabeta g (constEx fullExploration) .static (g.ply p) 1 p (if a.isInvalid then negInfScore else a)
            (if b.isInvalid then infScore else b) { st with nodes := 0 }).2.2).1
      then invalidScore
      else (alphabeta g (constEx fullExploration) .static (g.ply p) 1 p (if a.isInvalid then negInfScore else a)
            (if b.isInvalid then infScore else b) { st with nodes := 0 }).1 := by
  rw [onePlyIfChecked_of_inCheck g p a b st h]
  simp only [alphaBetaSearch]
  cases hc : (poll (alphabeta g (constEx fullExploration) .static (g.ply p) 1 p (if a.isInvalid then negInfScore else a)
      (if b.isInvalid then infScore else b) { st with nodes := 0 }).2.2).1 <;> simp_all

/-- **C13 applies.** In check, without table and without cancellation, for a proper window of valid scores of grade 1:
    the score `OnePlyIfChecked.QuietSearch` returns is the one-ply negamax value `V … 1 p` over all legal moves with the
    static evaluation at the leaves, clipped to the window. -/
theorem onePlyIfChecked_clip (g : Game P) (hev : EvalOk g) (p : P) (a b : Score) (st : SState)
    (h : g.inCheck p = true) (htt : st.tt.slots.size = 0) (hc : st.cancelAt = none)
    (ha : okN 1 (if a.isInvalid then negInfScore else a)) (hb : okN 1 (if b.isInvalid then infScore else b))
    (hab : rank (if a.isInvalid then negInfScore else a) < rank (if b.isInvalid then infScore else b)) :
    Clip (rank (if a.isInvalid then negInfScore else a)) (rank (if b.isInvalid then infScore else b))
      (rank (V g (constEx fullExploration) .static (g.ply p) 1 p)) (rank (onePlyIfChecked g p a b st).1) := by
  have hst : ({ st with nodes := 0 } : SState).tt.slots.size = 0 ∧ ({ st with nodes := 0 } : SState).cancelAt = none := ⟨htt, hc⟩
  have hany := Props.C13.alphabeta_any_window g (constEx fullExploration) .static (g.ply p) hev 0 1 (Nat.le_refl _) (by decide) p _ _
    { st with nodes := 0 } hst.1 hst.2 (by simpa using ha) (by simpa using hb)
  have hclip := Props.C13.alphabeta_clip g (constEx fullExploration) .static (g.ply p) hev 0 1 (Nat.le_refl _) (by decide) p _ _
    { st with nodes := 0 } hst.1 hst.2 (by simpa using ha) (by simpa using hb) hab
  rw [onePlyIfChecked_score g p a b st h]
  have hpoll : (poll (alphabeta g (constEx fullExploration) .static (g.ply p) 1 p (if a.isInvalid then negInfScore else a)
      (if b.isInvalid then infScore else b) { st with nodes := 0 }).2.2).1 = false := by
    simp [poll, hany.2.2.2.2.2]
  rw [hpoll]
  exact hclip

end QuietSearch

end Morlock.Props.C20Sargon
