import Morlock.Proofs.GenExample
/-!
# C06 (part 2) — the derived attack queries `IsAttacked`, `IsDefended`, `IsChecked`

Subject: `Position.isAttacked`, `isDefended`, `isChecked` (`pkg/board/position.go`), which look *from
the target square* through the attack tables and intersect with the attacker's piece sets, against
the reference `Spec.attackedBy` / `Spec.inCheck`, which walk *from every attacker*. The bridge is the
symmetry of the reference attack relation (`officerTargets_symm`), proved for every occupancy.

All theorems hold for every position `p` whose views represent a mailbox board (`Rep p b`, C02) —
no enumeration of positions. `turn` (the side to move recorded in `abs p turn`) is irrelevant to the
queries and left arbitrary.
-/
namespace Morlock.Props.C06Queries
open Morlock Morlock.Model Morlock.Proofs Morlock.Proofs.Gen

theorem officerTargets_symm (occ : Nat → Bool) (k : Spec.Kind) (sq t : Nat) (hs : sq < 64) (ht : t < 64) :
    t ∈ Spec.officerTargets occ k sq ↔ sq ∈ Spec.officerTargets occ k t :=
  officerTargets_symm_iff hs ht

/-- **`isAttacked_iff`.** `p.IsAttacked(c, sq)` — "is square `sq`, seen as belonging to `c`, attacked
    by the opponent of `c`" — holds iff the reference says some piece of colour `c.opp` attacks `sq`.
    Needs `sq < 64`: for `sq ≥ 64` the Go tables are indexed by `sq` modulo ranks/files (see the
    counterexample below). -/
theorem isAttacked_iff {p : Position} {b : Board} (h : Rep p b) (turn c : Color) {sq : Nat} (hsq : sq < 64) :
    p.isAttacked c sq = true ↔ Spec.attackedBy (abs p turn) (absColor c.opp) sq = true := by
  rw [isAttacked_eq h turn c hsq]

theorem isAttacked_eq {p : Position} {b : Board} (h : Rep p b) (turn c : Color) {sq : Nat} (hsq : sq < 64) :
    p.isAttacked c sq = Spec.attackedBy (abs p turn) (absColor c.opp) sq :=
  Gen.isAttacked_eq h turn c hsq

theorem isAttacked_iff_exists {p : Position} {b : Board} (h : Rep p b) (c : Color) {sq : Nat} (hsq : sq < 64) :
    p.isAttacked c sq = true ↔
      ∃ s k, b s = some (c.opp, k) ∧
        ((k = .pawn ∧ sq ∈ Spec.pawnTargets (absColor c.opp) s) ∨
         (k ≠ .pawn ∧ sq ∈ Spec.officerTargets (fun x => (b x).isSome) (kindOf k) s)) :=
  isAttacked_iff_att h c hsq

theorem isDefended_eq {p : Position} {b : Board} (h : Rep p b) (turn c : Color) {sq : Nat} (hsq : sq < 64) :
    p.isDefended c sq = Spec.attackedBy (abs p turn) (absColor c) sq := by
  unfold Position.isDefended
  rw [Gen.isAttacked_eq h turn c.opp hsq]
  cases c <;> rfl

theorem kingSquare_eq {p : Position} {b : Board} (h : Rep p b) (turn c : Color) :
    Spec.kingSquare? (abs p turn) (absColor c) =
      if p.pieces c .king = 0 then none else some (p.kingSquare c) :=
  kingSquare?_eq h turn c

/-- **`isChecked_iff`.** `p.IsChecked(c)` is the reference `inCheck` (no hypothesis on the number of
    kings: both sides look at the lowest-numbered king of `c`, and answer "no" without one). -/
theorem isChecked_iff {p : Position} {b : Board} (h : Rep p b) (turn c : Color) :
    p.isChecked c = true ↔ Spec.inCheck (abs p turn) (absColor c) = true := by
  rw [isChecked_eq h turn c]

theorem isChecked_eq {p : Position} {b : Board} (h : Rep p b) (turn c : Color) :
    p.isChecked c = Spec.inCheck (abs p turn) (absColor c) :=
  Gen.isChecked_eq h turn c

/-- In `exPos` (`r3k2r/1P6/8/3pP3/8/8/8/R3K2R w KQkq d6`) the theorem gives, for every real square,
    agreement of the two attack queries; e.g. a8 (63) is attacked by White's b7 pawn, while b8 (62),
    straight ahead of it, is not: -/
example (sq : Nat) (hsq : sq < 64) :
    exPos.isAttacked .black sq = Spec.attackedBy (abs exPos .white) .white sq :=
  isAttacked_eq exPos_rep .white .black hsq

example : exPos.isAttacked .black 63 = true ∧ exPos.isAttacked .black 62 = false := by
  rw [exPos_val]; decide +kernel

/-- Neither king of "Kiwipete" is in check, by the engine and hence by the reference. -/
example : Spec.inCheck (abs kiwiPos .white) .white = false ∧ Spec.inCheck (abs kiwiPos .white) .black = false := by
  rw [← show absColor .white = Spec.Color.white from rfl, ← show absColor .black = Spec.Color.black from rfl,
    ← isChecked_eq kiwiPos_rep, ← isChecked_eq kiwiPos_rep]
  exact kiwiPos_notChecked

/-- `sq < 64` cannot be dropped: "square 64" is looked up as h1 by the rook tables, so the engine
    reports it attacked by the h8 rook, while the reference knows no such square. -/
example : exPos.isAttacked .white 64 = true ∧ Spec.attackedBy (abs exPos .white) .black 64 = false :=
  ⟨by rw [exPos_val]; decide +kernel, attackedBy_of_ge _ _ (Nat.le_refl 64)⟩

end Morlock.Props.C06Queries
