import Morlock.Props.C19
import Morlock.Proofs.EngineMoveAny
/-!
# C19 on every position `fen.Decode` can return

`C19.move_accepted_iff` assumes `WF e.pos e.turn`; `fen.Decode` checks none of that and `Engine.Reset` sets the game up on
whatever it returns. `WF` is used for one thing only: no two generated moves share from, to and promotion (C01 `pseudo_nodup`),
so that "the FIRST generated move that `Equals` the candidate passes `PushMove`" (what the loop tests) is "SOME such move
passes" (what "denotes a legal move" means).

Without `WF`: a rejected text changes nothing and an accepted text denotes a move of `LegalMoves`, for every state. The
converse fails, because `pseudo_nodup` is false on decodable positions in exactly two ways:
1. the en-passant target holds a piece of the side not to move and a pawn attacks it: the generator emits `Capture` and then
   `EnPassant` with the same from/to. On `8/8/4n3/r2P3K/8/8/8/k7 w - e6` the capture d5xe6 comes first and is illegal (it opens
   the fifth rank for the rook on a5), the en-passant d5xe6 passes `Position.Move` (it XORs a phantom black pawn onto e5, which
   blocks that rook): `Engine.Move("d5e6")` answers "illegal move" although `LegalMoves` lists a move with that text;
2. the side to move has a castling right, rook at home, empty path, but its king stands next to the castle target: king step
   and castle share from/to (`k7/8/8/8/8/8/6K1/7R w K -`, g2g1; both legal, the text plays the step: harmless).

The exact condition is `firstDecides` (for every legal move, the first generated move with the same key passes
`Position.Move`): necessary and sufficient, per candidate and per text. `epClean` and `castleClean` are handier sufficient
conditions on the bitboards.
-/
namespace Morlock.Props.C19Any
open Morlock Morlock.Model Morlock.Model.Fen Morlock.Proofs Morlock.Proofs.Fen Morlock.Proofs.Gen
open Morlock.Proofs.Engine (firstMatch firstDecides keyNodup epClean castleClean acceptsCand)

/-- Every state, every text: `Engine.Move` returns `nil` iff the text parses and `PushMove` takes the FIRST generated move
    that `Equals` the candidate. -/
theorem move_accepted_iff_first (z : ZTable) (e : EngineM) (txt : List Char) :
    (e.move z txt).2 = true ↔
      ∃ cand, parseMove txt = some cand ∧
        ∃ m, firstMatch cand (e.pos.pseudoLegalMoves e.turn) = some m ∧ (e.w.pushMove z 0 m).isSome = true :=
  Engine.move_accepted_iff_first z e txt

theorem move_accepted_iff_first_legal (z : ZTable) (e : EngineM) (txt : List Char) :
    (e.move z txt).2 = true ↔
      Engine.Open e ∧ ∃ cand, parseMove txt = some cand ∧
        ∃ m, firstMatch cand (e.pos.pseudoLegalMoves e.turn) = some m ∧ (e.pos.move m).isSome = true := by
  rw [Engine.move_accepted_iff_first]
  constructor
  · rintro ⟨cand, hp, m, hf, hpush⟩
    have := (Engine.pushMove_isSome_iff e.w z 0 m).1 hpush
    exact ⟨this.1, cand, hp, m, hf, this.2⟩
  · rintro ⟨ho, cand, hp, m, hf, hm⟩
    exact ⟨cand, hp, m, hf, (Engine.pushMove_isSome_iff e.w z 0 m).2 ⟨ho, hm⟩⟩

/-- The "only if" half of `move_accepted_iff_model` needs no hypothesis. -/
theorem move_accepted_legal_any (z : ZTable) (e : EngineM) (txt : List Char) (h : (e.move z txt).2 = true) :
    ∃ cand m, parseMove txt = some cand ∧ m ∈ e.pos.legalMoves e.turn ∧ cand.equals m = true ∧
      e.w.pushMove z 0 m = some (e.move z txt).1.w :=
  Engine.move_accepted z e txt h

theorem rejected_unchanged_any (z : ZTable) (e : EngineM) (txt : List Char) (h : (e.move z txt).2 = false) :
    (e.move z txt).1 = e := C19.move_rejected_unchanged z e txt h

theorem takeBack_rejected_unchanged_any (e : EngineM) (h : e.takeBack.2 = false) : e.takeBack.1 = e :=
  C19.takeBack_rejected_unchanged e h

theorem reset_rejected_unchanged_any (z : ZTable) (e : EngineM) (txt : List Char) (h : (e.reset z txt).2 = false) :
    (e.reset z txt).1 = e := C19.reset_rejected_unchanged z e txt h

theorem move_accepted_iff_firstDecides (z : ZTable) (e : EngineM) (txt : List Char) (ho : Engine.Open e)
    (hf : firstDecides e.pos e.turn = true) :
    (e.move z txt).2 = true ↔
      ∃ cand m, parseMove txt = some cand ∧ m ∈ e.pos.legalMoves e.turn ∧ cand.equals m = true :=
  Engine.move_accepted_iff_firstDecides z e txt ho hf

/-- `firstDecides` is necessary and sufficient, per parsed candidate … -/
theorem firstDecides_iff (z : ZTable) (e : EngineM) (ho : Engine.Open e) :
    firstDecides e.pos e.turn = true ↔
      ∀ cand, (acceptsCand z e cand = true ↔ ∃ m, m ∈ e.pos.legalMoves e.turn ∧ cand.equals m = true) := by
  refine ⟨fun hf cand => Engine.acceptsCand_iff_of_firstDecides z e ho hf cand, fun h => ?_⟩
  refine Engine.firstDecides_iff_forall.2 fun m hm m' hfm => ?_
  obtain ⟨m'', hfm', hpush⟩ := (Engine.acceptsCand_iff z e m).1 ((h m).2 ⟨m, hm, (Engine.equals_iff_absMove m m).2 rfl⟩)
  rw [hfm] at hfm'; cases hfm'
  exact ((Engine.pushMove_isSome_iff e.w z 0 m').1 hpush).2

theorem firstDecides_of_texts (z : ZTable) (e : EngineM) {b : Proofs.Board} (hr : Rep e.pos b)
    (h : ∀ txt, (e.move z txt).2 = true ↔
      ∃ cand m, parseMove txt = some cand ∧ m ∈ e.pos.legalMoves e.turn ∧ cand.equals m = true) :
    firstDecides e.pos e.turn = true := by
  refine Engine.firstDecides_iff_forall.2 fun m hm m' hfm => ?_
  obtain ⟨cand, hp, he⟩ := Engine.parseMove_print (Engine.printable_of_mem hr m ((C01.legal_iff _ _ _).1 hm).1)
  obtain ⟨cand', hp', hacc⟩ := (Engine.move_accepted_iff_acceptsCand z e _).1 ((h (Engine.printMove m)).2 ⟨cand, m, hp, hm, he⟩)
  rw [hp] at hp'; cases hp'
  obtain ⟨m'', hfm', hpush⟩ := (Engine.acceptsCand_iff z e cand).1 hacc
  rw [Engine.firstMatch_congr he, hfm] at hfm'; cases hfm'
  exact ((Engine.pushMove_isSome_iff e.w z 0 m').1 hpush).2

/-- … and per text, on a position that represents a mailbox board (every decodable one does): every generated move has a
    text. -/
theorem firstDecides_iff_texts (z : ZTable) (e : EngineM) {b : Proofs.Board} (hr : Rep e.pos b) (ho : Engine.Open e) :
    firstDecides e.pos e.turn = true ↔
      ∀ txt, ((e.move z txt).2 = true ↔
        ∃ cand m, parseMove txt = some cand ∧ m ∈ e.pos.legalMoves e.turn ∧ cand.equals m = true) :=
  ⟨fun hf txt => move_accepted_iff_firstDecides z e txt ho hf, firstDecides_of_texts z e hr⟩

theorem firstDecides_of_wf {p : Position} {turn : Color} (hw : WF p turn) : firstDecides p turn = true :=
  Engine.firstDecides_of_keyNodup (Engine.keyNodup_of_wf hw)

theorem firstDecides_of_keyNodup {p : Position} {turn : Color} (h : keyNodup p turn = true) :
    firstDecides p turn = true := Engine.firstDecides_of_keyNodup h

/-- C01 `pseudo_nodup` without `WF` (any number of kings anywhere, any rights, any target): it is enough that the
    en-passant target holds no piece of the other side and a castle is generated only for a king on its home square. -/
theorem pseudo_nodup_any {p : Position} {b : Proofs.Board} (h : Rep p b) {turn : Color}
    (h1 : epClean p turn = true) (h2 : castleClean p turn = true) :
    ((p.pseudoLegalMoves turn).map absMove).Nodup :=
  Engine.pseudo_nodup_clean h (Engine.clean_of_bools h h1 h2)

theorem move_accepted_iff_clean (z : ZTable) (e : EngineM) (txt : List Char) {b : Proofs.Board} (hr : Rep e.pos b)
    (ho : Engine.Open e) (h1 : epClean e.pos e.turn = true) (h2 : castleClean e.pos e.turn = true) :
    (e.move z txt).2 = true ↔
      ∃ cand m, parseMove txt = some cand ∧ m ∈ e.pos.legalMoves e.turn ∧ cand.equals m = true :=
  move_accepted_iff_firstDecides z e txt ho
    (Engine.firstDecides_of_keyNodup (Engine.keyNodup_of_clean hr h1 h2))

theorem reset_state (z : ZTable) (e0 : EngineM) (fenTxt : List Char) (d : Decoded) (hd : decode fenTxt = some d) :
    (e0.reset z fenTxt).1.pos = d.pos ∧ (e0.reset z fenTxt).1.turn = d.turn ∧ Engine.Open (e0.reset z fenTxt).1 ∧
      Rep d.pos d.pos.square := by
  obtain ⟨_, _, h3, h4, _, _, _, hk⟩ := C19.reset_accepted_new z e0 fenTxt d hd
  exact ⟨h3, h4, hk.notBlocked, C19.decoded_rep_square hd⟩

theorem move_accepted_iff_decodable_exact (z : ZTable) (e0 : EngineM) (fenTxt : List Char) (d : Decoded)
    (hd : decode fenTxt = some d) (hf : firstDecides d.pos d.turn = true) (txt : List Char) :
    ((e0.reset z fenTxt).1.move z txt).2 = true ↔
      ∃ cand m, parseMove txt = some cand ∧ m ∈ d.pos.legalMoves d.turn ∧ cand.equals m = true := by
  obtain ⟨h3, h4, ho, _⟩ := reset_state z e0 fenTxt d hd
  have := move_accepted_iff_firstDecides z (e0.reset z fenTxt).1 txt ho (by rw [h3, h4]; exact hf)
  rwa [h3, h4] at this

/-- The engine set up on a decodable text judges ALL move texts by `LegalMoves` iff the decoded position satisfies
    `firstDecides`. -/
theorem decodable_iff_firstDecides (z : ZTable) (e0 : EngineM) (fenTxt : List Char) (d : Decoded)
    (hd : decode fenTxt = some d) :
    firstDecides d.pos d.turn = true ↔
      ∀ txt, (((e0.reset z fenTxt).1.move z txt).2 = true ↔
        ∃ cand m, parseMove txt = some cand ∧ m ∈ d.pos.legalMoves d.turn ∧ cand.equals m = true) := by
  obtain ⟨h3, h4, ho, hr⟩ := reset_state z e0 fenTxt d hd
  have := firstDecides_iff_texts z (e0.reset z fenTxt).1 (b := d.pos.square) (by rw [h3]; exact hr) ho
  rwa [h3, h4] at this

theorem move_accepted_iff_decodable (z : ZTable) (e0 : EngineM) (fenTxt : List Char) (d : Decoded)
    (hd : decode fenTxt = some d) (h1 : epClean d.pos d.turn = true) (h2 : castleClean d.pos d.turn = true)
    (txt : List Char) :
    ((e0.reset z fenTxt).1.move z txt).2 = true ↔
      ∃ cand m, parseMove txt = some cand ∧ m ∈ d.pos.legalMoves d.turn ∧ cand.equals m = true :=
  move_accepted_iff_decodable_exact z e0 fenTxt d hd
    (Engine.firstDecides_of_keyNodup (Engine.keyNodup_of_clean (C19.decoded_rep_square hd) h1 h2)) txt

/-! ## Witness 1: an en-passant target on an occupied square — a legal move's text is rejected -/

open Morlock.Proofs (exZ)

/-- White Kh5, Pd5; black Ka1, Ra5, Ne6; White to move, en-passant target e6 (where the knight stands). -/
def epFen : List Char := "8/8/4n3/r2P3K/8/8/8/k7 w - e6 0 1".toList

theorem epFen_decodes : (decode epFen).isSome = true := by
  unfold epFen
  repeat rw [String.toList_ofList]
  decide +kernel

def epD : Decoded := (decode epFen).get epFen_decodes

theorem epD_eq : decode epFen = some epD := by simp [epD]

/-- The decoded value written out: the five placements in the order `Decode` meets them, no rights, target e6 = 43. -/
theorem epD_val : epD = ⟨(Position.newPosition
    [(43, .black, .knight), (39, .black, .rook), (36, .white, .pawn), (32, .white, .king), (7, .black, .king)] 0 43).getD {},
    .white, 0, 1⟩ := by
  apply Option.some.inj
  rw [← epD_eq]
  unfold epFen
  repeat rw [String.toList_ofList]
  decide +kernel

/-- d5 = 36, e6 = 43. -/
def epCand : Move := { «from» := 36, to := 43 }

theorem epCand_eq : parseMove "d5e6".toList = some epCand := by decide

theorem witness_ep_generated :
    (epD.pos.pseudoLegalMoves epD.turn).map (fun m => (m.ty, m.from, m.to, m.capture)) =
      [(.capture, 36, 43, .knight), (.push, 36, 44, .none), (.enPassant, 36, 43, .none),
       (.normal, 32, 24, .none), (.normal, 32, 25, .none), (.normal, 32, 33, .none),
       (.normal, 32, 40, .none), (.normal, 32, 41, .none)] := by rw [epD_val]; decide +kernel

/-- The first and the third generated move both carry the key of `d5e6`; `Position.Move` refuses the first and accepts
    the third. -/
theorem epD_first_third :
    ∃ m1 m2 rest, epD.pos.pseudoLegalMoves epD.turn = m1 :: { ty := .push, «from» := 36, to := 44, piece := .pawn } :: m2 :: rest ∧
      epCand.equals m1 = true ∧ epCand.equals m2 = true ∧ m1.ty = .capture ∧ m2.ty = .enPassant ∧
      (epD.pos.move m1).isSome = false ∧ (epD.pos.move m2).isSome = true := by
  have h : (match epD.pos.pseudoLegalMoves epD.turn with
      | m1 :: mp :: m2 :: _ => decide (mp = { ty := .push, «from» := 36, to := 44, piece := .pawn }) &&
          epCand.equals m1 && epCand.equals m2 && decide (m1.ty = .capture) && decide (m2.ty = .enPassant) &&
          !(epD.pos.move m1).isSome && (epD.pos.move m2).isSome
      | _ => false) = true := by rw [epD_val]; decide +kernel
  split at h
  · rename_i m1 mp m2 rest heq
    simp only [Bool.and_eq_true, decide_eq_true_eq, Bool.not_eq_true'] at h
    obtain ⟨⟨⟨⟨⟨⟨a, b⟩, c⟩, d⟩, e⟩, f⟩, g⟩ := h
    exact ⟨m1, m2, rest, by rw [heq, a], b, c, d, e, f, g⟩
  · cases h

theorem witness_ep_dup :
    ∃ m1 m2 rest, epD.pos.pseudoLegalMoves epD.turn = m1 :: { ty := .push, «from» := 36, to := 44, piece := .pawn } :: m2 :: rest ∧
      absMove m1 = absMove m2 ∧ m1.ty = .capture ∧ m2.ty = .enPassant ∧
      (epD.pos.move m1).isSome = false ∧ (epD.pos.move m2).isSome = true := by
  obtain ⟨m1, m2, rest, hl, e1, e2, t1, t2, r1, r2⟩ := epD_first_third
  exact ⟨m1, m2, rest, hl, ((Engine.equals_iff_absMove _ _).1 e1).symm.trans ((Engine.equals_iff_absMove _ _).1 e2),
    t1, t2, r1, r2⟩

theorem witness_ep_conditions :
    epClean epD.pos epD.turn = false ∧ castleClean epD.pos epD.turn = true ∧ keyNodup epD.pos epD.turn = false ∧
      firstDecides epD.pos epD.turn = false := by rw [epD_val]; decide +kernel

/-- The text `d5e6` denotes a move of `LegalMoves` (the en-passant capture) and `Engine.Move` rejects it, whatever the
    Zobrist table and whatever engine was reset: `move_accepted_iff_model` is false without a side condition. -/
theorem witness_ep_rejected (z : ZTable) (e0 : EngineM) :
    ((e0.reset z epFen).1.move z "d5e6".toList).2 = false ∧
      ∃ cand m, parseMove "d5e6".toList = some cand ∧ m ∈ (e0.reset z epFen).1.pos.legalMoves (e0.reset z epFen).1.turn ∧
        cand.equals m = true := by
  obtain ⟨h3, h4, _, _⟩ := reset_state z e0 epFen epD epD_eq
  obtain ⟨m1, m2, rest, hl, e1, e2, _, _, r1, r2⟩ := epD_first_third
  constructor
  · cases hacc : ((e0.reset z epFen).1.move z "d5e6".toList).2 with
    | false => rfl
    | true =>
      exfalso
      obtain ⟨_, cand, hp, m, hf, hm⟩ := (move_accepted_iff_first_legal z _ _).1 hacc
      rw [epCand_eq] at hp
      cases hp
      rw [h3, h4, hl, firstMatch, List.find?_cons_of_pos (by exact e1)] at hf
      cases hf
      rw [h3, r1] at hm
      cases hm
  · exact ⟨epCand, m2, epCand_eq, by rw [h3, h4]; exact (C01.legal_iff _ _ _).2 ⟨by rw [hl]; simp, r2⟩, e2⟩

example : (((default : EngineM).reset exZ epFen).1.move exZ "d5e6".toList).2 = false ∧
    (((default : EngineM).reset exZ epFen).1.move exZ "h5h4".toList).2 = true := by
  unfold epFen
  repeat rw [String.toList_ofList]
  decide +kernel

example : (((default : EngineM).reset exZ epFen).1.move exZ "d5e6".toList).1 = ((default : EngineM).reset exZ epFen).1 :=
  rejected_unchanged_any exZ _ _ (witness_ep_rejected exZ default).1

/-! ## Witness 2: a castling right with the king next to the castle target — a duplicate key, harmless -/

/-- White Kg2, Rh1; black Ka8; White to move with the right `K`. -/
def castleFen : List Char := "k7/8/8/8/8/8/6K1/7R w K - 0 1".toList

theorem castleFen_decodes : (decode castleFen).isSome = true := by
  unfold castleFen
  repeat rw [String.toList_ofList]
  decide +kernel

def castleD : Decoded := (decode castleFen).get castleFen_decodes

theorem castleD_eq : decode castleFen = some castleD := by simp [castleD]

/-- The king step g2-g1 and the "castle" g2-g1 (+ Rh1-f1) are both generated and both legal: distinct keys fail, but
    `firstDecides` holds (`g2g1` plays the step; the castle cannot be entered). -/
theorem witness_castle :
    ((castleD.pos.legalMoves castleD.turn).filter fun m => m.from == 9 && m.to == 1).map (fun m => m.ty) =
        [.normal, .kingSideCastle] ∧
      castleClean castleD.pos castleD.turn = false ∧ epClean castleD.pos castleD.turn = true ∧
      keyNodup castleD.pos castleD.turn = false ∧ firstDecides castleD.pos castleD.turn = true := by
  decide +kernel

example (z : ZTable) (e0 : EngineM) (txt : List Char) :
    ((e0.reset z castleFen).1.move z txt).2 = true ↔
      ∃ cand m, parseMove txt = some cand ∧ m ∈ castleD.pos.legalMoves castleD.turn ∧ cand.equals m = true :=
  move_accepted_iff_decodable_exact z e0 castleFen castleD castleD_eq witness_castle.2.2.2.2 txt

/-! ## Non-vacuity: a decodable position that is not well-formed and meets the hypotheses of `move_accepted_iff_decodable` -/

/-- Three white kings, none at home, all four castling rights without any rook, an empty en-passant target with no pawn in
    front of it, and no black king. -/
def oddFen : List Char := "8/8/8/3P4/8/2K5/8/K6K w KQkq c6 0 1".toList

theorem oddFen_decodes : (decode oddFen).isSome = true := by
  unfold oddFen
  repeat rw [String.toList_ofList]
  decide +kernel

def oddD : Decoded := (decode oddFen).get oddFen_decodes

theorem oddD_eq : decode oddFen = some oddD := by simp [oddD]

theorem oddD_clean : epClean oddD.pos oddD.turn = true ∧ castleClean oddD.pos oddD.turn = true ∧
    WFc oddD.pos oddD.turn = false := by decide +kernel

example (z : ZTable) (e0 : EngineM) (txt : List Char) :
    ((e0.reset z oddFen).1.move z txt).2 = true ↔
      ∃ cand m, parseMove txt = some cand ∧ m ∈ oddD.pos.legalMoves oddD.turn ∧ cand.equals m = true :=
  move_accepted_iff_decodable z e0 oddFen oddD oddD_eq oddD_clean.1 oddD_clean.2.1 txt

/-- The en-passant capture `d5c6` is accepted (it is in `LegalMoves`; the reference rules would not allow it). -/
example : (((default : EngineM).reset exZ oddFen).1.move exZ "d5c6".toList).2 = true ∧
    (((default : EngineM).reset exZ oddFen).1.move exZ "d5d6".toList).2 = true ∧
    (((default : EngineM).reset exZ oddFen).1.move exZ "d5e6".toList).2 = false := by
  unfold oddFen
  repeat rw [String.toList_ofList]
  decide +kernel

end Morlock.Props.C19Any
