import Morlock.Props.C13
/-!
# C03 — at the full window the alpha-beta search returns exactly the negamax value, with a sound PV

Corollaries of C13 (`Morlock/Props/C13.lean`, which explains `V`, `lift`, `okN`, `leafGrade`, `Path`).
No table (`st.tt.slots.size = 0`), no cancellation (`st.cancelAt = none`), every abstract `Game`,
exploration, leaf evaluation and depth with `leafGrade le + d ≤ 127` (mate distances are `int8`).
-/
namespace Morlock.Props.C03
open Morlock Morlock.Model Morlock.Model.Score Morlock.Spec Morlock.Proofs.AB
open Morlock.Props.C09
variable {P : Type}

/-- **C03 (value).** Searched with the full window `(negInf, inf)`, `alphabeta` returns exactly the plain
    negamax value `V` of the position. -/
theorem exact (g : Game P) (ex : P → Explore) (le : LeafEval P) (rootPly : Int) (hev : EvalOk g)
    (d : Nat) (hd : leafGrade le + d ≤ 127)
    (p : P) (st : SState) (htt : st.tt.slots.size = 0) (hc : st.cancelAt = none) :
    (alphabeta g ex le rootPly d p negInfScore infScore st).1 = V g ex le rootPly d p := by
  have ha : okN (leafGrade le + d) negInfScore := okN_mono okN_negInf (by omega)
  have hb : okN (leafGrade le + d) infScore := okN_mono okN_inf (by omega)
  have hclip := C13.alphabeta_clip g ex le rootPly hev (leafGrade le) d (Nat.le_refl _) hd p
    negInfScore infScore st htt hc ha hb (by decide)
  obtain ⟨hr, _⟩ := C13.alphabeta_any_window g ex le rootPly hev (leafGrade le) d (Nat.le_refl _) hd p
    negInfScore infScore st htt hc ha hb
  exact eq_of_clip_full hd (V_ok hev ex le rootPly (leafGrade le) (Nat.le_refl _) d p hd) hr hclip

theorem path_length (g : Game P) (ex : P → Explore) : ∀ (n : Nat) (p : P) (pv : List Move),
    Path g ex n p pv → pv.length ≤ n := by
  intro n
  induction n with
  | zero => intro p pv h; cases pv with
    | nil => simp
    | cons m rest => simp [Path] at h
  | succ n ih => intro p pv h; cases pv with
    | nil => simp
    | cons m rest =>
      simp only [Path] at h
      obtain ⟨c, _, _, hc⟩ := h
      have := ih c rest hc
      simp only [List.length_cons]; omega

/-- **C03 (principal variation).** At the full window the returned PV
    (1) is a path: each move is an explored (`(ex p).pick`) legal (`g.push … = some _`) move from the position
        reached by the previous ones (`Path`), so in particular
    (2) it has at most `d` moves; and
    (3) if `d = d' + 1` and the PV is `m :: rest`, then `m` leads to a child `c` that attains the value:
        `lift (V … d' c) = V … (d' + 1) p`, and `rest` is a path from `c`. -/
theorem pv (g : Game P) (ex : P → Explore) (le : LeafEval P) (rootPly : Int) (hev : EvalOk g)
    (d : Nat) (hd : leafGrade le + d ≤ 127)
    (p : P) (st : SState) (htt : st.tt.slots.size = 0) (hc : st.cancelAt = none) :
    Path g ex d p (alphabeta g ex le rootPly d p negInfScore infScore st).2.1 ∧
    (alphabeta g ex le rootPly d p negInfScore infScore st).2.1.length ≤ d ∧
    ∀ d' m rest, d = d' + 1 → (alphabeta g ex le rootPly d p negInfScore infScore st).2.1 = m :: rest →
      ∃ c, g.push p m = some c ∧ (ex p).pick m = true ∧ Path g ex d' c rest ∧
        lift (V g ex le rootPly d' c) = V g ex le rootPly (d' + 1) p := by
  have ha : okN (leafGrade le + d) negInfScore := okN_mono okN_negInf (by omega)
  have hb : okN (leafGrade le + d) infScore := okN_mono okN_inf (by omega)
  obtain ⟨_, _, hpath, hprin, _⟩ := C13.alphabeta_any_window g ex le rootPly hev (leafGrade le) d
    (Nat.le_refl _) hd p negInfScore infScore st htt hc ha hb
  refine ⟨hpath, path_length g ex d p _ hpath, ?_⟩
  intro d' m rest hdd hpv
  subst hdd
  have hP := hprin (exact g ex le rootPly hev (d' + 1) hd p st htt hc)
  rw [hpv] at hP hpath
  simp only [Principal] at hP
  simp only [Path] at hpath
  obtain ⟨c, hpush, hpick, hval, _⟩ := hP
  obtain ⟨c', hpush', _, hrest⟩ := hpath
  rw [hpush] at hpush'
  cases hpush'
  exact ⟨c, hpush, hpick, hrest, hval⟩

/-- **C03 (the whole PV is principal).** At the full window every move of the returned PV — not only the
    first — attains the negamax value of the position it is played in (`Principal`, which implies `Path`). -/
theorem pv_principal (g : Game P) (ex : P → Explore) (le : LeafEval P) (rootPly : Int) (hev : EvalOk g)
    (d : Nat) (hd : leafGrade le + d ≤ 127)
    (p : P) (st : SState) (htt : st.tt.slots.size = 0) (hc : st.cancelAt = none) :
    Principal g ex le rootPly d p (alphabeta g ex le rootPly d p negInfScore infScore st).2.1 := by
  have ha : okN (leafGrade le + d) negInfScore := okN_mono okN_negInf (by omega)
  have hb : okN (leafGrade le + d) infScore := okN_mono okN_inf (by omega)
  exact (C13.alphabeta_any_window g ex le rootPly hev (leafGrade le) d (Nat.le_refl _) hd p
    negInfScore infScore st htt hc ha hb).2.2.2.1 (exact g ex le rootPly hev d hd p st htt hc)

theorem principal_path (g : Game P) (ex : P → Explore) (le : LeafEval P) (rootPly : Int) :
    ∀ (n : Nat) (p : P) (pv : List Move), Principal g ex le rootPly n p pv → Path g ex n p pv := by
  intro n
  induction n with
  | zero => intro p pv h; cases pv with
    | nil => simp [Path]
    | cons m rest => simp [Principal] at h
  | succ n ih => intro p pv h; cases pv with
    | nil => simp [Path]
    | cons m rest =>
      simp only [Principal] at h
      obtain ⟨c, h1, h2, _, h4⟩ := h
      exact ⟨c, h1, h2, ih c rest h4⟩

/-- **C03 (`AlphaBeta.Search`).** Started without a window in the search context (both bounds invalid, i.e.
    the full window), without table and cancellation, `alphaBetaSearch` reports the negamax value of the
    root (`rootPly = g.ply p`, the root is searched even if it is a drawn position) and the PV above. -/
theorem search_exact (g : Game P) (ex : P → Explore) (le : LeafEval P) (hev : EvalOk g)
    (d : Nat) (hd : leafGrade le + d ≤ 127)
    (p : P) (st : SState) (htt : st.tt.slots.size = 0) (hc : st.cancelAt = none) :
    ∃ n, (alphaBetaSearch g ex le p d invalidScore invalidScore st).1 =
      some ⟨n, V g ex le (g.ply p) d p,
        (alphabeta g ex le (g.ply p) d p negInfScore infScore { st with nodes := 0 }).2.1⟩ := by
  have ha : okN (leafGrade le + d) negInfScore := okN_mono okN_negInf (by omega)
  have hb : okN (leafGrade le + d) infScore := okN_mono okN_inf (by omega)
  obtain ⟨_, _, _, _, q1, q2⟩ := C13.alphabeta_any_window g ex le (g.ply p) hev (leafGrade le) d (Nat.le_refl _) hd p
    negInfScore infScore { st with nodes := 0 } htt hc ha hb
  have hp := (poll_quiet (st := (alphabeta g ex le (g.ply p) d p negInfScore infScore { st with nodes := 0 }).2.2)
    ⟨q1, q2⟩).1
  have hex := exact g ex le (g.ply p) hev d hd p { st with nodes := 0 } htt hc
  simp only [alphaBetaSearch, isInvalid, invalidScore, decide_true, if_true, poll_eq] at hp ⊢
  simp only [hp, Bool.false_eq_true, if_false]
  rw [← hex]
  exact ⟨_, rfl⟩

/-- **C03 (the PV is not empty when it must not be).** No table hypotheses at all (no table, no cancellation).
    At a position that is the search root (`g.ply p = rootPly`) or not drawn, searched to depth `d + 1 ≥ 1` with
    the full window: if some move is legal and the negamax value is not `negInf` (i.e. some explored legal move
    is better than being mated at once), the returned PV is non-empty - so its head is a best move (`pv`). -/
theorem pv_nonempty (g : Game P) (ex : P → Explore) (le : LeafEval P) (rootPly : Int) (hev : EvalOk g)
    (d : Nat) (hd : leafGrade le + (d + 1) ≤ 127)
    (p : P) (st : SState) (htt : st.tt.slots.size = 0) (hc : st.cancelAt = none)
    (hroot : g.ply p = rootPly ∨ g.isDraw p = false)
    (hl : legalAny g p (g.moves p) = true) (hV : V g ex le rootPly (d + 1) p ≠ negInfScore) :
    (alphabeta g ex le rootPly (d + 1) p negInfScore infScore st).2.1 ≠ [] := by
  intro hnil
  have ha : okN (leafGrade le + d + 1) negInfScore := okN_mono okN_negInf (by omega)
  have hb : okN (leafGrade le + d + 1) infScore := okN_mono okN_inf (by omega)
  have hdraw : (!(g.ply p == rootPly) && g.isDraw p) = false := by
    rcases hroot with h | h <;> simp [h]
  have hq := (alphabeta_quiet hev ex le rootPly (leafGrade le) (Nat.le_refl _) (d + 1) hd p negInfScore infScore st
    ⟨htt, hc⟩ ha hb).1
  have h7 := alphabeta_nil_pv hev (closed_everywhere g ex) (tableOK_empty g ex le rootPly Everywhere) (leafGrade le)
    (Nat.le_refl _) d (by omega) p trivial negInfScore infScore st htt ha hb hdraw
    (abEnter_empty (d + 1) p st hdraw htt) hl (live_of_none hq.2) hnil
  rw [exact g ex le rootPly hev (d + 1) hd p st htt hc] at h7
  exact hV h7

/-- `pv_nonempty` for `AlphaBeta.Search`: the reported PV is non-empty for `d ≥ 1` if a move is legal at the root
    and the value is not `negInf`. -/
theorem search_pv_nonempty (g : Game P) (ex : P → Explore) (le : LeafEval P) (hev : EvalOk g)
    (d : Nat) (hd : leafGrade le + (d + 1) ≤ 127)
    (p : P) (st : SState) (htt : st.tt.slots.size = 0) (hc : st.cancelAt = none)
    (hl : legalAny g p (g.moves p) = true) (hV : V g ex le (g.ply p) (d + 1) p ≠ negInfScore) :
    ∃ n m rest, (alphaBetaSearch g ex le p (d + 1) invalidScore invalidScore st).1 =
      some ⟨n, V g ex le (g.ply p) (d + 1) p, m :: rest⟩ := by
  obtain ⟨n, hn⟩ := search_exact g ex le hev (d + 1) hd p st htt hc
  have hne := pv_nonempty g ex le (g.ply p) hev d hd p { st with nodes := 0 } htt hc (Or.inl rfl) hl hV
  cases hpv : (alphabeta g ex le (g.ply p) (d + 1) p negInfScore infScore { st with nodes := 0 }).2.1 with
  | nil => exact absurd hpv hne
  | cons m rest => rw [hpv] at hn; exact ⟨n, m, rest, hn⟩

/-! ## Non-vacuity on the tiny game of C13 -/

open C13 in
example : (alphabeta tiny allMoves .static 0 2 0 negInfScore infScore {}).1 = V tiny allMoves .static 0 2 0 :=
  exact tiny allMoves .static 0 tiny_evalOk 2 (by decide) 0 {} rfl rfl

open C13 in
example : (alphabeta tiny allMoves .static 0 2 0 negInfScore infScore {}).1 = heuristicScore 15 ∧
    (alphabeta tiny allMoves .static 0 2 0 negInfScore infScore {}).2.1 = [mv 1, mv 0] ∧
    tiny.push 0 (mv 1) = some 2 ∧ lift (V tiny allMoves .static 0 1 2) = V tiny allMoves .static 0 2 0 ∧
    (alphabeta tiny allMoves (.quiescence allMoves 3) 0 3 0 negInfScore infScore {}).1 =
      V tiny allMoves (.quiescence allMoves 3) 0 3 0 := by decide +kernel

open C13 in
example : Principal tiny allMoves .static 0 2 0 [mv 1, mv 0] := by
  have := pv_principal tiny allMoves .static 0 tiny_evalOk 2 (by decide) 0 {} rfl rfl
  have e : (alphabeta tiny allMoves .static 0 2 0 negInfScore infScore {}).2.1 = [mv 1, mv 0] := by decide +kernel
  rw [e] at this; exact this

open C13 in
example : Path tiny allMoves 2 0 (alphabeta tiny allMoves .static 0 2 0 negInfScore infScore {}).2.1 ∧
    (alphabeta tiny allMoves .static 0 2 0 negInfScore infScore {}).2.1.length ≤ 2 :=
  ⟨(pv tiny allMoves .static 0 tiny_evalOk 2 (by decide) 0 {} rfl rfl).1,
   (pv tiny allMoves .static 0 tiny_evalOk 2 (by decide) 0 {} rfl rfl).2.1⟩

open C13 in
example : ∃ n, (alphaBetaSearch tiny allMoves .static 0 2 invalidScore invalidScore {}).1 =
    some ⟨n, V tiny allMoves .static (tiny.ply 0) 2 0,
      (alphabeta tiny allMoves .static (tiny.ply 0) 2 0 negInfScore infScore { ({} : SState) with nodes := 0 }).2.1⟩ :=
  search_exact tiny allMoves .static tiny_evalOk 2 (by decide) 0 {} rfl rfl

open C13 in
example : (alphabeta tiny allMoves .static 0 2 0 negInfScore infScore {}).2.1 ≠ [] :=
  pv_nonempty tiny allMoves .static 0 tiny_evalOk 1 (by decide) 0 {} rfl rfl (Or.inl rfl) (by decide) (by decide)

/-! ## Non-vacuity on the chess game

`gX = materialGame exZ`, `wE` = `r3k2r/1P6/8/3pP3/8/8/8/R3K2R w KQkq d6` as a new board, `capX` = captures only
(`Morlock/Proofs/ABChessTree.lean`); `EvalOk gX` is `materialGame_evalOk`. No table, no cancellation; there are no
further hypotheses. Depth 3 with quiescence leaves of fuel 64 is the driver's configuration `full-quiet`. -/

section Chess

example : (alphabeta gX fullX (.quiescence capX 64) 1 3 wE negInfScore infScore {}).1 =
    V gX fullX (.quiescence capX 64) 1 3 wE :=
  exact gX fullX (.quiescence capX 64) 1 gX_evalOk 3 (by decide) wE {} rfl rfl

example : Principal gX fullX (.quiescence capX 64) 1 3 wE
      (alphabeta gX fullX (.quiescence capX 64) 1 3 wE negInfScore infScore {}).2.1 ∧
    (alphabeta gX fullX (.quiescence capX 64) 1 3 wE negInfScore infScore {}).2.1.length ≤ 3 :=
  ⟨pv_principal gX fullX (.quiescence capX 64) 1 gX_evalOk 3 (by decide) wE {} rfl rfl,
   (pv gX fullX (.quiescence capX 64) 1 gX_evalOk 3 (by decide) wE {} rfl rfl).2.1⟩

example : ∃ n, (alphaBetaSearch gX fullX (.quiescence capX 64) wE 3 invalidScore invalidScore {}).1 =
    some ⟨n, V gX fullX (.quiescence capX 64) (gX.ply wE) 3 wE,
      (alphabeta gX fullX (.quiescence capX 64) (gX.ply wE) 3 wE negInfScore infScore
        { ({} : SState) with nodes := 0 }).2.1⟩ :=
  search_exact gX fullX (.quiescence capX 64) gX_evalOk 3 (by decide) wE {} rfl rfl

set_option maxRecDepth 100000 in
/-- `pv_nonempty` / `search_pv_nonempty`: `wE` has a legal move, so its value is not `negInf` (it is `+14`). -/
example : (alphabeta gX fullX .static 1 1 wE negInfScore infScore {}).2.1 ≠ [] ∧
    ∃ n m rest, (alphaBetaSearch gX fullX .static wE 1 invalidScore invalidScore {}).1 =
      some ⟨n, V gX fullX .static (gX.ply wE) 1 wE, m :: rest⟩ :=
  have hV (r : Int) : V gX fullX .static r 1 wE ≠ negInfScore :=
    V_succ_ne_negInf gX_evalOk fullX .static r 0 (Nat.le_refl _) 0 wE (by decide) (by rw [wE_notDraw]; simp)
      (let ⟨m, hm, h⟩ := List.any_eq_true.1 wE_legal; ⟨m, hm, rfl, h⟩)
  ⟨pv_nonempty gX fullX .static 1 gX_evalOk 0 (by decide) wE {} rfl rfl (Or.inl wE_ply) wE_legal (hV 1),
   search_pv_nonempty gX fullX .static gX_evalOk 0 (by decide) wE {} rfl rfl wE_legal (hV _)⟩

end Chess

end Morlock.Props.C03
