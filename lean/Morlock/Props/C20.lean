import Morlock.Proofs.MirrorModel
import Morlock.Proofs.MirrorModelMoves
import Morlock.Proofs.PromoModel
/-!
# C20 — the material evaluation is colour-blind; the "no under-promotion" filter keeps a legal move

Subjects: `eval.Material.Evaluate` (model `materialPawns`) and the `nup-*` exploration predicate
`!m.isUnderPromotion` (`Driver.noUnderPromo`, here `pick`), against the mailbox reference.

`Spec.mirror` flips the board top to bottom (`8·r + f ↦ 8·(7 − r) + f`), swaps the colours of the men, the side
to move and the castling rights of the two colours, and mirrors the en-passant target. Material is invariant
under it; so are the rules themselves (attacks, pseudo-legal moves, making a move, legality, `perft`) on a
64-cell board with at most one king of the side to move, which holds for the abstraction of every `WF`
position and cannot be dropped (`twoKings`). On the reference the legality of a promotion does not depend on
the piece chosen, hence the filter keeps a legal move whenever there is one; `C01.legal_perm` carries this to
the model. The TUROCHAMP / BERNSTEIN / SARGON heuristics are the subject of `C20Turochamp`, `C20Bernstein`,
`C20Sargon`.
-/
namespace Morlock.Props.C20
open Morlock Morlock.Model Morlock.Proofs Morlock.Proofs.Gen Morlock.Proofs.Mirror Morlock.Proofs.Promo

theorem mirror_fields (p : Spec.Pos) :
    (Spec.mirror p).board.size = 64 ∧
    (∀ s, s < 64 → (Spec.mirror p).at s = Spec.mirrorCell (p.at (Spec.mirrorSq s))) ∧
    (Spec.mirror p).turn = p.turn.opp ∧
    (Spec.mirror p).wk = p.bk ∧ (Spec.mirror p).wq = p.bq ∧ (Spec.mirror p).bk = p.wk ∧ (Spec.mirror p).bq = p.wq ∧
    (Spec.mirror p).ep = p.ep.map Spec.mirrorSq :=
  ⟨Spec.mirror_board_size p, fun _ hs => Spec.mirror_at hs, rfl, rfl, rfl, rfl, rfl, rfl⟩

theorem mirrorSq_spec :
    (∀ f r, f < 8 → r < 8 → Spec.mirrorSq (Spec.mkSq f r) = Spec.mkSq f (7 - r)) ∧
    (∀ s, Spec.mirrorSq (Spec.mirrorSq s) = s) ∧
    (∀ s, s < 64 → Spec.mirrorSq s < 64 ∧ Spec.fileOf (Spec.mirrorSq s) = Spec.fileOf s ∧
      Spec.rankOf (Spec.mirrorSq s) = 7 - Spec.rankOf s) :=
  ⟨fun _ _ hf hr => Spec.mirrorSq_mkSq hf hr, Spec.mirrorSq_mirrorSq,
    fun _ hs => ⟨Spec.mirrorSq_lt hs, Spec.fileOf_mirrorSq hs, Spec.rankOf_mirrorSq hs⟩⟩

theorem mirror_mirror {p : Spec.Pos} (h : p.board.size = 64) : Spec.mirror (Spec.mirror p) = p :=
  Spec.mirror_mirror h

theorem mirrorMove_mirrorMove (m : Spec.SMove) : Spec.mirrorMove (Spec.mirrorMove m) = m :=
  Spec.mirrorMove_mirrorMove m

theorem material_mirror_spec (p : Spec.Pos) : Spec.material (Spec.mirror p) = Spec.material p :=
  Spec.material_mirror p

/-- The generated `eval.NominalValue` table is the reference's `kindValue` (1, 3, 3, 5, 9, 100). -/
theorem nominalValue_is_kindValue :
    ∀ k : Piece, k ≠ .none → nominalValue k = Spec.kindValue (kindOf k) :=
  fun _ hk => nominalValue_eq_kindValue hk

/-- The transcription of `eval.Material.Evaluate` computes the reference material balance. -/
theorem material_eq_spec {p : Position} {b : Proofs.Board} (h : Rep p b) (turn : Color) :
    materialPawns p turn = Spec.material (abs p turn) :=
  materialPawns_eq_material h turn

/-- `eval.Material` is colour-blind. -/
theorem material_mirror_model {p q : Position} {b : Proofs.Board} (hp : Rep p b) (hq : Rep q (mirrorBoard b))
    (turn : Color) : materialPawns q turn.opp = materialPawns p turn :=
  materialPawns_mirror hp hq turn

/-- A `q` as in `material_mirror_model` always exists, with any status fields. -/
theorem mirrorBoard_spec {p : Position} {b : Proofs.Board} (hp : Rep p b) :
    (∀ sq, mirrorBoard b sq = (b (Spec.mirrorSq sq)).map fun v => (v.1.opp, v.2)) ∧
    (∀ castling ep, ∃ q : Position, Rep q (mirrorBoard b) ∧ q.castling = castling ∧ q.enpassant = ep) ∧
    (∀ q turn s, Rep q (mirrorBoard b) → s < 64 → (abs q turn.opp).at s = (Spec.mirror (abs p turn)).at s) :=
  ⟨mirrorBoard_apply b, fun castling ep => exists_mirror_rep hp castling ep,
    fun _ turn _ hq hs => abs_at_mirror hp hq turn hs⟩

theorem notUnderPromo_iff (m : Spec.SMove) :
    Spec.notUnderPromo m = true ↔ m.promo = none ∨ m.promo = some .queen := by
  unfold Spec.notUnderPromo
  cases m.promo with
  | none => simp
  | some k => cases k <;> simp

/-- The model filter is the predicate of `Driver.noUnderPromo` (the `nup-static` / `nup-quiet` explorations). -/
theorem pick_def (m : Move) : pick m = !m.isUnderPromotion := rfl

/-- The legality of a promotion does not depend on the piece chosen. -/
theorem promo_legal_any {p : Spec.Pos} {m : Spec.SMove} {k : Spec.Kind}
    (hm : m ∈ Spec.legalMoves p) (hk : m.promo = some k) :
    k ∈ Spec.promoKinds ∧ ∀ k' ∈ Spec.promoKinds, (⟨m.from, m.to, some k'⟩ : Spec.SMove) ∈ Spec.legalMoves p :=
  ⟨(Spec.pseudo_promo (Spec.mem_legalMoves.mp hm).1 hk).2.1, Spec.legal_promo_any hm hk⟩

theorem promo_legal_queen {p : Spec.Pos} {m : Spec.SMove} {k : Spec.Kind}
    (hm : m ∈ Spec.legalMoves p) (hk : m.promo = some k) :
    (⟨m.from, m.to, some .queen⟩ : Spec.SMove) ∈ Spec.legalMoves p ∧
    Spec.isLegal p ⟨m.from, m.to, some .queen⟩ = true :=
  ⟨Spec.legal_promo_queen hm hk, (Spec.mem_legalMoves.mp (Spec.legal_promo_queen hm hk)).2⟩

theorem skip_underpromo_nonempty_spec (p : Spec.Pos) :
    (Spec.legalMoves p ≠ [] → (Spec.legalMoves p).filter Spec.notUnderPromo ≠ []) ∧
    ((Spec.legalMoves p).filter Spec.notUnderPromo).Sublist (Spec.legalMoves p) ∧
    ((Spec.legalMoves p).filter Spec.notUnderPromo).Nodup :=
  ⟨Spec.filter_notUnderPromo_ne_nil, List.filter_sublist, (Spec.legalMoves_nodup p).filter _⟩

theorem pick_eq_spec {p : Position} {turn : Color} (hw : WF p turn) {m : Move}
    (hm : m ∈ p.pseudoLegalMoves turn) : pick m = Spec.notUnderPromo (absMove m) :=
  pick_eq hw hm

/-- What the main-search filter of the `nup-*` explorations selects from the engine's legal moves: something
    whenever there is a legal move; legal moves in generator order, each once; read through `absMove`, the
    reference legal moves that are not under-promotions. -/
theorem skip_underpromo_legal_and_nonempty {p : Position} {turn : Color} (hw : WF p turn) :
    (p.legalMoves turn ≠ [] → (p.legalMoves turn).filter (fun m => !m.isUnderPromotion) ≠ []) ∧
    ((p.legalMoves turn).filter (fun m => !m.isUnderPromotion)).Sublist (p.legalMoves turn) ∧
    ((p.legalMoves turn).filter (fun m => !m.isUnderPromotion)).Nodup ∧
    (((p.legalMoves turn).filter (fun m => !m.isUnderPromotion)).map absMove).Perm
      ((Spec.legalMoves (abs p turn)).filter Spec.notUnderPromo) :=
  ⟨filter_pick_ne_nil hw, (filter_pick_sound hw.rep turn).1, (filter_pick_sound hw.rep turn).2,
    filter_pick_perm hw⟩

/-- The second and third part need only `Rep`. -/
theorem skip_underpromo_sound {p : Position} {b : Proofs.Board} (h : Rep p b) (turn : Color) :
    (∀ m ∈ (p.legalMoves turn).filter (fun m => !m.isUnderPromotion), m ∈ p.legalMoves turn) ∧
    ((p.legalMoves turn).filter (fun m => !m.isUnderPromotion)).Nodup :=
  ⟨fun _ hm => (List.mem_filter.mp hm).1, (filter_pick_sound h turn).2⟩

theorem notUnderPromo_mirrorMove (m : Spec.SMove) :
    Spec.notUnderPromo (Spec.mirrorMove m) = Spec.notUnderPromo m := rfl

theorem oneKing_iff (p : Spec.Pos) (c : Spec.Color) :
    Spec.OneKing p c ↔ ∀ s1 s2, s1 < 64 → s2 < 64 →
      p.at s1 = some (c, .king) → p.at s2 = some (c, .king) → s1 = s2 := Iff.rfl

theorem attackedBy_mirror (p : Spec.Pos) (c : Spec.Color) (t : Nat) :
    Spec.attackedBy (Spec.mirror p) c.opp (Spec.mirrorSq t) = Spec.attackedBy p c t :=
  Spec.attackedBy_mirror p c t

theorem inCheck_mirror {p : Spec.Pos} {c : Spec.Color} (hu : Spec.OneKing p c) :
    Spec.inCheck (Spec.mirror p) c.opp = Spec.inCheck p c :=
  Spec.inCheck_mirror hu

theorem pseudoMoves_mirror (p : Spec.Pos) :
    (Spec.pseudoMoves (Spec.mirror p)).Perm ((Spec.pseudoMoves p).map Spec.mirrorMove) :=
  Spec.pseudoMoves_mirror p

theorem apply_mirror {p : Spec.Pos} (hsz : p.board.size = 64) {m : Spec.SMove} (hf : m.from < 64) (ht : m.to < 64) :
    Spec.apply (Spec.mirror p) (Spec.mirrorMove m) = Spec.mirror (Spec.apply p m) :=
  Spec.apply_mirror hsz hf ht

theorem isLegal_mirror {p : Spec.Pos} (hsz : p.board.size = 64) (hu : Spec.OneKing p p.turn) {m : Spec.SMove}
    (hm : m ∈ Spec.pseudoMoves p) :
    Spec.isLegal (Spec.mirror p) (Spec.mirrorMove m) = Spec.isLegal p m :=
  Spec.isLegal_mirror hsz hu hm

theorem legalMoves_mirror {p : Spec.Pos} (hsz : p.board.size = 64) (hu : Spec.OneKing p p.turn) :
    (Spec.legalMoves (Spec.mirror p)).Perm ((Spec.legalMoves p).map Spec.mirrorMove) :=
  Spec.legalMoves_mirror hsz hu

theorem sym_iff (p : Spec.Pos) : Spec.Sym p ↔ p.board.size = 64 ∧ ∀ c, Spec.OneKing p c :=
  ⟨fun h => ⟨h.size, h.kings⟩, fun h => ⟨h.1, h.2⟩⟩

theorem sym_invariant {p : Spec.Pos} (h : Spec.Sym p) :
    (∀ m ∈ Spec.pseudoMoves p, Spec.Sym (Spec.apply p m)) ∧ Spec.Sym (Spec.mirror p) :=
  ⟨fun _ hm => h.apply hm, h.mirror⟩

/-- The whole game tree is mirror-symmetric. -/
theorem perft_mirror (d : Nat) {p : Spec.Pos} (h : Spec.Sym p) :
    Spec.perft d (Spec.mirror p) = Spec.perft d p :=
  Spec.perft_mirror d h

theorem sym_abs {p : Position} {turn : Color} (hw : WF p turn) : Spec.Sym (abs p turn) :=
  Mirror.sym_abs hw

/-- Through `C01.legal_perm`: the engine's legal moves in a position that abstracts to the mirror image. -/
theorem model_legalMoves_mirror {p q : Position} {turn : Color} (hp : WF p turn) (hq : WF q turn.opp)
    (habs : abs q turn.opp = Spec.mirror (abs p turn)) :
    ((q.legalMoves turn.opp).map absMove).Perm (((p.legalMoves turn).map absMove).map Spec.mirrorMove) :=
  Mirror.model_legalMoves_mirror hp hq habs

/-- When the hypothesis of `model_legalMoves_mirror` holds. -/
theorem abs_eq_mirror {p q : Position} {b : Proofs.Board} (hp : Rep p b) (hq : Rep q (mirrorBoard b)) (turn : Color)
    (hwk : (q.castling &&& wK != 0) = (p.castling &&& bK != 0))
    (hwq : (q.castling &&& wQ != 0) = (p.castling &&& bQ != 0))
    (hbk : (q.castling &&& bK != 0) = (p.castling &&& wK != 0))
    (hbq : (q.castling &&& bQ != 0) = (p.castling &&& wQ != 0))
    (hep0 : p.enpassant = 0 → q.enpassant = 0)
    (hep1 : p.enpassant ≠ 0 → q.enpassant = Spec.mirrorSq p.enpassant ∧ q.enpassant ≠ 0) :
    abs q turn.opp = Spec.mirror (abs p turn) :=
  Mirror.abs_eq_mirror hp hq turn hwk hwq hbk hbq hep0 hep1

/-- `exPosB` (`r3k2r/8/8/8/3Pp3/8/1p6/R3K2R b KQkq d3`) abstracts to the mirror image of `exPos`
    (`r3k2r/1P6/8/3pP3/8/8/8/R3K2R w KQkq d6`), and mirroring twice gives `exPos` back. -/
theorem exPosB_is_mirror : abs exPosB .black = Spec.mirror (abs exPos .white) := by decide +kernel

example : Spec.mirror (Spec.mirror (abs exPos .white)) = abs exPos .white :=
  mirror_mirror (Mirror.abs_size _ _)

/-- Material in `exPos`: White (to move) has two rooks and two pawns against two rooks and a pawn. -/
example : materialPawns exPos .white = 1 ∧ materialPawns exPosB .black = 1 ∧
    Spec.material (abs exPos .white) = 1 ∧ Spec.material (Spec.mirror (abs exPos .white)) = 1 := by
  rw [material_mirror_spec]; decide +kernel

example : materialPawns exPosB .black = materialPawns exPos .white := by
  rw [material_eq_spec exPos_wf.2.rep, material_eq_spec exPos_wf.1.rep, exPosB_is_mirror, material_mirror_spec]

/-- In `exPos` White has 8 promotion moves among the 36 legal moves (b7-b8 and b7xa8, four pieces each);
    the filter keeps the two queen promotions and all non-promotions. -/
example : (exPos.legalMoves .white).length = 36 ∧
    ((exPos.legalMoves .white).filter (fun m => !m.isUnderPromotion)).length = 30 := exPos_legal_counts

/-- Hence the reference filter keeps 30 moves there too. -/
example : ((Spec.legalMoves (abs exPos .white)).filter Spec.notUnderPromo).length = 30 := by
  rw [← (skip_underpromo_legal_and_nonempty exPos_wf.1).2.2.2.length_eq, List.length_map]
  exact exPos_legal_counts.2

/-- White: Kh1, Pb7; Black: Rg8, Ra2, Ke5. The white king has no move, so the only legal moves are the
    four promotions b7-b8; a filter dropping *all* promotions would leave nothing in a position that is not
    stalemate — the no-under-promotion filter leaves exactly the queen promotion. -/
def promoOnlyPos : Position :=
  (Position.newPosition
    [(0, .white, .king), (54, .white, .pawn), (57, .black, .rook), (15, .black, .rook), (35, .black, .king)] 0 0).getD {}

example : (promoOnlyPos.legalMoves .white).length = 4 ∧
    (promoOnlyPos.legalMoves .white).all (·.isPromotion) = true ∧
    (promoOnlyPos.legalMoves .white).filter (fun m => !m.isUnderPromotion) =
      [{ ty := .promotion, «from» := 54, to := 62, piece := .pawn, promotion := .queen }] := by decide +kernel

example : (startPos.legalMoves .white).filter (fun m => !m.isUnderPromotion) = startPos.legalMoves .white := by
  -- over the pseudo-legal moves, on which the kernel need not run `Position.move`
  have h : ∀ m ∈ startPos.pseudoLegalMoves .white, (!m.isUnderPromotion) = true := by decide +kernel
  exact List.filter_eq_self.mpr fun m hm => h m ((C01.legal_iff _ _ m).mp hm).1

/-- `exPos` / `exPosB` have castling on both sides, en passant and promotions. -/
example : (Spec.legalMoves (Spec.mirror (abs exPos .white))).Perm
      ((Spec.legalMoves (abs exPos .white)).map Spec.mirrorMove) ∧
    ((exPosB.legalMoves .black).map absMove).Perm
      (((exPos.legalMoves .white).map absMove).map Spec.mirrorMove) :=
  ⟨legalMoves_mirror (sym_abs exPos_wf.1).size ((sym_abs exPos_wf.1).kings _),
   model_legalMoves_mirror (p := exPos) (q := exPosB) (turn := .white) exPos_wf.1 exPos_wf.2 exPosB_is_mirror⟩

example (d : Nat) : Spec.perft d (abs exPosB .black) = Spec.perft d (abs exPos .white) := by
  rw [exPosB_is_mirror]; exact perft_mirror d (sym_abs exPos_wf.1)

/-- The hypothesis "at most one king of the side to move" of `inCheck_mirror` / `legalMoves_mirror` cannot
    be dropped. White kings on h1 (attacked by the rook on a1) and h5 (safe), Black: Ra1, Ka8. The reference
    takes the first king in square order — h1 here, but the image of h5 in the mirror image. So White is in
    check while Black in the mirror image is not, and the pseudo-legal move Kh5-h6 is illegal although its
    mirror image is legal in the mirror image. -/
def twoKings : Spec.Pos :=
  { board := #[
      some (.white, .king), none, none, none, none, none, none, some (.black, .rook),
      none, none, none, none, none, none, none, none,
      none, none, none, none, none, none, none, none,
      none, none, none, none, none, none, none, none,
      some (.white, .king), none, none, none, none, none, none, none,
      none, none, none, none, none, none, none, none,
      none, none, none, none, none, none, none, none,
      none, none, none, none, none, none, none, some (.black, .king)]
    turn := .white, wk := false, wq := false, bk := false, bq := false, ep := none }

example : twoKings.board.size = 64 ∧
    Spec.inCheck twoKings .white = true ∧ Spec.inCheck (Spec.mirror twoKings) .black = false := by
  decide +kernel

example : (⟨32, 40, none⟩ : Spec.SMove) ∈ Spec.pseudoMoves twoKings ∧
    Spec.isLegal twoKings ⟨32, 40, none⟩ = false ∧
    Spec.isLegal (Spec.mirror twoKings) (Spec.mirrorMove ⟨32, 40, none⟩) = true := by
  decide +kernel

end Morlock.Props.C20
