import Morlock.Props.C03
import Morlock.Proofs.ABEngines
import Morlock.Proofs.EngineKeys
import Morlock.Proofs.ABTuroFuel
/-!
# C03 / C13 for the searches the bundled engines actually run

`Model/EngineExplore.lean`: `bernsteinExplore limit : World → Explore` (BERNSTEIN's plausible-move table, computed from
the node) and `turochampExplore z : World → Explore` (TUROCHAMP's considerable moves: the predicate sees the board after
the move). BERNSTEIN runs `AlphaBeta{Explore: PlausibleMoveTable, Eval: Leaf}`; TUROCHAMP runs
`AlphaBeta{Eval: Quiescence{Explore: ConsiderableMovesOnly}}` (full exploration in the main search). `ev` is the static
evaluation key (any evaluation whose keys are those of non-NaN `float32`s). 
The explorations are tied to the ops that the `bernstein` and `turochamp` streams compare with the Go code by
`bernsteinExplore_eq`, `turochampExplore_pick`, `turochampExplore_moves` (`Proofs/ABEngines.lean`).
-/
namespace Morlock.Props.C13Engines
open Morlock Morlock.Model Morlock.Model.Score Morlock.Spec Morlock.Proofs.AB
open Morlock.Props.C09

/-- **C13 for the BERNSTEIN search**: it returns the negamax value over the plausible-move tree, clipped to the window. -/
theorem bernstein_clip (z : ZTable) (ev : Position → Model.Color → Int) (hev : EvalOk (boardGame z ev)) (limit : Int)
    (rootPly : Int) (d : Nat) (hd : d ≤ 127) (w : World) (alpha beta : Score) (st : SState)
    (htt : st.tt.slots.size = 0) (hc : st.cancelAt = none) (ha : okN d alpha) (hb : okN d beta)
    (hab : rank alpha < rank beta) :
    Clip (rank alpha) (rank beta) (rank (V (boardGame z ev) (bernsteinExplore limit) .static rootPly d w))
      (rank (alphabeta (boardGame z ev) (bernsteinExplore limit) .static rootPly d w alpha beta st).1) := by
  have h := C13.alphabeta_clip (boardGame z ev) (bernsteinExplore limit) .static rootPly hev 0 d (Nat.le_refl _)
    (by omega) w alpha beta st htt hc (by rw [Nat.zero_add]; exact ha) (by rw [Nat.zero_add]; exact hb) hab
  exact h

/-- **C13 for the TUROCHAMP search** (quiescence over the considerable moves with `fuel` plies of fuel): it returns the
    negamax value whose leaves are the considerable-moves quiescence values, clipped to the window. -/
theorem turochamp_clip (z : ZTable) (ev : Position → Model.Color → Int) (hev : EvalOk (boardGame z ev)) (fuel : Nat)
    (rootPly : Int) (d : Nat) (hd : fuel + d ≤ 127) (w : World) (alpha beta : Score) (st : SState)
    (htt : st.tt.slots.size = 0) (hc : st.cancelAt = none) (ha : okN (fuel + d) alpha) (hb : okN (fuel + d) beta)
    (hab : rank alpha < rank beta) :
    Clip (rank alpha) (rank beta)
      (rank (V (boardGame z ev) (constEx fullExploration) (turochampLeaf z fuel) rootPly d w))
      (rank (alphabeta (boardGame z ev) (constEx fullExploration) (turochampLeaf z fuel) rootPly d w alpha beta st).1) :=
  C13.alphabeta_clip (boardGame z ev) (constEx fullExploration) (turochampLeaf z fuel) rootPly hev fuel d (Nat.le_refl _)
    hd w alpha beta st htt hc ha hb hab

/-- **C13 for TUROCHAMP's quiescence search itself.** -/
theorem turochamp_quiescence_clip (z : ZTable) (ev : Position → Model.Color → Int) (hev : EvalOk (boardGame z ev))
    (fuel : Nat) (hf : fuel ≤ 127) (w : World) (alpha beta : Score) (st : SState)
    (htt : st.tt.slots.size = 0) (hc : st.cancelAt = none) (ha : okN fuel alpha) (hb : okN fuel beta)
    (hab : rank alpha < rank beta) :
    Clip (rank alpha) (rank beta) (rank (Q (boardGame z ev) (turochampExplore z) fuel w))
      (rank (quiesce (boardGame z ev) (turochampExplore z) fuel w alpha beta st).1) := by
  have h := C13.quiescence_clip (boardGame z ev) (turochampExplore z) hev 0 fuel (by omega) w alpha beta st htt hc
    (by rw [Nat.zero_add]; exact ha) (by rw [Nat.zero_add]; exact hb) hab
  exact h

/-- **C03 for the BERNSTEIN search**: at the full window it returns exactly the negamax value over the tree of the
    plausible-move tables (`bernsteinExplore limit`, computed at every node), with a principal variation. -/
theorem bernstein_exact (z : ZTable) (ev : Position → Model.Color → Int) (hev : EvalOk (boardGame z ev)) (limit : Int)
    (rootPly : Int) (d : Nat) (hd : d ≤ 127) (w : World) (st : SState)
    (htt : st.tt.slots.size = 0) (hc : st.cancelAt = none) :
    (alphabeta (boardGame z ev) (bernsteinExplore limit) .static rootPly d w negInfScore infScore st).1 =
      V (boardGame z ev) (bernsteinExplore limit) .static rootPly d w ∧
    Principal (boardGame z ev) (bernsteinExplore limit) .static rootPly d w
      (alphabeta (boardGame z ev) (bernsteinExplore limit) .static rootPly d w negInfScore infScore st).2.1 :=
  ⟨C03.exact _ _ .static rootPly hev d (by show 0 + d ≤ 127; omega) w st htt hc,
   C03.pv_principal _ _ .static rootPly hev d (by show 0 + d ≤ 127; omega) w st htt hc⟩

/-- **C03 for the TUROCHAMP search**: full exploration in the main search, quiescence over the considerable moves
    (`turochampExplore z`: the predicate sees the board after the move) at the leaves. -/
theorem turochamp_exact (z : ZTable) (ev : Position → Model.Color → Int) (hev : EvalOk (boardGame z ev)) (fuel : Nat)
    (rootPly : Int) (d : Nat) (hd : fuel + d ≤ 127) (w : World) (st : SState)
    (htt : st.tt.slots.size = 0) (hc : st.cancelAt = none) :
    (alphabeta (boardGame z ev) (constEx fullExploration) (turochampLeaf z fuel) rootPly d w negInfScore infScore st).1 =
      V (boardGame z ev) (constEx fullExploration) (turochampLeaf z fuel) rootPly d w ∧
    Principal (boardGame z ev) (constEx fullExploration) (turochampLeaf z fuel) rootPly d w
      (alphabeta (boardGame z ev) (constEx fullExploration) (turochampLeaf z fuel) rootPly d w negInfScore infScore st).2.1 :=
  ⟨C03.exact _ _ (turochampLeaf z fuel) rootPly hev d hd w st htt hc,
   C03.pv_principal _ _ (turochampLeaf z fuel) rootPly hev d hd w st htt hc⟩

/-! ## Instances on the chess game (`gX = materialGame exZ`, `wE`; `Proofs/ABChessTree.lean`) -/

-- the engines' searches on `wE` (material evaluation): BERNSTEIN with a 7-move table, TUROCHAMP with 8 plies of fuel
example : Clip (rank (mateInXScore (-2))) (rank (mateInXScore 2))
      (rank (V gX (bernsteinExplore 7) .static 1 2 wE))
      (rank (alphabeta gX (bernsteinExplore 7) .static 1 2 wE (mateInXScore (-2)) (mateInXScore 2) {}).1) :=
  bernstein_clip Proofs.exZ (fun pos turn => f32keyOfInt (materialPawns pos turn)) gX_evalOk 7 1 2 (by decide) wE
    (mateInXScore (-2)) (mateInXScore 2) {} rfl rfl (by decide) (by decide) (by decide)

example : Clip (rank (mateInXScore (-2))) (rank (mateInXScore 5))
      (rank (V gX (constEx fullExploration) (turochampLeaf Proofs.exZ 8) 1 2 wE))
      (rank (alphabeta gX (constEx fullExploration) (turochampLeaf Proofs.exZ 8) 1 2 wE (mateInXScore (-2))
        (mateInXScore 5) {}).1) :=
  turochamp_clip Proofs.exZ (fun pos turn => f32keyOfInt (materialPawns pos turn)) gX_evalOk 8 1 2 (by decide) wE
    (mateInXScore (-2)) (mateInXScore 5) {} rfl rfl (by decide) (by decide) (by decide)

example : (alphabeta gX (bernsteinExplore 7) .static 1 3 wE negInfScore infScore {}).1 =
    V gX (bernsteinExplore 7) .static 1 3 wE :=
  (bernstein_exact Proofs.exZ (fun pos turn => f32keyOfInt (materialPawns pos turn)) gX_evalOk 7 1 3 (by decide) wE {}
    rfl rfl).1

example : (alphabeta gX (constEx fullExploration) (turochampLeaf Proofs.exZ 8) 1 2 wE negInfScore infScore {}).1 =
    V gX (constEx fullExploration) (turochampLeaf Proofs.exZ 8) 1 2 wE :=
  (turochamp_exact Proofs.exZ (fun pos turn => f32keyOfInt (materialPawns pos turn)) gX_evalOk 8 1 2 (by decide) wE {}
    rfl rfl).1

/-! ## The engines' own games: no hypothesis on the evaluation

`bernsteinGame z factor = boardGame z (bernsteinKeyF factor)` and `turochampGame z = boardGameW z turochampKey`
(`Model/EngineExplore.lean`) are the games of the `bern-static~` / `turo-quiet~` configurations that the `c03` stream
compares with the Go searches. Their evaluations are `float32` keys on every input (`Proofs/EngineKeys.lean`:
`bernsteinGame_evalOk`, `turochampGame_evalOk`), so C13 / C03 hold for them without an `EvalOk` hypothesis. -/

/-- **C13 for the BERNSTEIN engine** (its own evaluation `bernstein.Eval{Factor: factor}`, its plausible-move table). -/
theorem bernstein_engine_clip (z : ZTable) (factor : Int) (limit : Int)
    (rootPly : Int) (d : Nat) (hd : d ≤ 127) (w : World) (alpha beta : Score) (st : SState)
    (htt : st.tt.slots.size = 0) (hc : st.cancelAt = none) (ha : okN d alpha) (hb : okN d beta)
    (hab : rank alpha < rank beta) :
    Clip (rank alpha) (rank beta) (rank (V (bernsteinGame z factor) (bernsteinExplore limit) .static rootPly d w))
      (rank (alphabeta (bernsteinGame z factor) (bernsteinExplore limit) .static rootPly d w alpha beta st).1) := by
  have h := C13.alphabeta_clip (bernsteinGame z factor) (bernsteinExplore limit) .static rootPly
    (bernsteinGame_evalOk z factor) 0 d (Nat.le_refl _)
    (by omega) w alpha beta st htt hc (by rw [Nat.zero_add]; exact ha) (by rw [Nat.zero_add]; exact hb) hab
  exact h

/-- **C03 for the BERNSTEIN engine**: at the full window the search returns exactly the negamax value of its own
    evaluation over the tree of the plausible-move tables, with a principal variation. -/
theorem bernstein_engine_exact (z : ZTable) (factor : Int) (limit : Int)
    (rootPly : Int) (d : Nat) (hd : d ≤ 127) (w : World) (st : SState)
    (htt : st.tt.slots.size = 0) (hc : st.cancelAt = none) :
    (alphabeta (bernsteinGame z factor) (bernsteinExplore limit) .static rootPly d w negInfScore infScore st).1 =
      V (bernsteinGame z factor) (bernsteinExplore limit) .static rootPly d w ∧
    Principal (bernsteinGame z factor) (bernsteinExplore limit) .static rootPly d w
      (alphabeta (bernsteinGame z factor) (bernsteinExplore limit) .static rootPly d w negInfScore infScore st).2.1 :=
  ⟨C03.exact _ _ .static rootPly (bernsteinGame_evalOk z factor) d (by show 0 + d ≤ 127; omega) w st htt hc,
   C03.pv_principal _ _ .static rootPly (bernsteinGame_evalOk z factor) d (by show 0 + d ≤ 127; omega) w st htt hc⟩

/-- **C13 for the TUROCHAMP engine** (its own evaluation `turochamp.Eval{}`, which reads the castled flags; full
    exploration in the main search, quiescence over the considerable moves with `fuel` plies at the leaves). -/
theorem turochamp_engine_clip (z : ZTable) (fuel : Nat)
    (rootPly : Int) (d : Nat) (hd : fuel + d ≤ 127) (w : World) (alpha beta : Score) (st : SState)
    (htt : st.tt.slots.size = 0) (hc : st.cancelAt = none) (ha : okN (fuel + d) alpha) (hb : okN (fuel + d) beta)
    (hab : rank alpha < rank beta) :
    Clip (rank alpha) (rank beta)
      (rank (V (turochampGame z) (constEx fullExploration) (turochampLeaf z fuel) rootPly d w))
      (rank (alphabeta (turochampGame z) (constEx fullExploration) (turochampLeaf z fuel) rootPly d w alpha beta st).1) :=
  C13.alphabeta_clip (turochampGame z) (constEx fullExploration) (turochampLeaf z fuel) rootPly (turochampGame_evalOk z)
    fuel d (Nat.le_refl _) hd w alpha beta st htt hc ha hb hab

/-- **C13 for the TUROCHAMP engine's quiescence search itself.** -/
theorem turochamp_engine_quiescence_clip (z : ZTable)
    (fuel : Nat) (hf : fuel ≤ 127) (w : World) (alpha beta : Score) (st : SState)
    (htt : st.tt.slots.size = 0) (hc : st.cancelAt = none) (ha : okN fuel alpha) (hb : okN fuel beta)
    (hab : rank alpha < rank beta) :
    Clip (rank alpha) (rank beta) (rank (Q (turochampGame z) (turochampExplore z) fuel w))
      (rank (quiesce (turochampGame z) (turochampExplore z) fuel w alpha beta st).1) := by
  have h := C13.quiescence_clip (turochampGame z) (turochampExplore z) (turochampGame_evalOk z) 0 fuel (by omega) w
    alpha beta st htt hc (by rw [Nat.zero_add]; exact ha) (by rw [Nat.zero_add]; exact hb) hab
  exact h

/-- **C03 for the TUROCHAMP engine**: at the full window the search returns exactly the negamax value whose leaves are
    the considerable-moves quiescence values of its own evaluation, with a principal variation. -/
theorem turochamp_engine_exact (z : ZTable) (fuel : Nat)
    (rootPly : Int) (d : Nat) (hd : fuel + d ≤ 127) (w : World) (st : SState)
    (htt : st.tt.slots.size = 0) (hc : st.cancelAt = none) :
    (alphabeta (turochampGame z) (constEx fullExploration) (turochampLeaf z fuel) rootPly d w negInfScore infScore st).1 =
      V (turochampGame z) (constEx fullExploration) (turochampLeaf z fuel) rootPly d w ∧
    Principal (turochampGame z) (constEx fullExploration) (turochampLeaf z fuel) rootPly d w
      (alphabeta (turochampGame z) (constEx fullExploration) (turochampLeaf z fuel) rootPly d w negInfScore infScore st).2.1 :=
  ⟨C03.exact _ _ (turochampLeaf z fuel) rootPly (turochampGame_evalOk z) d hd w st htt hc,
   C03.pv_principal _ _ (turochampLeaf z fuel) rootPly (turochampGame_evalOk z) d hd w st htt hc⟩

/-! ### Instances on `wE` with the engines' own (float) evaluations. Only the `okN` / `rank` side conditions are decided;
the games are not evaluated. -/

example : Clip (rank (mateInXScore (-2))) (rank (mateInXScore 2))
      (rank (V (bernsteinGame Proofs.exZ 8) (bernsteinExplore 7) .static 1 2 wE))
      (rank (alphabeta (bernsteinGame Proofs.exZ 8) (bernsteinExplore 7) .static 1 2 wE (mateInXScore (-2))
        (mateInXScore 2) {}).1) :=
  bernstein_engine_clip Proofs.exZ 8 7 1 2 (by decide) wE (mateInXScore (-2)) (mateInXScore 2) {} rfl rfl
    (by decide) (by decide) (by decide)

example : (alphabeta (bernsteinGame Proofs.exZ 8) (bernsteinExplore 7) .static 1 2 wE negInfScore infScore {}).1 =
    V (bernsteinGame Proofs.exZ 8) (bernsteinExplore 7) .static 1 2 wE :=
  (bernstein_engine_exact Proofs.exZ 8 7 1 2 (by decide) wE {} rfl rfl).1

example : Clip (rank (mateInXScore (-2))) (rank (mateInXScore 5))
      (rank (V (turochampGame Proofs.exZ) (constEx fullExploration) (turochampLeaf Proofs.exZ 8) 1 2 wE))
      (rank (alphabeta (turochampGame Proofs.exZ) (constEx fullExploration) (turochampLeaf Proofs.exZ 8) 1 2 wE
        (mateInXScore (-2)) (mateInXScore 5) {}).1) :=
  turochamp_engine_clip Proofs.exZ 8 1 2 (by decide) wE (mateInXScore (-2)) (mateInXScore 5) {} rfl rfl
    (by decide) (by decide) (by decide)

example : Clip (rank (heuristicScore (-5))) (rank (heuristicScore 5))
      (rank (Q (turochampGame Proofs.exZ) (turochampExplore Proofs.exZ) 8 wE))
      (rank (quiesce (turochampGame Proofs.exZ) (turochampExplore Proofs.exZ) 8 wE (heuristicScore (-5))
        (heuristicScore 5) {}).1) :=
  turochamp_engine_quiescence_clip Proofs.exZ 8 (by decide) wE (heuristicScore (-5)) (heuristicScore 5) {} rfl rfl
    (by decide) (by decide) (by decide)

example : (alphabeta (turochampGame Proofs.exZ) (constEx fullExploration) (turochampLeaf Proofs.exZ 8) 1 2 wE
      negInfScore infScore {}).1 =
    V (turochampGame Proofs.exZ) (constEx fullExploration) (turochampLeaf Proofs.exZ 8) 1 2 wE :=
  (turochamp_engine_exact Proofs.exZ 8 1 2 (by decide) wE {} rfl rfl).1

-- the evaluations themselves on `wE` are in range (instances of the bounds; nothing is evaluated)
example : -2147483648 < (bernsteinGame Proofs.exZ 8).eval wE ∧ (bernsteinGame Proofs.exZ 8).eval wE < 2147483648 :=
  bernsteinGame_evalOk Proofs.exZ 8 wE
example : -2147483648 < (turochampGame Proofs.exZ).eval wE ∧ (turochampGame Proofs.exZ).eval wE < 2147483648 :=
  turochampGame_evalOk Proofs.exZ wE

/-! ## fuel: TUROCHAMP's quiescence search does not need its fuel

The Go quiescence search has no fuel; `Model.quiesce` has (the driver and the `c03` stream run `turochampLeaf zt 64`).
`ConsiderableMovesOnly` is not captures-only (`C13.chess_enough_fuel` does not apply): a picked move is a capture **or a
move that checkmates** (`turochamp_pick_capture_or_mate`). A capture removes a man, a mated world has no child, so the
explored tree below a world with `k` men is exhausted within `k + 1` plies (`Proofs/ABTuroFuel.lean`): 65 in general,
and 64 - the fuel that is run - on every board with at most 32 men. `Inv` is the play invariant of
`Proofs/ABChessFuel.lean` (it holds for `newBoard` on a `WFplay` position and is preserved by `pushMove` of generated
moves). -/

section Fuel

/-- **What TUROCHAMP's quiescence explores**: a picked move is a capture, or the board after it exists and its side to
    move is checkmated. -/
theorem turochamp_engine_pick (z : ZTable) (w : World) (m : Move) (h : (turochampExplore z w).pick m = true) :
    m.isCapture = true ∨
    ∃ w', w.pushMove z 0 m = some w' ∧ (w'.cur 0).pos.isCheckMate (w'.board 0).turn = true :=
  turochamp_pick_capture_or_mate z w m h

/-- **C13 (fuel) for the TUROCHAMP engine**, at every world `w` satisfying the play invariant `Inv`: the explored
    quiescence tree is exhausted within 65 plies, the reference `Q` is the same for every fuel `≥ 65`, `quiesce` with
    fuel 65 does not report `fuelOut`, and the reference `V` of the main search (any exploration, any depth) is the
    same for every fuel `≥ 65` of its quiescence leaves. -/
theorem turochamp_engine_enough_fuel (z : ZTable) (w : World) (h : Inv w) :
    QDone (turochampGame z) (turochampExplore z) 65 w ∧
    (∀ fuel', 65 ≤ fuel' →
      Q (turochampGame z) (turochampExplore z) fuel' w = Q (turochampGame z) (turochampExplore z) 65 w) ∧
    (∀ a b st, (quiesce (turochampGame z) (turochampExplore z) 65 w a b st).2.fuelOut = st.fuelOut) ∧
    ∀ (ex : World → Explore) (rootPly : Int) (fuel' d : Nat), 65 ≤ fuel' →
      V (turochampGame z) ex (turochampLeaf z fuel') rootPly d w =
        V (turochampGame z) ex (turochampLeaf z 65) rootPly d w :=
  ⟨turochamp_qdone z w h, Q_stable _ _ 65 w (turochamp_qdone z w h), quiesce_fuelOut _ _ 65 w (turochamp_qdone z w h),
   fun ex rootPly fuel' d hf => turochamp_V_fuel_irrelevant z ex rootPly fuel' hf d w h⟩

/-- **C13 (fuel) for the TUROCHAMP engine with the fuel that is run (64)**, on every board with at most 32 men (every
    position of a real game): the explored quiescence tree is exhausted within 64 (indeed 33) plies, the reference `Q`
    is the same for every fuel `≥ 64`, and `quiesce` with fuel 64 does not report `fuelOut`. -/
theorem turochamp_engine_enough_fuel_32 (z : ZTable) (w : World) (h : Inv w) (h32 : popCount (w.cur 0).pos.all ≤ 32) :
    QDone (turochampGame z) (turochampExplore z) 64 w ∧
    QDone (turochampGame z) (turochampExplore z) 33 w ∧
    (∀ fuel', 64 ≤ fuel' →
      Q (turochampGame z) (turochampExplore z) fuel' w = Q (turochampGame z) (turochampExplore z) 64 w) ∧
    ∀ a b st, (quiesce (turochampGame z) (turochampExplore z) 64 w a b st).2.fuelOut = st.fuelOut :=
  ⟨turochamp_qdone_32 z w h h32, turochamp_qdone_33 z w h h32, Q_stable _ _ 64 w (turochamp_qdone_32 z w h h32),
   quiesce_fuelOut _ _ 64 w (turochamp_qdone_32 z w h h32)⟩

-- on `wE` (`r3k2r/1P6/8/3pP3/8/8/8/R3K2R w KQkq d6`, 9 men): both forms apply, nothing is evaluated but the man count
example :
    (∀ fuel', 65 ≤ fuel' → Q (turochampGame Proofs.exZ) (turochampExplore Proofs.exZ) fuel' wE =
      Q (turochampGame Proofs.exZ) (turochampExplore Proofs.exZ) 65 wE) ∧
    (∀ a b st, (quiesce (turochampGame Proofs.exZ) (turochampExplore Proofs.exZ) 65 wE a b st).2.fuelOut = st.fuelOut) :=
  ⟨(turochamp_engine_enough_fuel Proofs.exZ wE wE_inv).2.1, (turochamp_engine_enough_fuel Proofs.exZ wE wE_inv).2.2.1⟩

theorem wE_men : popCount (wE.cur 0).pos.all ≤ 32 := by decide +kernel

example :
    (∀ fuel', 64 ≤ fuel' → Q (turochampGame Proofs.exZ) (turochampExplore Proofs.exZ) fuel' wE =
      Q (turochampGame Proofs.exZ) (turochampExplore Proofs.exZ) 64 wE) ∧
    (∀ a b st, (quiesce (turochampGame Proofs.exZ) (turochampExplore Proofs.exZ) 64 wE a b st).2.fuelOut = st.fuelOut) :=
  ⟨(turochamp_engine_enough_fuel_32 Proofs.exZ wE wE_inv wE_men).2.2.1,
   (turochamp_engine_enough_fuel_32 Proofs.exZ wE wE_inv wE_men).2.2.2⟩

/-- `7k/8/6K1/8/8/8/8/1Q6 w`: White mates by the quiet move Qb1-b8. -/
def wN : World :=
  (({} : World).newBoard Proofs.exZ
    ((Position.newPosition [(56, .black, .king), (41, .white, .king), (6, .white, .queen)] 0 0).getD {}) .white 0 1).1

/-- Qb1-b8#. -/
def qb8 : Move := { ty := .normal, «from» := 6, to := 62, piece := .queen }

theorem wN_picks_qb8 : qb8 ∈ (turochampGame Proofs.exZ).moves wN ∧ (turochampExplore Proofs.exZ wN).pick qb8 = true ∧
    qb8.isCapture = false ∧ ((turochampGame Proofs.exZ).push wN qb8).isSome = true := by decide +kernel

-- the mate branch is not vacuous, i.e. TUROCHAMP's exploration is **not** captures-only: on `wN` it picks the quiet
-- move Qb8#, a generated move that `PushMove` accepts
set_option maxRecDepth 100000 in
example : qb8 ∈ (turochampGame Proofs.exZ).moves wN ∧ (turochampExplore Proofs.exZ wN).pick qb8 = true ∧
    qb8.isCapture = false ∧ ((turochampGame Proofs.exZ).push wN qb8).isSome = true := wN_picks_qb8

example : ¬ CapturesOnly (turochampExplore Proofs.exZ) :=
  fun h => absurd (h wN qb8 wN_picks_qb8.2.1) (by decide)

theorem wN_inv : Inv wN := by
  have hv : Proofs.ValidPlacements [(56, .black, .king), (41, .white, .king), (6, .white, .queen)] := by
    intro x hx
    simp only [List.mem_cons, List.not_mem_nil, or_false] at hx
    rcases hx with rfl | rfl | rfl <;> simp
  have he : Position.newPosition [(56, .black, .king), (41, .white, .king), (6, .white, .queen)] 0 0 =
      some ((Position.newPosition [(56, .black, .king), (41, .white, .king), (6, .white, .queen)] 0 0).getD {}) := by
    decide +kernel
  have hr := (Proofs.newPosition_rep hv he).1.self
  unfold wN
  exact inv_newBoard Proofs.exZ 0 1 ⟨⟨hr, by decide +kernel⟩, by decide +kernel⟩

-- three men on `wN`: four plies exhaust TUROCHAMP's quiescence tree there (through the mate branch: Qb8# is explored)
example : QDone (turochampGame Proofs.exZ) (turochampExplore Proofs.exZ) 4 wN :=
  turochamp_qdone_men Proofs.exZ 2 wN wN_inv (by
    rw [menP_eq_popCount wN_inv.2.2.1.rep]
    decide +kernel)

end Fuel

end Morlock.Props.C13Engines
