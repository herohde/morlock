import Morlock.Proofs.TurochampMob
import Morlock.Proofs.TurochampMirror
import Morlock.Proofs.GenExample
import Morlock.Proofs.TurochampFlags
/-!
# C20 — TUROCHAMP (`cmd/turochamp/turochamp`): the evaluation is total and bounded, the considerable-moves filter is sound

Model: `Morlock/Model/Turochamp.lean` (tied to the Go code by the stream `turochamp`: every component of every op agrees
bit for bit). `eval.Pawns` is `float32`; a value is the exact rational it denotes (`Flt.Q`), `none` = infinity/NaN/panic.

`material` is exactly `mat2 / 2 ≥ 1/2`, so `Material.Evaluate` never divides by zero. On every well-formed position
`PositionPlay` (for every order in which the mobility map may be iterated) and `Eval.Evaluate` are finite, with explicit
bounds; the two facts about `Flt.rnd` this needs are the hypothesis `FltFacts`, discharged in `Props/C20TurochampFlt.lean`.
What `ConsiderableMovesOnly` selects is the filter of the generated moves by "accepted by `PushMove` and considerable on the
board after the move"; it never panics on a well-formed position. The parts of the evaluation are colour-blind one by one;
the three that read the legal moves (`MirrorGap`) are closed in `Props/C20TurochampFlt.lean` and `Props/C20TuroMirror.lean`.
`PositionPlay` as a float32 is NOT colour-blind for any fixed order of summation (the mirror permutes the squares, float32
addition is not associative), and the real code iterates a Go map, so its `PositionPlay` is not even a function of the board
(stream `turochamp`, `ppnd`); `Eval.Evaluate` rounds the difference to two decimals, which hides this.
-/
namespace Morlock.Props.C20Turochamp
open Morlock Morlock.Model Morlock.Model.Flt Morlock.Model.Turochamp Morlock.Proofs Morlock.Proofs.Gen
open Morlock.Proofs.Turochamp


/-- What `mat2` is: twice the piece values (Q 10, R 5, N 3, B 3½, P 1) times the population counts; 1 for a bare king. -/
theorem mat2_def (pos : Position) (c : Color) :
    mat2 pos c =
      (if 20 * popCount (pos.pieces c .queen) + 10 * popCount (pos.pieces c .rook) + 6 * popCount (pos.pieces c .knight) +
          7 * popCount (pos.pieces c .bishop) + 2 * popCount (pos.pieces c .pawn) = 0 then 1
       else 20 * popCount (pos.pieces c .queen) + 10 * popCount (pos.pieces c .rook) + 6 * popCount (pos.pieces c .knight) +
          7 * popCount (pos.pieces c .bishop) + 2 * popCount (pos.pieces c .pawn)) := rfl

/-- For every position and colour, `material` returns exactly `mat2 / 2` (no rounding error, no
overflow, no panic); `half k` is `k/2` in lowest terms. -/
theorem material_value (pos : Position) (c : Color) :
    material pos c = some (half (mat2 pos c)) ∧ 1 ≤ mat2 pos c ∧ mat2 pos c ≤ 2880 ∧
    (half (mat2 pos c)).num * 2 = (mat2 pos c : Int) * ((half (mat2 pos c)).den : Int) ∧ 0 < (half (mat2 pos c)).den :=
  ⟨material_eq pos c, mat2_pos pos c, mat2_le pos c, half_value _, half_den_pos _⟩

/-- `material p c ≥ 1/2` (and `≤ 1440`) for every position. -/
theorem material_pos (pos : Position) (c : Color) :
    ∃ v, material pos c = some v ∧ 0 < v.den ∧ Q.le ⟨1, 2⟩ v = true ∧ Q.le v (Q.ofInt 1440) = true ∧ v.num ≠ 0 := by
  refine ⟨_, material_eq pos c, half_den_pos _, ?_, ?_, ?_⟩
  · have h1 := mat2_pos pos c
    have hv := half_value (mat2 pos c)
    refine decide_eq_true ?_
    show (1 : Int) * ((half (mat2 pos c)).den : Int) ≤ (half (mat2 pos c)).num * ((2 : Nat) : Int)
    have : (1 : Int) * ((half (mat2 pos c)).den : Int) ≤ (mat2 pos c : Int) * ((half (mat2 pos c)).den : Int) :=
      Int.mul_le_mul_of_nonneg_right (by omega) (Int.natCast_nonneg _)
    omega
  · have h1 := mat2_le pos c
    have hv := half_value (mat2 pos c)
    refine decide_eq_true ?_
    show (half (mat2 pos c)).num * ((1 : Nat) : Int) ≤ (1440 : Int) * ((half (mat2 pos c)).den : Int)
    have : (mat2 pos c : Int) * ((half (mat2 pos c)).den : Int) ≤ (2880 : Int) * ((half (mat2 pos c)).den : Int) :=
      Int.mul_le_mul_of_nonneg_right (by omega) (Int.natCast_nonneg _)
    omega
  · have := half_num_pos (mat2_pos pos c); omega

/-- `Material.Evaluate` is finite for every position (the divisor is never zero) and
`|v| ≤ 2880 = 2·64·(10 + 5 + 3 + 3½ + 1)`, the bound being what per-piece population counts of at most 64 allow. -/
theorem materialEvaluate_total (F : FltFacts) (pos : Position) (turn : Color) :
    ∃ v, materialEvaluate pos turn = some v ∧ 0 < v.den ∧ v.num.natAbs ≤ 2880 * v.den :=
  Turochamp.materialEvaluate_total F pos turn

/-- Initial position: 10 + 2·5 + 2·3 + 2·3½ + 8 = 41 for both sides, `Material.Evaluate` = 0. A bare king counts ½. -/
example : (material startPos .white).map (fun v => (v.num, v.den)) = some (41, 1) ∧
    (materialEvaluate startPos .white).map (fun v => (v.num, v.den)) = some (0, 1) ∧
    (material ({} : Position) .white).map (fun v => (v.num, v.den)) = some (1, 2) := by decide +kernel

/-- `exPos` (two rooks and two pawns against two rooks and a pawn): 12/11 rounded to float32. -/
example : mat2 exPos .white = 24 ∧ mat2 exPos .black = 22 ∧
    (materialEvaluate exPos .white).map (fun v => (v.num, v.den)) = some (9151209, 8388608) := by decide +kernel


/-- The bounds proved: `|PositionPlay| ≤ 17297`, `|Eval.Evaluate| ≤ 2883460` (crude: 64 officers, 64 pawns each advanced
255 ranks - what the code would do on arbitrary bitboards; the source comment claims `[-55;55]` for chess positions). -/
theorem bounds : ppBound = 17297 ∧ evalBound = 2883460 := ⟨rfl, rfl⟩

/-- On a well-formed position `PositionPlay` is finite and bounded for *every* order in which
the mobility map is iterated (`order` a permutation; the model's `positionPlayCore` is `order = id`). No panic
(`Attackboard` of a pawn), no square root of a negative number, no overflow. -/
theorem positionPlay_total (F : FltFacts) {pos : Position} {t : Color} (hw : WF pos t) (castled : Bool) (turn : Color)
    (order : List (Nat × Nat) → List (Nat × Nat)) (hperm : ∀ l, (order l).Perm l) :
    ∃ v, positionPlayOrd order pos castled turn = some v ∧ 0 < v.den ∧ v.num.natAbs ≤ ppBound * v.den := by
  have hm : MobOK (mobility pos turn) := mobOK_of_wf hw
  have hm' : MobOK (order (mobility pos turn)) :=
    ⟨by rw [(hperm _).length_eq]; exact hm.1, fun e he => hm.2 e ((hperm _).mem_iff.mp he)⟩
  exact positionPlayOrd_total F order pos castled turn hm'

/-- For every board whose current position is well formed, `Eval.Evaluate` returns a finite value
`v` with `|v| ≤ 2883460`. -/
theorem evaluate_total (F : FltFacts) (w : World) (b : Nat) {t : Color} (hw : WF (w.cur b).pos t) :
    ∃ v, evaluate w b = some v ∧ 0 < v.den ∧ v.num.natAbs ≤ evalBound * v.den :=
  evaluateCore_total F _ _ _ _ (mobOK_of_wf hw) (mobOK_of_wf hw)

/-- The part that needs no hypothesis on the position: with small mobility maps everything is finite. -/
theorem evaluate_total_of_mobOK (F : FltFacts) (pos : Position) (cs co : Bool) (turn : Color)
    (hs : MobOK (mobility pos turn)) (ho : MobOK (mobility pos turn.opp)) :
    ∃ v, evaluateCore pos cs co turn = some v ∧ 0 < v.den ∧ v.num.natAbs ≤ evalBound * v.den :=
  evaluateCore_total F pos cs co turn hs ho

/-- a Zobrist table (its content is irrelevant for the evaluation) and a board on `exPos`, White to move -/
def z0 : ZTable := ⟨fun _ _ _ => 0, fun _ => 0, fun _ => 0, fun _ => 0⟩
def exWorld : World := (({} : World).newBoard z0 exPos .white 0 1).1

theorem exWorld_pos : (exWorld.cur 0).pos = exPos ∧ (exWorld.board 0).turn = .white := by decide +kernel

/-- `evaluate_total` applies to the board on `exPos` (castling rights for both, en passant available, a promotion
ahead); the value there is `1090.12` (material 12/11 → 109·10, position play +0.12). -/
example (F : FltFacts) : ∃ v, evaluate exWorld 0 = some v ∧ 0 < v.den ∧ v.num.natAbs ≤ evalBound * v.den :=
  evaluate_total F exWorld 0 (t := .white) (by rw [exWorld_pos.1]; exact exPos_wf.1)

/-- What loop (1) of `PositionPlay` leaves on `exPos`, for White and for Black, and the number of White's legal moves: every
evaluation on `exPos` needs them and they are slow to evaluate. -/
theorem exPos_loop1 :
    (mayCheckMate exPos .white = false ∧ mayCastle exPos .white = true ∧
      mobility exPos .white = [(0, 10), (7, 11), (3, 5)] ∧ (exPos.legalMoves .white).length = 36) ∧
    (mayCheckMate exPos .black = false ∧ mayCastle exPos .black = true ∧
      mobility exPos .black = [(56, 10), (63, 11), (59, 5)]) := by rw [exPos_val]; decide +kernel

example : (evaluate exWorld 0).map (fun v => (v.num, v.den)) = some (8930263, 8192) := by
  obtain ⟨⟨mw, cw, mobw, _⟩, mb, cb, mobb⟩ := exPos_loop1
  rw [evaluate_eq_ord, exWorld_pos.1, exWorld_pos.2, evaluateCoreOrd_eq, show Color.white.opp = Color.black from rfl,
    positionPlayOrd_eq id exPos _ .white, positionPlayOrd_eq id exPos _ .black, mw, cw, mobw, mb, cb, mobb, exPos_val]
  decide +kernel

example : (mobility exPos .white).length = 3 ∧ MobOK (mobility exPos .white) :=
  ⟨by rw [exPos_loop1.1.2.2.1]; rfl, mobOK_of_wf exPos_wf.1⟩


/-- 1. e2-e4 -/
def e2e4 : Move := { ty := .jump, «from» := 11, to := 27, piece := .pawn }
/-- the position after 1. e4 -/
def afterE4 : Position := (startPos.move e2e4).getD {}

/-- `afterE4` written out (`rnbqkbnr/pppppppp/8/8/4P3/8/PPPP1PPP/RNBQKBNR b KQkq e3`), so that the evaluations below do not
each play the move again -/
theorem afterE4_val : afterE4 =
    { white := { all := 0x800f7ff, pawn := 0x800f700, bishop := 0x24, knight := 0x42, rook := 0x81, queen := 0x10, king := 0x8 },
      black := { all := 0xffff000000000000, pawn := 0xff000000000000, bishop := 0x2400000000000000, knight := 0x4200000000000000, rook := 0x8100000000000000, queen := 0x1000000000000000, king := 0x800000000000000 },
      rotated := { rot := 0xffff00000800f7ff, rot90 := 0xc3c3c3c3c9c3c3c3, rot45L := 0xfb31861cb8608cdf, rot45R := 0xfb31861c396184df },
      castling := 15, enpassant := 19 } := by decide +kernel

theorem e2e4_legal : e2e4 ∈ startPos.legalMoves .white := by decide +kernel

/-- What loop (1) of `PositionPlay` leaves on `afterE4`, for White and for Black (slow to evaluate, and every evaluation
there needs it): no move mates, no castling move, the mobility map; the number of White's legal moves. -/
theorem afterE4_loop1 :
    (mayCheckMate afterE4 .white = false ∧ mayCastle afterE4 .white = false ∧
      mobility afterE4 .white = [(4, 4), (1, 3), (6, 2), (2, 5), (3, 1)] ∧ (afterE4.legalMoves .white).length = 32) ∧
    (mayCheckMate afterE4 .black = false ∧ mayCastle afterE4 .black = false ∧
      mobility afterE4 .black = [(57, 2), (62, 2)]) := by rw [afterE4_val]; decide +kernel

/-- After 1. e4 (a legal move from the initial position) White's mobility map is
`{d1:4, f1:5, b1:2, g1:2, e1:1}`. Summed in insertion order `PositionPlay(b, White)` is the float32 `0x41666668`; summed
in the same cyclic order started at the fourth key (Go starts a map iteration at a random offset) it is `0x41666667`.
The real function returns both values within 200 calls on this board (stream `turochamp`, `stats.json`). -/
theorem positionPlay_order_dependent :
    e2e4 ∈ startPos.legalMoves .white ∧
    mobility afterE4 .white = [(4, 4), (1, 3), (6, 2), (2, 5), (3, 1)] ∧
    (positionPlayOrd id afterE4 false .white).bind bits32 = some 0x41666668 ∧
    (positionPlayOrd (fun l => l.rotateLeft 3) afterE4 false .white).bind bits32 = some 0x41666667 := by
  obtain ⟨hm, hc, hmob, _⟩ := afterE4_loop1.1
  refine ⟨e2e4_legal, hmob, ?_⟩
  rw [positionPlayOrd_eq, positionPlayOrd_eq, hm, hc, hmob, afterE4_val]
  decide +kernel


/-- `int(from.Rank() - board.Rank2)` / `int(board.Rank7 - from.Rank())` are computed in `uint8`:
a white pawn on rank 1 (a1 = square 7) and a black pawn on rank 8 (a8 = 63) get 255 "ranks advanced"; on ranks 2-7 the
value is the number of ranks advanced, 0 … 5; a pawn on its promotion rank gets 6. -/
theorem obs_pawnRanks_wrap :
    pawnRanks .white 7 = 255 ∧ pawnRanks .black 63 = 255 ∧
    (∀ sq, sq < 64 → 8 ≤ sq → sq < 56 → pawnRanks .white sq = sq / 8 - 1 ∧ pawnRanks .black sq = 6 - sq / 8) ∧
    (∀ sq, sq < 64 → 56 ≤ sq → pawnRanks .white sq = 6) ∧ (∀ sq, sq < 8 → pawnRanks .black sq = 6) := by
  decide +kernel

/-- `p3k3/8/8/8/8/8/8/P3K3`: kings on e1/e8, a white pawn on a1, a black pawn on a8 (accepted by `fen.Decode`) -/
def backRankPos : Position :=
  (Position.newPosition [(3, .white, .king), (7, .white, .pawn), (59, .black, .king), (63, .black, .pawn)] 0 0).getD {}
/-- the same with the pawns on a2/a7 -/
def homeRankPos : Position :=
  (Position.newPosition [(3, .white, .king), (15, .white, .pawn), (59, .black, .king), (55, .black, .pawn)] 0 0).getD {}

/-- On `backRankPos` the pawn earns `0.2 · 255 = 51` pawns: `PositionPlay(White)` is
the float32 `0x4242cccd` = 48.7 (the real code returns the same bits: stream `turochamp`, curated case), against
`0xc0199999` = -2.4 with the pawn on a2. -/
theorem obs_backRank_positionPlay :
    (positionPlayCore backRankPos false .white).bind bits32 = some 0x4242cccd ∧
    (positionPlayCore backRankPos false .black).bind bits32 = some 0x4242cccd ∧
    (positionPlayCore homeRankPos false .white).bind bits32 = some 0xc0199999 := by decide +kernel

/-- `PositionPlay(b, turn.Opponent())` generates moves for the side NOT to move
with the en-passant target of the side to move still set: after 1. e4 (target e3 = square 19, Black to move) the generator
gives White the "en-passant captures" f2xe3 and d2xe3, and `Position.Move` accepts both (it removes a phantom black pawn
from e4, where White's own pawn stands). They are pawn moves, so they do not count for mobility; they do take part in the
mate-threat test. The real code does the same (stream `turochamp`: `nmoves=20/32 ep=0/2` on this line). -/
theorem obs_enpassant_for_side_not_to_move :
    afterE4.enpassant = 19 ∧
    ((afterE4.pseudoLegalMoves .white).filter fun m => m.ty == .enPassant).map
      (fun m => (m.from, m.to, (afterE4.move m).isSome)) = [(10, 19, true), (12, 19, true)] ∧
    (afterE4.legalMoves .white).length = 32 := by
  refine ⟨?_, ?_, afterE4_loop1.1.2.2.2⟩ <;> rw [afterE4_val] <;> decide +kernel


/-- The moves a search with `ConsiderableMovesOnly` explores at a node are a sublist of the
legal moves of the position (generator order, nothing added). -/
theorem considerable_sound (z : ZTable) (w : World) (b : Nat) {l : List Move} (h : considerableMoves z w b = some l) :
    l.Sublist ((w.cur b).pos.legalMoves (w.board b).turn) :=
  considerableLoop_sublist z w b _ l h

/-- ... each at most once, on a represented position. -/
theorem considerable_nodup (z : ZTable) (w : World) (b : Nat) {bd : Proofs.Board} (hr : Rep (w.cur b).pos bd)
    {l : List Move} (h : considerableMoves z w b = some l) : l.Nodup := by
  apply List.Nodup.sublist (considerable_sound z w b h)
  unfold Position.legalMoves
  exact List.Nodup.sublist List.filter_sublist (pseudoLegalMoves_nodup hr _)

/-- Every selected move was accepted by `PushMove` and `IsConsiderableMove` said yes on the board after it. -/
theorem considerable_selected (z : ZTable) (w : World) (b : Nat) {l : List Move} (h : considerableMoves z w b = some l) :
    ∀ m ∈ l, ∃ w', w.pushMove z b m = some w' ∧ isConsiderableMove m w' b = some true :=
  considerableLoop_mem z w b _ l h

/-- The selection is exactly the filter of the generated moves by "accepted by `PushMove` and considerable after it". -/
theorem considerable_exact (z : ZTable) (w : World) (b : Nat) {l : List Move} (h : considerableMoves z w b = some l) :
    l = ((w.cur b).pos.pseudoLegalMoves (w.board b).turn).filter (considerableTest z w b) :=
  considerableLoop_eq_filter z w b _ l h

/-- **No panic** (`pieceValue(NoPiece)`) on a well-formed position: generated moves carry real pieces. -/
theorem considerable_total (z : ZTable) (w : World) (b : Nat) {t : Color} (hw : WF (w.cur b).pos t) :
    (considerableMoves z w b).isSome = true :=
  considerableLoop_isSome z w b _ (fun _ hm => pseudo_piece_capture_ok hw hm)

/-- In `exPos` White has six captures (Rxa8, Rxh8, b7xa8 promoting in four ways), all of undefended or more valuable men:
the six are selected among 36 legal moves. -/
example : ((considerableMoves z0 exWorld 0).map fun l => l.length) = some 6 ∧
    ((exWorld.cur 0).pos.legalMoves (exWorld.board 0).turn).length = 36 :=
  ⟨by decide +kernel, by rw [exWorld_pos.1, exWorld_pos.2]; exact exPos_loop1.1.2.2.2⟩


open Morlock.Proofs.Mirror in
theorem material_mirror {p q : Position} {b : Proofs.Board} (hp : Rep p b) (hq : Rep q (mirrorBoard b)) (c : Color) :
    material q c.opp = material p c := Turochamp.material_mirror hp hq c

open Morlock.Proofs.Mirror in
/-- `Material.Evaluate` is colour-blind (as float32 values, bit for bit). -/
theorem materialEvaluate_mirror {p q : Position} {b : Proofs.Board} (hp : Rep p b) (hq : Rep q (mirrorBoard b))
    (turn : Color) : materialEvaluate q turn.opp = materialEvaluate p turn := Turochamp.materialEvaluate_mirror hp hq turn

theorem castleRight_mirror {p q : Position} (turn : Color)
    (hwk : (q.castling &&& wK != 0) = (p.castling &&& bK != 0))
    (hwq : (q.castling &&& wQ != 0) = (p.castling &&& bQ != 0))
    (hbk : (q.castling &&& bK != 0) = (p.castling &&& wK != 0))
    (hbq : (q.castling &&& bQ != 0) = (p.castling &&& wQ != 0)) :
    (q.castling &&& castlingRights turn.opp != 0) = (p.castling &&& castlingRights turn != 0) :=
  Turochamp.castleRight_mirror turn hwk hwq hbk hbq

open Morlock.Proofs.Mirror in
/-- The check term (`pos.IsChecked(turn.Opponent())`), under the hypotheses of `C20.abs_eq_mirror`. -/
theorem check_mirror {p q : Position} {t : Color} (hw : WF p t) {b : Proofs.Board} (hp : Rep p b)
    (hq : Rep q (mirrorBoard b)) (habs : abs q t.opp = Spec.mirror (abs p t)) (c : Color) :
    q.isChecked c.opp = p.isChecked c := isChecked_mirror hw hp hq habs c

open Morlock.Proofs.Mirror in
/-- Part (2): the defender count of a square (own K, Q, R, N, B attacking it, own pawns guarding it). -/
theorem defenders_mirror {p q : Position} {b : Proofs.Board} (hp : Rep p b) (hq : Rep q (mirrorBoard b)) (c : Color)
    {sq : Nat} (hsq : sq < 64) : defenders q c.opp (Spec.mirrorSq sq) = defenders p c sq :=
  Turochamp.defenders_mirror hp hq c hsq

open Morlock.Proofs.Mirror in
/-- Part (4): ranks advanced and "defended by a non-pawn" of the mirrored pawn. -/
theorem pawnCredit_mirror {p q : Position} {b : Proofs.Board} (hp : Rep p b) (hq : Rep q (mirrorBoard b)) (c : Color)
    {sq : Nat} (hsq : sq < 64) :
    pawnRanks c.opp (Spec.mirrorSq sq) = pawnRanks c sq ∧
    officerDefended q c.opp (Spec.mirrorSq sq) kqrnb = officerDefended p c sq kqrnb :=
  ⟨pawnRanks_mirror c hsq, officerDefended_mirror hp hq c hsq kqrnb (fun _ h => h)⟩

open Morlock.Proofs.Mirror in
/-- Part (3): the king is present on both or neither, and the vulnerability count is the same
(at most one king per side: `WF`). -/
theorem kingSafety_mirror {p q : Position} {t : Color} (hw : WF p t) {b : Proofs.Board} (hp : Rep p b)
    (hq : Rep q (mirrorBoard b)) (c : Color) :
    (q.pieces c.opp .king = 0 ↔ p.pieces c .king = 0) ∧
    (p.pieces c .king ≠ 0 → safety q c.opp = safety p c) :=
  ⟨king_zero_mirror hp hq c, safety_mirror hw hp hq c⟩

open Morlock.Proofs.Mirror in
/-- The squares the loops of parts (2) and (4) run over are the mirror images. -/
theorem squares_mirror {p q : Position} {b : Proofs.Board} (hp : Rep p b) (hq : Rep q (mirrorBoard b)) (c : Color)
    {u : Nat} (hu : u < 64) :
    (middle q c.opp).testBit u = (middle p c).testBit (Spec.mirrorSq u) ∧
    (q.pieces c.opp .pawn).testBit u = (p.pieces c .pawn).testBit (Spec.mirrorSq u) :=
  ⟨middle_mirror hp hq c hu, pieces_mirror hp hq c .pawn hu⟩

open Morlock.Proofs.Mirror in
/-- The hypotheses are met: the mirrored board of `exPos` is represented by some position, and for every such position
Black's `Material.Evaluate` is White's on `exPos` (12/11 in float32), the defenders of a8's mirror image a1 are those of a8. -/
example : ∃ q : Position, Rep q (mirrorBoard (placeAll emptyBoard exPl)) ∧
    materialEvaluate q .black = materialEvaluate exPos .white ∧ defenders q .black (Spec.mirrorSq 63) = defenders exPos .white 63 := by
  obtain ⟨q, hq, _, _⟩ := exists_mirror_rep exPos_rep 15 0
  exact ⟨q, hq, materialEvaluate_mirror exPos_rep hq .white, defenders_mirror exPos_rep hq .white (by decide)⟩

end Morlock.Props.C20Turochamp
