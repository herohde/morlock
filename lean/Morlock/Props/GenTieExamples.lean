import Morlock.Props.GenTie
import Morlock.Props.C07
/-! Instances: the enum ties stated with the model's code functions, and `C07.differs_castling` / `differs_turn` /
`differs_enpassant` on `exPos`. -/
open Morlock Morlock.Model Morlock.Proofs
example : Gen.enumPiece = [("NoPiece", Piece.none.code), ("Pawn", Piece.pawn.code), ("Bishop", Piece.bishop.code),
    ("Knight", Piece.knight.code), ("Rook", Piece.rook.code), ("Queen", Piece.queen.code), ("King", Piece.king.code)] := rfl
example : Gen.enumMoveType = [("Normal", MoveType.normal.code), ("Push", MoveType.push.code), ("Jump", MoveType.jump.code),
    ("EnPassant", MoveType.enPassant.code), ("QueenSideCastle", MoveType.queenSideCastle.code),
    ("KingSideCastle", MoveType.kingSideCastle.code), ("Capture", MoveType.capture.code),
    ("Promotion", MoveType.promotion.code), ("CapturePromotion", MoveType.capturePromotion.code)] := rfl
example : Gen.enumColor = [("White", Color.white.code), ("Black", Color.black.code)] := rfl
example : exZ.hash exPos .white ≠ exZ.hash exPos .black :=
  (Props.C07.differs_turn exZ exPos .white .black).2 (by decide +kernel)
example : exZ.hash exPos .white ≠ exZ.hash { exPos with castling := 3 } .white :=
  (Props.C07.differs_castling exZ (p := exPos) (q := { exPos with castling := 3 }) exPos_rep
    (exPos_rep.with_meta _ 3) rfl .white).2
    (by decide +kernel)
