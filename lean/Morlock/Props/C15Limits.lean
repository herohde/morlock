import Morlock.Model.TimeCtl
/-!
# C15 — under a time control the hard limit never exceeds the time left on the clock

`Model.limits` is the transcription of `TimeControl.Limits` (int64 arithmetic made explicit).
-/
namespace Morlock.Props.C15Limits
open Morlock Morlock.Model

theorem wrap64_id {x : Int} (h : x.natAbs < 9223372036854775808) : wrap64 x = x := by
  unfold wrap64; omega

/-- the divisor of `limits`: `Moves + 1` in `int64` if moves to go are given, else the assumed horizon -/
def divisor (moves : Int) : Int := if moves > 0 then wrap64 (moves + 1) else Gen.defaultHorizon

/-- For a clock within `±2^62` nothing wraps, whatever the divisor: truncated division does not increase the absolute
value. -/
theorem limits_eq (r moves : Int) (h : r.natAbs < 4611686018427387904) :
    limits r moves = ((r.tdiv (divisor moves)).tdiv 2, 3 * (r.tdiv (divisor moves)).tdiv 2) := by
  have h1 : (r.tdiv (divisor moves)).natAbs < 4611686018427387904 :=
    Nat.lt_of_le_of_lt (Int.natAbs_tdiv_le_natAbs r _) h
  have h2 : ((r.tdiv (divisor moves)).tdiv 2).natAbs = (r.tdiv (divisor moves)).natAbs / 2 := Int.natAbs_tdiv _ 2
  show (wrap64 (Int.tdiv (wrap64 (Int.tdiv r (divisor moves))) 2),
    wrap64 (3 * wrap64 (Int.tdiv (wrap64 (Int.tdiv r (divisor moves))) 2))) = _
  rw [wrap64_id (x := r.tdiv _) (by omega), wrap64_id (x := (r.tdiv _).tdiv 2) (by omega),
    wrap64_id (by rw [Int.natAbs_mul, h2]; show 3 * _ < _; omega)]

/-- the assumed number of moves to the end of the game (`Gen.defaultHorizon`, read from the source on every run) is a
legitimate divisor -/
theorem horizon_ok : 2 ≤ Gen.defaultHorizon ∧ Gen.defaultHorizon < 4611686018427387904 := by decide

/-- the divisor is at least 2, except that `Moves = 2^63 - 1` wraps to `-2^63` -/
theorem divisor_cases (moves : Int) (m0 : -9223372036854775808 ≤ moves) (m1 : moves < 9223372036854775808) :
    2 ≤ divisor moves ∨ divisor moves = -9223372036854775808 := by
  unfold divisor
  split
  · unfold wrap64; omega
  · exact .inl horizon_ok.1

/-- **For a clock that has not run out (`0 ≤ remaining < 2^62` ns ≈ 146 years) and EVERY `int64` number of moves to go**
    (negative, zero, `2^63 - 1`, … - the uci parser accepts any integer): `0 ≤ soft ≤ hard ≤ remaining`, and no operation
    of `Limits` can panic (the model has no error value to return: its divisors are never zero, see `limits`). -/
theorem hard_le_remaining (remaining moves : Int) (h0 : 0 ≤ remaining) (h1 : remaining < 4611686018427387904)
    (m0 : -9223372036854775808 ≤ moves) (m1 : moves < 9223372036854775808) :
    0 ≤ (limits remaining moves).1 ∧ (limits remaining moves).1 ≤ (limits remaining moves).2 ∧
    (limits remaining moves).2 ≤ remaining := by
  rw [limits_eq remaining moves (by omega)]
  obtain ⟨q, hq⟩ : ∃ q, remaining.tdiv (divisor moves) = q := ⟨_, rfl⟩
  have hq0 : 0 ≤ q ∧ 2 * q ≤ remaining := by
    rcases divisor_cases moves m0 m1 with hm | hm
    · have := Int.tdiv_mul_le remaining (b := divisor moves) (by omega)
      rw [if_pos h0, hq] at this
      have q0 : 0 ≤ q := hq ▸ Int.tdiv_nonneg h0 (by omega)
      have := Int.mul_le_mul_of_nonneg_left hm q0
      omega
    · rw [hm, show (-9223372036854775808 : Int) = -(9223372036854775808 : Int) by rfl, Int.tdiv_neg,
        Int.tdiv_eq_zero_of_lt h0 (by omega)] at hq
      omega
  rw [hq]
  have := Int.tdiv_mul_le q (b := 2) (by omega)
  rw [if_pos hq0.1] at this
  have := Int.tdiv_nonneg hq0.1 (b := 2) (by omega)
  dsimp only; omega

/-- the formula before the repair (`remainder / (2 * moves)`) divides by zero for `movestogo = 2^63 - 1` -/
theorem old_divisor_zero : wrap64 (2 * wrap64 (9223372036854775807 + 1)) = 0 := by decide

/-- The divisors of `limits`: never `0`, never `-1` (so no `int64` division can panic or overflow). -/
theorem divisor_ok (moves : Int) (m0 : -9223372036854775808 ≤ moves) (m1 : moves < 9223372036854775808) :
    let m : Int := if moves > 0 then wrap64 (moves + 1) else Gen.defaultHorizon
    m ≠ 0 ∧ m ≠ -1 := by
  have := divisor_cases moves m0 m1
  show divisor moves ≠ 0 ∧ divisor moves ≠ -1
  omega

/-- The one-move-to-go case a divisor without the `+ 1` would get wrong: half the clock soft, … -/
theorem one_move_to_go : limits 1000000000 1 = (250000000, 750000000) := by decide

example : (limits 60000000000 0).2 ≤ 60000000000 := (hard_le_remaining 60000000000 0 (by decide) (by decide) (by decide) (by decide)).2.2

/-- `go wtime 1000 btime 1000 movestogo 9223372036854775807` (the input that crashed the engine before 552dec5). -/
example : limits 1000000000 9223372036854775807 = (0, 0) := by decide

end Morlock.Props.C15Limits
