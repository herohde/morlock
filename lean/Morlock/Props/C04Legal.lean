import Morlock.Proofs.UciLegal
import Morlock.Props.C01
import Morlock.Props.C13Engines
import Morlock.Props.C20Bernstein
import Morlock.Proofs.DetState
import Morlock.Driver.Uci
/-!
# C04 (second half) — the move printed as `bestmove` is a legal move; `0000` only without legal moves

`searchCompleted` (`pkg/engine/uci/uci.go`) prints `bestmove <pv.Moves[0]>`, or `bestmove 0000` when the PV is empty; the
PV is the one `AlphaBeta.Search` returned for the last completed iteration (iterative deepening starts at depth 1;
`Halt` returns a completed iteration, C15).

**Where the models say what is printed.** The small-step models (`Model/UciConc`, `Model/IterConc`) abstract a PV to a
number (the depth completed, `0` = the empty `search.PV{}`): `Line.bestmove id pv`. The move itself exists in the search
model (`Model.alphaBetaSearch`, `SearchResult.pv`) and in the sequential driver model `Driver.uciGoDepth`
(`best := match sr.pv with | m :: _ => moveUci m | [] => "0000"`), which the `ucidet` stream ties to the real driver. The
theorems below are about these two; the last section says what they mean for `bestmove id d` of the small-step model.

**What is proved**, for the chess game on the model board (`boardGameW z evw`, of which `boardGame z ev`,
`materialGame z`, `bernsteinGame`, `turochampGame` are instances), every exploration, leaf evaluation, depth and window,
and **every search state** — any transposition table (sound or not, whatever an earlier iteration or an earlier `go` left
in it) and any cancellation point: the head of a returned PV is a legal move; with the full window on a board that has
not been adjudicated lost/stalemate the PV is empty iff the exploration picks no legal move, hence iff there is none
for the explorations the bundled engines use. There is no side condition on the value: `C03.pv_nonempty` asks for
`V ≠ -inf`, but `IncrementMateDistance(s).Negate()` is never `-inf`, so also when every move runs into mate the first
explored move raises `alpha`.

**Scope.** The window of the UCI path is `Alpha: NegInf, Beta: Inf` (`searchctl/iterative.go`), covered by `NoLowerBound`;
with a real lower bound an empty PV on fail-low is possible and is not claimed. `sctx.Ponder` (which replaces the
exploration by "equals the ponder move") is not in `Model.alphabeta`; only `console.go` sets it, the UCI driver never.
-/
namespace Morlock.Props.C04Legal
open Morlock Morlock.Model Morlock.Model.Score Morlock.Spec Morlock.Proofs.AB Morlock.Proofs.UciLegal
open Morlock.Proofs Morlock.Proofs.Gen

/-- The board has not been adjudicated checkmate/stalemate (`PushMove` refuses every move then). The engine never
    adjudicates its own board; the searches adjudicate the *fork* they are given, and only when it has no legal move. -/
def Open (w : World) : Prop :=
  (w.board 0).result.reason ≠ .checkmate ∧ (w.board 0).result.reason ≠ .stalemate

theorem pushMove_isSome_iff (w : World) (z : ZTable) (m : Move) :
    (w.pushMove z 0 m).isSome = true ↔ Open w ∧ ((w.cur 0).pos.move m).isSome = true := by
  unfold Open
  by_cases h1 : (w.board 0).result.reason = .checkmate
  · simp [World.pushMove, h1]
  · by_cases h2 : (w.board 0).result.reason = .stalemate
    · simp [World.pushMove, h2]
    · cases hm : (w.cur 0).pos.move m <;> simp [World.pushMove, h1, h2, hm]

theorem accepted_iff_legal (w : World) (z : ZTable) (m : Move) :
    (m ∈ (w.cur 0).pos.pseudoLegalMoves (w.board 0).turn ∧ (w.pushMove z 0 m).isSome = true) ↔
      (Open w ∧ m ∈ (w.cur 0).pos.legalMoves (w.board 0).turn) := by
  rw [pushMove_isSome_iff, C01.legal_iff]
  constructor
  · rintro ⟨a, b, c⟩; exact ⟨b, a, c⟩
  · rintro ⟨b, a, c⟩; exact ⟨a, b, c⟩

theorem legalAny_iff (z : ZTable) (evw : World → Int) (w : World) (hopen : Open w) :
    legalAny (boardGameW z evw) w ((boardGameW z evw).moves w) = true ↔
      (w.cur 0).pos.legalMoves (w.board 0).turn ≠ [] := by
  rw [legalAny, List.any_eq_true]
  constructor
  · rintro ⟨m, hm, hs⟩ e
    have := ((accepted_iff_legal w z m).1 ⟨hm, hs⟩).2
    rw [e] at this
    cases this
  · intro hne
    obtain ⟨m, hm⟩ := List.exists_mem_of_ne_nil _ hne
    exact ⟨m, (accepted_iff_legal w z m).2 ⟨hopen, hm⟩⟩

theorem playable_iff (z : ZTable) (evw : World → Int) (ex : World → Explore) (w : World) (m : Move) :
    (m ∈ (boardGameW z evw).moves w ∧ Playable (boardGameW z evw) ex w m) ↔
      (Open w ∧ m ∈ (w.cur 0).pos.legalMoves (w.board 0).turn ∧ (ex w).pick m = true) := by
  have key := accepted_iff_legal w z m
  constructor
  · rintro ⟨hm, c, hc, hp⟩
    have := key.1 ⟨hm, by show (w.pushMove z 0 m).isSome = true; rw [show w.pushMove z 0 m = some c from hc]; rfl⟩
    exact ⟨this.1, this.2, hp⟩
  · rintro ⟨ho, hl, hp⟩
    obtain ⟨hm, hs⟩ := key.2 ⟨ho, hl⟩
    obtain ⟨c, hc⟩ := Option.isSome_iff_exists.1 hs
    exact ⟨hm, c, hc, hp⟩

/-- **bestmove_legal.** Whatever the table contains, wherever the search is cancelled, whatever window and depth:
    when `AlphaBeta.Search` returns a result (not `ErrHalted`) with PV `m :: rest`, `m` is a legal move of the root
    position, `PushMove` accepts it, and the exploration of the root picked it. -/
theorem bestmove_legal (z : ZTable) (evw : World → Int) (ex : World → Explore) (le : LeafEval World) (w : World)
    (d : Nat) (a b : Score) (st st' : SState) (r : SearchResult)
    (h : alphaBetaSearch (boardGameW z evw) ex le w d a b st = (some r, st')) (m : Move) (rest : List Move)
    (hpv : r.pv = m :: rest) :
    m ∈ (w.cur 0).pos.legalMoves (w.board 0).turn ∧ (∃ w', w.pushMove z 0 m = some w') ∧ (ex w).pick m = true := by
  have h1 := (alphaBetaSearch_pv _ ex le w d a b st st' r h).1 m rest hpv
  obtain ⟨_, hl, hp⟩ := (playable_iff z evw ex w m).1 h1
  obtain ⟨c, hc, _⟩ := h1.2
  exact ⟨hl, ⟨c, hc⟩, hp⟩

/-- `bestmove_legal` for `boardGame z ev` (evaluations that read only position and side to move). -/
theorem bestmove_legal_boardGame (z : ZTable) (ev : Position → Model.Color → Int) (ex : World → Explore)
    (le : LeafEval World) (w : World) (d : Nat) (a b : Score) (st st' : SState) (r : SearchResult)
    (h : alphaBetaSearch (boardGame z ev) ex le w d a b st = (some r, st')) (m : Move) (rest : List Move)
    (hpv : r.pv = m :: rest) :
    m ∈ (w.cur 0).pos.legalMoves (w.board 0).turn ∧ (∃ w', w.pushMove z 0 m = some w') ∧ (ex w).pick m = true :=
  bestmove_legal z _ ex le w d a b st st' r (by rw [← boardGame_eq_boardGameW]; exact h) m rest hpv

/-- **bestmove_legal_spec.** On a well-formed root position the move is, read through `absMove`, a legal move of the
    reference rules (`Spec.legalMoves`, mailbox chess). -/
theorem bestmove_legal_spec (z : ZTable) (evw : World → Int) (ex : World → Explore) (le : LeafEval World) (w : World)
    (d : Nat) (a b : Score) (st st' : SState) (r : SearchResult)
    (h : alphaBetaSearch (boardGameW z evw) ex le w d a b st = (some r, st')) (m : Move) (rest : List Move)
    (hpv : r.pv = m :: rest) (hw : WF (w.cur 0).pos (w.board 0).turn) :
    absMove m ∈ Spec.legalMoves (abs (w.cur 0).pos (w.board 0).turn) :=
  (C01.legal_perm hw).mem_iff.1
    (List.mem_map_of_mem (bestmove_legal z evw ex le w d a b st st' r h m rest hpv).1)

/-- What C03 adds (no table, no cancellation, `leafGrade le + d ≤ 127`, full window): the move leads to a child that
    attains the negamax value of the root, and the rest of the PV is a principal variation from there. -/
theorem bestmove_principal (z : ZTable) (evw : World → Int) (hev : EvalOk (boardGameW z evw)) (ex : World → Explore)
    (le : LeafEval World) (w : World) (d : Nat) (hd : leafGrade le + (d + 1) ≤ 127) (st st' : SState)
    (htt : st.tt.slots.size = 0) (hc : st.cancelAt = none) (r : SearchResult)
    (h : alphaBetaSearch (boardGameW z evw) ex le w (d + 1) invalidScore invalidScore st = (some r, st'))
    (m : Move) (rest : List Move) (hpv : r.pv = m :: rest) :
    m ∈ (w.cur 0).pos.legalMoves (w.board 0).turn ∧
    ∃ c, w.pushMove z 0 m = some c ∧
      Proofs.AB.lift (V (boardGameW z evw) ex le ((boardGameW z evw).ply w) d c) =
        V (boardGameW z evw) ex le ((boardGameW z evw).ply w) (d + 1) w ∧
      Principal (boardGameW z evw) ex le ((boardGameW z evw).ply w) d c rest := by
  refine ⟨(bestmove_legal z evw ex le w (d + 1) _ _ st st' r h m rest hpv).1, ?_⟩
  obtain ⟨n, hn⟩ := C03.search_exact (boardGameW z evw) ex le hev (d + 1) hd w st htt hc
  rw [h] at hn
  cases hn
  have hP := C03.pv_principal (boardGameW z evw) ex le ((boardGameW z evw).ply w) hev (d + 1) hd w
    { st with nodes := 0 } htt hc
  dsimp only at hpv
  rw [hpv] at hP
  simp only [Principal] at hP
  obtain ⟨c, h1, _, h3, h4⟩ := hP
  exact ⟨c, h1, h3, h4⟩

/-- the search window has no lower bound: `sctx.Alpha` unset (invalid) or `-inf` -/
def NoLowerBound (a : Score) : Prop := a.isInvalid = true ∨ a.ty = .negInf

theorem noLowerBound_invalid : NoLowerBound invalidScore := Or.inl rfl

/-- **null_only_without_moves.** Depth `d + 1 ≥ 1`, no lower bound, upper bound not `-inf`, open board; any table, any
    cancellation point. When `AlphaBeta.Search` returns a result, its PV is empty — `bestmove 0000` — **iff** the
    exploration of the root picks no legal move. -/
theorem null_only_without_moves (z : ZTable) (evw : World → Int) (ex : World → Explore) (le : LeafEval World) (w : World)
    (d : Nat) (a b : Score) (st st' : SState) (r : SearchResult)
    (h : alphaBetaSearch (boardGameW z evw) ex le w (d + 1) a b st = (some r, st'))
    (ha : NoLowerBound a) (hb : b.ty ≠ .negInf) (hopen : Open w) :
    r.pv = [] ↔ ∀ m ∈ (w.cur 0).pos.legalMoves (w.board 0).turn, (ex w).pick m = false := by
  rw [(alphaBetaSearch_pv _ ex le w (d + 1) a b st st' r h).2 (by omega) ha hb]
  constructor
  · intro hno m hm
    cases hp : (ex w).pick m with
    | false => rfl
    | true =>
      exact absurd ⟨m, (playable_iff z evw ex w m).2 ⟨hopen, hm, hp⟩⟩ hno
  · rintro hall ⟨m, h1, h2⟩
    obtain ⟨_, hl, hp⟩ := (playable_iff z evw ex w m).1 ⟨h1, h2⟩
    rw [hall m hl] at hp
    cases hp

def KeepsAMove (ex : World → Explore) (w : World) : Prop :=
  (w.cur 0).pos.legalMoves (w.board 0).turn ≠ [] → ∃ m ∈ (w.cur 0).pos.legalMoves (w.board 0).turn, (ex w).pick m = true

/-- **`0000` iff no legal move**, for every exploration that keeps a legal move whenever there is one. -/
theorem null_iff (z : ZTable) (evw : World → Int) (ex : World → Explore) (le : LeafEval World) (w : World)
    (d : Nat) (a b : Score) (st st' : SState) (r : SearchResult)
    (h : alphaBetaSearch (boardGameW z evw) ex le w (d + 1) a b st = (some r, st'))
    (ha : NoLowerBound a) (hb : b.ty ≠ .negInf) (hopen : Open w) (hk : KeepsAMove ex w) :
    r.pv = [] ↔ (w.cur 0).pos.legalMoves (w.board 0).turn = [] := by
  rw [null_only_without_moves z evw ex le w d a b st st' r h ha hb hopen]
  constructor
  · intro hall
    apply Classical.byContradiction
    intro hne
    obtain ⟨m, hm, hp⟩ := hk hne
    rw [hall m hm] at hp
    cases hp
  · intro e m hm
    rw [e] at hm
    cases hm

theorem keeps_full (w : World) : KeepsAMove (constEx fullExploration) w := by
  intro hne
  obtain ⟨m, hm⟩ := List.exists_mem_of_ne_nil _ hne
  exact ⟨m, hm, rfl⟩

theorem keeps_skipUnderPromotions (prio : Move → Int) (w : World) (hw : WF (w.cur 0).pos (w.board 0).turn) :
    KeepsAMove (constEx { prio := prio, pick := fun m => !m.isUnderPromotion }) w := by
  intro hne
  have := (C20.skip_underpromo_legal_and_nonempty hw).1 hne
  obtain ⟨m, hm⟩ := List.exists_mem_of_ne_nil _ this
  obtain ⟨h1, h2⟩ := List.mem_filter.1 hm
  exact ⟨m, h1, h2⟩

theorem keeps_bernstein (limit : Int) (w : World) (hw : WF (w.cur 0).pos (w.board 0).turn) :
    KeepsAMove (bernsteinExplore limit) w := by
  intro hne
  have hpl := C20Bernstein.plausible_nonempty hw hne
  have hsound := (C20Bernstein.plausible_sound hw).1
  cases hl : Bernstein.findPlausibleMoves (w.cur 0).pos (w.board 0).turn with
  | nil => exact absurd hl hpl
  | cons m rest =>
    have hm : m ∈ Bernstein.truncate (Bernstein.findPlausibleMoves (w.cur 0).pos (w.board 0).turn) limit := by
      rw [hl]
      unfold Bernstein.truncate
      split
      · rename_i hc
        simp only [Bool.and_eq_true, decide_eq_true_eq] at hc
        have : 1 ≤ limit.toNat := by omega
        obtain ⟨k, hk⟩ : ∃ k, limit.toNat = k + 1 := ⟨limit.toNat - 1, by omega⟩
        rw [hk, List.take_succ_cons]
        exact List.mem_cons_self ..
      · exact List.mem_cons_self ..
    refine ⟨m, (hsound m (by rw [hl]; exact List.mem_cons_self ..)).1, ?_⟩
    show (Bernstein.explore limit (w.cur 0).pos (w.board 0).turn).2 m = true
    unfold Bernstein.explore
    exact (Proofs.Bernstein.selection_pick_iff _ m).2 hm

/-- **`0000` iff no legal move: full exploration** (`morlock`, `turochamp`: any leaf evaluation). -/
theorem null_iff_full (z : ZTable) (evw : World → Int) (le : LeafEval World) (w : World)
    (d : Nat) (a b : Score) (st st' : SState) (r : SearchResult)
    (h : alphaBetaSearch (boardGameW z evw) (constEx fullExploration) le w (d + 1) a b st = (some r, st'))
    (ha : NoLowerBound a) (hb : b.ty ≠ .negInf) (hopen : Open w) :
    r.pv = [] ↔ (w.cur 0).pos.legalMoves (w.board 0).turn = [] :=
  null_iff z evw _ le w d a b st st' r h ha hb hopen (keeps_full w)

/-- **`0000` iff no legal move: `SkipUnderPromotions`** (well-formed root). -/
theorem null_iff_skipUnderPromotions (z : ZTable) (evw : World → Int) (prio : Move → Int) (le : LeafEval World) (w : World)
    (d : Nat) (a b : Score) (st st' : SState) (r : SearchResult)
    (h : alphaBetaSearch (boardGameW z evw) (constEx { prio := prio, pick := fun m => !m.isUnderPromotion }) le w
      (d + 1) a b st = (some r, st'))
    (ha : NoLowerBound a) (hb : b.ty ≠ .negInf) (hopen : Open w) (hw : WF (w.cur 0).pos (w.board 0).turn) :
    r.pv = [] ↔ (w.cur 0).pos.legalMoves (w.board 0).turn = [] :=
  null_iff z evw _ le w d a b st st' r h ha hb hopen (keeps_skipUnderPromotions prio w hw)

/-- **`0000` iff no legal move: the BERNSTEIN search** (well-formed root, any table limit). -/
theorem null_iff_bernstein (z : ZTable) (evw : World → Int) (limit : Int) (le : LeafEval World) (w : World)
    (d : Nat) (a b : Score) (st st' : SState) (r : SearchResult)
    (h : alphaBetaSearch (boardGameW z evw) (bernsteinExplore limit) le w (d + 1) a b st = (some r, st'))
    (ha : NoLowerBound a) (hb : b.ty ≠ .negInf) (hopen : Open w) (hw : WF (w.cur 0).pos (w.board 0).turn) :
    r.pv = [] ↔ (w.cur 0).pos.legalMoves (w.board 0).turn = [] :=
  null_iff z evw _ le w d a b st st' r h ha hb hopen (keeps_bernstein limit w hw)

theorem newBoard_open (z : ZTable) (pos : Position) (turn : Model.Color) (np fm : Int) :
    Open (({} : World).newBoard z pos turn np fm).1 := by
  simp [Open, World.newBoard, World.board]

theorem pushResult_open (rep actual np : Int) (pos : Position) (m : Move) :
    (Arena.pushResult rep actual np pos m).reason ≠ .checkmate ∧ (Arena.pushResult rep actual np pos m).reason ≠ .stalemate := by
  -- every branch of `pushResult` is one of five literal results
  have ite {c : Prop} [Decidable c] {a b : Result} (ha : a.reason ≠ .checkmate ∧ a.reason ≠ .stalemate)
      (hb : b.reason ≠ .checkmate ∧ b.reason ≠ .stalemate) :
      (if c then a else b).reason ≠ .checkmate ∧ (if c then a else b).reason ≠ .stalemate := by
    split <;> assumption
  have h0 : ({} : Result).reason ≠ .checkmate ∧ ({} : Result).reason ≠ .stalemate := ⟨by decide, by decide⟩
  exact ite ⟨by decide, by decide⟩ (ite ⟨by decide, by decide⟩
    (ite (ite ⟨by decide, by decide⟩ (ite ⟨by decide, by decide⟩ h0)) h0))

/-- `PushMove` leaves the board open: it re-opens the result and only sets draws. -/
theorem pushMove_open {w w' : World} {z : ZTable} {m : Move} (h : w.pushMove z 0 m = some w') : Open w' := by
  obtain ⟨_, next, _, rfl⟩ := Arena.pushMove_some h
  unfold Open
  rw [Arena.setBoard_board]
  split
  · exact pushResult_open ..
  · rename_i hc
    have : (Arena.pushArena w 0 m (Arena.pushNode w z 0 m next)).boards.size = 0 := by omega
    have e : (Arena.pushArena w 0 m (Arena.pushNode w z 0 m next)).board 0 = default := by
      have this' : w.boards.size = 0 := this
      unfold World.board
      show w.boards.getD 0 default = default
      simp [Array.getD, this']
    rw [e]
    constructor <;> decide

theorem engine_reset_open (z : ZTable) (e : EngineM) (fen : List Char) (h : (EngineM.reset z e fen).2 = true) :
    Open (EngineM.reset z e fen).1.w := by
  unfold EngineM.reset at h ⊢
  cases hd : Fen.decode fen with
  | none => rw [hd] at h; cases h
  | some d => exact newBoard_open ..

theorem engine_move_open (z : ZTable) (e : EngineM) (s : List Char) (h : (e.move z s).2 = true) :
    Open (e.move z s).1.w := by
  unfold EngineM.move at h ⊢
  cases hp : Fen.parseMove s with
  | none => rw [hp] at h; cases h
  | some cand =>
    dsimp only at h ⊢
    rw [hp] at h
    dsimp only at h
    cases hf : ((e.w.cur 0).pos.pseudoLegalMoves (e.w.board 0).turn).find? (fun m => cand.equals m) with
    | none => rw [hf] at h; cases h
    | some m =>
      rw [hf] at h
      dsimp only at h ⊢
      cases hpm : e.w.pushMove z 0 m with
      | none => rw [hpm] at h; cases h
      | some w' => exact pushMove_open hpm

theorem extend_preserves {E : Type} (eng : UciPos.Eng E) (I : E → Prop)
    (hm : ∀ e a e', I e → eng.move e a = some e' → I e') :
    ∀ (ws : List (List Char)) (e : E), I e → I (UciPos.extend eng e ws).1 := by
  intro ws
  induction ws with
  | nil => intro e he; exact he
  | cons a as ih =>
    intro e he
    unfold UciPos.extend
    split
    · exact ih e he
    · split
      · rename_i e' h'
        exact ih e' (hm e a e' he h')
      · exact he

theorem position_preserves {E : Type} (eng : UciPos.Eng E) (I : E → Prop)
    (hr : ∀ f e, eng.reset f = some e → I e) (hm : ∀ e a e', I e → eng.move e a = some e' → I e')
    (st : E × List Char) (line : List Char) (h : I st.1) : I (UciPos.position eng st line).1 := by
  have fresh : ∀ e, I e → I (UciPos.fresh eng e line).1 := by
    intro e he
    unfold UciPos.fresh
    dsimp only
    split
    · exact he
    · rename_i e' h'
      exact extend_preserves eng I hm _ e' (hr _ e' h')
  unfold UciPos.position
  split
  · dsimp only
    split
    · exact extend_preserves eng I hm _ _ h
    · exact fresh _ (extend_preserves eng I hm _ _ h)
  · exact fresh _ h

/-- **The engine's board stays open under `position` commands** (sequential driver model). -/
theorem uciPosition_open (z : ZTable) (u : Driver.UciM) (line : String) (h : Open u.eng.w) :
    Open (Driver.uciPosition z u line).eng.w := by
  unfold Driver.uciPosition
  dsimp only
  refine position_preserves (Driver.engOf z u.hashMB) (fun s => Open s.1.w) ?_ ?_ _ _ h
  · intro f e he
    simp only [Driver.engOf] at he
    split at he
    · rename_i hok
      cases he
      exact engine_reset_open z default f hok
    · cases he
  · intro e a e' _ he
    simp only [Driver.engOf] at he
    split at he
    · rename_i hok
      cases he
      exact engine_move_open z e.1 a hok
    · cases he

/-! ## 3. The sequential driver model: `go depth n`

`Driver.uciGoDepth z u limit` (the `go` handler of the sequential model the `ucidet` stream compares with the real
driver: material evaluation, full exploration, iterative deepening 1..limit on a fork of the engine's board, sharing the
table `u.tt` — whatever it contains —, stopping early on a forced mate) returns the text after `bestmove `. -/

open Morlock.Driver

def searchWorld (w : World) : World := { nodes := (w.fork 0).1.nodes, boards := #[(w.fork 0).1.board (w.fork 0).2] }

theorem searchWorld_facts (w : World) :
    ((searchWorld w).cur 0).pos = (w.cur 0).pos ∧ ((searchWorld w).board 0).turn = (w.board 0).turn ∧
    ((searchWorld w).board 0).result = (w.board 0).result := by
  simp [searchWorld, World.fork, World.board, World.cur, World.node]

theorem search_isSome {P : Type} (g : Game P) (ex : P → Explore) (le : LeafEval P) (p : P) (d : Nat) (a b : Score)
    (st : SState) (hc : st.cancelAt = none) : ∃ r, (alphaBetaSearch g ex le p d a b st).1 = some r := by
  unfold alphaBetaSearch
  dsimp only
  have h := Det.alphabeta_cancelAt g ex le (g.ply p) d p (if a.isInvalid then negInfScore else a)
    (if b.isInvalid then infScore else b) { st with nodes := 0 }
  rw [Det.poll_fst_none (by rw [h]; exact hc)]
  exact ⟨_, rfl⟩

def bestText : Option Move → String
  | some m => moveUci m
  | none => "0000"

/-- The text `go depth` ends with is that of the head of the PV of a completed search of some depth `d' ≥ d`: the first
    iteration always completes (no cancellation in the sequential model), whatever text `s` it started from. -/
theorem iter_spec (limit : Nat) (g : Game World) (wf : World) :
    ∀ (fuel d : Nat) (tt : TTState) (s : String), ∃ d' tt0 r st', d ≤ d' ∧
      alphaBetaSearch g (constEx fullExploration) .static wf d' negInfScore infScore { tt := tt0 } = (some r, st') ∧
      (uciGoDepth.iter limit g wf (fuel + 1) d tt s).2 = bestText r.pv.head? := by
  intro fuel
  induction fuel with
  | zero =>
    intro d tt s
    obtain ⟨r, hr⟩ := search_isSome g (constEx fullExploration) .static wf d negInfScore infScore { tt := tt } rfl
    refine ⟨d, tt, r, _, Nat.le_refl _, Prod.ext hr rfl, ?_⟩
    unfold uciGoDepth.iter
    dsimp only
    rw [hr]
    dsimp only
    generalize (d == limit || _) = c
    cases c <;> cases r.pv <;> rfl
  | succ fuel ih =>
    intro d tt s
    obtain ⟨r, hr⟩ := search_isSome g (constEx fullExploration) .static wf d negInfScore infScore { tt := tt } rfl
    unfold uciGoDepth.iter
    dsimp only
    rw [hr]
    dsimp only
    generalize (d == limit || _) = c
    cases c
    · simp only [Bool.false_eq_true, if_false]
      obtain ⟨d', tt0, r', st', h1, h2, h3⟩ := ih (d + 1)
        (alphaBetaSearch g (constEx fullExploration) .static wf d negInfScore infScore { tt := tt }).2.tt
        (match r.pv with | m :: _ => moveUci m | [] => "0000")
      exact ⟨d', tt0, r', st', by omega, h2, h3⟩
    · exact ⟨d, tt, r, _, Nat.le_refl _, Prod.ext hr rfl, by cases r.pv <;> rfl⟩

theorem uciGoDepth_snd (z : ZTable) (u : UciM) (limit : Nat) :
    (uciGoDepth z u limit).2 = (uciGoDepth.iter limit (materialGame z) (searchWorld u.eng.w) limit 1 u.tt "0000").2 := rfl

theorem squareString_head (sq : Nat) : ∃ c rest, c ≠ '0' ∧ (Fen.squareString sq).toList = c :: rest := by
  unfold Fen.squareString
  dsimp only
  split <;> (refine ⟨_, _, ?_, String.toList_append ..⟩; decide)

theorem moveUci_ne_null (m : Move) : moveUci m ≠ "0000" := by
  intro h
  obtain ⟨c, rest, hc, e⟩ := squareString_head m.from
  have h0 : "0000".toList = ['0', '0', '0', '0'] := rfl
  have := congrArg String.toList h
  rw [moveUci, String.toList_append, String.toList_append, e, h0] at this
  injection this with h1 _
  exact hc h1

/-- **The `bestmove` of `go depth n` (n ≥ 1) in the sequential driver model.** Whatever the table `u.tt` contains: the
    text is `moveUci m` for a legal move `m` of the engine's current position, or `0000`; and it is `0000` iff that
    position has no legal move. (`om` is the head of the PV of the last completed iteration.) -/
theorem uciGoDepth_bestmove (z : ZTable) (u : Driver.UciM) (limit : Nat) (hl : 1 ≤ limit) (hopen : Open u.eng.w) :
    ∃ om : Option Move, (Driver.uciGoDepth z u limit).2 = bestText om ∧
      (∀ m, om = some m → m ∈ u.eng.pos.legalMoves u.eng.turn) ∧
      (om = none ↔ u.eng.pos.legalMoves u.eng.turn = []) ∧
      ((Driver.uciGoDepth z u limit).2 = "0000" ↔ u.eng.pos.legalMoves u.eng.turn = []) := by
  obtain ⟨fuel, rfl⟩ : ∃ fuel, limit = fuel + 1 := ⟨limit - 1, by omega⟩
  obtain ⟨d', tt0, r, st', hd, hs, hbest⟩ :=
    iter_spec (fuel + 1) (materialGame z) (searchWorld u.eng.w) fuel 1 u.tt "0000"
  obtain ⟨f1, f2, f3⟩ := searchWorld_facts u.eng.w
  have hopen' : Open (searchWorld u.eng.w) := by unfold Open; rw [f3]; exact hopen
  obtain ⟨d'', rfl⟩ : ∃ d'', d' = d'' + 1 := ⟨d' - 1, by omega⟩
  have hnull := null_iff_full z (fun w => f32keyOfInt (materialPawns (w.cur 0).pos (w.board 0).turn)) .static
    (searchWorld u.eng.w) d'' negInfScore infScore _ st' r hs (Or.inr rfl) (by decide) hopen'
  rw [f1, f2] at hnull
  have hlegal : ∀ m, r.pv.head? = some m → m ∈ u.eng.pos.legalMoves u.eng.turn := by
    intro m hm
    cases hpv : r.pv with
    | nil => rw [hpv] at hm; cases hm
    | cons m' rest =>
      rw [hpv] at hm
      cases hm
      have := (bestmove_legal z (fun w => f32keyOfInt (materialPawns (w.cur 0).pos (w.board 0).turn))
        (constEx fullExploration) .static (searchWorld u.eng.w) (d'' + 1) negInfScore infScore _ st' r hs m rest hpv).1
      rw [f1, f2] at this
      exact this
  have hnone : r.pv.head? = none ↔ u.eng.pos.legalMoves u.eng.turn = [] := by
    show r.pv.head? = none ↔ (u.eng.w.cur 0).pos.legalMoves (u.eng.w.board 0).turn = []
    rw [← hnull]
    cases r.pv <;> simp
  refine ⟨r.pv.head?, ?_, hlegal, hnone, ?_⟩
  · rw [uciGoDepth_snd, hbest]
  · rw [uciGoDepth_snd, hbest, ← hnone]
    cases hh : r.pv.head? with
    | none => simp [bestText]
    | some m => simp [bestText, moveUci_ne_null]

/-- **`position …` then `go depth n`**: the move answered is a legal move of the position the `position` command left in
    the engine (by C10, `C10Engine.engine_robust_state_eq_last`: the game the line describes), `0000` iff there is none. -/
theorem position_then_go (z : ZTable) (u : Driver.UciM) (line : String) (limit : Nat) (hl : 1 ≤ limit)
    (hopen : Open u.eng.w) :
    let u' := Driver.uciPosition z u line
    ∃ om : Option Move, (Driver.uciGoDepth z u' limit).2 = bestText om ∧
      (∀ m, om = some m → m ∈ u'.eng.pos.legalMoves u'.eng.turn) ∧
      ((Driver.uciGoDepth z u' limit).2 = "0000" ↔ u'.eng.pos.legalMoves u'.eng.turn = []) := by
  intro u'
  obtain ⟨om, h1, h2, _, h4⟩ := uciGoDepth_bestmove z u' limit hl (uciPosition_open z u line hopen)
  exact ⟨om, h1, h2, h4⟩

/-- The driver starts with an open board (`uciOp`: `u0 := (EngineM.reset z default initFen).1`). -/
theorem initial_open (z : ZTable) (fen : List Char) : Open (EngineM.reset z default fen).1.w := by
  cases h : (EngineM.reset z default fen).2 with
  | true => exact engine_reset_open z default fen h
  | false =>
    have : (EngineM.reset z default fen).1 = default := by
      unfold EngineM.reset at h ⊢
      cases hd : Fen.decode fen with
      | none => rfl
      | some d => rw [hd] at h; cases h
    rw [this]
    constructor <;> decide

/-! ## 4. What this means for the small-step models

In `Model/UciConc` a `bestmove` event is `Line.bestmove id d`, where `d` is the PV the forwarder / `stop` handed to
`searchCompleted`: the number of the iteration it belongs to (`C15`: what `Halt` returns is a completed iteration,
`d ≥ 1`), or `0` for the empty `search.PV{}`. For `d ≥ 1` the text printed is `bestText (pv_d).head?` where `pv_d` is the PV
`AlphaBeta.Search` returned at depth `d` — from whatever table the earlier iterations left, on a context that may be
cancelled later — so `bestmove_legal` and `null_iff_*` apply to it verbatim: they quantify over every depth `d ≥ 1`,
every table and every cancellation point. For `d = 0` the driver prints `0000` whatever the position is; the small-step
model allows that event (its searcher may exit before completing an iteration, e.g. when the parent context is
cancelled), and `C04.answered` does not exclude it: this is the part of "`0000` only without legal moves" that is **not**
proved here (it needs "the search a `bestmove` answers completed depth 1", a statement about `IterConc` composed with
`UciConc`).

## Non-vacuity -/

section Examples

/-- the hypotheses of `bestmove_legal` / `null_iff_full` / `bestmove_legal_spec` on a concrete world: `wE`
    (`r3k2r/1P6/8/3pP3/8/8/8/R3K2R w KQkq d6`, 36 generated moves), depth 3, **with a table** of 128 slots. The search returns a
    result, its PV is not empty, and its head is a legal move of the model and of the reference rules. -/
example : ∃ r st' m rest, alphaBetaSearch gX fullX .static wE 3 invalidScore invalidScore st4k = (some r, st') ∧
    r.pv = m :: rest ∧ m ∈ (wE.cur 0).pos.legalMoves (wE.board 0).turn ∧
    absMove m ∈ Spec.legalMoves (abs (wE.cur 0).pos (wE.board 0).turn) := by
  obtain ⟨r, hr⟩ := search_isSome gX fullX .static wE 3 invalidScore invalidScore st4k rfl
  have hs : alphaBetaSearch (boardGameW exZ (fun w => f32keyOfInt (materialPawns (w.cur 0).pos (w.board 0).turn)))
      (constEx fullExploration) .static wE 3 invalidScore invalidScore st4k = (some r, _) := Prod.ext hr rfl
  have hopen : Open wE := by unfold wE; exact newBoard_open ..
  have hne : (wE.cur 0).pos.legalMoves (wE.board 0).turn ≠ [] := (legalAny_iff exZ _ wE hopen).1 wE_legal
  have hnull := null_iff_full exZ _ .static wE 2 invalidScore invalidScore st4k _ r hs noLowerBound_invalid
    (by decide) hopen
  cases hpv : r.pv with
  | nil => exact absurd (hnull.1 hpv) hne
  | cons m rest =>
    exact ⟨r, _, m, rest, hs, hpv, (bestmove_legal exZ _ _ .static wE 3 _ _ st4k _ r hs m rest hpv).1,
      bestmove_legal_spec exZ _ _ .static wE 3 _ _ st4k _ r hs m rest hpv wE_inv.2.2.1⟩

/-- mate and stalemate: the PV is empty, the driver prints `0000` (`wM`: `7k/6Q1/6K1/8/8/8/8/8 b`, `wT`: `7k/5Q2/6K1/8/8/8/8/8 b`) -/
example : ∀ w ∈ [wM, wT], ∃ r st', alphaBetaSearch gX fullX .static w 2 invalidScore invalidScore st4k = (some r, st') ∧
    r.pv = [] := by
  intro w hw
  obtain ⟨r, hr⟩ := search_isSome gX fullX .static w 2 invalidScore invalidScore st4k rfl
  have hs : alphaBetaSearch (boardGameW exZ (fun w => f32keyOfInt (materialPawns (w.cur 0).pos (w.board 0).turn)))
      (constEx fullExploration) .static w 2 invalidScore invalidScore st4k = (some r, _) := Prod.ext hr rfl
  have hopen : Open w := by
    simp only [List.mem_cons, List.not_mem_nil, or_false] at hw
    rcases hw with rfl | rfl
    · unfold wM; exact newBoard_open ..
    · unfold wT; exact newBoard_open ..
  have hnil : (w.cur 0).pos.legalMoves (w.board 0).turn = [] := by
    have hl : legalAny gX w (gX.moves w) = false := by
      simp only [List.mem_cons, List.not_mem_nil, or_false] at hw
      rcases hw with rfl | rfl
      · exact wM_facts.2.1
      · exact wT_facts.2.1
    exact Classical.byContradiction fun hne => by
      have h : legalAny gX w (gX.moves w) = true := (legalAny_iff exZ _ w hopen).2 hne
      rw [hl] at h; cases h
  exact ⟨r, _, hs, (null_iff_full exZ _ .static w 1 invalidScore invalidScore st4k _ r hs noLowerBound_invalid
    (by decide) hopen).2 hnil⟩

/-- Kh1, Pb7 against Rg8, Ra2, Ke5 (`C20.promoOnlyPos`): White's only legal moves are the four promotions on b8. -/
def wP : World := (({} : World).newBoard exZ C20.promoOnlyPos .white 0 1).1

/-- **null_with_legal_moves_model.** The hypothesis `KeepsAMove` cannot be dropped: `AlphaBeta{Explore: captures only}`
    (`capX`, the exploration the driver's quiescence configurations use *at the leaves*) as the exploration of the main
    search returns an empty PV — the driver would print `bestmove 0000` — at `wP`, which has four legal moves. No bundled
    engine configures its main search like that (`morlock`, `turochamp`: full; `sargon`: `keeps_skipUnderPromotions`;
    `bernstein`: `keeps_bernstein`). -/
theorem null_with_legal_moves_model :
    ((alphaBetaSearch gX capX .static wP 1 invalidScore invalidScore {}).1.map (·.pv)) = some [] ∧
    ((wP.cur 0).pos.legalMoves (wP.board 0).turn).length = 4 ∧ Open wP := by
  refine ⟨by decide +kernel, by decide +kernel, newBoard_open ..⟩

/-- the sequential driver: initial position, `position startpos moves e2e4`, then `go depth 2` (hypotheses of
    `position_then_go`; no evaluation of the search) -/
example : let u0 : Driver.UciM := { eng := (EngineM.reset exZ default UciPos.initialFen).1 }
    let u' := Driver.uciPosition exZ u0 "position startpos moves e2e4"
    ∃ om : Option Move, (Driver.uciGoDepth exZ u' 2).2 = bestText om ∧
      (∀ m, om = some m → m ∈ u'.eng.pos.legalMoves u'.eng.turn) ∧
      ((Driver.uciGoDepth exZ u' 2).2 = "0000" ↔ u'.eng.pos.legalMoves u'.eng.turn = []) :=
  -- stated for a variable `fen`, so that the unifier does not decode the FEN to compare the two boards
  have h (fen : List Char) : Open ({ eng := (EngineM.reset exZ default fen).1 } : Driver.UciM).eng.w := initial_open exZ fen
  position_then_go exZ _ _ 2 (by decide) (h _)

end Examples

end Morlock.Props.C04Legal
