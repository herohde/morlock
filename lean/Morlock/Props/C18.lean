import Morlock.Proofs.DetSim
import Morlock.Proofs.DetSeed
import Morlock.Proofs.DetFork
import Morlock.Proofs.DetState
import Morlock.Props.C11
import Morlock.Proofs.ChainSeed
/-!
# C18 — the search is deterministic, independent of the hash seed, and analysis never touches the game

Subjects: `Model.alphabeta` / `Model.alphaBetaSearch` / `Model.quiesce` (`Morlock/Model/Search.lean`), the search
game on the arena board `Model.boardGame z evalKey` (`Morlock/Model/BoardGame.lean`; `pushMove z` uses the Zobrist
table `z` for node hashes and the repetition map), and `World.fork` (`Morlock/Model/Board.lean`). Evaluation noise
does not exist in the model (`Game.eval` is a function of the position).

§1: a simulation (`Sim`, depth-indexed `SimN`: `Proofs/DetSim.lean`) relates positions of two games that agree on
what the search reads - `isDraw`, `ply`, `moves`, `inCheck`, `eval`, *not the hash* - and whose generated moves are
refused by both or lead to related positions; searches from related positions return the same. §2: two boards that
show the same game under two Zobrist tables (`SameGame`, `SeedBase`, `SeedRel`: `Proofs/DetSeed.lean`) are so
related, *provided* every generated move of the next `n` plies is a `GoodStep` of C05 (`GoodTree`, `GoodPlay`); §6
derives that hypothesis from `WFplay` of the start position. §3: what earlier searches leave in the state does not
matter. §4: analysis runs on a fork, rebased as board 0 (`Proofs/DetFork.lean`), and the engine's board is untouched.
§5: instances and evaluated cross-checks.
-/
namespace Morlock.Props.C18
open Morlock Morlock.Model Morlock.Model.World Morlock.Model.Score Morlock.Proofs Morlock.Proofs.Arena
  Morlock.Proofs.Draw Morlock.Proofs.Det
variable {P P1 P2 : Type}

/-! ## 1. the result is a function of what the game lets the search observe -/

/-- **function_of_game.** Let `R` be a simulation between `g1` and `g2` (hashes *not* compared). Without a table
(`st.tt.slots.size = 0`), from related positions, with the same window and the same state (hence the same
`cancelAt` / `polls`), the two searches return literally the same triple: score, principal variation and final
state — node count, poll count, `fuelOut`, and the (still empty) table. -/
theorem function_of_game {g1 : Game P1} {g2 : Game P2} {R : P1 → P2 → Prop} (hsim : Sim g1 g2 R)
    {ex1 : P1 → Explore} {ex2 : P2 → Explore} (hex : ExRel (fun _ => R) ex1 ex2)
    {le1 : LeafEval P1} {le2 : LeafEval P2} (hle : LeRel (fun _ => R) le1 le2)
    (rootPly : Int) (d : Nat) {p1 : P1} {p2 : P2} (h : R p1 p2) (alpha beta : Score) (st : SState)
    (htt : st.tt.slots.size = 0) :
    alphabeta g1 ex1 le1 rootPly d p1 alpha beta st = alphabeta g2 ex2 le2 rootPly d p2 alpha beta st :=
  alphabeta_congr hsim.simN (stRel_empty g1 g2 _) And.left hex hle rootPly d (d + leafDepth le1) p1 p2 h (Nat.le_refl _)
    alpha beta st ⟨rfl, htt⟩

/-- **function_of_game**, bounded form: a depth-indexed simulation `R` and positions related at an index
`n ≥ d + leafDepth le` suffice. -/
theorem function_of_game_bounded {g1 : Game P1} {g2 : Game P2} {R : Nat → P1 → P2 → Prop} (hsim : SimN g1 g2 R)
    {ex1 : P1 → Explore} {ex2 : P2 → Explore} (hex : ExRel R ex1 ex2)
    {le1 : LeafEval P1} {le2 : LeafEval P2} (hle : LeRel R le1 le2)
    (rootPly : Int) (d n : Nat) (hn : d + leafDepth le1 ≤ n) {p1 : P1} {p2 : P2}
    (h : R n p1 p2) (alpha beta : Score) (st : SState) (htt : st.tt.slots.size = 0) :
    alphabeta g1 ex1 le1 rootPly d p1 alpha beta st = alphabeta g2 ex2 le2 rootPly d p2 alpha beta st :=
  alphabeta_congr hsim (stRel_empty g1 g2 R) And.left hex hle rootPly d n p1 p2 h hn alpha beta st ⟨rfl, htt⟩

/-- **function_of_game** with a table of any size and content: it then suffices that related positions also
carry the same hash. -/
theorem function_of_game_tt {g1 : Game P1} {g2 : Game P2} {R : P1 → P2 → Prop} (hsim : Sim g1 g2 R)
    (hhash : ∀ {p1 p2}, R p1 p2 → g1.hash p1 = g2.hash p2)
    {ex1 : P1 → Explore} {ex2 : P2 → Explore} (hex : ExRel (fun _ => R) ex1 ex2)
    {le1 : LeafEval P1} {le2 : LeafEval P2} (hle : LeRel (fun _ => R) le1 le2) (rootPly : Int) (d : Nat)
    {p1 : P1} {p2 : P2} (h : R p1 p2) (alpha beta : Score) (st : SState) :
    alphabeta g1 ex1 le1 rootPly d p1 alpha beta st = alphabeta g2 ex2 le2 rootPly d p2 alpha beta st :=
  alphabeta_congr hsim.simN (stRel_hash (R := fun _ => R) (fun h => hhash h)) id hex hle rootPly d (d + leafDepth le1) p1 p2
    h (Nat.le_refl _) alpha beta st rfl

/-- **function_of_game** for `Quiescence` (which never looks at the hash or the table: any state). -/
theorem function_of_game_quiesce {g1 : Game P1} {g2 : Game P2} {R : P1 → P2 → Prop} (hsim : Sim g1 g2 R)
    {ex1 : P1 → Explore} {ex2 : P2 → Explore} (hex : ExRel (fun _ => R) ex1 ex2) (fuel : Nat) {p1 : P1} {p2 : P2}
    (h : R p1 p2) (alpha beta : Score) (st : SState) :
    quiesce g1 ex1 fuel p1 alpha beta st = quiesce g2 ex2 fuel p2 alpha beta st :=
  have := quiesce_rel hsim.simN ctrRel_eq hex fuel fuel p1 p2 h (Nat.le_refl _) alpha beta st st rfl
  Prod.ext this.fst this.snd

/-- **function_of_game** for `QuietSearch` (static leaf or quiescence). -/
theorem function_of_game_quietSearch {g1 : Game P1} {g2 : Game P2} {R : P1 → P2 → Prop} (hsim : Sim g1 g2 R)
    {le1 : LeafEval P1} {le2 : LeafEval P2} (hle : LeRel (fun _ => R) le1 le2) {p1 : P1} {p2 : P2} (h : R p1 p2)
    (alpha beta : Score) (st : SState) :
    quietSearch g1 le1 p1 alpha beta st = quietSearch g2 le2 p2 alpha beta st :=
  have := quietSearch_rel hsim.simN ctrRel_eq hle h (Nat.le_refl _) alpha beta (rfl : st = st)
  Prod.ext this.fst this.snd

/-- **function_of_game** for `AlphaBeta.Search`: the same reported result (`none` = halted, or node count, score
and PV) and the same final state. -/
theorem function_of_game_search {g1 : Game P1} {g2 : Game P2} {R : P1 → P2 → Prop} (hsim : Sim g1 g2 R)
    {ex1 : P1 → Explore} {ex2 : P2 → Explore} (hex : ExRel (fun _ => R) ex1 ex2)
    {le1 : LeafEval P1} {le2 : LeafEval P2} (hle : LeRel (fun _ => R) le1 le2) {p1 : P1} {p2 : P2} (h : R p1 p2)
    (d : Nat) (a b : Score) (st : SState)
    (htt : st.tt.slots.size = 0) :
    alphaBetaSearch g1 ex1 le1 p1 d a b st = alphaBetaSearch g2 ex2 le2 p2 d a b st :=
  alphaBetaSearch_congr hsim.simN (stRel_empty g1 g2 _) And.left hex hle (n := d + leafDepth le1) h d (Nat.le_refl _) a b st
    ⟨rfl, htt⟩

/-- In particular the hash function of a game is irrelevant without a table: replace it by anything. -/
theorem hash_irrelevant (g : Game P) (hash' : P → Nat) (ex : P → Explore) (le : LeafEval P) (rootPly : Int) (d : Nat)
    (p : P) (alpha beta : Score) (st : SState) (htt : st.tt.slots.size = 0) :
    alphabeta g ex le rootPly d p alpha beta st = alphabeta { g with hash := hash' } ex le rootPly d p alpha beta st :=
  function_of_game (sim_withHash g hash') (ExRel.eq ex) (LeRel.eq le) rootPly d rfl alpha beta st htt

/-! ## 2. the search on the arena board does not depend on the Zobrist table -/

/-- **The simulation step.** Two boards, each with a good history under its own table, show the same game; a move
that is a `GoodStep` whenever `Position.move` accepts it is refused by both boards or accepted by both, and afterwards
they again show the same game, with the *same reported result*, and have good histories. (The results come from C05
`draw_iff_good` on both sides; nothing about the verdict is assumed.) -/
theorem sameGame_step {z1 z2 : ZTable} (hz1 : z1.enpassant 0 = 0) (hz2 : z2.enpassant 0 = 0) {w1 w2 : World}
    {b1 b2 : Nat} (h : SeedBase z1 z2 w1 b1 w2 b2) {m : Move}
    (hstep : ∀ q, (w1.cur b1).pos.move m = some q → GoodStep (w1.cur b1).pos (w1.board b1).turn m q) :
    ORel (fun w1' w2' => SeedBase z1 z2 w1' b1 w2' b2 ∧ (w1'.board b1).result = (w2'.board b2).result)
      (w1.pushMove z1 b1 m) (w2.pushMove z2 b2 m) :=
  (seedBase_push hz1 hz2 h hstep).imp fun _ _ _ _ hb => ⟨hb, hb.same.result⟩

theorem seed_simulation {z1 z2 : ZTable} (hz1 : z1.enpassant 0 = 0) (hz2 : z2.enpassant 0 = 0)
    (ev : Position → Color → Int) : SimN (boardGame z1 ev) (boardGame z2 ev) (SeedRel z1 z2) :=
  simN_of_sameGame ev (fun h => h.base.same) fun m h hm =>
    (seedBase_push_then hz1 hz2 h.base (T := GoodTree _) fun q hq => h.tree m hm q hq).imp
      fun _ _ _ _ hb => ⟨hb.1, hb.2⟩

/-- **seed_independent.** Let board 0 of `w1` (hashed with `z1`) and board 0 of `w2` (hashed with `z2`) show the
same game, each with a good history under its own table, and let every generated move accepted within the next
`n ≥ d + leafDepth le` plies be a good step (`SeedRel z1 z2 n w1 w2`). Then, without a table, the two searches
return the same result (halted or not, node count, score, PV) and the same final state. -/
theorem seed_independent {z1 z2 : ZTable} (hz1 : z1.enpassant 0 = 0) (hz2 : z2.enpassant 0 = 0)
    (ev : Position → Color → Int) (ex : World → Explore) (le : LeafEval World)
    (hex : ExRel (SeedRel z1 z2) ex ex) (hle : LeRel (SeedRel z1 z2) le le) {n : Nat} {w1 w2 : World}
    (h : SeedRel z1 z2 n w1 w2) (d : Nat) (hn : d + leafDepth le ≤ n) (a b : Score) (st : SState)
    (htt : st.tt.slots.size = 0) :
    alphaBetaSearch (boardGame z1 ev) ex le w1 d a b st = alphaBetaSearch (boardGame z2 ev) ex le w2 d a b st :=
  alphaBetaSearch_congr (seed_simulation hz1 hz2 ev) (stRel_empty _ _ _) And.left hex hle h d hn a b st ⟨rfl, htt⟩

/-- **seed_independent** for `alphabeta` itself (any root ply, any window). -/
theorem seed_independent_alphabeta {z1 z2 : ZTable} (hz1 : z1.enpassant 0 = 0) (hz2 : z2.enpassant 0 = 0)
    (ev : Position → Color → Int) (ex : World → Explore) (le : LeafEval World)
    (hex : ExRel (SeedRel z1 z2) ex ex) (hle : LeRel (SeedRel z1 z2) le le) (rootPly : Int) {n : Nat} {w1 w2 : World}
    (h : SeedRel z1 z2 n w1 w2) (d : Nat) (hn : d + leafDepth le ≤ n) (alpha beta : Score) (st : SState)
    (htt : st.tt.slots.size = 0) :
    alphabeta (boardGame z1 ev) ex le rootPly d w1 alpha beta st =
      alphabeta (boardGame z2 ev) ex le rootPly d w2 alpha beta st :=
  alphabeta_congr (seed_simulation hz1 hz2 ev) (stRel_empty _ _ _) And.left hex hle rootPly d n w1 w2 h hn alpha beta st
    ⟨rfl, htt⟩

/-- **seed_independent, worlds built by the same operations.** Set up a board on `pos` (clock `np ≥ 0`) in the
empty world with table `z1`, and another with table `z2`; play the same moves `ms` on both. If the moves are good
steps and so is every generated move within `n ≥ d + leafDepth le` plies of the position reached (`GoodPlay`),
then both move sequences are accepted or both refused, and in the former case the searches of the two worlds
return the same result and final state. -/
theorem seed_independent_play {z1 z2 : ZTable} (hz1 : z1.enpassant 0 = 0) (hz2 : z2.enpassant 0 = 0)
    (ev : Position → Color → Int) (ex : World → Explore) (le : LeafEval World)
    (hex : ExRel (SeedRel z1 z2) ex ex) (hle : LeRel (SeedRel z1 z2) le le) (pos : Position) (turn : Color) {np : Int}
    (hnp : 0 ≤ np) (fm : Int) (ms : List Move) (n : Nat) (hgood : GoodPlay n pos turn ms) (d : Nat)
    (hn : d + leafDepth le ≤ n) (a b : Score) (st : SState) (htt : st.tt.slots.size = 0) :
    ORel (fun w1 w2 => SeedRel z1 z2 n w1 w2 ∧
        alphaBetaSearch (boardGame z1 ev) ex le w1 d a b st = alphaBetaSearch (boardGame z2 ev) ex le w2 d a b st)
      (pushAll z1 0 (({} : World).newBoard z1 pos turn np fm).1 ms)
      (pushAll z2 0 (({} : World).newBoard z2 pos turn np fm).1 ms) :=
  (seedRel_newBoard_play hz1 hz2 pos turn hnp fm n ms hgood).imp fun _ _ _ _ hr =>
    ⟨hr, seed_independent hz1 hz2 ev ex le hex hle hr d hn a b st htt⟩

/-- Worlds that are literally equal - node by node, board by board - except for the node hashes and the repetition
maps (`SameArena`) show the same game on every board. (`SameGame` is weaker: it compares only what a board can read,
so unreachable nodes and arena indices do not matter.) -/
theorem sameGame_of_equal_up_to_hashes {w1 w2 : World} (h : SameArena w1 w2) (b : Nat) : SameGame w1 b w2 b := by
  have hb := h.board b
  have hcur : (w1.board b).current = (w2.board b).current := (congrArg Board.current hb :)
  have hn : unhash (w1.cur b) = unhash (w2.cur b) := by
    unfold World.cur; rw [hcur]; exact h.node _
  have hprev : (w1.cur b).prev = (w2.cur b).prev := (congrArg Node.prev hn :)
  refine ⟨(congrArg Node.pos hn :), (congrArg Node.noprogress hn :), ?_, (congrArg Board.turn hb :), (congrArg Board.ply hb :),
    (congrArg Board.moves hb :), (congrArg Board.castledW hb :), (congrArg Board.castledB hb :), (congrArg Board.result hb :)⟩
  show ((anc w1 (w1.cur b).prev).map eraseNode).map unhash = ((anc w2 (w2.cur b).prev).map eraseNode).map unhash
  rw [hprev]
  unfold anc
  rw [h.ancIdx, List.map_map, List.map_map, List.map_map, List.map_map]
  apply List.map_congr_left
  intro j _
  have := h.node j
  simp only [Function.comp, unhash, eraseNode, Node.mk.injEq] at this ⊢
  exact ⟨this.1, trivial, this.2.2.1, this.2.2.2.1, trivial⟩

theorem sameGame_equiv :
    (∀ (w : World) (b : Nat), SameGame w b w b) ∧
    (∀ {w1 w2 : World} {b1 b2 : Nat}, SameGame w1 b1 w2 b2 → SameGame w2 b2 w1 b1) ∧
    (∀ {w1 w2 w3 : World} {b1 b2 b3 : Nat}, SameGame w1 b1 w2 b2 → SameGame w2 b2 w3 b3 → SameGame w1 b1 w3 b3) :=
  ⟨fun _ _ => SameView.refl _, fun h => h.symm, fun h h' => h.trans h'⟩

/-! ## 3. the search is a function -/

/-- **repeatable.** `alphaBetaSearch` is a function of its arguments, the state passed in (`SState`: table, counters,
cancellation instant) among them: the model has no other state, so whatever one search is to leave for the next has to
be passed in through `st`. -/
theorem repeatable (g : Game P) (ex : P → Explore) (le : LeafEval P) (d : Nat) {p p' : P} {a a' b b' : Score}
    {st st' : SState} (hp : p = p') (ha : a = a') (hb : b = b') (hst : st = st') :
    alphaBetaSearch g ex le p d a b st = alphaBetaSearch g ex le p' d a' b' st' := by
  subst hp ha hb hst; rfl

/-- **repeatable**, another search in between: nothing but the arguments is shared. -/
theorem repeatable_after {Q : Type} (g' : Game Q) (ex' : Q → Explore) (le' : LeafEval Q) (q : Q) (d' : Nat) (a' b' : Score)
    (st' : SState) (g : Game P) (ex : P → Explore) (le : LeafEval P) (p : P) (d : Nat) (a b : Score) (st : SState) :
    (let _other := alphaBetaSearch g' ex' le' q d' a' b' st'
     alphaBetaSearch g ex le p d a b st) = alphaBetaSearch g ex le p d a b st := rfl

/-- **The state left by earlier searches does not matter** (no cancellation). A search state carries, besides the
table, only counters (`nodes`, `polls`) and the flag `fuelOut`; they are only ever added to / or-ed
(`Proofs.Det.alphabeta_shift`). So from any two states with the same table and no cancellation instant,
`alphaBetaSearch` reports the same result: halted or not, node count, score and PV. -/
theorem state_irrelevant (g : Game P) (ex : P → Explore) (le : LeafEval P) (p : P) (d : Nat) (a b : Score)
    {st1 st2 : SState} (htt : st1.tt = st2.tt) (h1 : st1.cancelAt = none) (h2 : st2.cancelAt = none) :
    (alphaBetaSearch g ex le p d a b st1).1 = (alphaBetaSearch g ex le p d a b st2).1 := by
  rw [alphaBetaSearch_fresh g ex le p d a b st1 h1, alphaBetaSearch_fresh g ex le p d a b st2 h2, htt]

/-- **repeatable, with the state threaded through.** Start without a table and without cancellation; run any other
search first and hand the state it leaves to ours: ours reports exactly what it reports when run first. -/
theorem repeatable_threaded {Q : Type} (g' : Game Q) (ex' : Q → Explore) (le' : LeafEval Q) (q : Q) (d' : Nat) (a' b' : Score)
    (g : Game P) (ex : P → Explore) (le : LeafEval P) (p : P) (d : Nat) (a b : Score) (st : SState)
    (htt : st.tt.slots.size = 0) (hc : st.cancelAt = none) :
    (alphaBetaSearch g ex le p d a b (alphaBetaSearch g' ex' le' q d' a' b' st).2).1 =
      (alphaBetaSearch g ex le p d a b st).1 :=
  state_irrelevant g ex le p d a b (alphaBetaSearch_tt_empty g' ex' le' q d' a' b' st htt)
    ((alphaBetaSearch_cancelAt g' ex' le' q d' a' b' st).trans hc) hc

theorem repeatable_twice (g : Game P) (ex : P → Explore) (le : LeafEval P) (p : P) (d : Nat) (a b : Score) (st : SState)
    (htt : st.tt.slots.size = 0) (hc : st.cancelAt = none) :
    (alphaBetaSearch g ex le p d a b (alphaBetaSearch g ex le p d a b st).2).1 =
      (alphaBetaSearch g ex le p d a b st).1 :=
  repeatable_threaded g ex le p d a b g ex le p d a b st htt hc

/-- When a table *is* carried over (`st.tt` of a previous search), the result can differ only through it — and by
C11 the root score does not: over any sound table, without cancellation, at the full window, it is the score of
the search without a table (`C11.transparent`). -/
theorem carried_table_same_score (g : Game P) (ex : P → Explore) (le : LeafEval P) (rootPly : Int)
    (hev : Proofs.AB.EvalOk g) (hh : Proofs.AB.HashOK g ex le) (hrf : Proofs.AB.RootFree g rootPly) (d : Nat)
    (hd : Proofs.AB.leafGrade le + d ≤ 127) (p : P) (st : SState) (hs : Proofs.AB.Sound g ex le st.tt)
    (hc : st.cancelAt = none) (st0 : SState) (h0 : st0.tt.slots.size = 0) (hc0 : st0.cancelAt = none) :
    (alphabeta g ex le rootPly d p negInfScore infScore st).1 =
      (alphabeta g ex le rootPly d p negInfScore infScore st0).1 :=
  (C11.transparent g ex le rootPly hev hh hrf d hd p st hs hc st0 h0 hc0).2

/-- **seed_independent, with a table on each side.** Two engines show the same game under different Zobrist tables,
and each searches over its *own* transposition table: any size, any content that is sound for its own game on the
region its search explores (C11's hypotheses in the region form, `C11.transparent_on`; what earlier searches left is
sound, `C11.sound_preserved_on`). At the full window and without cancellation the two root scores are equal. Node
counts and PVs are not claimed: which entries collide depends on the seed. -/
theorem seed_independent_with_tables {z1 z2 : ZTable} (hz1 : z1.enpassant 0 = 0) (hz2 : z2.enpassant 0 = 0)
    (ev : Position → Color → Int) (ex : World → Explore) (le : LeafEval World)
    (hex : ExRel (SeedRel z1 z2) ex ex) (hle : LeRel (SeedRel z1 z2) le le) (rootPly : Int) {n : Nat} {w1 w2 : World}
    (h : SeedRel z1 z2 n w1 w2) (d : Nat) (hn : d + leafDepth le ≤ n)
    (hev1 : Proofs.AB.EvalOk (boardGame z1 ev)) (hev2 : Proofs.AB.EvalOk (boardGame z2 ev))
    {R1 R2 : Nat → World → Prop} (hcl1 : Proofs.AB.Closed (boardGame z1 ev) ex R1)
    (hcl2 : Proofs.AB.Closed (boardGame z2 ev) ex R2)
    (hh1 : Proofs.AB.HashOKOn (boardGame z1 ev) ex le R1) (hh2 : Proofs.AB.HashOKOn (boardGame z2 ev) ex le R2)
    (hrf1 : Proofs.AB.RootFreeOn (boardGame z1 ev) R1 rootPly) (hrf2 : Proofs.AB.RootFreeOn (boardGame z2 ev) R2 rootPly)
    (hp1 : R1 d w1) (hp2 : R2 d w2)
    (hd : Proofs.AB.leafGrade le + d ≤ 127) (st1 st2 : SState)
    (hs1 : Proofs.AB.SoundOn (boardGame z1 ev) ex le R1 st1.tt) (hs2 : Proofs.AB.SoundOn (boardGame z2 ev) ex le R2 st2.tt)
    (hc1 : st1.cancelAt = none) (hc2 : st2.cancelAt = none) :
    (alphabeta (boardGame z1 ev) ex le rootPly d w1 negInfScore infScore st1).1 =
      (alphabeta (boardGame z2 ev) ex le rootPly d w2 negInfScore infScore st2).1 := by
  have e1 := (C11.transparent_on (boardGame z1 ev) ex le rootPly hev1 hcl1 hh1 hrf1 d hd w1 hp1 st1 hs1 hc1 {} rfl rfl).2
  have e2 := (C11.transparent_on (boardGame z2 ev) ex le rootPly hev2 hcl2 hh2 hrf2 d hd w2 hp2 st2 hs2 hc2 {} rfl rfl).2
  rw [e1, e2, seed_independent_alphabeta hz1 hz2 ev ex le hex hle rootPly h d hn negInfScore infScore {} rfl]

/-! ## 4. analysis never alters the engine's game -/

/-- **analysis_isolated.** Fork board 0 of the engine's world `w` (as `Engine.Analyze` does) and let the search do
any sequence of moves and take-backs on the fork that never goes below the fork point (`above 0 ops`; C08). Then
everything board 0 reports (`obs`: position, side, hash, clocks, counters, flags, last moves, `hasMoved`, the whole
repetition map, `identicalPositionCount`, result class) and its result are unchanged. -/
theorem analysis_isolated {w w' : World} {z : ZTable} {ops : List Op} (hw : WFWorld w) (hb : 0 < w.boards.size)
    (habove : above 0 ops = true) (hrun : run z (w.fork 0).2 (w.fork 0).1 ops = some w') :
    obs w' 0 = obs w 0 ∧ (w'.board 0).result = (w.board 0).result :=
  C08.fork_isolated_original hw hb habove hrun

/-- A depth-first search pushes and pops in balance (`Balanced`), and may be interrupted at any moment: every
prefix of a balanced sequence stays above the fork point, so `analysis_isolated` applies to it. -/
theorem analysis_isolated_balanced {w w' : World} {z : ZTable} {ops rest : List Op} (hw : WFWorld w)
    (hb : 0 < w.boards.size) (hbal : Balanced (ops ++ rest)) (hrun : run z (w.fork 0).2 (w.fork 0).1 ops = some w') :
    obs w' 0 = obs w 0 ∧ (w'.board 0).result = (w.board 0).result :=
  analysis_isolated hw hb (above_prefix ops rest 0 (above_balanced hbal 0)) hrun

/-- Forking itself does not disturb board 0 either, and the fork starts out reporting what board 0 reports. -/
theorem fork_harmless {w : World} (hw : WFWorld w) (hb : 0 < w.boards.size) :
    obs (w.fork 0).1 0 = obs w 0 ∧ obs (w.fork 0).1 (w.fork 0).2 = obs w 0 ∧
      ((w.fork 0).1.board (w.fork 0).2).result = (w.board 0).result :=
  ⟨(C08.fork_shares_past hw hb).2.1, (C08.fork_shares_past hw hb).1, (C08.fork_shares_past hw hb).2.2.1⟩

/-- **The search sees the fork exactly as it would see the engine's own board.** The search world of
`uciGoDepth` — `rebase` of the forked world: the fork as board 0 — has, on board 0, the view of the engine's board 0;
so with any table and any cancellation instant the search returns what it would return on the engine's world
itself. -/
theorem analysis_sees_the_game (z : ZTable) (ev : Position → Color → Int) (ex : World → Explore) (le : LeafEval World)
    (hex : ExRel (fun _ => ViewRel) ex ex) (hle : LeRel (fun _ => ViewRel) le le) {w : World}
    (hw : WFWorld w) (hb : 0 < w.boards.size) (d : Nat) (a b : Score) (st : SState) :
    alphaBetaSearch (boardGame z ev) ex le (rebase (w.fork 0).1 (w.fork 0).2) d a b st =
      alphaBetaSearch (boardGame z ev) ex le w d a b st :=
  search_of_view_eq z ev ex le hex hle (viewRel_fork hw hb) d a b st

/-- The engine's analysis step in the model: fork board 0, hand the search the rebased world, keep the world. -/
def analyze (z : ZTable) (ev : Position → Color → Int) (ex : World → Explore) (le : LeafEval World) (w : World) (d : Nat)
    (st : SState) : (Option SearchResult × SState) × World :=
  (alphaBetaSearch (boardGame z ev) ex le (rebase (w.fork 0).1 (w.fork 0).2) d invalidScore invalidScore st, w)

/-- **The model search is pure**: `alphaBetaSearch` returns a result and a search state, no world. So the engine's
world after analysis is literally the world before — and what the analysis reports is what a search of the engine's
own board would report. -/
theorem analyze_pure (z : ZTable) (ev : Position → Color → Int) (ex : World → Explore) (le : LeafEval World)
    (hex : ExRel (fun _ => ViewRel) ex ex) (hle : LeRel (fun _ => ViewRel) le le) {w : World}
    (hw : WFWorld w) (hb : 0 < w.boards.size) (d : Nat) (st : SState) :
    (analyze z ev ex le w d st).2 = w ∧
    (analyze z ev ex le w d st).1 = alphaBetaSearch (boardGame z ev) ex le w d invalidScore invalidScore st :=
  ⟨rfl, analysis_sees_the_game z ev ex le hex hle hw hb d _ _ st⟩

/-! ## 5. the hypotheses are satisfiable -/

section Example
open C13 (tiny allMoves mv)

/-- The tiny game of C13 played on positions shifted by 100, with another hash function. -/
def tiny' : Game Nat where
  isDraw := fun q => q == 104
  hash := fun q => 7 * q + 3
  ply := fun q => if q = 100 then 0 else if q < 103 then 1 else 2
  moves := fun q => if q < 103 then [mv 0, mv 1, mv 2] else [mv 0]
  push := fun q m => if q < 103 ∧ m.to < 2 then some (2 * (q - 100) + 1 + m.to + 100) else none
  inCheck := fun q => q == 103
  eval := fun q => 10 * (((q - 100) % 8 : Nat) : Int) - 35

/-- `q = p + 100` is a simulation between `tiny` and `tiny'` (their hashes differ everywhere). -/
theorem tiny_sim : Sim tiny tiny' (fun p q => q = p + 100) := by
  have h3 : ∀ p : Nat, p + 100 < 103 ↔ p < 3 := fun _ => Nat.add_lt_add_iff_right (k := 100) (m := 3)
  refine ⟨?_, ?_, ?_, ?_, ?_, ?_⟩
  · rintro p q rfl; simp only [tiny, tiny', Nat.reduceBeqDiff]
  · rintro p q rfl; simp only [tiny, tiny', Nat.add_eq_right, h3]
  · rintro p q rfl; simp only [tiny, tiny', h3]
  · rintro p q rfl; simp only [tiny, tiny', Nat.reduceBeqDiff]
  · rintro p q rfl; simp only [tiny, tiny', Nat.add_sub_cancel]
  · rintro p q m rfl _
    simp only [tiny, tiny', Nat.add_sub_cancel, h3]
    split
    · exact ORel.some_iff.mpr rfl
    · exact ORel.none_none

/-- `function_of_game` instantiated: same score, PV and final state on `tiny` from 0 and on `tiny'` from 100 —
main search with quiescence leaves, any window — although no two related positions have the same hash. -/
example (alpha beta : Score) :
    alphabeta tiny allMoves (.quiescence allMoves 2) 0 2 0 alpha beta {} =
      alphabeta tiny' allMoves (.quiescence allMoves 2) 0 2 100 alpha beta {} :=
  function_of_game tiny_sim (fun _ _ _ _ => rfl) (.quiescence 2 (fun _ _ _ _ => rfl)) 0 2 rfl alpha beta {} rfl

example : ∀ p, tiny.hash p ≠ tiny'.hash (p + 100) := by
  intro p; simp only [tiny, tiny', id]; omega

/-- Evaluated cross-check of that instance. -/
example :
    (alphabeta tiny allMoves .static 0 3 0 negInfScore infScore {}).1 = heuristicScore 0 ∧
    (alphabeta tiny' allMoves .static 0 3 100 negInfScore infScore {}).1 = heuristicScore 0 ∧
    (alphabeta tiny allMoves .static 0 3 0 negInfScore infScore {}).2.1 =
      (alphabeta tiny' allMoves .static 0 3 100 negInfScore infScore {}).2.1 ∧
    (alphabeta tiny allMoves .static 0 3 0 negInfScore infScore {}).2.2.nodes =
      (alphabeta tiny' allMoves .static 0 3 100 negInfScore infScore {}).2.2.nodes := by decide +kernel

/-- `repeatable_threaded` instantiated, and evaluated: a depth-3 search of `tiny` run after a depth-2 search of
`tiny'` on the state that one left behind (its counters are not zero) reports what it reports alone. -/
example :
    (alphaBetaSearch tiny allMoves .static 0 3 invalidScore invalidScore
      (alphaBetaSearch tiny' allMoves .static 100 2 invalidScore invalidScore {}).2).1 =
    (alphaBetaSearch tiny allMoves .static 0 3 invalidScore invalidScore {}).1 :=
  repeatable_threaded tiny' allMoves .static 100 2 _ _ tiny allMoves .static 0 3 _ _ {} rfl rfl

example :
    (alphaBetaSearch tiny' allMoves .static 100 2 invalidScore invalidScore {}).2.nodes = 6 ∧
    (alphaBetaSearch tiny allMoves .static 0 3 invalidScore invalidScore
      (alphaBetaSearch tiny' allMoves .static 100 2 invalidScore invalidScore {}).2).1.map (·.nodes) =
    (alphaBetaSearch tiny allMoves .static 0 3 invalidScore invalidScore {}).1.map (·.nodes) := by decide +kernel

/-- A second toy Zobrist table (`enpassant 0 = 0`), unrelated to `exZ` of C07. -/
def exZ2 : ZTable where
  pieces c k sq := 31 * (64 * (7 * c.code + k.code) + sq) + 5
  castling c := 17 * c + 3
  enpassant e := 7 * e
  turn c := 1000 * (c.code + 1)

/-- The K + N v K + N board of C05 (`C05.wS`, hashed with `exZ`), and the same set-up hashed with `exZ2`. -/
def wS2 : World := (({} : World).newBoard exZ2 C05.exPos .white 0 1).1

theorem ex_seedRel : SeedRel exZ exZ2 2 C05.wS wS2 :=
  ORel.some_iff.mp (seedRel_newBoard_play rfl rfl C05.exPos .white (Int.le_refl 0) 1 2 []
    (Chain.goodTree_of_wfplay 2 AB.c05_exPos_wfplay))

/-- `seed_independent` instantiated: the depth-2 material search (as `uciGoDepth` runs it) returns the same on
both boards … -/
example :
    alphaBetaSearch (materialGame exZ) (constEx fullExploration) .static C05.wS 2 invalidScore invalidScore {} =
      alphaBetaSearch (materialGame exZ2) (constEx fullExploration) .static wS2 2 invalidScore invalidScore {} :=
  seed_independent (z1 := exZ) (z2 := exZ2) rfl rfl _ (constEx fullExploration) .static (ExRel.const _ _) .static ex_seedRel 2 (Nat.le_refl 2) _ _ {} rfl

/-- … although the hashes of the two start nodes differ. -/
example : (C05.wS.cur 0).hash ≠ (wS2.cur 0).hash := by decide +kernel

/-- Seven moves of knight shuffling (`1. Nf3 Nf6 2. Ng1 Ng8 3. Nf3 Nf6 4. Ng1`): the next `… Ng8` repeats the
start position for the third time. -/
def ms7 : List Move := C05.shuffle ++ [C05.nf3, C05.nf6, C05.ng1]

theorem ex_playCheck : playTreeCheck 1 C05.exPos .white ms7 = true :=
  Chain.playTreeCheck_of_wfplay 1 ms7 AB.c05_exPos_wfplay (Chain.genPlay_of_check _ _ _ (by decide +kernel))

/-- `seed_independent_play` instantiated on that game: a search position where one generated move runs into a
three-fold repetition that `pushMove` finds through the (hash-keyed) repetition map. -/
example :
    ORel (fun w1 w2 => SeedRel exZ exZ2 1 w1 w2 ∧
        alphaBetaSearch (materialGame exZ) (constEx fullExploration) .static w1 1 invalidScore invalidScore {} =
          alphaBetaSearch (materialGame exZ2) (constEx fullExploration) .static w2 1 invalidScore invalidScore {})
      (pushAll exZ 0 C05.wS ms7) (pushAll exZ2 0 wS2 ms7) :=
  seed_independent_play (z1 := exZ) (z2 := exZ2) rfl rfl _ (constEx fullExploration) .static (ExRel.const _ _) .static C05.exPos .white (Int.le_refl 0) 1
    ms7 1 (goodPlay_of_check 1 ms7 C05.exPos .white C05.exPos_ok ex_playCheck) 1 (Nat.le_refl 1) _ _ {} rfl

/-- What the cross-check below evaluates on a board set up with table `z`: after `ms7`, the result reported when
`… Ng8` is played, and the depth-1 material search (node count, score, PV as squares). -/
def afterMs7 (z : ZTable) (w : World) : Option Result × Option (Nat × Score × List (Nat × Nat)) :=
  ((pushAll z 0 w ms7).bind fun w => (w.pushMove z 0 C05.ng8).map fun w' => (w'.board 0).result,
   (pushAll z 0 w ms7).bind fun w =>
    (alphaBetaSearch (materialGame z) (constEx fullExploration) .static w 1 invalidScore invalidScore {}).1.map
      fun r => (r.nodes, r.score, r.pv.map fun m => (m.from, m.to)))

theorem afterMs7_exZ : afterMs7 exZ C05.wS =
    (some { outcome := .draw, reason := .repetition3 }, some (12, heuristicScore 0, [(42, 25)])) := by decide +kernel

theorem afterMs7_exZ2 : afterMs7 exZ2 wS2 =
    (some { outcome := .draw, reason := .repetition3 }, some (12, heuristicScore 0, [(42, 25)])) := by decide +kernel

/-- Evaluated cross-check: both move sequences are accepted; on both boards `… Ng8` is then reported as a draw by
three-fold repetition, and the depth-1 searches return the same node count, score and PV. -/
example :
    ((pushAll exZ 0 C05.wS ms7).bind fun w => (w.pushMove exZ 0 C05.ng8).map fun w' => (w'.board 0).result) =
      some { outcome := .draw, reason := .repetition3 } ∧
    ((pushAll exZ2 0 wS2 ms7).bind fun w => (w.pushMove exZ2 0 C05.ng8).map fun w' => (w'.board 0).result) =
      some { outcome := .draw, reason := .repetition3 } :=
  ⟨(Prod.mk.inj afterMs7_exZ).1, (Prod.mk.inj afterMs7_exZ2).1⟩

example :
    ((pushAll exZ 0 C05.wS ms7).bind fun w =>
      (alphaBetaSearch (materialGame exZ) (constEx fullExploration) .static w 1 invalidScore invalidScore {}).1.map
        fun r => (r.nodes, r.score, r.pv.map fun m => (m.from, m.to))) = some (12, heuristicScore 0, [(42, 25)]) ∧
    ((pushAll exZ2 0 wS2 ms7).bind fun w =>
      (alphaBetaSearch (materialGame exZ2) (constEx fullExploration) .static w 1 invalidScore invalidScore {}).1.map
        fun r => (r.nodes, r.score, r.pv.map fun m => (m.from, m.to))) = some (12, heuristicScore 0, [(42, 25)]) :=
  ⟨(Prod.mk.inj afterMs7_exZ).2, (Prod.mk.inj afterMs7_exZ2).2⟩

/-- `analysis_isolated` / `analyze_pure` instantiated on the world of C08's examples: the engine's board 0 after an
analysis of any depth is the board before, and the fork-and-rebase search returns what a search of board 0 returns. -/
example (d : Nat) (st : SState) :
    (analyze C08.z0 (fun _ _ => 0) (constEx fullExploration) .static C08.w0 d st).2 = C08.w0 ∧
    (analyze C08.z0 (fun _ _ => 0) (constEx fullExploration) .static C08.w0 d st).1 =
      alphaBetaSearch (boardGame C08.z0 fun _ _ => 0) (constEx fullExploration) .static C08.w0 d invalidScore invalidScore st :=
  analyze_pure C08.z0 _ (constEx fullExploration) .static (ExRel.const _ _) .static C08.w0_wf (by decide) d st

/-- A balanced run on the fork (`push m0, push m1, pop, pop`), and a prefix of one, in that world. -/
example : Balanced [Op.push C08.m0, Op.push C08.m1, Op.pop, Op.pop] :=
  Balanced.node C08.m0 (Balanced.node C08.m1 Balanced.nil Balanced.nil) Balanced.nil

example : ∀ w', run C08.z0 (C08.w0.fork 0).2 (C08.w0.fork 0).1 [Op.push C08.m0, Op.push C08.m1, Op.pop] = some w' →
    obs w' 0 = obs C08.w0 0 ∧ (w'.board 0).result = (C08.w0.board 0).result := fun w' h =>
  analysis_isolated_balanced (rest := [Op.pop]) C08.w0_wf (by decide)
    (Balanced.node C08.m0 (Balanced.node C08.m1 Balanced.nil Balanced.nil) Balanced.nil) h

example : (run C08.z0 (C08.w0.fork 0).2 (C08.w0.fork 0).1 [Op.push C08.m0, Op.push C08.m1, Op.pop]).isSome = true := by
  decide +kernel

end Example

/-! ## 6. seed independence from the start position alone

The hypothesis `GoodTree n` / `GoodPlay n` of §2 is derived from the generator's specification (C01) and the position
update (C02): it holds at every position satisfying `WFplay` (`Morlock/Proofs/ChainWF.lean`: C01 `WF`, and the side not
to move is not in check), and `WFplay` is preserved by generated moves. `GenPlay pos turn ms`
(`Morlock/Proofs/ChainReach.lean`): the moves `ms`, played in turn from `pos`, are generated moves.
-/
section Reachable
open Morlock.Proofs.Chain Morlock.Proofs.Gen

/-- **`goodGen_of_wf`.** `WFplay` is an invariant of positions under which the generator only produces good steps. -/
theorem goodGen_of_wf : GoodGen WFplay ∧
    (∀ (n : Nat) {p : Position} {t : Color}, WFplay p t → GoodTree n p t) ∧
    (∀ (n : Nat) {p q : Position} {t t' : Color}, WFplay p t → GenReach p t q t' → GoodTree n q t') ∧
    (∀ (n : Nat) (ms : List Move) {p : Position} {t : Color}, WFplay p t → GenPlay p t ms → GoodPlay n p t ms) :=
  ⟨goodGen_wfplay, fun n _ _ hw => goodTree_of_wfplay n hw, fun n _ _ _ _ hw hr => goodTree_of_wfplay n (reach_wfplay hw hr),
   fun n ms _ _ hw hg => goodPlay_of_wfplay n ms _ _ hw hg⟩

theorem treeCheck_of_wf (n : Nat) {p : Position} {t : Color} (hw : WFplay p t) : treeCheck n p t = true :=
  treeCheck_of_wfplay n hw

/-- **seed_independent_reachable.** Set up a board on a `WFplay` position (clock `np ≥ 0`) in the empty world with table
`z1`, and another with table `z2`; play the same generated moves on both. Then both move sequences are accepted or both
refused, and in the former case, without a table, the two searches of depth `d` return the same result (halted or not,
node count, score, PV) and the same final state. -/
theorem seed_independent_reachable {z1 z2 : ZTable} (hz1 : z1.enpassant 0 = 0) (hz2 : z2.enpassant 0 = 0)
    (ev : Position → Color → Int) (ex : World → Explore) (le : LeafEval World)
    (hex : ExRel (SeedRel z1 z2) ex ex) (hle : LeRel (SeedRel z1 z2) le le) {pos : Position} {turn : Color}
    (hpos : WFplay pos turn) {np : Int} (hnp : 0 ≤ np) (fm : Int) {ms : List Move} (hgen : GenPlay pos turn ms)
    (d : Nat) (a b : Score) (st : SState) (htt : st.tt.slots.size = 0) :
    ORel (fun w1 w2 => SeedRel z1 z2 (d + leafDepth le) w1 w2 ∧
        alphaBetaSearch (boardGame z1 ev) ex le w1 d a b st = alphaBetaSearch (boardGame z2 ev) ex le w2 d a b st)
      (pushAll z1 0 (({} : World).newBoard z1 pos turn np fm).1 ms)
      (pushAll z2 0 (({} : World).newBoard z2 pos turn np fm).1 ms) :=
  seed_independent_play hz1 hz2 ev ex le hex hle pos turn hnp fm ms (d + leafDepth le)
    (goodPlay_of_wfplay (d + leafDepth le) ms pos turn hpos hgen) d (Nat.le_refl _) a b st htt

/-- **seed independence at the start position itself** (no moves played): the two fresh boards on a `WFplay` position,
hashed with different tables, give the same search result at every depth. -/
theorem seed_independent_start {z1 z2 : ZTable} (hz1 : z1.enpassant 0 = 0) (hz2 : z2.enpassant 0 = 0)
    (ev : Position → Color → Int) (ex : World → Explore) (le : LeafEval World)
    (hex : ExRel (SeedRel z1 z2) ex ex) (hle : LeRel (SeedRel z1 z2) le le) {pos : Position} {turn : Color}
    (hpos : WFplay pos turn) {np : Int} (hnp : 0 ≤ np) (fm : Int) (d : Nat) (a b : Score) (st : SState)
    (htt : st.tt.slots.size = 0) :
    alphaBetaSearch (boardGame z1 ev) ex le (({} : World).newBoard z1 pos turn np fm).1 d a b st =
      alphaBetaSearch (boardGame z2 ev) ex le (({} : World).newBoard z2 pos turn np fm).1 d a b st :=
  (ORel.some_iff.mp (seed_independent_reachable hz1 hz2 ev ex le hex hle hpos hnp fm (ms := []) trivial d a b st htt)).2

/-- **seed independence on any two boards showing the same game** whose (common) current position satisfies `WFplay`:
`SeedBase` (same game, both histories good) is all that is needed besides — `GoodTree` is derived. -/
theorem seed_independent_wf {z1 z2 : ZTable} (hz1 : z1.enpassant 0 = 0) (hz2 : z2.enpassant 0 = 0)
    (ev : Position → Color → Int) (ex : World → Explore) (le : LeafEval World)
    (hex : ExRel (SeedRel z1 z2) ex ex) (hle : LeRel (SeedRel z1 z2) le le) {w1 w2 : World} (hbase : SeedBase z1 z2 w1 0 w2 0)
    (hwf : WFplay (w1.cur 0).pos (w1.board 0).turn) (d : Nat) (a b : Score) (st : SState)
    (htt : st.tt.slots.size = 0) :
    alphaBetaSearch (boardGame z1 ev) ex le w1 d a b st = alphaBetaSearch (boardGame z2 ev) ex le w2 d a b st :=
  seed_independent hz1 hz2 ev ex le hex hle ⟨hbase, goodTree_of_wfplay (d + leafDepth le) hwf⟩ d (Nat.le_refl _) a b st htt

/-- `seed_independent_start` on the initial position: the material search of any depth returns the same on the board
hashed with `exZ` and on the board hashed with `exZ2`. -/
example (d : Nat) :
    alphaBetaSearch (materialGame exZ) (constEx fullExploration) .static (({} : World).newBoard exZ startPos .white 0 1).1 d
        invalidScore invalidScore {} =
      alphaBetaSearch (materialGame exZ2) (constEx fullExploration) .static (({} : World).newBoard exZ2 startPos .white 0 1).1 d
        invalidScore invalidScore {} :=
  seed_independent_start (z1 := exZ) (z2 := exZ2) rfl rfl _ (constEx fullExploration) .static (ExRel.const _ _) .static startPos_wfplay (Int.le_refl 0) 1 d
    _ _ {} rfl

/-- `seed_independent_reachable` on the initial position after `1. Nf3 Nf6 2. Ng1 Ng8` (twice, minus the last move):
any depth, quiescence leaves included. -/
example (d fuel : Nat) :
    ORel (fun w1 w2 => SeedRel exZ exZ2 (d + leafDepth (P := World) (.quiescence (constEx fullExploration) fuel)) w1 w2 ∧
        alphaBetaSearch (materialGame exZ) (constEx fullExploration) (.quiescence (constEx fullExploration) fuel) w1 d invalidScore
            invalidScore {} =
          alphaBetaSearch (materialGame exZ2) (constEx fullExploration) (.quiescence (constEx fullExploration) fuel) w2 d invalidScore
            invalidScore {})
      (pushAll exZ 0 (({} : World).newBoard exZ startPos .white 0 1).1 ms7)
      (pushAll exZ2 0 (({} : World).newBoard exZ2 startPos .white 0 1).1 ms7) :=
  seed_independent_reachable (z1 := exZ) (z2 := exZ2) rfl rfl _ (constEx fullExploration) _ (ExRel.const _ _) (.quiescence fuel (ExRel.const _ _)) startPos_wfplay (Int.le_refl 0) 1
    (genPlay_prefix ms7 [C05.ng8] _ _ C05.start_genPlay) d _ _ {} rfl

end Reachable

end Morlock.Props.C18
