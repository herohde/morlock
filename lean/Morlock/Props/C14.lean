import Morlock.Model.Fen
import Morlock.Proofs.FenCanon
import Morlock.Proofs.RepExample
/-!
# C14 — the FEN codec round-trips

Subject: `Morlock.Model.Fen`, the transcription of `pkg/board/fen/fen.go`. `Decode ∘ Encode = id` on every position all of
whose redundant views agree with a mailbox board (`Rep p b`), with rights among the four bits, target on the board and
clocks in `0 … MaxInt64` (the model's clocks are unbounded `Int`s, `Atoi` is `int64`: the bound is necessary).
`Encode ∘ Decode = id` on the standard FEN grammar (`Canonical`), which `Decode` accepts when both numerals are at most
`MaxInt64` (`canonical_accepted`) and `Encode` writes (`encode_canonical`).

Proof layers under `Morlock/Proofs`: `FenLex` (trim/split/`Atoi∘Itoa`), `FenSquare` (square names), `FenRank` (run-length
encoding of a rank vs. the cursor loop), `FenBoard` (eight ranks, `NewPosition`), `FenDecode` (`decode` field by field),
`FenRoundtrip`, `FenCanon`.
-/
namespace Morlock.Props.C14
open Morlock Morlock.Model Morlock.Model.Fen Morlock.Proofs Morlock.Proofs.Fen

def DecodeEncodeStatement (WF : Position → Prop) : Prop :=
  ∀ p c (np fm : Nat), WF p → decode (encode p c np fm).toList = some ⟨p, c, np, fm⟩

theorem castling_roundtrip : ∀ c, c < 16 → parseCastling (printCastling c).toList = some c :=
  fun c h => (castling_spec c h).1

theorem color_roundtrip : ∀ c, parseColor (printColor c).toList = some c := parseColor_printColor

theorem square_roundtrip : ∀ sq, sq < 64 → parseSquareStr (squareString sq).toList = some sq := by
  intro sq h
  rw [squareString_toList h]
  exact parseSquare_sqChars h

theorem piece_roundtrip : ∀ c k, k ≠ Piece.none → parsePiece (printPiece c k) = some (c, k) :=
  fun c _ h => parsePiece_printPiece c h

/-- `ParseMove` documents upper-case file and promotion letters. -/
theorem parseMove_case_insensitive :
    parseMove "E7E8Q".toList = parseMove "e7e8q".toList ∧ parseMove "e2e4".toList = some { «from» := 11, to := 27 } := by decide +kernel

example : parseCastling (printCastling 11).toList = some 11 := by decide

/-- Decoding the encoding returns exactly `p` (both piece tables, the four rotated occupancies, rights, target), the
    side and the clocks. -/
theorem decode_encode {p : Position} {b : Board} (h : Rep p b) (hc : p.castling < 16)
    (he : p.enpassant < 64) (c : Color) (np fm : Nat)
    (hnp : np ≤ 9223372036854775807) (hfm : fm ≤ 9223372036854775807) :
    decode (encode p c np fm).toList = some ⟨p, c, np, fm⟩ :=
  decode_encode_of_rep h hc he c np fm hnp hfm

theorem decodeEncodeStatement_int64 :
    ∀ p c (np fm : Nat), (∃ b, Rep p b) ∧ p.castling < 16 ∧ p.enpassant < 64 →
      np ≤ 9223372036854775807 → fm ≤ 9223372036854775807 →
      decode (encode p c np fm).toList = some ⟨p, c, np, fm⟩ := by
  intro p c np fm ⟨⟨b, h⟩, hc, he⟩ hnp hfm
  exact decode_encode h hc he c np fm hnp hfm

/-- The bound on the clocks cannot be dropped: `Atoi` rejects numerals above `MaxInt64`. (In Go the clocks are `int`, so
    the bound always holds there.) -/
theorem clock_bound_needed : decode (encode {} .white 9223372036854775808 1).toList = none := by
  rw [encode_toList, boardStr_toList]; decide +kernel

theorem decodeEncodeStatement_false (WF : Position → Prop) (h : WF {}) : ¬ DecodeEncodeStatement WF := by
  intro hs
  have := hs {} .white 9223372036854775808 1 h
  rw [show ((9223372036854775808 : Nat) : Int) = 9223372036854775808 from rfl,
    show ((1 : Nat) : Int) = 1 from rfl, clock_bound_needed] at this
  cases this

theorem decode_encode_rep {p : Position} {b : Board} (h : Rep p b) (hc : p.castling < 16)
    (he : p.enpassant < 64) (c : Color) (np fm : Nat)
    (hnp : np ≤ 9223372036854775807) (hfm : fm ≤ 9223372036854775807) :
    ∃ p', decode (encode p c np fm).toList = some ⟨p', c, np, fm⟩ ∧ Rep p' b ∧
      p'.castling = p.castling ∧ p'.enpassant = p.enpassant :=
  ⟨p, decode_encode h hc he c np fm hnp hfm, h, rfl, rfl⟩

example : encode exPos .white 0 1 = "r3k2r/1P6/8/3pP3/8/8/8/R3K2R w KQkq d6 0 1" ∧
    decode "r3k2r/1P6/8/3pP3/8/8/8/R3K2R w KQkq d6 0 1".toList = some ⟨exPos, .white, 0, 1⟩ := by
  have e : encode exPos .white 0 1 = "r3k2r/1P6/8/3pP3/8/8/8/R3K2R w KQkq d6 0 1" := by
    -- field by field, as character lists
    rw [← String.toList_inj, encode_toList, boardStr_toList]
    repeat rw [String.toList_ofList]
    decide +kernel
  refine ⟨e, ?_⟩
  rw [← e]
  exact decode_encode (np := 0) (fm := 1) exPos_rep (by decide +kernel) (by decide +kernel) .white
    (by decide) (by decide)

/-- For every line `s` of the standard FEN grammar that `Decode` accepts, `Encode` of the result is `s`. -/
theorem encode_decode {s : List Char} {x : Decoded} (hc : Canonical s) (hd : decode s = some x) :
    encode x.pos x.turn x.noprogress x.fullmoves = String.ofList s := by
  obtain ⟨rks, p1, p2, p3, p4, p5, rfl, hf⟩ := hc
  obtain ⟨q0, q1, q2, q3, q4, q5, pl, cr, ep, hs, h0, h1, h2, h3, h4, _, h5, _, h6⟩ := decode_eq_some_iff.mp hd
  rw [hf.split] at hs
  obtain ⟨hlen, hrk, c1, c2, c3, c4, c5⟩ := hf
  have hok := canonical_ranksOK hrk
  simp only [List.cons.injEq, and_true] at hs
  obtain ⟨rfl, rfl, rfl, rfl, rfl, rfl⟩ := hs
  rw [placements_board rks hlen hok] at h0
  simp only [Option.some.injEq, Prod.mk.injEq, true_and] at h0
  subst h0
  obtain ⟨hg, _⟩ := grid_of_ranks hlen hok
  obtain ⟨hv, hnd⟩ := placements_valid (placements_board rks hlen hok)
  obtain ⟨hr, hcr, hep⟩ := newPosition_rep hv h6
  rw [placeAll_plRows hg hnd] at hr
  -- each canonical field reads to one value only, which prints as the field
  obtain ⟨_, e1, f1⟩ := c1.read
  obtain ⟨_, e2, f2⟩ := c2.read
  obtain ⟨_, _, e3, f3⟩ := c3.read
  rw [h1] at e1; rw [h2] at e2; rw [h3] at e3
  cases e1; cases e2; cases e3
  rw [← String.toList_inj, encode_toList, String.toList_ofList, hr.board_eq.symm, hcr, hep,
    boardStr_of_canonical hlen hrk, f1, f2, f3, itoa_atoi c4 h4, itoa_atoi c5 h5]

theorem canonical_accepted {rks : List (List Char)} {p1 p2 p3 p4 p5 : List Char}
    (hc : CanonFields rks p1 p2 p3 p4 p5)
    (h4 : Nat.ofDigitChars 10 p4 0 ≤ 9223372036854775807) (h5 : Nat.ofDigitChars 10 p5 0 ≤ 9223372036854775807) :
    ∃ x, decode (join6 (List.intercalate ['/'] rks) p1 p2 p3 p4 p5) = some x := by
  have hsplit := hc.split
  obtain ⟨hlen, hrk, c1, c2, c3, c4, c5⟩ := hc
  have h0 := placements_board rks hlen (canonical_ranksOK hrk)
  obtain ⟨hv, hnd⟩ := placements_valid h0
  obtain ⟨c, hc, _⟩ := c1.read
  obtain ⟨cr, hcr, _⟩ := c2.read
  obtain ⟨ep, _, hep, _⟩ := c3.read
  obtain ⟨pos, hpos⟩ := Option.isSome_iff_exists.mp ((newPosition_isSome_iff cr ep hv).mpr hnd)
  exact ⟨_, decode_of_fields hsplit h0 hc hcr hep
    (by rw [atoi_digits p4 c4.1 c4.2.1, if_pos h4]) (Int.natCast_nonneg _)
    (by rw [atoi_digits p5 c5.1 c5.2.1, if_pos h5]) (Int.natCast_nonneg _) hpos⟩

/-- `Encode` only writes lines of the standard grammar, so `encode_decode` applies to everything it produces. -/
theorem encode_canonical {p : Position} {b : Board} (h : Rep p b) (hc : p.castling < 16)
    (he : p.enpassant < 64) (c : Color) (np fm : Nat) : Canonical (encode p c np fm).toList :=
  Fen.encode_canonical h hc he c np fm

theorem encode_fixed_point {p : Position} {b : Board} (h : Rep p b) (hc : p.castling < 16)
    (he : p.enpassant < 64) (c : Color) (np fm : Nat) {x : Decoded}
    (hd : decode (encode p c np fm).toList = some x) :
    encode x.pos x.turn x.noprogress x.fullmoves = encode p c np fm := by
  rw [encode_decode (encode_canonical h hc he c np fm) hd, String.ofList_toList]

/-- `h1` as a target does not survive (`Decode` reads it as square 0 = "none"): its exclusion from `Canonical` is
    necessary. -/
theorem h1_target_lost :
    (decode "8/8/8/8/8/8/8/8 w - h1 0 1".toList).map (fun d => encode d.pos d.turn d.noprogress d.fullmoves) =
      some "8/8/8/8/8/8/8/8 w - - 0 1" := by
  repeat rw [String.toList_ofList]
  decide +kernel

def startRanks : List (List Char) :=
  ["rnbqkbnr".toList, "pppppppp".toList, "8".toList, "8".toList, "8".toList, "8".toList,
     "PPPPPPPP".toList, "RNBQKBNR".toList]

theorem startFields_canon {p3 : List Char} (h3 : CanonEp p3) :
    CanonFields startRanks ['w'] "KQkq".toList p3 ['0'] ['1'] :=
  ⟨rfl, by decide +kernel, Or.inl rfl, Or.inr ⟨by decide, by decide⟩, h3,
    ⟨by decide, by decide, by decide⟩, ⟨by decide, by decide, by decide⟩⟩

example : Canonical "rnbqkbnr/pppppppp/8/8/8/8/PPPPPPPP/RNBQKBNR w KQkq - 0 1".toList :=
  ⟨startRanks, ['w'], "KQkq".toList, ['-'], ['0'], ['1'],
    by unfold startRanks; repeat rw [String.toList_ofList]
       decide +kernel,
    startFields_canon (Or.inl rfl)⟩

example : ∃ x, decode "rnbqkbnr/pppppppp/8/8/8/8/PPPPPPPP/RNBQKBNR w KQkq e3 0 1".toList = some x ∧
    encode x.pos x.turn x.noprogress x.fullmoves = "rnbqkbnr/pppppppp/8/8/8/8/PPPPPPPP/RNBQKBNR w KQkq e3 0 1" := by
  have hc := startFields_canon (Or.inr ⟨'e', '3', rfl, by decide, by decide, by decide⟩)
  have hs : "rnbqkbnr/pppppppp/8/8/8/8/PPPPPPPP/RNBQKBNR w KQkq e3 0 1".toList =
      join6 (List.intercalate ['/'] startRanks) ['w'] "KQkq".toList ['e', '3'] ['0'] ['1'] := by
    unfold startRanks
    repeat rw [String.toList_ofList]
    decide +kernel
  obtain ⟨x, hx⟩ := canonical_accepted hc (by decide) (by decide)
  rw [← hs] at hx
  exact ⟨x, hx, (encode_decode ⟨_, _, _, _, _, _, hs, hc⟩ hx).trans String.ofList_toList⟩

end Morlock.Props.C14
