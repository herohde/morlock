import Morlock.Props.C15Limits
/-!
# C15 — `TimeControl.Limits` on a clock that has run out (negative remainder)

`C15Limits.hard_le_remaining` assumes `0 ≤ remaining`. The uci parser accepts `wtime -500` (GUIs do send negative clocks
after a flag fall), so the excluded branch is reachable; this file states what the code does there, for every `int64`
number of moves to go: `int64` division truncates towards zero, so the limits of `-r` are exactly the negated limits of
`r` - both are `≤ 0` (the search is stopped at the first poll), `remaining ≤ hard ≤ soft ≤ 0`, nothing wraps, nothing panics.
-/
namespace Morlock.Props.C15LimitsNeg
open Morlock Morlock.Model Morlock.Props.C15Limits

-- the bounds on `moves` are not needed: `limits_eq` holds for every integer
set_option linter.unusedVariables false in
/-- **The limits of a negative clock are the negated limits of its absolute value** (every `int64` moves-to-go). -/
theorem limits_neg (r moves : Int) (h0 : 0 ≤ r) (h1 : r < 4611686018427387904)
    (m0 : -9223372036854775808 ≤ moves) (m1 : moves < 9223372036854775808) :
    limits (-r) moves = (-(limits r moves).1, -(limits r moves).2) := by
  rw [limits_eq (-r) moves (by omega), limits_eq r moves (by omega), Int.neg_tdiv, Int.neg_tdiv, Int.mul_neg]

/-- **A clock that has run out (`-2^62 < remaining ≤ 0`) gives limits that have run out too, and no further than the
    clock itself:** `remaining ≤ hard ≤ soft ≤ 0` - for every `int64` number of moves to go. -/
theorem negative_clock (remaining moves : Int) (h0 : remaining ≤ 0) (h1 : -4611686018427387904 < remaining)
    (m0 : -9223372036854775808 ≤ moves) (m1 : moves < 9223372036854775808) :
    remaining ≤ (limits remaining moves).2 ∧ (limits remaining moves).2 ≤ (limits remaining moves).1 ∧
    (limits remaining moves).1 ≤ 0 := by
  have h := limits_neg (-remaining) moves (by omega) (by omega) m0 m1
  rw [Int.neg_neg] at h
  have p := hard_le_remaining (-remaining) moves (by omega) (by omega) m0 m1
  rw [h]
  simp only
  omega

/-- Non-vacuity / the concrete case: `wtime -500` ms with 40 moves assumed or 1 move to go. -/
example : limits (-1000000000) 1 = (-250000000, -750000000) := by decide

end Morlock.Props.C15LimitsNeg
