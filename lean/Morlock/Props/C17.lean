import Morlock.Proofs.ConcTTSeq
/-!
# C17 — the lock-free transposition table (`pkg/search/transposition.go`) under every interleaving

Model: `Morlock/Model/TTConc.lean` (read its header for what one step is). In short: any number of threads
each run a list of `Read`/`Write` calls against `n` slots; a *schedule* is a list of thread indices and
`run s sched` executes it, one shared-memory access (atomic load, CAS, `Uint64.Add`) or one local action
(allocation of `fresh`, the `val` comparison) per entry. Every theorem below quantifies over **all**
schedules (and all programs, all `n`), by induction over the schedule.

Vocabulary:
* `init n progs` — `n` empty slots, `used = 0`, thread `i` about to run the calls `progs[i]`.
* `State.trace` — ghost log, newest first: `.cas tid slot old new` for each successful CAS,
  `.readRet tid hash res` / `.writeRet tid hash payload val ok` for each return.
* `occupied s` — number of non-nil slots; `pendingAdds s` — number of threads at `w3` (CAS into an empty slot
  done, `used.Add(1)` not yet executed); `valOf` — `val(ptr)`, 0 for nil; `slotAt s k` — content of slot `k`.
* pointer comparison in the CAS is comparison of allocation ids (`samePtr`); that equal ids mean equal nodes
  (no ABA) is *proved* (`Proofs.ConcTT.IdInv`), not assumed.

What is abstracted: the payload (`bound, score, move, ply, depth`) is an opaque value `π` except in
`seq_refines`, where it is the `TTEntry` of `Model/TT.lean`; `val` is a number given with the call
(`Call.ofOp` computes it as Go does). Memory is sequentially consistent (Go's `sync/atomic`).
`Used()`'s float division is not modelled — `used_range` gives the integer bounds that make it a fraction in [0,1].
-/
namespace Morlock.Props.C17
open Morlock Morlock.Model Morlock.Model.TTConc Morlock.Proofs.ConcTT

variable {π : Type}

/-- **no_mixture.** Whenever a `Read(h)` returns a node (event `readRet tid h (some node)` anywhere in the
trace of any run), that node has `hash = h`, its `(hash, payload, val)` are exactly the arguments of ONE
`Write` call of the program, and that very node (same allocation id, whole) was published by a successful CAS
logged *earlier* (`post` is the older part of the trace). No field of it comes from any other call. -/
theorem no_mixture (n : Nat) (progs : List (List (Call π))) (sched : List Nat)
    (pre post : List (Event π)) (tid h : Nat) (node : Node π)
    (htr : (run (init n progs) sched).trace = pre ++ .readRet tid h (some node) :: post) :
    node.hash = h ∧
    (∃ cs ∈ progs, Call.write h node.payload node.val ∈ cs) ∧
    ∃ tid' k old, Event.cas tid' k old node ∈ post := by
  have hinv := nodeInv_run sched _ (nodeInv_init n progs)
  have := traceOK_split (htr ▸ hinv.trace)
  obtain ⟨h1, h2, h3⟩ := this
  subst h1
  exact ⟨rfl, h2, h3⟩

/-- **replace_le (CAS events).** Every successful CAS of every run replaces an entry whose `val` is at most
the `val` of the node it installs. -/
theorem replace_le (n : Nat) (progs : List (List (Call π))) (sched : List Nat)
    (tid k : Nat) (old : Option (Node π)) (new : Node π)
    (hev : Event.cas tid k old new ∈ (run (init n progs) sched).trace) : valOf old ≤ new.val :=
  traceOK_mem_cas (nodeInv_run sched _ (nodeInv_init n progs)).trace hev

/-- **replace_le (slots).** Per slot, `val` is non-decreasing along every run: between any two points of a run
(after `sched₁`, and after `sched₁ ++ sched₂`) the `val` of slot `k` has not decreased. -/
theorem slot_val_mono (n : Nat) (progs : List (List (Call π))) (sched₁ sched₂ : List Nat) (k : Nat) :
    valOf (slotAt (run (init n progs) sched₁) k) ≤ valOf (slotAt (run (init n progs) (sched₁ ++ sched₂)) k) := by
  rw [run_append]
  exact slot_mono_run sched₂ _ (nodeInv_run sched₁ _ (nodeInv_init n progs)) k

/-- **used_exact.** In every reachable state, `used` plus the number of threads that have filled an empty slot
but not yet executed `used.Add(1)` equals the number of occupied slots. -/
theorem used_exact (n : Nat) (hn : 0 < n) (progs : List (List (Call π))) (sched : List Nat) :
    (run (init n progs) sched).used + pendingAdds (run (init n progs) sched) = occupied (run (init n progs) sched) :=
  (usedInv_run sched _ (usedInv_init n hn progs)).exact

/-- **used_exact at quiescence.** When every call has returned, `used` is exactly the number of occupied slots. -/
theorem used_exact_quiescent (n : Nat) (hn : 0 < n) (progs : List (List (Call π))) (sched : List Nat)
    (hq : Quiescent (run (init n progs) sched)) :
    (run (init n progs) sched).used = occupied (run (init n progs) sched) := by
  have h := used_exact n hn progs sched
  have h0 : pendingAdds (run (init n progs) sched) = 0 := by
    simp only [pendingAdds, List.countP_eq_zero]
    intro t ht; rw [(hq t ht).1]; simp
  omega

/-- **used_range.** `0 ≤ used ≤ n` in every reachable state (`n` = number of slots, unchanged by the run),
so `Used() = used / n` is a fraction in `[0, 1]`. -/
theorem used_range (n : Nat) (hn : 0 < n) (progs : List (List (Call π))) (sched : List Nat) :
    (run (init n progs) sched).slots.length = n ∧ 0 ≤ (run (init n progs) sched).used ∧
      (run (init n progs) sched).used ≤ n := by
  have h := used_exact n hn progs sched
  have hl : (run (init n progs) sched).slots.length = n := by rw [slots_length_run]; simp [init]
  have := occupied_le (run (init n progs) sched)
  exact ⟨hl, Nat.zero_le _, by omega⟩

/-- the sequential table the initial state stands for: what `NewTranspositionTable` returns -/
theorem abs_init (n : Nat) (progs : List (List (Call TTEntry))) :
    absState (init n progs) = { slots := Array.replicate n none, used := 0, minDepth := 0 } := by
  simp [absState, init]

/-- `abs_init` for a size in bytes: the table of `TTState.new` (`Model/TT.lean`). -/
theorem abs_init_new (sizeBytes : Nat) (progs : List (List (Call TTEntry))) :
    absState (init (TTState.entriesFor sizeBytes) progs) = TTState.new sizeBytes := by
  rw [abs_init]; rfl

/-- **seq_refines.** Take any programs `progs` (thread `i` makes the calls `progs[i]`, given with their Go
arguments, depths non-negative) and any `order` in which threads take turns making one complete call each.
The run `seqSched _ order` of the concurrent model — in which each call's steps are consecutive, i.e. calls do
not overlap — ends in a state that stands (`absState`: slots' payloads and `used`) for exactly the table obtained
by making the same calls in the same order on the sequential model (`TTState.write`/`TTState.read` via
`seqCall`), all threads are between calls again, and the results logged by the calls (`Write`'s bool, `Read`'s
entry), oldest first, are the sequential results. Fields modelled: `slots`, `used`; `minDepth = 0` (the bare
table, not the `WriteLimited` wrapper). -/
theorem seq_refines (n : Nat) (hn : 0 < n) (progs : List (List Op))
    (hvalid : ∀ ops ∈ progs, ∀ op ∈ ops, Op.Valid op) (order : List Nat) :
    let s₀ := init n (progs.map (·.map Call.ofOp))
    let t₀ : TTState := { slots := Array.replicate n none, used := 0, minDepth := 0 }
    absState (run s₀ (seqSched s₀ order)) = (specRun t₀ progs order).1 ∧
    AllIdle (run s₀ (seqSched s₀ order)) ∧
    (run s₀ (seqSched s₀ order)).trace.reverse.filterMap Event.result = (specRun t₀ progs order).2 := by
  intro s₀ t₀
  have hinv : NodeInv WFCall s₀ := by
    have h0 := nodeInv_init n (progs.map (·.map Call.ofOp))
    -- every call of the program is the image of an `Op`
    have hwf : ∀ c, (∃ cs ∈ progs.map (·.map Call.ofOp), c ∈ cs) → WFCall c := by
      rintro c ⟨cs, hcs, hc⟩
      obtain ⟨ops, _, rfl⟩ := List.mem_map.1 hcs
      obtain ⟨op, _, rfl⟩ := List.mem_map.1 hc
      exact wfCall_ofOp op
    exact ⟨h0.ids, h0.w2, fun m hm => hwf _ (h0.nodes m hm), fun t ht c hc => hwf c (h0.calls t ht c hc),
      h0.published, by simp [s₀, init, TraceOK]⟩
  have hth : s₀.threads = threadsOf progs := by simp [s₀, init, threadsOf, List.map_map, Function.comp_def]
  obtain ⟨h1, h2, evs, h3, h4⟩ := seq_run order s₀ progs (by simpa [s₀, init] using hn) hinv hth hvalid
  have ha : absState s₀ = t₀ := abs_init n _
  rw [ha] at h1 h4
  refine ⟨h1, h2, ?_⟩
  rw [h3]
  have : s₀.trace = [] := rfl
  rw [this, List.append_nil]; exact h4

/-- Each block of `seqSched` consists of steps of a single thread (the schedule really is "one call at a time"):
the first block is `callLen` copies of the first thread of `order`. -/
theorem seqSched_cons (s : State π) (i : Nat) (order : List Nat) (c : Call π) (cs : List (Call π))
    (ht : s.threads[i]? = some ⟨.call, c :: cs⟩) :
    seqSched s (i :: order) =
      List.replicate (callLen s c) i ++ seqSched (run s (List.replicate (callLen s c) i)) order := by
  simp [seqSched, ht]

/-! ## the pre-repair counter (`t.used++` as a load and a store) loses updates -/

/-- two threads, two slots; thread 0 writes hash 0, thread 1 writes hash 1 -/
def twoWriters : State Unit := init 2 [[.write 0 () 1], [.write 1 () 1]]

/-- both threads publish (4 steps each: alloc, load, compare, CAS), then both load `used = 0`, then both store 1 -/
def lostUpdateSchedule : List Nat := [0, 0, 0, 0, 1, 1, 1, 1, 0, 1, 0, 1]

/-- **plain_increment_loses_updates.** With the counter update split into `tmp := used; used := tmp + 1`
(`runSplit`, the pre-repair `t.used++`), this schedule ends with every call returned, 2 occupied slots and
`used = 1`. -/
theorem plain_increment_loses_updates :
    (runSplit twoWriters lostUpdateSchedule).used = 1 ∧
    occupied (runSplit twoWriters lostUpdateSchedule) = 2 ∧
    (runSplit twoWriters lostUpdateSchedule).threads = [⟨.call, []⟩, ⟨.call, []⟩] := by
  decide

/-- the same schedule under the repaired code (`used.Add(1)` atomic; the last two steps are no-ops) counts both -/
theorem atomic_increment_counts_both :
    (run twoWriters lostUpdateSchedule).used = 2 ∧ occupied (run twoWriters lostUpdateSchedule) = 2 := by
  decide

/-! ## the hypotheses are satisfiable: small concrete systems -/

/-- three threads on two slots: a writer, a competing writer on the same slot with a higher `val`, a reader.
Under this interleaving the reader sees the first writer's node whole; the second writer's first CAS fails
(it loaded nil), it reloads, replaces the node, and the reader then sees the second node whole. -/
example :
    let s := run (init 2 [[.write 4 "a" 3], [.write 6 "b" 5], [.read 4, .read 6]]) [0, 0, 1, 1, 0, 0, 2, 1, 1, 0, 1, 1, 1, 2]
    s.trace = [.readRet 2 6 (some ⟨1, 6, "b", 5⟩), .writeRet 1 6 "b" 5 true,
               .cas 1 0 (some ⟨0, 4, "a", 3⟩) ⟨1, 6, "b", 5⟩, .writeRet 0 4 "a" 3 true,
               .readRet 2 4 (some ⟨0, 4, "a", 3⟩), .cas 0 0 none ⟨0, 4, "a", 3⟩] ∧
    s.used = 1 ∧ occupied s = 1 ∧ Quiescent s := by
  refine ⟨by decide, by decide, by decide, ?_⟩
  intro t ht
  have : t ∈ [(⟨.call, []⟩ : Thread String), ⟨.call, []⟩, ⟨.call, []⟩] := by
    have e : (run (init 2 [[Call.write 4 "a" 3], [.write 6 "b" 5], [.read 4, .read 6]])
      [0, 0, 1, 1, 0, 0, 2, 1, 1, 0, 1, 1, 1, 2]).threads = [⟨.call, []⟩, ⟨.call, []⟩, ⟨.call, []⟩] := by decide
    rw [e] at ht; exact ht
  simp at this; subst this; exact ⟨rfl, rfl⟩

/-- `seq_refines` instantiated: two threads, three calls, run one call at a time in the order 0, 1, 0. -/
example :
    let progs : List (List Op) :=
      [[.write 5 0 1 2 ⟨.heuristic, 0, 7⟩ {}, .read 5], [.write 5 1 0 1 ⟨.heuristic, 0, 9⟩ {}]]
    ∀ op ∈ progs.flatten, Op.Valid op := by
  intro progs op hop
  simp [progs] at hop
  rcases hop with rfl | rfl | rfl <;> simp [Op.Valid]

end Morlock.Props.C17
