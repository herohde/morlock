import Morlock.Proofs.ABScore
/-!
# C13 — the child window is the exact inverse image of the parent window

A parent sees a child value `s` as `lift s = (incMate s).negate`. `childBound` (the repaired window
mapping of `alphabeta.go` / `quiescence.go`) is its inverse on every score a parent can see, and the
window the code used before the repair (`negate` alone) is not - which is the one-ply shift that
made mate-score windows clip wrongly.
-/
namespace Morlock.Props.C13Window
open Morlock Morlock.Model Morlock.Model.Score Morlock.Spec

/-- How a parent sees a child score. -/
def lift (s : Score) : Score := (incMate s).negate

/-- Scores a parent can see from a child: everything but `±inf`, with the mate distance inside `int8`. -/
def Liftable (a : Score) : Prop :=
  Valid a ∧ a.ty ≠ .inf ∧ a.ty ≠ .negInf ∧ (a.ty = .mateInX → -127 ≤ a.mate ∧ a.mate ≤ 127)

theorem lift_childBound (a : Score) (h : Liftable a) : lift (childBound a) = a := by
  -- in rank space this is `fR (cwR r) = r`, which fails only at the two infinities
  have ok : Proofs.AB.okN (126 + 1) a := ⟨h.1, fun t => by have := h.2.2.2 t; omega⟩
  have ok' := Proofs.AB.okN_cw ok (Nat.le_refl _)
  have e : rank (lift (childBound a)) = Proofs.AB.fR (Proofs.AB.cwR (rank a)) := by
    rw [← Proofs.AB.rank_cw ok (Nat.le_refl _)]; exact Proofs.AB.rank_lift ok' (Nat.le_refl _)
  refine C09.rank_injective _ _ (Proofs.AB.okN_lift ok' (Nat.le_refl _)).1 h.1 ?_
  rcases Proofs.AB.fR_cwR (Proofs.AB.okN_rankN ok) with ⟨r, _⟩ | ⟨r, _⟩ | r
  · exact absurd (congrArg Score.ty (C09.rank_injective a negInfScore h.1 (by decide) r)) h.2.2.1
  · exact absurd (congrArg Score.ty (C09.rank_injective a infScore h.1 (by decide) r)) h.2.1
  · rw [e, r]

/-- The window mapping used before the repair is off by one ply on mate scores: with alpha = `M-4`
    a child worth `M4` is seen as `M-5 < alpha` by the parent, yet lies below the child's beta. -/
theorem old_window_wrong :
    ¬ (rank (mateInXScore (-4)) < rank (lift (mateInXScore 4)) ↔
       rank (mateInXScore 4) < rank ((mateInXScore (-4)).negate)) := by decide

/-- … and the repaired mapping is right on that witness. -/
theorem new_window_right :
    (rank (mateInXScore (-4)) < rank (lift (mateInXScore 4)) ↔
       rank (mateInXScore 4) < rank (childBound (mateInXScore (-4)))) := by decide

example : Liftable (mateInXScore (-4)) ∧ Liftable (heuristicScore 7) := by
  simp [Liftable, Valid, mateInXScore, heuristicScore]

end Morlock.Props.C13Window
