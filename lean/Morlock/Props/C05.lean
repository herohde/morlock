import Morlock.Proofs.DrawSync
import Morlock.Proofs.RepExample
import Morlock.Proofs.ChainArena
import Morlock.Proofs.ForkMany
/-!
# C05 — the game board reports a draw exactly when the history says so

Subject: step (3) of `Morlock.Model.World.pushMove`, the transcription of the draw logic of `Board.PushMove` in
`pkg/board/board.go`, with `identicalPositionCount`, `updateNoProgress`, the repetition map and
`adjudicateNoLegalMoves`. The history of board `b` is its line: the current node first, following `prev` to the start
node; `occurrences w b` counts the nodes of the *whole* line with the current position (placement, rights, target)
and side to move. `RepMapOK`, `HashFaithful`, `Irreversible`, `ClockOK` are the properties of the line the loop and
its hash pre-filter rely on; the first is an invariant, the others follow for lines of good steps (`GoodHistory`),
which generated moves from a well-formed start position are. `Sync` ties the board to a reference game
`Spec.Game`.
-/
namespace Morlock.Props.C05
open Morlock Morlock.Model Morlock.Model.World Morlock.Proofs Morlock.Proofs.Arena Morlock.Proofs.Draw
  Morlock.Proofs.Material

/-- `R k`: the hash pre-filter passes and `identicalPositionCount` of the new node is at least `k`. -/
def RepHit (w : World) (b : Nat) (k : Int) : Prop :=
  repGet (w.board b).repetitions (w.cur b).hash ≥ 3 ∧
  w.identicalPositionCount (w.cur b) (w.board b).turn (w.board b).turn.opp (w.cur b).noprogress ≥ k

/-- `N`: the fifty-move clock has run out. -/
def ClockHit (w : World) (b : Nat) : Prop := (w.cur b).noprogress ≥ 100

/-- `M`: the material test is due after `m` and the material is insufficient. -/
def MaterialHit (w : World) (b : Nat) (m : Move) : Prop :=
  materialTrigger m = true ∧ (w.cur b).pos.hasInsufficientMaterial = true

theorem rep_5_3 {x y : Int} (h : x ≥ 3 ∧ y ≥ 5) : x ≥ 3 ∧ y ≥ 3 := ⟨h.1, by have := h.2; omega⟩

/-- Which of `R 3`, `R 5`, `N`, `M` each reported reason stands for. -/
theorem result_reasons {w w' : World} {z : ZTable} {b : Nat} {m : Move}
    (hw : WFWorld w) (hb : b < w.boards.size) (h : w.pushMove z b m = some w') :
    ((w'.board b).result.outcome = .draw ↔ RepHit w' b 3 ∨ ClockHit w' b ∨ MaterialHit w' b m) ∧
    ((w'.board b).result.reason = .insufficientMaterial ↔ MaterialHit w' b m) ∧
    ((w'.board b).result.reason = .noProgress ↔ ClockHit w' b ∧ ¬ MaterialHit w' b m) ∧
    ((w'.board b).result.reason = .repetition5 ↔ RepHit w' b 5 ∧ ¬ ClockHit w' b ∧ ¬ MaterialHit w' b m) ∧
    ((w'.board b).result.reason = .repetition3 ↔
      (RepHit w' b 3 ∧ ¬ RepHit w' b 5) ∧ ¬ ClockHit w' b ∧ ¬ MaterialHit w' b m) ∧
    ((w'.board b).result.outcome ≠ .draw → (w'.board b).result = {}) := by
  unfold RepHit ClockHit MaterialHit
  exact precedence_chain_spec ((push_result hw hb h).trans (pushResult_spec ..)) rep_5_3

/-- The result after an accepted move is chosen by the precedence `M` > `N` > `R 5` > `R 3`, and is the zero result
if none holds, whatever it was before the move. -/
theorem result_characterisation {w w' : World} {z : ZTable} {b : Nat} {m : Move}
    (hw : WFWorld w) (hb : b < w.boards.size) (h : w.pushMove z b m = some w') :
    ((w'.board b).result.outcome = .draw ↔ RepHit w' b 3 ∨ ClockHit w' b ∨ MaterialHit w' b m) ∧
    (MaterialHit w' b m → (w'.board b).result = { outcome := .draw, reason := .insufficientMaterial }) ∧
    (¬ MaterialHit w' b m → ClockHit w' b → (w'.board b).result = { outcome := .draw, reason := .noProgress }) ∧
    (¬ MaterialHit w' b m → ¬ ClockHit w' b → RepHit w' b 5 →
      (w'.board b).result = { outcome := .draw, reason := .repetition5 }) ∧
    (¬ MaterialHit w' b m → ¬ ClockHit w' b → RepHit w' b 3 → ¬ RepHit w' b 5 →
      (w'.board b).result = { outcome := .draw, reason := .repetition3 }) ∧
    (¬ MaterialHit w' b m → ¬ ClockHit w' b → ¬ RepHit w' b 3 → (w'.board b).result = {}) := by
  have hr := (push_result hw hb h).trans (pushResult_spec ..)
  refine ⟨(result_reasons hw hb h).1, ?_⟩
  unfold RepHit ClockHit MaterialHit
  exact ⟨fun hM => by rw [hr, if_pos hM],
    fun hM hN => by rw [hr, if_neg hM, if_pos hN],
    fun hM hN h5 => by rw [hr, if_neg hM, if_neg hN, if_pos h5],
    fun hM hN h3 h5 => by rw [hr, if_neg hM, if_neg hN, if_neg h5, if_pos h3],
    fun hM hN h3 => by rw [hr, if_neg hM, if_neg hN, if_neg (mt rep_5_3 h3), if_neg h3]⟩

/-- Resetting moves are those of a type other than `normal` and castling: pawn push or jump, en passant, capture,
promotion. -/
theorem clock_exact {w w' : World} {z : ZTable} {pos : Position} {turn : Color} {np0 fm : Int} {ms : List Move}
    (hw : WFWorld w)
    (h : pushAll z (w.newBoard z pos turn np0 fm).2 (w.newBoard z pos turn np0 fm).1 ms = some w') :
    (w'.cur (w.newBoard z pos turn np0 fm).2).noprogress =
      (if ms.any isReset then 0 else np0) + ((ms.reverse.takeWhile fun m => !isReset m).length : Nat) := by
  have hw1 := wf_newBoard hw z pos turn np0 fm
  have hb1 : (w.newBoard z pos turn np0 fm).2 < (w.newBoard z pos turn np0 fm).1.boards.size := by
    simp [World.newBoard]
  rw [pushAll_clock ms hw1 hb1 h, (newBoard_cur w z pos turn np0 fm).1, List.foldl_eq_foldr_reverse,
    foldr_updateNoProgress, List.any_reverse]

/-- The moves of the line, latest first, are the `next` fields of the strict ancestors. -/
theorem clock_exact_line {w : World} {b : Nat} (hc : ClockOK w b) :
    (w.cur b).noprogress =
      (if (((line w b).tail).map (·.next)).any isReset then 0 else rootClock (w.cur b).noprogress (line w b).tail) +
      (((((line w b).tail).map (·.next)).takeWhile fun m => !isReset m).length : Nat) :=
  (clockChain_foldr _ _ hc).trans (foldr_updateNoProgress _ _)

theorem clockOK_invariant :
    (∀ (w : World) (z : ZTable) (pos : Position) (turn : Color) (np fm : Int),
      ClockOK (w.newBoard z pos turn np fm).1 (w.newBoard z pos turn np fm).2) ∧
    (∀ {w w' : World} {z : ZTable} {b : Nat} {m : Move}, WFWorld w → b < w.boards.size →
      w.pushMove z b m = some w' → ClockOK w b → ClockOK w' b) ∧
    (∀ {w w' : World} {b : Nat} {m : Move}, WFWorld w → b < w.boards.size →
      w.popMove b = some (w', m) → ClockOK w b → ClockOK w' b) ∧
    (∀ {w : World} (b : Nat), WFWorld w → ClockOK w b → ClockOK (w.fork b).1 (w.fork b).2) :=
  ⟨clockOK_newBoard, fun hw hb h hc => clockOK_push hw hb h hc, fun hw hb h hc => clockOK_pop hw hb h hc,
   fun b hw hc => clockOK_fork hw b hc⟩

/-- `identicalPositionCount` as `pushMove` calls it (side to move now, limit = the current clock) counts the whole
line. The loop bound is `i ≤ limit`: the node exactly `noprogress` plies back is compared. -/
theorem repetition_count_exact {z : ZTable} {w : World} {b : Nat} (hw : WFWorld w)
    (hf : HashFaithful z w b) (hirr : Irreversible w b) :
    w.identicalPositionCount (w.cur b) (w.board b).turn (w.board b).turn.opp (w.cur b).noprogress =
      (occurrences w b : Nat) := by
  rw [ipc_cur hw]
  have hexact := ipcList_exact (hash := (w.cur b).hash) (pos := (w.cur b).pos) (turn := (w.board b).turn)
    (t0 := (w.board b).turn.opp) (limit := (w.cur b).noprogress) (l := (lineK w b).tail) ?_ ?_
  · rw [hexact, occurrences_tail]
    omega
  · intro e he hs
    rw [lineK_head, List.tail_cons] at he
    exact hf.same (by rw [lineK_head, sided_cons]; exact List.mem_cons_of_mem _ he) hs
  · intro e he
    apply hirr e
    rw [lineK_head, sided_cons, List.drop_succ_cons]
    rw [lineK_head, List.tail_cons] at he
    exact he

theorem repetition_count_le {w : World} {b : Nat} (hw : WFWorld w) (limit : Int) :
    w.identicalPositionCount (w.cur b) (w.board b).turn (w.board b).turn.opp limit ≤ (occurrences w b : Nat) := by
  rw [ipc_cur hw]
  rw [occurrences_tail]
  exact Int.le_trans (ipcList_le _ _ _ _ _ _) (by omega)

/-- The pre-filter never hides a repetition. -/
theorem prefilter_complete {z : ZTable} {w : World} {b : Nat} (hr : RepMapOK w b) (hf : HashFaithful z w b) :
    (occurrences w b : Int) ≤ repGet (w.board b).repetitions (w.cur b).hash := by
  rw [hr]
  have : occurrences w b ≤ hashCount (w.cur b).hash (lineK w b) := occOf_le_hashCount fun e he hs => hf.same he hs
  omega

/-- `Reach`: any interleaving of `newBoard`, `fork`, `pushMove`, `popMove`, `adjudicateNoLegalMoves` from the empty world. -/
theorem repMap_invariant {z : ZTable} {w : World} (h : Reach z w) :
    WFWorld w ∧ ∀ b, b < w.boards.size → RepMapOK w b := by
  induction h with
  | empty => exact ⟨wf_empty, fun b hb => by simp at hb⟩
  | @newBoard w pos turn np fm _ ih =>
    refine ⟨wf_newBoard ih.1 z pos turn np fm, ?_⟩
    intro y hy
    rw [newBoard_boards_size] at hy
    by_cases hyb : y = w.boards.size
    · subst hyb; exact repMapOK_newBoard w z pos turn np fm
    · exact (newBoard_other ih.1 z pos turn np fm (by omega)).repMapOK (ih.2 y (by omega))
  | @fork w b _ hb ih =>
    refine ⟨wf_fork ih.1 b, ?_⟩
    intro y hy
    rw [fork_boards_size] at hy
    by_cases hyb : y = w.boards.size
    · subst hyb; exact repMapOK_fork ih.1 b (ih.2 b hb)
    · exact (fork_other ih.1 b (by omega)).repMapOK (ih.2 y (by omega))
  | @push w w' b m _ hb hp ih =>
    refine ⟨wf_push ih.1 hb hp, ?_⟩
    intro y hy
    rw [boards_size_push hp] at hy
    by_cases hyb : b = y
    · subst hyb; exact repMapOK_push ih.1 hb hp (ih.2 b hb)
    · exact (push_other ih.1 hy hyb hp).repMapOK (ih.2 y hy)
  | @pop w w' b m _ hb hp ih =>
    refine ⟨wf_pop ih.1 hp, ?_⟩
    intro y hy
    rw [boards_size_pop hp] at hy
    by_cases hyb : b = y
    · subst hyb; exact repMapOK_pop ih.1 hb hp (ih.2 b hb)
    · exact (pop_other ih.1 hy hyb hp).repMapOK (ih.2 y hy)
  | @adjudicate w b _ hb ih =>
    refine ⟨wf_adjudicate ih.1 b hb, ?_⟩
    intro y hy
    rw [adjudicate_boards_size] at hy
    exact (adjudicate_same ih.1 b hy).repMapOK (ih.2 y hy)

theorem repMapOK_steps :
    (∀ (w : World) (z : ZTable) (pos : Position) (turn : Color) (np fm : Int),
      RepMapOK (w.newBoard z pos turn np fm).1 (w.newBoard z pos turn np fm).2) ∧
    (∀ {w w' : World} {z : ZTable} {b : Nat} {m : Move}, WFWorld w → b < w.boards.size →
      w.pushMove z b m = some w' → RepMapOK w b → RepMapOK w' b) ∧
    (∀ {w w' : World} {b : Nat} {m : Move}, WFWorld w → b < w.boards.size →
      w.popMove b = some (w', m) → RepMapOK w b → RepMapOK w' b) ∧
    (∀ {w : World} (b : Nat), WFWorld w → RepMapOK w b → RepMapOK (w.fork b).1 (w.fork b).2) :=
  ⟨repMapOK_newBoard, fun hw hb h hr => repMapOK_push hw hb h hr, fun hw hb h hr => repMapOK_pop hw hb h hr,
   fun b hw hr => repMapOK_fork hw b hr⟩

/-- `HashFaithful` from C07 `move_eq_hash`: it survives every move with accurate metadata made by the side to move. -/
theorem hashFaithful_step :
    (∀ (w : World) (z : ZTable) (pos : Position) (turn : Color) (np fm : Int),
      HashFaithful z (w.newBoard z pos turn np fm).1 (w.newBoard z pos turn np fm).2) ∧
    (∀ {w w' : World} {z : ZTable} {b : Nat} {m : Move}, z.enpassant 0 = 0 → WFWorld w → b < w.boards.size →
      w.pushMove z b m = some w' → HashFaithful z w b → GoodMove w b m → HashFaithful z w' b) ∧
    (∀ {w w' : World} {z : ZTable} {b : Nat} {m : Move}, WFWorld w → b < w.boards.size →
      w.popMove b = some (w', m) → HashFaithful z w b → HashFaithful z w' b) ∧
    (∀ {z : ZTable} {w : World} (b : Nat), WFWorld w → HashFaithful z w b →
      HashFaithful z (w.fork b).1 (w.fork b).2) :=
  ⟨hashFaithful_newBoard, fun hz hw hb h hf hg => hashFaithful_push_good hz hw hb h hf hg,
   fun hw hb h hf => hashFaithful_pop hw hb h hf, fun b hw hf => hashFaithful_fork hw b hf⟩

/-- No hypothesis on hashes or history: a reported draw always has a cause on the line. -/
theorem draw_sound {w w' : World} {z : ZTable} {b : Nat} {m : Move}
    (hw : WFWorld w) (hb : b < w.boards.size) (h : w.pushMove z b m = some w') :
    ((w'.board b).result.outcome = .draw → occurrences w' b ≥ 3 ∨ ClockHit w' b ∨ MaterialHit w' b m) ∧
    ((w'.board b).result.reason = .repetition3 → occurrences w' b ≥ 3) ∧
    ((w'.board b).result.reason = .repetition5 → occurrences w' b ≥ 5) ∧
    ((w'.board b).result.reason = .noProgress → ClockHit w' b) ∧
    ((w'.board b).result.reason = .insufficientMaterial → MaterialHit w' b m) ∧
    ((w'.board b).result.outcome ≠ .draw → (w'.board b).result = {}) := by
  obtain ⟨c0, cM, cN, c5, c3, cz⟩ := result_reasons hw hb h
  have hrep : ∀ k : Nat, RepHit w' b k → occurrences w' b ≥ k := fun k hk => by
    have := hk.2
    have := repetition_count_le (b := b) (wf_push hw hb h) (w'.cur b).noprogress
    omega
  exact ⟨fun hd => (c0.mp hd).imp_left (hrep 3), fun hx => hrep 3 (c3.mp hx).1.1, fun hx => hrep 5 (c5.mp hx).1,
    fun hx => (cN.mp hx).1, cM.mp, cz⟩

theorem repHit_iff {z : ZTable} {w : World} {b : Nat} (hw : WFWorld w) (hr : RepMapOK w b)
    (hf : HashFaithful z w b) (hirr : Irreversible w b) {k : Nat} (hk : 3 ≤ k) :
    RepHit w b k ↔ occurrences w b ≥ k := by
  unfold RepHit
  rw [repetition_count_exact hw hf hirr]
  have := prefilter_complete hr hf
  constructor
  · intro h; have := h.2; omega
  · intro h; exact ⟨by omega, by omega⟩

/-- The verdict the history dictates for board `b` right after the move `m`. -/
def DrawVerdict (w : World) (b : Nat) (m : Move) : Prop :=
  ((w.board b).result.outcome = .draw ↔ occurrences w b ≥ 3 ∨ ClockHit w b ∨ MaterialHit w b m) ∧
  ((w.board b).result.reason = .insufficientMaterial ↔ MaterialHit w b m) ∧
  ((w.board b).result.reason = .noProgress ↔ ClockHit w b ∧ ¬ MaterialHit w b m) ∧
  ((w.board b).result.reason = .repetition5 ↔ occurrences w b ≥ 5 ∧ ¬ ClockHit w b ∧ ¬ MaterialHit w b m) ∧
  ((w.board b).result.reason = .repetition3 ↔
    (occurrences w b = 3 ∨ occurrences w b = 4) ∧ ¬ ClockHit w b ∧ ¬ MaterialHit w b m) ∧
  ((w.board b).result.outcome ≠ .draw → (w.board b).result = {})

/-- Soundness and completeness of the reported draw. -/
theorem draw_iff {w w' : World} {z : ZTable} {b : Nat} {m : Move}
    (hw : WFWorld w) (hb : b < w.boards.size) (h : w.pushMove z b m = some w')
    (hr : RepMapOK w b) (hf : HashFaithful z w' b) (hirr : Irreversible w' b) : DrawVerdict w' b m := by
  have hw' := wf_push hw hb h
  have hr' := repMapOK_push hw hb h hr
  obtain ⟨c0, cM, cN, c5, c3, cz⟩ := result_reasons hw hb h
  have e3 : RepHit w' b 3 ↔ occurrences w' b ≥ 3 := repHit_iff hw' hr' hf hirr (k := 3) (Nat.le_refl 3)
  have e5 : RepHit w' b 5 ↔ occurrences w' b ≥ 5 := repHit_iff hw' hr' hf hirr (k := 5) (by omega)
  rw [e3] at c0 c3
  rw [e5] at c5 c3
  exact ⟨c0, cM, cN, c5, c3.trans (and_congr_left' (by omega)), cz⟩

theorem draw_complete {w w' : World} {z : ZTable} {b : Nat} {m : Move}
    (hw : WFWorld w) (hb : b < w.boards.size) (h : w.pushMove z b m = some w')
    (hr : RepMapOK w b) (hf : HashFaithful z w' b) (hirr : Irreversible w' b)
    (hc : occurrences w' b ≥ 3 ∨ ClockHit w' b ∨ MaterialHit w' b m) :
    (w'.board b).result.outcome = .draw :=
  (draw_iff hw hb h hr hf hirr).1.mpr hc

theorem adjudicate (w : World) (b : Nat) :
    ((w.cur b).pos.isChecked (w.board b).turn = true →
      (w.adjudicateNoLegalMoves b).2 =
        { outcome := (match (w.board b).turn with | .white => .blackWins | .black => .whiteWins),
          reason := .checkmate }) ∧
    ((w.cur b).pos.isChecked (w.board b).turn = false →
      (w.adjudicateNoLegalMoves b).2 = { outcome := .draw, reason := .stalemate }) ∧
    (((w.adjudicateNoLegalMoves b).2.reason = .checkmate ↔ (w.cur b).pos.isChecked (w.board b).turn = true) ∧
     ((w.adjudicateNoLegalMoves b).2.reason = .stalemate ↔ (w.cur b).pos.isChecked (w.board b).turn = false)) ∧
    (w.adjudicateNoLegalMoves b).1 = w.setBoard b { w.board b with result := (w.adjudicateNoLegalMoves b).2 } := by
  unfold adjudicateNoLegalMoves
  cases hc : (w.cur b).pos.isChecked (w.board b).turn <;> simp [hc]
  cases (w.board b).turn <;> rfl

theorem adjudicate_blocks (w : World) (z : ZTable) {b : Nat} (hb : b < w.boards.size) (m : Move) :
    (w.adjudicateNoLegalMoves b).1.pushMove z b m = none := by
  rw [pushMove_eq]
  have : pushBlocked (w.adjudicateNoLegalMoves b).1 b = true := by
    unfold pushBlocked adjudicateNoLegalMoves
    rw [setBoard_board, if_pos ⟨rfl, hb⟩]
    cases (w.cur b).pos.isChecked (w.board b).turn <;> simp
  rw [this]
  rfl

/-- `insufficientB b`: the men other than the kings are none; or one, a bishop or knight; or two bishops on squares of
one colour (through `GenTie.whiteSquareMask_is_a_colour`). False without the two-kings hypothesis: the Go code only
counts men (`popCount = 2` is "insufficient" also for K+Q with the other king missing). -/
theorem material_iff {p : Position} {b : Proofs.Board} (h : Rep p b) (hk : kingCount b = 2) :
    p.hasInsufficientMaterial = insufficientB b :=
  material_eq h hk

theorem insufficientB_def (b : Proofs.Board) :
    insufficientB b =
      match others b with
      | [] => true
      | [(_, _, k)] => k = .bishop || k = .knight
      | [(s1, _, k1), (s2, _, k2)] =>
        k1 = .bishop && k2 = .bishop && ((s1 % 8 + s1 / 8) % 2 == (s2 % 8 + s2 / 8) % 2)
      | _ => false := rfl

theorem others_spec {b : Proofs.Board} {x : Nat × Color × Piece} (h : x ∈ others b) :
    x.1 < 64 ∧ b x.1 = some x.2 ∧ x.2.2 ≠ .king :=
  others_mem h

theorem material_iff_spec {p : Position} {b : Proofs.Board} (h : Rep p b) (hk : kingCount b = 2) (turn : Color) :
    p.hasInsufficientMaterial = Spec.insufficientMaterial (abs p turn) := by
  rw [material_eq h hk, spec_insufficient h turn]

/-- A pawn weighs 1 + the number of steps to its promotion rank, every other man 1: a capture removes a man, a pawn
move is a step forward, a promotion turns weight ≥ 2 into weight 1. -/
theorem measure_decreases {b : Proofs.Board} {m : Move} (hout : ∀ sq, 64 ≤ sq → b sq = none)
    (hok : MetaOKb b m = true) (hs : MoveSound b m = true) :
    mu (boardAfter b m) ≤ mu b ∧ (isReset m = true → mu (boardAfter b m) < mu b) :=
  mu_boardAfter hout hok hs

theorem irreversible_from_rules {w : World} {b : Nat} (hg : GoodLine w b) (hc : ClockOK w b)
    (hr : RootClockOK w b) : Irreversible w b :=
  irreversible_of_good hg hc hr

theorem goodHistory_invariant :
    (∀ (w : World) (z : ZTable) (pos : Position) (turn : Color) {np : Int} (fm : Int), 0 ≤ np →
      GoodHistory z (w.newBoard z pos turn np fm).1 (w.newBoard z pos turn np fm).2) ∧
    (∀ {w w' : World} {z : ZTable} {b : Nat} {m : Move}, z.enpassant 0 = 0 → WFWorld w → b < w.boards.size →
      w.pushMove z b m = some w' → GoodHistory z w b →
      GoodStep (w.cur b).pos (w.board b).turn m (w'.cur b).pos → GoodHistory z w' b) ∧
    (∀ {w w' : World} {z : ZTable} {b : Nat} {m : Move}, WFWorld w → b < w.boards.size →
      w.popMove b = some (w', m) → GoodHistory z w b → GoodHistory z w' b) ∧
    (∀ {w : World} {z : ZTable} (b : Nat), WFWorld w → GoodHistory z w b →
      GoodHistory z (w.fork b).1 (w.fork b).2) :=
  ⟨fun w z pos turn _ fm hnp => goodHistory_newBoard w z pos turn fm hnp,
   fun hz hw hb h hg hs => goodHistory_push hz hw hb h hg hs,
   fun hw hb h hg => goodHistory_pop hw hb h hg, fun b hw hg => goodHistory_fork hw b hg⟩

/-- `draw_iff` without hypotheses on hashes or irreversibility. -/
theorem draw_iff_good {w w' : World} {z : ZTable} {b : Nat} {m : Move} (hz : z.enpassant 0 = 0)
    (hw : WFWorld w) (hb : b < w.boards.size) (h : w.pushMove z b m = some w') (hg : GoodHistory z w b)
    (hs : GoodStep (w.cur b).pos (w.board b).turn m (w'.cur b).pos) :
    DrawVerdict w' b m ∧ GoodHistory z w' b := by
  have hg' := goodHistory_push hz hw hb h hg hs
  exact ⟨draw_iff hw hb h hg.reps hg'.hash hg'.irreversible, hg'⟩

/-- The board's result against the reference's list of draw reasons: the reason reported is the one of highest
precedence in the list. -/
def SpecVerdict (r : Result) (dr : List Spec.DrawReason) : Prop :=
  (r.outcome = .draw ↔ dr ≠ []) ∧
  (r.reason = .insufficientMaterial ↔ Spec.DrawReason.material ∈ dr) ∧
  (r.reason = .noProgress ↔ Spec.DrawReason.noProgress ∈ dr ∧ Spec.DrawReason.material ∉ dr) ∧
  (r.reason = .repetition5 ↔
    Spec.DrawReason.repetition5 ∈ dr ∧ Spec.DrawReason.noProgress ∉ dr ∧ Spec.DrawReason.material ∉ dr) ∧
  (r.reason = .repetition3 ↔
    Spec.DrawReason.repetition3 ∈ dr ∧ Spec.DrawReason.noProgress ∉ dr ∧ Spec.DrawReason.material ∉ dr) ∧
  (r.outcome ≠ .draw → r = {})

/-- One move in lock-step: the three quantities the reference reads are the board's, and so is the verdict. -/
theorem spec_link {z : ZTable} {g : Spec.Game} {w w' : World} {b : Nat} {m : Move} (hz : z.enpassant 0 = 0)
    (hw : WFWorld w) (hb : b < w.boards.size) (h : w.pushMove z b m = some w') (hs : Sync z g w b)
    (hstep : FullStep (w.cur b).pos (w.board b).turn m (w'.cur b).pos) :
    Sync z (gsnoc g (absMove m)) w' b ∧
    (gsnoc g (absMove m)).repetitions = occurrences w' b ∧
    ((gsnoc g (absMove m)).halfmove : Int) = (w'.cur b).noprogress ∧
    SpecVerdict (w'.board b).result (gsnoc g (absMove m)).drawReasons := by
  have hs' := sync_push hz hw hb h hs hstep
  have q1 := hs'.repetitions
  have q2 := hs'.clock
  have q3 := sync_material hz hw hb h hs hstep
  refine ⟨hs', q1, q2, ?_⟩
  obtain ⟨v0, vM, vN, v5, v3, vnone⟩ := (draw_iff_good hz hw hb h hs.hist hstep.good).1
  have hN : (gsnoc g (absMove m)).halfmove ≥ 100 ↔ ClockHit w' b := by
    unfold ClockHit; rw [← q2]; omega
  have hM : ((g.current.occ (absMove m).to ||
        ((absMove m).promo.isSome && decide ((absMove m).promo ≠ some Spec.Kind.queen))) &&
      Spec.insufficientMaterial (gsnoc g (absMove m)).current) = true ↔ MaterialHit w' b m := by
    rw [q3]; unfold MaterialHit; simp
  obtain ⟨f0, fM, fN, f5, f3⟩ := drawReasons_spec (drawReasons_snoc g (absMove m))
  rw [q1, hN, hM] at f0
  rw [hM] at fM
  rw [hN] at fN
  rw [q1] at f5 f3
  unfold SpecVerdict
  rw [f0, fM, fN, f5, f3]
  exact ⟨v0, vM, vN, v5, v3, vnone⟩

/-- Whole games: repetition counted over the whole game, start position included; fifty-move rule counting on from the
set-up clock; insufficient material after a capture or under-promotion. `playCheck` is a decidable criterion for
`FullPlay` (`fullPlay_of_playCheck`). -/
theorem game_link {z : ZTable} (hz : z.enpassant 0 = 0) {w0 w' : World} (hw0 : WFWorld w0)
    {pos : Position} (hpos : PosOK pos) (turn : Color) (n0 f : Nat) (fm : Int) {ms : List Move} {m : Move}
    (hplay : FullPlay z (w0.newBoard z pos turn (n0 : Int) fm).2 (w0.newBoard z pos turn (n0 : Int) fm).1 (ms ++ [m]))
    (h : pushAll z (w0.newBoard z pos turn (n0 : Int) fm).2 (w0.newBoard z pos turn (n0 : Int) fm).1 (ms ++ [m])
      = some w') :
    SpecVerdict (w'.board (w0.newBoard z pos turn (n0 : Int) fm).2).result
      (Spec.Game.drawReasons
        { start := { pos := abs pos turn, halfmove := n0, fullmove := f }, moves := (ms ++ [m]).map absMove }) := by
  obtain ⟨hw1, hb1, _⟩ := Chain.newBoard_facts hw0 z pos turn (Int.natCast_nonneg n0) fm
  have hs0 := sync_newBoard w0 z turn n0 f fm hpos
  rw [pushAll_snoc, Option.bind_eq_some_iff] at h
  obtain ⟨w1, hms, h⟩ := h
  obtain ⟨hp1, hlast⟩ := fullPlay_snoc ms m hplay hms
  have hwf1 := pushAll_wf ms hw1 hb1 hms
  have hs1 := sync_pushAll hz ms hw1 hb1 hms hs0 hp1
  have hlink := spec_link hz hwf1.1 (by rw [hwf1.2]; exact hb1) h hs1 (hlast w' h)
  have hg : gsnoc (gappend { start := { pos := abs pos turn, halfmove := n0, fullmove := f }, moves := [] }
        (ms.map absMove)) (absMove m) =
      { start := { pos := abs pos turn, halfmove := n0, fullmove := f }, moves := (ms ++ [m]).map absMove } := by
    unfold gsnoc gappend; simp
  rw [hg] at hlink
  exact hlink.2.2.2

section Example

/-- K + N v K + N: kings on e1 / e8, knights on g1 / g8. -/
def exPl : List (Nat × Color × Piece) :=
  [(3, .white, .king), (59, .black, .king), (1, .white, .knight), (57, .black, .knight)]
def exPos : Position := (Position.newPosition exPl 0 0).getD {}
def nf3 : Move := { ty := .normal, «from» := 1, to := 18, piece := .knight }
def nf6 : Move := { ty := .normal, «from» := 57, to := 42, piece := .knight }
def ng1 : Move := { ty := .normal, «from» := 18, to := 1, piece := .knight }
def ng8 : Move := { ty := .normal, «from» := 42, to := 57, piece := .knight }
/-- 1. Nf3 Nf6 2. Ng1 Ng8 -/
def shuffle : List Move := [nf3, nf6, ng1, ng8]
/-- one board on that position, White to move, clock 0, with the sample Zobrist table of C07 -/
def wS : World := (({} : World).newBoard exZ exPos .white 0 1).1

theorem exPos_eq : Position.newPosition exPl 0 0 = some exPos := by decide +kernel

theorem exPos_ok : PosOK exPos := by
  have hv : ValidPlacements exPl := by
    intro x hx
    simp only [exPl, List.mem_cons, List.not_mem_nil, or_false] at hx
    rcases hx with rfl | rfl | rfl | rfl <;> simp
  have h : KingHome exPos = true ∧ exPos.castling < 16 ∧ kingCount exPos.square = 2 := by decide +kernel
  exact ⟨(newPosition_rep hv exPos_eq).1.self, h.1, h.2.1, h.2.2⟩

/-- One run of the knight shuffle on `wS` for everything the examples say about it. -/
theorem wS_shuffle :
    (pushAll exZ 0 wS (shuffle ++ shuffle)).map (fun w =>
      ((w.board 0).result, occurrences w 0, (w.cur 0).noprogress)) =
      some ({ outcome := .draw, reason := .repetition3 }, 3, 8) ∧
    ((pushAll exZ 0 wS (shuffle ++ shuffle)).map (fun w =>
      (w.identicalPositionCount (w.cur 0) (w.board 0).turn (w.board 0).turn.opp (w.cur 0).noprogress,
       repGet (w.board 0).repetitions (w.cur 0).hash)) = some (3, 3) ∧
     (pushAll exZ 0 wS (shuffle ++ shuffle)).all (fun w =>
      decide (HashFaithful exZ w 0) && decide (Irreversible w 0)) = true) ∧
    (pushAll exZ 0 wS shuffle).map (fun w => ((w.board 0).result, occurrences w 0, (w.cur 0).noprogress)) =
      some ({}, 2, 4) ∧
    playCheck exPos .white (shuffle ++ shuffle) = true := by decide +kernel

/-- The knights shuffle twice: eight accepted moves; the board then reports a draw by three-fold repetition,
the start position has occurred 3 times on the line, the clock is 8; the line is hash-faithful and
irreversible (so the hypotheses of `repetition_count_exact` / `draw_iff` hold), `identicalPositionCount` and
the hash counter are both 3. Evaluated by the kernel. -/
example :
    (pushAll exZ 0 wS (shuffle ++ shuffle)).map (fun w =>
      ((w.board 0).result, occurrences w 0, (w.cur 0).noprogress)) =
    some ({ outcome := .draw, reason := .repetition3 }, 3, 8) := wS_shuffle.1

example :
    (pushAll exZ 0 wS (shuffle ++ shuffle)).map (fun w =>
      (w.identicalPositionCount (w.cur 0) (w.board 0).turn (w.board 0).turn.opp (w.cur 0).noprogress,
       repGet (w.board 0).repetitions (w.cur 0).hash)) = some (3, 3) ∧
    (pushAll exZ 0 wS (shuffle ++ shuffle)).all (fun w =>
      decide (HashFaithful exZ w 0) && decide (Irreversible w 0)) = true := wS_shuffle.2.1

/-- After the first shuffle (four moves) the start position has occurred twice and nothing is reported. -/
example :
    (pushAll exZ 0 wS shuffle).map (fun w => ((w.board 0).result, occurrences w 0, (w.cur 0).noprogress)) =
    some ({}, 2, 4) := wS_shuffle.2.2.1

theorem ex_playCheck : playCheck exPos .white (shuffle ++ shuffle) = true := wS_shuffle.2.2.2

theorem ex_fullPlay : FullPlay exZ 0 wS (shuffle ++ shuffle) := by
  obtain ⟨hw, hb, _, hp, ht⟩ := Chain.newBoard_facts wf_empty exZ exPos .white (Int.le_refl 0) 1
  have hp : (wS.cur 0).pos = exPos := hp
  have ht : (wS.board 0).turn = .white := ht
  exact fullPlay_of_playCheck _ hw hb (by rw [hp]; exact exPos_ok) (by rw [hp, ht]; exact ex_playCheck)

theorem shuffle_split : shuffle ++ shuffle = (shuffle ++ [nf3, nf6, ng1]) ++ [ng8] := rfl

/-- `game_link` instantiated on that game: the board's result is the reference's verdict … -/
example : ∀ w', pushAll exZ 0 wS (shuffle ++ shuffle) = some w' →
    SpecVerdict (w'.board 0).result
      (Spec.Game.drawReasons
        { start := { pos := abs exPos .white, halfmove := 0, fullmove := 1 },
          moves := (shuffle ++ shuffle).map absMove }) := by
  intro w' h
  have hplay := ex_fullPlay
  rw [shuffle_split] at hplay h ⊢
  exact game_link (z := exZ) rfl wf_empty exPos_ok .white 0 1 1 hplay h

/-- … and the reference, evaluated on its own, says: three-fold repetition, nothing else. -/
example : Spec.Game.drawReasons
    { start := { pos := abs exPos .white, halfmove := 0, fullmove := 1 },
      moves := (shuffle ++ shuffle).map absMove } = [.repetition3] := by decide +kernel

/-- `material_iff` instantiated: K + N v K + N is sufficient material, and the mailbox predicate agrees. -/
example : exPos.hasInsufficientMaterial = insufficientB exPos.square ∧ exPos.hasInsufficientMaterial = false :=
  ⟨material_iff exPos_ok.rep exPos_ok.kings, by decide +kernel⟩

/-- `adjudicate` on a concrete board: no check in the start position, so "no legal moves" would be stalemate. -/
example : (wS.adjudicateNoLegalMoves 0).2 = { outcome := .draw, reason := .stalemate } := by decide +kernel

/-- The two-kings hypothesis of `material_iff` is necessary: with a lone white king and queen (no black
king) the bitboard test says "insufficient" (two men), the mailbox predicate does not (the other man is a queen). -/
example :
    let p := (Position.newPosition [(3, .white, .king), (4, .white, .queen)] 0 0).getD {}
    p.hasInsufficientMaterial = true ∧ insufficientB p.square = false ∧ kingCount p.square = 1 := by
  decide +kernel

/-- Castling does not restart the clock, a pawn push does (`updateNoProgress`). -/
example : updateNoProgress 10 { ty := .kingSideCastle, «from» := 3, to := 1, piece := .king } = 11 ∧
    updateNoProgress 10 { ty := .push, «from» := 11, to := 19, piece := .pawn } = 0 := by decide

/-- Two bishops on squares of one colour: `6k1/8/8/8/2b5/8/3p4/3K1B2 w`, Kxd2 leaves K+B v K+B with bishops
on c4 and f1 (both light) — reported drawn for insufficient material; in `2b3k1/8/8/8/8/8/3p4/2BK4 w`, Kxd2
leaves bishops on c8 and c1 (opposite colours) — not drawn. (The colour mask is a checkerboard, not a file mask.) -/
example :
    let kxd2 : Move := { ty := .capture, «from» := 4, to := 12, piece := .king, capture := .pawn }
    let pA := (Position.newPosition
      [(57, .black, .king), (29, .black, .bishop), (12, .black, .pawn), (4, .white, .king), (2, .white, .bishop)] 0 0).getD {}
    let pB := (Position.newPosition
      [(57, .black, .king), (61, .black, .bishop), (12, .black, .pawn), (4, .white, .king), (5, .white, .bishop)] 0 0).getD {}
    ((({} : World).newBoard exZ pA .white 0 1).1.pushMove exZ 0 kxd2).map (fun w => (w.board 0).result) =
      some { outcome := .draw, reason := .insufficientMaterial } ∧
    ((({} : World).newBoard exZ pB .white 0 1).1.pushMove exZ 0 kxd2).map (fun w => (w.board 0).result) =
      some {} := by
  decide +kernel

end Example

/-! From here on the hypotheses `GoodStep` / `GoodHistory` / `FullPlay` are derived from the start position alone:
`WFplay pos turn` (C01 `WF` and the side not to move is not in check) is preserved by every generated move that
`Position.Move` accepts, and under it every generated move is a `FullStep`. -/
section Reachable
open Morlock.Proofs.Chain Morlock.Proofs.Gen

theorem pseudo_moveSound {p : Position} {turn : Color} (hw : WF p turn) :
    ∀ m ∈ p.pseudoLegalMoves turn,
      MoveSound p.square m = true ∧ p.square m.from = some (turn, m.piece) :=
  fun m hm => ⟨Chain.pseudo_moveSound hw m hm, Chain.pseudo_mover hw m hm⟩

theorem generated_fullStep {p q : Position} {turn : Color} {m : Move} (hw : WFplay p turn)
    (hm : m ∈ p.pseudoLegalMoves turn) (hq : p.move m = some q) : FullStep p turn m q ∧ WFplay q turn.opp :=
  step_wfplay hw hm hq

theorem reachable_fullStep {p q r : Position} {t t' : Color} {m : Move} (hw : WFplay p t)
    (hr : GenReach p t q t') (hm : m ∈ q.pseudoLegalMoves t') (hq : q.move m = some r) :
    FullStep q t' m r ∧ WFplay r t'.opp :=
  step_wfplay (reach_wfplay hw hr) hm hq

theorem generated_stepCheck {p : Position} {turn : Color} (hw : WFplay p turn) :
    ∀ m ∈ p.pseudoLegalMoves turn, stepCheck p turn m = true := stepCheck_of_wfplay hw

/-- In particular the piece moved has the colour of the board's turn. -/
theorem generated_goodMove {w : World} {b : Nat} {m : Move} (hwf : WFplay (w.cur b).pos (w.board b).turn)
    (hm : m ∈ (w.cur b).pos.pseudoLegalMoves (w.board b).turn) : GoodMove w b m :=
  ⟨⟨_, hwf.1.rep⟩, (((mem_pseudoLegalMoves hwf.1.rep hwf.1.wfb m).mp hm).metaOK_classOK hwf.1.rep hwf.1.wfb).1,
    ⟨_, Chain.pseudo_mover hwf.1 m hm⟩⟩

theorem draw_iff_generated {w w' : World} {z : ZTable} {b : Nat} {m : Move} (hz : z.enpassant 0 = 0)
    (hw : WFWorld w) (hb : b < w.boards.size) (hg : GoodHistory z w b)
    (hwf : WFplay (w.cur b).pos (w.board b).turn)
    (hm : m ∈ (w.cur b).pos.pseudoLegalMoves (w.board b).turn) (h : w.pushMove z b m = some w') :
    DrawVerdict w' b m ∧ GoodHistory z w' b ∧ WFplay (w'.cur b).pos (w'.board b).turn := by
  obtain ⟨hfull, hwf'⟩ := push_wfplay hw hb hwf hm h
  obtain ⟨hv, hg'⟩ := draw_iff_good hz hw hb h hg hfull.good
  exact ⟨hv, hg', hwf'⟩

/-- The exact draw verdict for every game played with generated moves from a well-formed start position: no hypothesis
on hashes, irreversibility, metadata or the history is left. -/
theorem draw_iff_reachable {z : ZTable} (hz : z.enpassant 0 = 0) {w0 w' : World} (hw0 : WFWorld w0)
    {pos : Position} {turn : Color} (hpos : WFplay pos turn) {np : Int} (hnp : 0 ≤ np) (fm : Int)
    {ms : List Move} {m : Move} (hgen : GenPlay pos turn (ms ++ [m]))
    (h : pushAll z (w0.newBoard z pos turn np fm).2 (w0.newBoard z pos turn np fm).1 (ms ++ [m]) = some w') :
    DrawVerdict w' (w0.newBoard z pos turn np fm).2 m ∧ GoodHistory z w' (w0.newBoard z pos turn np fm).2 ∧
      WFplay (w'.cur (w0.newBoard z pos turn np fm).2).pos (w'.board (w0.newBoard z pos turn np fm).2).turn := by
  obtain ⟨hw1, hb1, hg1, hp1, ht1⟩ := newBoard_facts hw0 z pos turn hnp fm
  rw [pushAll_snoc, Option.bind_eq_some_iff] at h
  obtain ⟨w1, hms, h⟩ := h
  obtain ⟨hw, hb, hg, hwf, hgm⟩ := play_invariant hz ms [m] hw1 hb1 hg1 (by rw [hp1, ht1]; exact hpos)
    (by rw [hp1, ht1]; exact hgen) hms
  exact draw_iff_generated hz hw hb hg hwf hgm.1 h

/-- `PosOK` (four rights bits only, two kings) is needed for the material rule and for identifying positions. -/
theorem game_link_reachable {z : ZTable} (hz : z.enpassant 0 = 0) {w0 w' : World} (hw0 : WFWorld w0)
    {pos : Position} {turn : Color} (hpos : WFplay pos turn) (hc : pos.castling < 16)
    (hk : kingCount pos.square = 2) (n0 f : Nat) (fm : Int) {ms : List Move} {m : Move}
    (hgen : GenPlay pos turn (ms ++ [m]))
    (h : pushAll z (w0.newBoard z pos turn (n0 : Int) fm).2 (w0.newBoard z pos turn (n0 : Int) fm).1 (ms ++ [m])
      = some w') :
    SpecVerdict (w'.board (w0.newBoard z pos turn (n0 : Int) fm).2).result
      (Spec.Game.drawReasons
        { start := { pos := abs pos turn, halfmove := n0, fullmove := f }, moves := (ms ++ [m]).map absMove }) := by
  obtain ⟨hw1, hb1, _, hp1, ht1⟩ := newBoard_facts hw0 z pos turn (Int.natCast_nonneg n0) fm
  have hplay : FullPlay z (w0.newBoard z pos turn (n0 : Int) fm).2 (w0.newBoard z pos turn (n0 : Int) fm).1
      (ms ++ [m]) :=
    fullPlay_of_genPlay (ms ++ [m]) hw1 hb1 (by rw [hp1, ht1]; exact hpos) (by rw [hp1, ht1]; exact hgen)
  exact game_link hz hw0 (posOK_of_wfplay hpos hc hk) turn n0 f fm hplay h

/-- The initial position satisfies all start conditions. -/
example : WFplay startPos .white ∧ startPos.castling < 16 ∧ kingCount startPos.square = 2 :=
  ⟨startPos_wfplay, startPos_posOK.castling, startPos_posOK.kings⟩

/-- One run of `1. Nf3 Nf6 2. Ng1 Ng8` from the initial position: the four moves are generated and lead back to it. -/
theorem start_shuffle :
    (genPlayCheck startPos .white shuffle = true ∧ playMoves startPos .white shuffle = some (startPos, .white)) ∧
    (pushAll exZ 0 (({} : World).newBoard exZ startPos .white 0 1).1 (shuffle ++ shuffle)).map (fun w =>
      ((w.board 0).result, occurrences w 0, (w.cur 0).noprogress)) =
    some ({ outcome := .draw, reason := .repetition3 }, 3, 8) := by
  rw [startPos_val]
  decide +kernel

/-- The second shuffle starts from the position of the first. -/
theorem start_genPlay : GenPlay startPos .white (shuffle ++ shuffle) :=
  have h := genPlay_of_check _ _ _ start_shuffle.1.1
  genPlay_append shuffle shuffle h fun q t' hq => by
    rw [start_shuffle.1.2] at hq
    cases hq
    exact h

/-- `draw_iff_reachable` instantiated on the initial position: after those eight moves the board reports the
verdict of the history — and, evaluated, that verdict is a draw by three-fold repetition (3 occurrences). -/
example : ∀ w', pushAll exZ 0 (({} : World).newBoard exZ startPos .white 0 1).1 (shuffle ++ shuffle) = some w' →
    DrawVerdict w' 0 ng8 ∧ GoodHistory exZ w' 0 := by
  intro w' h
  have hgen := start_genPlay
  rw [shuffle_split] at hgen h
  have := draw_iff_reachable (z := exZ) rfl wf_empty startPos_wfplay (Int.le_refl 0) 1 hgen h
  exact ⟨this.1, this.2.1⟩

example :
    (pushAll exZ 0 (({} : World).newBoard exZ startPos .white 0 1).1 (shuffle ++ shuffle)).map (fun w =>
      ((w.board 0).result, occurrences w 0, (w.cur 0).noprogress)) =
    some ({ outcome := .draw, reason := .repetition3 }, 3, 8) := start_shuffle.2

/-- `game_link_reachable` instantiated on the same game: the board's result is the reference's verdict on the
game from the initial position. -/
example : ∀ w', pushAll exZ 0 (({} : World).newBoard exZ startPos .white 0 1).1 (shuffle ++ shuffle) = some w' →
    SpecVerdict (w'.board 0).result
      (Spec.Game.drawReasons
        { start := { pos := abs startPos .white, halfmove := 0, fullmove := 1 },
          moves := (shuffle ++ shuffle).map absMove }) := by
  intro w' h
  have hgen := start_genPlay
  rw [shuffle_split] at hgen h ⊢
  exact game_link_reachable (z := exZ) rfl wf_empty startPos_wfplay startPos_posOK.castling startPos_posOK.kings
    0 1 1 hgen h

end Reachable

end Morlock.Props.C05
