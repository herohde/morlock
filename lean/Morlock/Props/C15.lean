import Morlock.Proofs.ConcIter
import Morlock.Props.C15Limits
/-!
# C15 — iterative deepening (`pkg/search/searchctl/iterative.go`) under every interleaving, and the
arithmetic of `TimeControl.Limits`

Model: `Morlock/Model/IterConc.lean` (its header says what one step is and what is abstracted). One search:
the searcher goroutine `handle.process`, the watcher that turns `quit` into a cancelled context, any number `n`
of `handle.Halt()` calls starting at arbitrary times (the hard-limit timer is one of them), and a consumer of
`out`. `run cfg (init n) sched` is the state after the schedule `sched` (a list of `Act`s; the searcher's `Act`
carries the bit that resolves "did the search notice the cancellation" / "is the soft limit exceeded").
`cfg : Cfg` gives the depth limit, the abstract search result and mate distance per depth, and whether a soft
time limit is in force. Every theorem is for ALL `cfg`, `n`, and schedules (induction over the schedule).

`cfg.pv d` = the PV of depth `d` (`(d, cfg.search d)`); `cfg.hardStop d` = `depth == limit ∨ mateDistance ≤ depth`
at depth `d`; `State.sent` = every PV ever sent on `out`, oldest first (ghost); `State.pv` = `h.pv`;
`HPc.done snap res` = a Halt call that has returned `res` and had `snap = sent.length` when it started.
-/
namespace Morlock.Props.C15
open Morlock.Model.IterConc Morlock.Proofs.ConcIter

/-- **reports_in_order.** The PVs ever sent on `out` are exactly `search 1, search 2, …, search k` in this order
(`k` = how many were sent): increasing depth, no gap, no repeat, each the abstract PV of its depth. -/
theorem reports_in_order (cfg : Cfg) (n : Nat) (sched : List Act) :
    (run cfg (init n) sched).sent =
      (List.range' 1 (run cfg (init n) sched).sent.length).map cfg.pv :=
  (iterInv_run cfg n sched).sent

/-- The PV stored for `Halt` never lags the channel: `h.pv` is written before the send, so the number of PVs sent
(= the depth of the last one) is at most the depth of `h.pv`. (Nothing is claimed about what the consumer
*receives*: the drop-oldest channel may lose intermediate PVs.) -/
theorem sent_le_stored (cfg : Cfg) (n : Nat) (sched : List Act) :
    (run cfg (init n) sched).sent.length ≤ (run cfg (init n) sched).pv.depth :=
  (iterInv_run cfg n sched).sentLe

/-- **stops_at_limit.** As long as nobody has called `Halt` (`quit` not closed):
* if the searcher is running its deferred calls or has returned, then it completed some depth `D ≥ 1`
  (`h.pv` is the PV of depth `D`), all of `search 1 … search D` were sent, `D` satisfies a stop condition
  (`depth = limit`, or `mateDistance ≤ depth`, or a soft time limit is in force) and no earlier depth satisfied a
  hard one (limit / mate): it stopped right after the first such depth;
* otherwise it is working on some depth `d ≥ 1`, no depth before `d` was a hard stop, and its next step is
  enabled unless it waits for `h.mu` (it keeps going).
With `useSoft = false` the first case says exactly: `D` is the first depth with `depth = limit ∨ mate ≤ depth`. -/
theorem stops_at_limit (cfg : Cfg) (n : Nat) (sched : List Act)
    (hq : (run cfg (init n) sched).quit = false) :
    let s := run cfg (init n) sched
    (s.spc.exiting = true →
      1 ≤ s.pv.depth ∧ s.pv = cfg.pv s.pv.depth ∧ s.sent = (List.range' 1 s.pv.depth).map cfg.pv ∧
      (cfg.hardStop s.pv.depth = true ∨ cfg.useSoft = true) ∧
      ∀ d', 1 ≤ d' → d' < s.pv.depth → cfg.hardStop d' = false) ∧
    (s.spc.exiting = false →
      ∃ d, s.spc.depth? = some d ∧ 1 ≤ d ∧ (∀ d', 1 ≤ d' → d' < d → cfg.hardStop d' = false) ∧
        ∀ b, (∀ d, s.spc = .lock d → s.mu = none) → (step cfg s (.searcher b)).spc ≠ s.spc) :=
  stops_at_limit_of cfg _ (iterInv_run cfg n sched) (sendInv_run cfg n sched) hq

/-- **halt_after_depth1.** A `Halt` call that has got past `<-h.init.Closed()` (in particular one that has
returned) implies that depth 1 was stored in `h.pv` (`pv.depth ≥ 1`) or the searcher has returned. -/
theorem halt_after_depth1 (cfg : Cfg) (n : Nat) (sched : List Act) (k : Nat) (hp : HPc)
    (hk : (run cfg (init n) sched).halts[k]? = some hp)
    (hpast : hp ≠ .idle ∧ ∀ snap, hp ≠ .await snap) :
    1 ≤ (run cfg (init n) sched).pv.depth ∨ (run cfg (init n) sched).spc = .exited := by
  have h := iterInv_run cfg n sched
  have hok := h.halts hp (List.mem_of_getElem? hk)
  apply h.initOk
  cases hp with
  | idle => exact absurd rfl hpast.1
  | await snap => exact absurd rfl (hpast.2 snap)
  | closeQuit snap => exact hok.2
  | lock snap => exact hok.2.1
  | read snap => exact hok.2.1
  | unlock snap r => exact hok.2.2.2.1
  | done snap r => exact hok.2.2.2.1

/-- **halt_monotone.** If a `Halt` call has returned `res`, then `res` is at least as deep as every PV that had
been sent on `out` before the call started (`sent.take snap`), and it is a completed iteration: the zero `PV{}`
(only possible if nothing had been sent before the call started) or `search d` for a depth `d ≥ 1` that the
searcher has stored. -/
theorem halt_monotone (cfg : Cfg) (n : Nat) (sched : List Act) (k snap : Nat) (res : PV)
    (hk : (run cfg (init n) sched).halts[k]? = some (.done snap res)) :
    (∀ pv ∈ (run cfg (init n) sched).sent.take snap, pv.depth ≤ res.depth) ∧
    ((res = {} ∧ snap = 0) ∨ (1 ≤ res.depth ∧ res = cfg.pv res.depth)) ∧
    res.depth ≤ (run cfg (init n) sched).pv.depth := by
  have h := iterInv_run cfg n sched
  obtain ⟨a1, a2, a3, _, _⟩ := h.halts _ (List.mem_of_getElem? hk)
  refine ⟨?_, ?_, a2⟩
  · intro pv hpv
    have hs := h.sent
    unfold Cfg.SentOk at hs
    rw [hs] at hpv
    have := (mem_take_pvs hpv).2
    omega
  · unfold Cfg.IsPv at a3
    by_cases h0 : res.depth = 0
    · rw [if_pos h0] at a3; exact .inl ⟨a3, by omega⟩
    · rw [if_neg h0] at a3; exact .inr ⟨by omega, a3⟩

/-- The search context is cancelled only because of a `Halt` (`quit` closed, then the watcher) or by the searcher's
own deferred `cancel()` on its way out: a search never returns `ErrHalted` unless somebody called `Halt`. -/
theorem cancelled_only_after_quit (cfg : Cfg) (n : Nat) (sched : List Act)
    (hc : (run cfg (init n) sched).cancelled = true) :
    (run cfg (init n) sched).quit = true ∨ (run cfg (init n) sched).spc.afterCancel = true :=
  (iterInv_run cfg n sched).cancelOk hc

/-! ## `TimeControl.Limits`

The arithmetic of the time control is `Model.limits` (the transcription the `limits` stream ties to the code, every
operation in wrapped `int64`); its theorems are in `Props/C15Limits.lean`: `hard_le_remaining` (for a clock
`0 ≤ remaining < 2^62` and EVERY `int64` moves-to-go: `0 ≤ soft ≤ hard ≤ remaining`) and `divisor_ok` (no division of
`Limits` can panic). Restated here for the property. -/

/-- **limits.** `0 ≤ soft ≤ hard ≤ remaining` for every clock that has not run out and every `int64` moves-to-go. -/
theorem limits_ordered (remaining moves : Int) (hr0 : 0 ≤ remaining) (hr1 : remaining < 4611686018427387904)
    (hm0 : -9223372036854775808 ≤ moves) (hm1 : moves < 9223372036854775808) :
    0 ≤ (Morlock.Model.limits remaining moves).1 ∧
    (Morlock.Model.limits remaining moves).1 ≤ (Morlock.Model.limits remaining moves).2 ∧
    (Morlock.Model.limits remaining moves).2 ≤ remaining :=
  Morlock.Props.C15Limits.hard_le_remaining remaining moves hr0 hr1 hm0 hm1

/-! ## the hypotheses are satisfiable: small concrete systems -/

/-- example configuration: depth limit 3 -/
def cfg3 : Cfg := { limit := some 3, search := fun d => 10 * d }

/-- depth limit 3, nobody halts: the searcher sends depths 1, 2, 3 and returns; the consumer saw only what it
happened to pick up (drop-oldest lost depth 2). -/
example :
    let s := run cfg3 (init 0)
      (List.replicate 8 (.searcher false) ++ [.consumer] ++ List.replicate 16 (.searcher false) ++ [.consumer] ++
       List.replicate 3 (.searcher false))
    s.sent = [⟨1, 10⟩, ⟨2, 20⟩, ⟨3, 30⟩] ∧ s.received = [⟨1, 10⟩, ⟨3, 30⟩] ∧ s.spc = .exited ∧
    s.outClosed = true ∧ s.quit = false := by
  decide +kernel

/-- two Halt callers on an unlimited search: the first call starts before anything was sent and waits for depth 1;
the second starts after depth 2 was sent. Both return a PV at least as deep as what had been sent when they started;
the searcher notices the cancellation inside the search of depth 3 and returns. -/
example :
    let s := run { search := fun d => 10 * d } (init 2)
      ([.halt 0, .halt 0] ++ List.replicate 8 (.searcher false) ++ [.halt 0] ++
       List.replicate 7 (.searcher false) ++ [.halt 1, .halt 1] ++
       [.halt 0, .halt 0, .halt 0, .halt 0, .watcher, .halt 1, .halt 1, .halt 1, .halt 1] ++
       List.replicate 6 (.searcher true))
    s.halts = [.done 0 ⟨2, 20⟩, .done 2 ⟨2, 20⟩] ∧ s.sent = [⟨1, 10⟩, ⟨2, 20⟩] ∧ s.spc = .exited := by
  decide +kernel

-- with moves to go the horizon assumed for sudden death plays no role; in sudden death the limits follow the horizon read from the source
example : Morlock.Model.limits 60000 9 = (3000, 9000) := by decide
example : Morlock.Model.limits 60000 0 =
    (Int.tdiv (Int.tdiv 60000 Gen.defaultHorizon) 2, 3 * Int.tdiv (Int.tdiv 60000 Gen.defaultHorizon) 2) := by decide

end Morlock.Props.C15
