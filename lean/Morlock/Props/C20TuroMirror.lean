import Morlock.Proofs.TuroMirror
import Morlock.Props.C20TurochampFlt
import Morlock.Proofs.TurochampFlags
import Morlock.Proofs.MoveEp
/-!
# C20 — TUROCHAMP's evaluation is colour-blind, also with a check or an en-passant target on the board

For the side NOT to move `PositionPlay` generates moves with the e.p. target and check status of the actual position:
"en-passant captures" onto the side's own target (`Position.Move` accepts them and removes a phantom pawn), captures of a
king in check - moves that no position of the reference semantics describes. So the proof goes through the bitboards
(`Proofs/TuroMirror*.lean`): `MP p q` = every bitboard of `q` is the mirror image of the bitboard of the other colour of
`p`; the generator, `Position.Move`, `IsChecked`, `IsCheckMate` commute with it for either colour, also on positions with
a phantom pawn. Two instances: a position with a check, an e.p. target and phantom captures; and one where the only
"mate threat" of the side not to move is a phantom capture.
-/
namespace Morlock.Props.C20TuroMirror
open Morlock Morlock.Model Morlock.Model.Flt Morlock.Model.Turochamp Morlock.Proofs Morlock.Proofs.Gen
open Morlock.Proofs.Mirror Morlock.Proofs.Turochamp Morlock.Proofs.TuroMirror

theorem mirrorMove_def (m : Move) : mm m = { m with «from» := Spec.mirrorSq m.from, to := Spec.mirrorSq m.to } := rfl

/-- The three terms of `PositionPlay` that read the legal moves - mate threat, "may castle", the exact mobility sum - are
colour-blind for BOTH colours, from `WF p t` alone (no `WFplay`): in particular for the side not to move when the side to
move is in check or an en-passant target is set. -/
theorem mirrorGap_any {p q : Position} {t : Color} {b : Proofs.Board} (hw : WF p t) (hp : Rep p b)
    (hq : Rep q (mirrorBoard b))
    (hwk : (q.castling &&& wK != 0) = (p.castling &&& bK != 0))
    (hwq : (q.castling &&& wQ != 0) = (p.castling &&& bQ != 0))
    (hbk : (q.castling &&& bK != 0) = (p.castling &&& wK != 0))
    (hbq : (q.castling &&& bQ != 0) = (p.castling &&& wQ != 0))
    (hep0 : p.enpassant = 0 → q.enpassant = 0)
    (hep1 : p.enpassant ≠ 0 → q.enpassant = Spec.mirrorSq p.enpassant ∧ q.enpassant ≠ 0) (c : Color) :
    MirrorGap p q c := by
  obtain ⟨h, _, hk⟩ := bits_of_rep hw hp hq hwk hwq hbk hbq hep0 hep1
  exact mirrorGap_bits h hp hk c

/-- Phantom captures included, whoever is to move. -/
theorem legalMoves_mirror_any {p q : Position} {t : Color} {b : Proofs.Board} (hw : WF p t) (hp : Rep p b)
    (hq : Rep q (mirrorBoard b))
    (hwk : (q.castling &&& wK != 0) = (p.castling &&& bK != 0))
    (hwq : (q.castling &&& wQ != 0) = (p.castling &&& bQ != 0))
    (hbk : (q.castling &&& bK != 0) = (p.castling &&& wK != 0))
    (hbq : (q.castling &&& bQ != 0) = (p.castling &&& wQ != 0))
    (hep0 : p.enpassant = 0 → q.enpassant = 0)
    (hep1 : p.enpassant ≠ 0 → q.enpassant = Spec.mirrorSq p.enpassant ∧ q.enpassant ≠ 0) (c : Color) :
    (q.legalMoves c.opp).Perm ((p.legalMoves c).map mm) ∧
    (q.pseudoLegalMoves c.opp).Perm ((p.pseudoLegalMoves c).map mm) := by
  obtain ⟨h, ht, hk⟩ := bits_of_rep hw hp hq hwk hwq hbk hbq hep0 hep1
  exact ⟨legal_mirror h ht hk c, pseudo_mirror h c (hk c)⟩

/-- Also when the result has a phantom pawn (and represents no board). -/
theorem positionMove_mirror {p q : Position} {t : Color} {b : Proofs.Board} (hw : WF p t) (hp : Rep p b)
    (hq : Rep q (mirrorBoard b))
    (hwk : (q.castling &&& wK != 0) = (p.castling &&& bK != 0))
    (hwq : (q.castling &&& wQ != 0) = (p.castling &&& bQ != 0))
    (hbk : (q.castling &&& bK != 0) = (p.castling &&& wK != 0))
    (hbq : (q.castling &&& bQ != 0) = (p.castling &&& wQ != 0))
    (hep0 : p.enpassant = 0 → q.enpassant = 0)
    (hep1 : p.enpassant ≠ 0 → q.enpassant = Spec.mirrorSq p.enpassant ∧ q.enpassant ≠ 0) {c : Color} {m : Move}
    (hm : m ∈ p.pseudoLegalMoves c) :
    (p.move m = none ∧ q.move (mm m) = none) ∨
    ∃ p' q', p.move m = some p' ∧ q.move (mm m) = some q' ∧ MP p' q' ∧ ∀ d, q'.isCheckMate d.opp = p'.isCheckMate d := by
  obtain ⟨h, ht, hk⟩ := bits_of_rep hw hp hq hwk hwq hbk hbq hep0 hep1
  have g := pseudo_ok h.sized hm
  obtain ⟨hsq, htn, hkn⟩ := next_facts hp hk g
  rcases move_mirror h ht hk g.ok (promo_ne_king g) with hn | ⟨turn, pc, hs, a, b'⟩
  · exact Or.inl hn
  · rw [hsq] at hs
    obtain ⟨rfl, rfl⟩ := Prod.mk.inj (Option.some.inj hs)
    have hmp := moveRaw_MP h g.ok c m.piece
    exact Or.inr ⟨_, _, a, b', hmp, fun d => isCheckMate_mirror hmp htn hkn d⟩

/-- `Eval.Evaluate` is colour-blind as a float32 - for any iteration orders of the mobility maps on the two boards - for
EVERY well-formed position with at most 16 men a side and no pawn on the first or last rank (`Sane`). No hypothesis on
checks (not even that the side not to move is not in check), none on the e.p. target beyond `WF`, no `MirrorGap`. -/
theorem evaluate_mirror {p q : Position} {t : Color} {b : Proofs.Board} (hp : Rep p b) (hq : Rep q (mirrorBoard b))
    (hwp : WF p t) (hwq : WF q t.opp)
    (hwk : (q.castling &&& wK != 0) = (p.castling &&& bK != 0))
    (hwq' : (q.castling &&& wQ != 0) = (p.castling &&& bQ != 0))
    (hbk : (q.castling &&& bK != 0) = (p.castling &&& wK != 0))
    (hbq : (q.castling &&& bQ != 0) = (p.castling &&& wQ != 0))
    (hep0 : p.enpassant = 0 → q.enpassant = 0)
    (hep1 : p.enpassant ≠ 0 → q.enpassant = Spec.mirrorSq p.enpassant ∧ q.enpassant ≠ 0)
    (hW : Sane p .white) (hB : Sane p .black)
    (cs co : Bool) (oS oO oS' oO' : List (Nat × Nat) → List (Nat × Nat))
    (hpS : ∀ l, (oS l).Perm l) (hpO : ∀ l, (oO l).Perm l) (hpS' : ∀ l, (oS' l).Perm l) (hpO' : ∀ l, (oO' l).Perm l) :
    evaluateCoreOrd oS oO q cs co t.opp = evaluateCoreOrd oS' oO' p cs co t :=
  evaluateCoreOrd_mirror_bits hwp hwq hp hq hwk hwq' hbk hbq hep0 hep1 hW hB cs co oS oO oS' oO' hpS hpO hpS' hpO'

/-- `C20Turochamp.evaluate_mirror_mover` without its `MirrorGap` hypothesis. -/
theorem evaluate_mirror_wfplay {p q : Position} {t : Color} {b : Proofs.Board} (hp : Rep p b)
    (hq : Rep q (mirrorBoard b)) (hwp : Chain.WFplay p t) (hwq : Chain.WFplay q t.opp)
    (hwk : (q.castling &&& wK != 0) = (p.castling &&& bK != 0))
    (hwq' : (q.castling &&& wQ != 0) = (p.castling &&& bQ != 0))
    (hbk : (q.castling &&& bK != 0) = (p.castling &&& wK != 0))
    (hbq : (q.castling &&& bQ != 0) = (p.castling &&& wQ != 0))
    (hep0 : p.enpassant = 0 → q.enpassant = 0)
    (hep1 : p.enpassant ≠ 0 → q.enpassant = Spec.mirrorSq p.enpassant ∧ q.enpassant ≠ 0)
    (hW : Sane p .white) (hB : Sane p .black)
    (cs co : Bool) (oS oO oS' oO' : List (Nat × Nat) → List (Nat × Nat))
    (hpS : ∀ l, (oS l).Perm l) (hpO : ∀ l, (oO l).Perm l) (hpS' : ∀ l, (oS' l).Perm l) (hpO' : ∀ l, (oO' l).Perm l) :
    evaluateCoreOrd oS oO q cs co t.opp = evaluateCoreOrd oS' oO' p cs co t :=
  evaluate_mirror hp hq hwp.1 hwq.1 hwk hwq' hbk hbq hep0 hep1 hW hB cs co oS oO oS' oO' hpS hpO hpS' hpO'

/-- the model sums the mobility map in insertion order -/
theorem evaluate_eq (w : World) (b : Nat) :
    evaluate w b = evaluateCoreOrd id id (w.cur b).pos (hasCastled w b (w.board b).turn)
      (hasCastled w b (w.board b).turn.opp) (w.board b).turn := rfl

/-- The model's `Eval.Evaluate` on two boards, with the sides to move and the has-castled flags exchanged. -/
theorem evaluate_mirror_board {w w' : World} {b b' : Nat} {bd : Proofs.Board}
    (hp : Rep (w.cur b).pos bd) (hq : Rep (w'.cur b').pos (mirrorBoard bd))
    (hturn : (w'.board b').turn = (w.board b).turn.opp)
    (hwp : WF (w.cur b).pos (w.board b).turn) (hwq : WF (w'.cur b').pos (w'.board b').turn)
    (hwk : ((w'.cur b').pos.castling &&& wK != 0) = ((w.cur b).pos.castling &&& bK != 0))
    (hwq' : ((w'.cur b').pos.castling &&& wQ != 0) = ((w.cur b).pos.castling &&& bQ != 0))
    (hbk : ((w'.cur b').pos.castling &&& bK != 0) = ((w.cur b).pos.castling &&& wK != 0))
    (hbq : ((w'.cur b').pos.castling &&& bQ != 0) = ((w.cur b).pos.castling &&& wQ != 0))
    (hep0 : (w.cur b).pos.enpassant = 0 → (w'.cur b').pos.enpassant = 0)
    (hep1 : (w.cur b).pos.enpassant ≠ 0 →
      (w'.cur b').pos.enpassant = Spec.mirrorSq (w.cur b).pos.enpassant ∧ (w'.cur b').pos.enpassant ≠ 0)
    (hW : Sane (w.cur b).pos .white) (hB : Sane (w.cur b).pos .black)
    (hcast : ∀ c, hasCastled w' b' c.opp = hasCastled w b c) :
    evaluate w' b' = evaluate w b := by
  rw [evaluate_eq, evaluate_eq, hturn, hcast, hcast]
  rw [hturn] at hwq
  exact evaluate_mirror hp hq hwp hwq hwk hwq' hbk hbq hep0 hep1 hW hB _ _ id id id id
    (fun _ => List.Perm.refl _) (fun _ => List.Perm.refl _) (fun _ => List.Perm.refl _) (fun _ => List.Perm.refl _)

/-! ## Instance 1: the side to move is in check, an e.p. target is set, the other side has phantom captures -/

/-- `r6r/8/8/3k4/3pP3/8/3P1P2/R3K2R b KQ e3`: White has just played e2-e4+; Black, to move, is in check and may take en
passant; White (not to move) is given the phantom captures d2xe3 and f2xe3. -/
def chkPl : List (Nat × Color × Piece) :=
  [(7, .white, .rook), (3, .white, .king), (0, .white, .rook), (12, .white, .pawn), (10, .white, .pawn),
   (27, .white, .pawn), (63, .black, .rook), (56, .black, .rook), (36, .black, .king), (28, .black, .pawn)]
def chkPlB : List (Nat × Color × Piece) := chkPl.map fun x => (Spec.mirrorSq x.1, x.2.1.opp, x.2.2)
def chkPos : Position := (Position.newPosition chkPl 3 19).getD {}
/-- the mirror image `r3k2r/3p1p2/8/3Pp3/3K4/8/8/R6R w kq e6` -/
def chkPosB : Position := (Position.newPosition chkPlB 12 43).getD {}

theorem chkPos_eq : Position.newPosition chkPl 3 19 = some chkPos := by decide +kernel
theorem chkPosB_eq : Position.newPosition chkPlB 12 43 = some chkPosB := by decide +kernel

theorem chkPos_rep : Rep chkPos chkPos.square := rep_of_placements (by decide +kernel) chkPos_eq
theorem chkPosB_rep : Rep chkPosB chkPosB.square := rep_of_placements (by decide +kernel) chkPosB_eq

theorem chkPosB_repM : Rep chkPosB (mirrorBoard chkPos.square) :=
  repM_of_square chkPos_rep chkPosB_rep (by decide +kernel)

/-- Black to move is in check, the e.p. target is e3; for White (not to move) the position is not even `WF`, the generator
gives White two "en-passant captures" and `Position.Move` accepts both: the situation `evaluate_mirror_quiet` and
`mirrorGap_closed` exclude. -/
theorem chkPos_facts :
    chkPos.isChecked .black = true ∧ chkPos.enpassant = 19 ∧ WFc chkPos .white = false ∧
    ((chkPos.legalMoves .white).filter fun m => m.ty == .enPassant).map (fun m => (m.from, m.to)) = [(10, 19), (12, 19)] ∧
    ((chkPos.legalMoves .black).filter fun m => m.ty == .enPassant).map (fun m => (m.from, m.to)) = [(28, 19)] := by
  decide +kernel

theorem chkPos_wf : WF chkPos .black := ⟨chkPos_rep, by decide +kernel⟩

theorem chk_mirror (cs co : Bool) (oS oO oS' oO' : List (Nat × Nat) → List (Nat × Nat))
    (hpS : ∀ l, (oS l).Perm l) (hpO : ∀ l, (oO l).Perm l) (hpS' : ∀ l, (oS' l).Perm l) (hpO' : ∀ l, (oO' l).Perm l) :
    evaluateCoreOrd oS oO chkPosB cs co .white = evaluateCoreOrd oS' oO' chkPos cs co .black :=
  evaluate_mirror (t := .black) chkPos_rep chkPosB_repM chkPos_wf ⟨chkPosB_rep, by decide +kernel⟩
    (by decide +kernel) (by decide +kernel) (by decide +kernel) (by decide +kernel)
    (fun h => absurd h (by decide +kernel)) (fun _ => by decide +kernel)
    (by decide +kernel) (by decide +kernel)
    cs co oS oO oS' oO' hpS hpO hpS' hpO'

/-- for the side not to move -/
example : MirrorGap chkPos chkPosB .white :=
  mirrorGap_any chkPos_wf chkPos_rep chkPosB_repM (by decide +kernel) (by decide +kernel)
    (by decide +kernel) (by decide +kernel) (fun h => absurd h (by decide +kernel)) (fun _ => by decide +kernel) .white

/- The value on both sides is the float32 `0xc49398f6` = -1180.78 (`#eval`; the kernel needs about a minute for it, so it
is not stated as a theorem; kernel-checked values are given for the lighter instance 2). -/

/-! ## Instance 2: a "mate threat" that is a phantom en-passant capture -/

/-- `k7/2Q4p/8/4P3/4P3/8/3P4/4K2B b - e3`: White has just played e2-e4; Black is to move. -/
def phPl : List (Nat × Color × Piece) :=
  [(63, .black, .king), (48, .black, .pawn), (53, .white, .queen), (35, .white, .pawn), (27, .white, .pawn),
   (12, .white, .pawn), (3, .white, .king), (0, .white, .bishop)]
def phPlB : List (Nat × Color × Piece) := phPl.map fun x => (Spec.mirrorSq x.1, x.2.1.opp, x.2.2)
def phPos : Position := (Position.newPosition phPl 0 19).getD {}
/-- the same board without the e.p. target -/
def phPos0 : Position := (Position.newPosition phPl 0 0).getD {}
/-- the mirror image `4k2b/3p4/8/4p3/4p3/8/2q4P/K7 w - e6` -/
def phPosB : Position := (Position.newPosition phPlB 0 43).getD {}

theorem phPos_eq : Position.newPosition phPl 0 19 = some phPos := by decide +kernel
theorem phPosB_eq : Position.newPosition phPlB 0 43 = some phPosB := by decide +kernel
theorem phPos_rep : Rep phPos phPos.square := rep_of_placements (by decide +kernel) phPos_eq
theorem phPosB_rep : Rep phPosB phPosB.square := rep_of_placements (by decide +kernel) phPosB_eq
theorem phPosB_repM : Rep phPosB (mirrorBoard phPos.square) :=
  repM_of_square phPos_rep phPosB_rep (by decide +kernel)

theorem phPos_wf : WF phPos .black := ⟨phPos_rep, by decide +kernel⟩

theorem ph_mirror (cs co : Bool) (oS oO oS' oO' : List (Nat × Nat) → List (Nat × Nat))
    (hpS : ∀ l, (oS l).Perm l) (hpO : ∀ l, (oO l).Perm l) (hpS' : ∀ l, (oS' l).Perm l) (hpO' : ∀ l, (oO' l).Perm l) :
    evaluateCoreOrd oS oO phPosB cs co .white = evaluateCoreOrd oS' oO' phPos cs co .black :=
  evaluate_mirror (t := .black) phPos_rep phPosB_repM phPos_wf ⟨phPosB_rep, by decide +kernel⟩
    (by decide +kernel) (by decide +kernel) (by decide +kernel) (by decide +kernel)
    (fun h => absurd h (by decide +kernel)) (fun _ => by decide +kernel)
    (by decide +kernel) (by decide +kernel)
    cs co oS oO oS' oO' hpS hpO hpS' hpO'

/-- the phantom capture d2xe3 -/
def phMove : Move := { ty := .enPassant, «from» := 12, to := 19, piece := .pawn }
/-- the position `Position.Move` returns for it -/
def phNext : Position := (phPos.move phMove).getD {}

/-- White's moves on `phPos`, evaluated: the only one after which Black is mate is the phantom capture; without the e.p.
    captures they are the legal moves of `phPos0`, which is `phPos` without the target. -/
theorem ph_core :
    ((phPos.legalMoves .white).filter fun m => match phPos.move m with
      | some next => next.isCheckMate .black | none => false) = [phMove] ∧
    (phPos.legalMoves .white).filter (fun m => m.ty != .enPassant) = phPos0.legalMoves .white ∧
    phPos0 = { phPos with enpassant := 0 } := by decide +kernel

theorem ph_mating : ((phPos.legalMoves .white).filter fun m => match phPos.move m with
    | some next => next.isCheckMate .black | none => false).map (fun m => (m.ty, m.from, m.to)) =
    [(.enPassant, 12, 19)] := by rw [ph_core.1]; rfl

/-- The phantom capture is generated, accepted, and mates. -/
theorem phMove_spec : mayCheckMate phPos .white = true ∧ phMove ∈ phPos.pseudoLegalMoves .white ∧
    phPos.move phMove = some phNext ∧ phNext.isCheckMate .black = true := by
  have hm := List.mem_singleton_self phMove
  rw [← ph_core.1] at hm
  obtain ⟨hl, hp⟩ := List.mem_filter.1 hm
  refine ⟨List.any_eq_true.2 ⟨phMove, hl, hp⟩, (List.mem_filter.1 hl).1, ?_⟩
  unfold phNext
  cases h : phPos.move phMove with
  | none => rw [h] at hp; cases hp
  | some next => rw [h] at hp; exact ⟨rfl, hp⟩

theorem ph_mate : mayCheckMate phPos .white = true := phMove_spec.1

/-- Without the target no move of White mates: such a move would be a legal move of `phPos` that is no e.p. capture and
    (`Position.move_ep`) leads to the same position, hence the phantom capture. -/
theorem ph_mate0 : mayCheckMate phPos0 .white = false := by
  obtain ⟨h1, h2, h3⟩ := ph_core
  rw [Bool.eq_false_iff]
  intro h
  obtain ⟨m, hm, hp⟩ := List.any_eq_true.1 h
  rw [← h2] at hm
  obtain ⟨hl, hty⟩ := List.mem_filter.1 hm
  rw [h3, Position.move_ep] at hp
  cases List.mem_singleton.1 (h1 ▸ List.mem_filter.2 ⟨hl, hp⟩)
  exact absurd hty (by decide)
theorem ph_mateB : mayCheckMate phPosB .black = true :=
  (mirrorGap_any phPos_wf phPos_rep phPosB_repM (by decide +kernel) (by decide +kernel) (by decide +kernel)
    (by decide +kernel) (fun h => absurd h (by decide +kernel)) (fun _ => by decide +kernel) .white).mate.trans ph_mate

/- The mate flag of White is put in from `ph_mate`, `ph_mate0` before the rest is evaluated. -/
theorem ph_value : (evaluateCoreOrd id id phPos false false .black).bind bits32 = some 0xc680ea57 := by
  rw [evaluateCoreOrd_eq, positionPlayOrd_eq id phPos false Color.black.opp,
    show mayCheckMate phPos Color.black.opp = true from ph_mate]
  decide +kernel
theorem ph_value0 : (evaluateCoreOrd id id phPos0 false false .black).bind bits32 = some 0xc680ea24 := by
  rw [evaluateCoreOrd_eq, positionPlayOrd_eq id phPos0 false Color.black.opp,
    show mayCheckMate phPos0 Color.black.opp = false from ph_mate0]
  decide +kernel
theorem ph_valueB : (evaluateCoreOrd id id phPosB false false .white).bind bits32 = some 0xc680ea57 := by
  rw [ph_mirror false false id id id id (fun _ => .refl _) (fun _ => .refl _) (fun _ => .refl _) (fun _ => .refl _)]
  exact ph_value

/-- With the e.p. target e3 set, `PositionPlay(b, White)` (White is NOT to move) finds a "mating
move": the phantom capture d2xe3, which removes a black pawn from e4 - where White's own pawn stands - and so opens the
diagonal h1-a8 of the bishop in the occupancy. No real move of White mates (without the target the flag is false). The
evaluation for Black changes from `0xc680ea24` to `0xc680ea57` through a move that does not exist; it does so on the mirror
image as well. -/
theorem obs_phantom_mate :
    mayCheckMate phPos .white = true ∧ mayCheckMate phPos0 .white = false ∧
    ((phPos.legalMoves .white).filter fun m => match phPos.move m with
      | some next => next.isCheckMate .black | none => false).map (fun m => (m.ty, m.from, m.to)) = [(.enPassant, 12, 19)] ∧
    (evaluateCoreOrd id id phPos false false .black).bind bits32 = some 0xc680ea57 ∧
    (evaluateCoreOrd id id phPos0 false false .black).bind bits32 = some 0xc680ea24 ∧
    mayCheckMate phPosB .black = true ∧
    (evaluateCoreOrd id id phPosB false false .white).bind bits32 = some 0xc680ea57 :=
  ⟨ph_mate, ph_mate0, ph_mating, ph_value, ph_value0, ph_mateB, ph_valueB⟩

theorem phMove_mem : phMove ∈ phPos.pseudoLegalMoves .white := phMove_spec.2.1
theorem phNext_eq : phPos.move phMove = some phNext := phMove_spec.2.2.1
theorem phNext_mate : phNext.isCheckMate .black = true := phMove_spec.2.2.2
/-- the phantom pawn: e4 is empty in the occupancy and holds a white AND a black pawn in the piece sets -/
theorem phNext_phantom : phNext.rotated.rot.testBit 27 = false ∧ (phNext.pieces .white .pawn).testBit 27 = true ∧
    (phNext.pieces .black .pawn).testBit 27 = true ∧ phNext.square 27 = none := by decide +kernel

/-- `positionMove_mirror` is not vacuous on a position with a phantom pawn, which represents no board. -/
example : ∃ q', phPosB.move (mm phMove) = some q' ∧ MP phNext q' ∧ q'.isCheckMate .white = true := by
  rcases positionMove_mirror phPos_wf phPos_rep phPosB_repM (by decide +kernel)
    (by decide +kernel) (by decide +kernel) (by decide +kernel) (fun h => absurd h (by decide +kernel))
    (fun _ => by decide +kernel) phMove_mem with ⟨hn, _⟩ | ⟨p', q', h1, h2, h3, h4⟩
  · rw [phNext_eq] at hn; cases hn
  · have hp' : p' = phNext := Option.some.inj (h1.symm.trans phNext_eq)
    subst hp'
    refine ⟨q', h2, h3, ?_⟩
    have := h4 .black
    rw [phNext_mate] at this
    exact this

end Morlock.Props.C20TuroMirror
