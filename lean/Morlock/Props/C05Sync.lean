import Morlock.Props.C07Board
import Morlock.Proofs.DrawSyncGen
/-!
# C05 / C14: the board agrees with the whole-history reference game through take-backs and forks

`Props/C05.lean` links the board to the reference `Spec.Game` (start position plus the list of moves, everything
recomputed from the whole history) for set-up plus pushes. `GenGame z w b g` carries the reference game `g` along
every board that descends from a `PosOK` set-up by generated moves, take-backs and forks: a move appends to `g`, a
take-back removes its last move, a fork keeps it. Such a board is in lock-step with `g` at every node of its line
(`SyncAll`: `Sync`, the clocks of all prefixes of the game, the moves stored on the line), which is what take-backs
need; draw verdict, position and FEN fields then agree with the reference.
-/
namespace Morlock.Props.C05Sync
open Morlock Morlock.Model Morlock.Model.World Morlock.Proofs Morlock.Proofs.Arena Morlock.Proofs.Draw
  Morlock.Proofs.Chain Morlock.Proofs.Gen Morlock.Proofs.Material Morlock.Props.C05 Morlock.Props.C07Board

/-- The clock hypothesis cannot be derived from `Sync z g w b`, which only knows the *current* clock: after a
clock-resetting move both clocks are `0` whatever they were before (`sync_pop_clock_needed`); `syncAll_pop` needs no
such condition. What a take-back does to *other* boards reading the same node is `sync_other` /
C08 `pop_below_fork_clobbers`. -/
theorem sync_pop {z : ZTable} {g : Spec.Game} {w w' : World} {b : Nat} {m : Move}
    (hw : WFWorld w) (hb : b < w.boards.size) (h : w.popMove b = some (w', m)) (hs : Sync z g w b)
    (hclk : ((gpop g).halfmove : Int) = (w'.cur b).noprogress) :
    Sync z (gpop g) w' b := by
  obtain ⟨hl, ht, _⟩ := pop_line hw hb h
  have hne : g.moves ≠ [] := by
    have h1 := hs.moves_length
    rw [hl, lineK_head, List.length_cons, List.length_cons] at h1
    intro hnil
    rw [hnil, List.length_nil] at h1
    omega
  refine ⟨goodHistory_pop hw hb h hs.hist, ?_, ?_, hclk⟩
  · intro n hn
    apply hs.posOK n
    rw [hl]
    exact List.mem_cons_of_mem _ hn
  · have hp := hs.positions
    rw [gsnoc_gpop g hne, positions_snoc, List.reverse_append, hl, sided_cons, ← ht] at hp
    simp only [List.reverse_cons, List.reverse_nil, List.nil_append, List.singleton_append, List.map_cons] at hp
    exact (List.cons.inj hp).2

/-- The move returned is the last move of the reference game. -/
theorem syncAll_pop {z : ZTable} {g : Spec.Game} {w w' : World} {b : Nat} {m : Move}
    (hw : WFWorld w) (hb : b < w.boards.size) (h : w.popMove b = some (w', m)) (hs : SyncAll z g w b) :
    SyncAll z (gpop g) w' b ∧ g = gsnoc (gpop g) (absMove m) := by
  have hlk := (pop_line hw hb h).1
  have hmv : g.moves = (gpop g).moves ++ [absMove m] := by
    rw [gpop_moves, hs.moves, lineMoves_pop hw hb h, List.dropLast_concat]
  have hck := hs.clocks
  rw [hlk, hmv] at hck
  simp only [List.reverse_append, List.reverse_cons, List.reverse_nil, List.nil_append, List.singleton_append] at hck
  have hck2 : ClockLine g.start (gpop g).moves.reverse (lineK w' b) := hck.2
  have hclk : ((gpop g).halfmove : Int) = (w'.cur b).noprogress := by
    rw [lineK_head] at hck2
    have h1 := hck2.1
    rw [List.reverse_reverse] at h1
    exact h1
  refine ⟨⟨sync_pop hw hb h hs.sync hclk, hck2, ?_⟩, ?_⟩
  · rw [gpop_moves, hs.moves, lineMoves_pop hw hb h, List.dropLast_concat]
  · cases g with
    | mk st ms =>
      unfold gsnoc
      simp only [Spec.Game.mk.injEq]
      exact ⟨rfl, hmv⟩

theorem sync_fork {z : ZTable} {g : Spec.Game} {w : World} {b : Nat} (hw : WFWorld w) (hb : b < w.boards.size)
    (hs : Sync z g w b) : Sync z g (w.fork b).1 (w.fork b).2 ∧ Sync z g (w.fork b).1 b :=
  ⟨sync_of_view (view_fork_new hw b) hs, sync_of_view (view_fork_old hw b hb) hs⟩

theorem syncAll_fork {z : ZTable} {g : Spec.Game} {w : World} {b : Nat} (hw : WFWorld w) (hb : b < w.boards.size)
    (hs : SyncAll z g w b) : SyncAll z g (w.fork b).1 (w.fork b).2 ∧ SyncAll z g (w.fork b).1 b :=
  ⟨syncAll_of_view (view_fork_new hw b) hs, syncAll_of_view (view_fork_old hw b hb) hs⟩

/-- Operations on another board `x ≠ y`: the two conditions exclude exactly the cases in which the operation writes a
`next` field that `y` reads (a move from, or a take-back to, a strict ancestor of `y`'s current node). -/
theorem sync_other {z : ZTable} {g : Spec.Game} {w : World} {y : Nat} (hw : WFWorld w) (hy : y < w.boards.size)
    (hs : Sync z g w y) :
    (∀ {w' : World} {x : Nat} {m : Move}, x ≠ y → w.pushMove z x m = some w' →
      (w.board x).current ∉ ancIdx w (w.cur y).prev → Sync z g w' y) ∧
    (∀ {w' : World} {x : Nat} {m : Move}, x ≠ y → w.popMove x = some (w', m) →
      (∀ pi, (w.cur x).prev = some pi → pi ∉ ancIdx w (w.cur y).prev) → Sync z g w' y) ∧
    (∀ x, Sync z g (w.fork x).1 y) ∧
    (∀ pos turn np fm, Sync z g (w.newBoard z pos turn np fm).1 y) ∧
    (∀ x, x ≠ y → Sync z g (w.adjudicateNoLegalMoves x).1 y) :=
  ⟨fun hxy h hsep => sync_of_view (push_frame hw hy hxy h hsep) hs,
   fun hxy h hsep => sync_of_view (pop_frame hxy h hsep) hs,
   fun x => sync_of_view (view_fork_old hw x hy) hs,
   fun pos turn np fm => sync_of_view (view_newBoard_old hw z pos turn np fm hy) hs,
   fun _ hxy => sync_of_view (view_adjudicate_other w hxy) hs⟩

theorem syncAll_other {z : ZTable} {g : Spec.Game} {w : World} {y : Nat} (hw : WFWorld w) (hy : y < w.boards.size)
    (hs : SyncAll z g w y) :
    (∀ {w' : World} {x : Nat} {m : Move}, x ≠ y → w.pushMove z x m = some w' →
      (w.board x).current ∉ ancIdx w (w.cur y).prev → SyncAll z g w' y) ∧
    (∀ {w' : World} {x : Nat} {m : Move}, x ≠ y → w.popMove x = some (w', m) →
      (∀ pi, (w.cur x).prev = some pi → pi ∉ ancIdx w (w.cur y).prev) → SyncAll z g w' y) ∧
    (∀ x, SyncAll z g (w.fork x).1 y) ∧
    (∀ pos turn np fm, SyncAll z g (w.newBoard z pos turn np fm).1 y) ∧
    (∀ x, x ≠ y → SyncAll z g (w.adjudicateNoLegalMoves x).1 y) :=
  ⟨fun hxy h hsep => syncAll_of_view (push_frame hw hy hxy h hsep) hs,
   fun hxy h hsep => syncAll_of_view (pop_frame hxy h hsep) hs,
   fun x => syncAll_of_view (view_fork_old hw x hy) hs,
   fun pos turn np fm => syncAll_of_view (view_newBoard_old hw z pos turn np fm hy) hs,
   fun _ hxy => syncAll_of_view (view_adjudicate_other w hxy) hs⟩

/-- `C07Board.GenBoard` with the reference game carried along. Set-up clock and full-move number are natural numbers:
`fen.Decode`, the source of both callers of `NewBoard`, rejects negative ones. `fork` follows the fork, `stay` the
original. -/
inductive GenGame (z : ZTable) : World → Nat → Spec.Game → Prop
  | new {w : World} {pos : Position} {turn : Color} (n0 f : Nat) :
      WFWorld w → WFplay pos turn → pos.castling < 16 → kingCount pos.square = 2 →
      GenGame z (w.newBoard z pos turn (n0 : Int) (f : Int)).1 (w.newBoard z pos turn (n0 : Int) (f : Int)).2
        { start := { pos := abs pos turn, halfmove := n0, fullmove := f }, moves := [] }
  | push {w w' : World} {b : Nat} {m : Move} {g : Spec.Game} :
      GenGame z w b g → m ∈ (w.cur b).pos.pseudoLegalMoves (w.board b).turn → w.pushMove z b m = some w' →
      GenGame z w' b (gsnoc g (absMove m))
  | pop {w w' : World} {b : Nat} {m : Move} {g : Spec.Game} :
      GenGame z w b g → w.popMove b = some (w', m) → GenGame z w' b (gpop g)
  | fork {w : World} {b : Nat} {g : Spec.Game} : GenGame z w b g → GenGame z (w.fork b).1 (w.fork b).2 g
  | stay {w : World} {b : Nat} {g : Spec.Game} : GenGame z w b g → GenGame z (w.fork b).1 b g

theorem genGame_genBoard {z : ZTable} {w : World} {b : Nat} {g : Spec.Game} (h : GenGame z w b g) :
    GenBoard z w b := by
  induction h with
  | new n0 f hw hpos _ _ => exact GenBoard.new _ hw hpos (Int.natCast_nonneg n0)
  | push _ hm hp ih => exact GenBoard.push ih hm hp
  | pop _ hp ih => exact GenBoard.pop ih hp
  | fork _ ih => exact GenBoard.fork ih
  | stay _ ih => exact GenBoard.stay ih

theorem genBoard_sync {z : ZTable} (hz : z.enpassant 0 = 0) {w : World} {b : Nat} {g : Spec.Game}
    (h : GenGame z w b g) : SyncAll z g w b ∧ SyncFen g w b := by
  induction h with
  | @new w pos turn n0 f hw hpos hc hk =>
    exact ⟨syncAll_newBoard w z turn n0 f (f : Int) (posOK_of_wfplay hpos hc hk),
      syncFen_newBoard w z pos turn (n0 : Int) n0 f⟩
  | @push w w' b m g hg hm hp ih =>
    obtain ⟨hw, hb, _, hl⟩ := genBoard_inv hz (genGame_genBoard hg)
    have hstep := (push_wfplay hw hb hl.cur hm hp).1
    exact ⟨syncAll_push hz hw hb hp ih.1 hstep, syncFen_push hw hb hp ih.1.sync ih.2⟩
  | @pop w w' b m g hg hp ih =>
    obtain ⟨hw, hb, _, _⟩ := genBoard_inv hz (genGame_genBoard hg)
    obtain ⟨hs', hgm⟩ := syncAll_pop hw hb hp ih.1
    have hne : g.moves ≠ [] := by
      rw [hgm]; simp
    exact ⟨hs', syncFen_pop hw hb hp hne hs'.sync ih.2⟩
  | @fork w b g hg ih =>
    obtain ⟨hw, hb, _, _⟩ := genBoard_inv hz (genGame_genBoard hg)
    exact ⟨(syncAll_fork hw hb ih.1).1, syncFen_of_view (view_fork_new hw b) ih.2⟩
  | @stay w b g hg ih =>
    obtain ⟨hw, hb, _, _⟩ := genBoard_inv hz (genGame_genBoard hg)
    exact ⟨(syncAll_fork hw hb ih.1).2, syncFen_of_view (view_fork_old hw b hb) ih.2⟩

/-- `g` is the start position plus exactly the moves on the current line: moves taken back or played on other
branches are gone. -/
theorem genBoard_game {z : ZTable} (hz : z.enpassant 0 = 0) {w : World} {b : Nat} {g : Spec.Game}
    (h : GenGame z w b g) :
    g.moves = ((anc w (w.cur b).prev).map fun n => absMove n.next).reverse ∧
    ((sided (w.board b).turn (lineK w b)).getLast?.map fun e => abs e.1.pos e.2) = some g.start.pos ∧
    ((lineK w b).getLast?.map fun n => n.noprogress) = some (g.start.halfmove : Int) := by
  obtain ⟨hs, _⟩ := genBoard_sync hz h
  exact ⟨by rw [← lineMoves_eq]; exact hs.moves, hs.sync.start, hs.root_clock⟩

/-- When a generated move is accepted, the result the board reports is the verdict of the reference on the game
carried along, continued by that move. -/
theorem draw_agrees {z : ZTable} (hz : z.enpassant 0 = 0) {w w' : World} {b : Nat} {m : Move} {g : Spec.Game}
    (hg : GenGame z w b g) (hm : m ∈ (w.cur b).pos.pseudoLegalMoves (w.board b).turn)
    (h : w.pushMove z b m = some w') :
    SpecVerdict (w'.board b).result (gsnoc g (absMove m)).drawReasons ∧
    ((w'.board b).result.outcome = .draw ↔ (gsnoc g (absMove m)).drawReasons ≠ []) ∧
    GenGame z w' b (gsnoc g (absMove m)) := by
  obtain ⟨hw, hb, _, hl⟩ := genBoard_inv hz (genGame_genBoard hg)
  obtain ⟨hs, _⟩ := genBoard_sync hz hg
  have hstep := (push_wfplay hw hb hl.cur hm h).1
  have hv := (spec_link hz hw hb h hs.sync hstep).2.2.2
  exact ⟨hv, hv.1, GenGame.push hg hm h⟩

theorem position_agrees {z : ZTable} (hz : z.enpassant 0 = 0) {w : World} {b : Nat} {g : Spec.Game}
    (hg : GenGame z w b g) :
    g.current = abs (w.cur b).pos (w.board b).turn ∧
    (g.halfmove : Int) = (w.cur b).noprogress ∧
    (g.fullmove : Int) = (w.board b).moves ∧
    g.repetitions = occurrences w b := by
  obtain ⟨hs, hf⟩ := genBoard_sync hz hg
  exact ⟨hs.sync.current, hs.sync.clock, hf.fullmove, hs.sync.repetitions⟩

/-- The FEN of the reference game is the reference printer applied to the fields `fen.Encode` is given for the board.
That `Model.Fen.encode` and `Spec.printFen` produce the same string on these fields is C14 `encode_eq_printFen`. -/
theorem fen_agrees {z : ZTable} (hz : z.enpassant 0 = 0) {w : World} {b : Nat} {g : Spec.Game}
    (hg : GenGame z w b g) :
    g.fen = Spec.printFen { pos := abs (w.cur b).pos (w.board b).turn,
                            halfmove := (w.cur b).noprogress.toNat, fullmove := (w.board b).moves.toNat } := by
  obtain ⟨h1, h2, h3, _⟩ := position_agrees hz hg
  unfold Spec.Game.fen
  rw [h1, ← h2, ← h3]
  simp

section Example

theorem push_getD {w : World} {z : ZTable} {b : Nat} {m : Move} (h : (w.pushMove z b m).isSome = true) :
    w.pushMove z b m = some ((w.pushMove z b m).getD default) :=
  eq_some_getD_of_isSome default h

/-- 1… Nc6 -/
def nc6 : Move := { ty := .normal, «from» := 62, to := 45, piece := .knight }

/-- a board on the initial position (clock 0, full-move number 1), sample Zobrist table of C07 -/
def e0 : World := (({} : World).newBoard exZ startPos .white ((0 : Nat) : Int) ((1 : Nat) : Int)).1
/-- 1. Nf3 -/
def e1 : World := (e0.pushMove exZ 0 nf3).getD default
/-- 1… Nf6 -/
def e2 : World := (e1.pushMove exZ 0 nf6).getD default
/-- 1… Nf6 taken back -/
def e3 : World := ((e2.popMove 0).getD default).1
/-- board 1 := fork of board 0 -/
def e4 : World := (e3.fork 0).1
/-- the fork plays 1… Nc6 -/
def e5 : World := (e4.pushMove exZ 1 nc6).getD default
/-- the original plays 1… Nf6 again -/
def e6 : World := (e5.pushMove exZ 0 nf6).getD default

def g0 : Spec.Game := { start := { pos := abs startPos .white, halfmove := 0, fullmove := 1 }, moves := [] }

theorem ex_e0 : GenGame exZ e0 0 g0 :=
  GenGame.new 0 1 wf_empty startPos_wfplay startPos_posOK.castling startPos_posOK.kings

/-- 1. e4 -/
def e2e4 : Move := { ty := .jump, «from» := 11, to := 27, piece := .pawn }
def f1 : World := (e0.pushMove exZ 0 e2e4).getD default
def f2 : World := ((f1.popMove 0).getD default).1
/-- the same game with a different set-up clock -/
def g7 : Spec.Game := { start := { pos := abs startPos .white, halfmove := 7, fullmove := 1 }, moves := [] }

/- Worlds can be compared, so that each step of a script is a decidable equation. -/
deriving instance DecidableEq for Node, Model.Board, World

/-- The two scripts of this section in one kernel run: each separate run would rebuild the rotated boards of `startPos`
and replay the moves. -/
theorem ex_run :
    ((nf3 ∈ (e0.cur 0).pos.pseudoLegalMoves (e0.board 0).turn ∧ e0.pushMove exZ 0 nf3 = some e1) ∧
     (nf6 ∈ (e1.cur 0).pos.pseudoLegalMoves (e1.board 0).turn ∧ e1.pushMove exZ 0 nf6 = some e2) ∧
     e2.popMove 0 = some (e3, nf6) ∧ (e3.fork 0).2 = 1 ∧
     (nc6 ∈ (e4.cur 1).pos.pseudoLegalMoves (e4.board 1).turn ∧ e4.pushMove exZ 1 nc6 = some e5) ∧
     (e4.board 1).current ∉ ancIdx e4 (e4.cur 0).prev) ∧
    ((e5.board 1).turn = .white ∧ (e5.cur 1).noprogress = 2 ∧ (e5.board 1).moves = 2 ∧
     lineMoves e5 1 = [absMove nf3, absMove nc6] ∧ lineMoves e6 0 = [absMove nf3, absMove nf6]) ∧
    ((e2e4 ∈ (e0.cur 0).pos.pseudoLegalMoves (e0.board 0).turn ∧ e0.pushMove exZ 0 e2e4 = some f1) ∧
     (gsnoc g7 (absMove e2e4)).halfmove = (gsnoc g0 (absMove e2e4)).halfmove ∧
     f1.popMove 0 = some (f2, e2e4) ∧
     ((g7.halfmove : Nat) : Int) ≠ (f2.cur 0).noprogress) := by
  decide +kernel

theorem ex_e3 : GenGame exZ e3 0 (gpop (gsnoc (gsnoc g0 (absMove nf3)) (absMove nf6))) :=
  have ⟨⟨⟨hm1, hp1⟩, ⟨hm2, hp2⟩, hp3, _⟩, _⟩ := ex_run
  GenGame.pop (GenGame.push (GenGame.push ex_e0 hm1 hp1) hm2 hp2) hp3

theorem ex_e4_fork : GenGame exZ e4 1 (gpop (gsnoc (gsnoc g0 (absMove nf3)) (absMove nf6))) := by
  have ⟨⟨_, _, _, hid, _⟩, _⟩ := ex_run
  have h := GenGame.fork (z := exZ) ex_e3
  rw [hid] at h
  exact h

theorem ex_e4_stay : GenGame exZ e4 0 (gpop (gsnoc (gsnoc g0 (absMove nf3)) (absMove nf6))) :=
  GenGame.stay ex_e3

/-- The reference game carried to the fork after "set-up, 1. Nf3 Nf6, take back, fork" is `1. Nf3`. -/
example : gpop (gsnoc (gsnoc g0 (absMove nf3)) (absMove nf6)) =
    { start := { pos := abs startPos .white, halfmove := 0, fullmove := 1 }, moves := [absMove nf3] } := by
  rw [gpop_gsnoc]
  rfl

/-- `draw_agrees` on the fork: it accepts the generated move 1… Nc6, and its result is the verdict of the reference
on `1. Nf3 Nc6` from the initial position (1… Nf6, which was taken back before the fork, is not in the game). -/
example :
    SpecVerdict (e5.board 1).result
      (Spec.Game.drawReasons
        { start := { pos := abs startPos .white, halfmove := 0, fullmove := 1 },
          moves := [absMove nf3, absMove nc6] }) := by
  have ⟨⟨_, _, _, _, ⟨hm, hp⟩, _⟩, _⟩ := ex_run
  have h := (draw_agrees (z := exZ) rfl ex_e4_fork hm hp).1
  rw [gpop_gsnoc] at h
  exact h

theorem ex_e5 : GenGame exZ e5 1
    { start := { pos := abs startPos .white, halfmove := 0, fullmove := 1 }, moves := [absMove nf3, absMove nc6] } := by
  have ⟨⟨_, _, _, _, ⟨hm, hp⟩, _⟩, _⟩ := ex_run
  have h := GenGame.push ex_e4_fork hm hp
  rw [gpop_gsnoc] at h
  exact h

/-- `position_agrees` on the fork after its move: the current position / side, clock, full-move number and
repetition count of board 1 are those of the reference game `1. Nf3 Nc6` … -/
example :
    let g : Spec.Game := { start := { pos := abs startPos .white, halfmove := 0, fullmove := 1 },
                           moves := [absMove nf3, absMove nc6] }
    g.current = abs (e5.cur 1).pos (e5.board 1).turn ∧ (g.halfmove : Int) = (e5.cur 1).noprogress ∧
    (g.fullmove : Int) = (e5.board 1).moves ∧ g.repetitions = occurrences e5 1 :=
  position_agrees (z := exZ) rfl ex_e5

/-- … and, evaluated: White to move, clock 2, full-move number 2, the moves on the line of board 1 are Nf3, Nc6,
while the original (board 0, which then plays 1… Nf6 again: `stay` + `push`) has Nf3, Nf6. -/
example :
    (e5.board 1).turn = .white ∧ (e5.cur 1).noprogress = 2 ∧ (e5.board 1).moves = 2 ∧
    lineMoves e5 1 = [absMove nf3, absMove nc6] ∧ lineMoves e6 0 = [absMove nf3, absMove nf6] :=
  ex_run.2.1

/-- `sync_other` instantiated: the fork's move 1… Nc6 (an operation on board 1 above the fork point) leaves the
original (board 0) in lock-step with `1. Nf3`: the node the move writes to is not on board 0's line. -/
example : SyncAll exZ (gpop (gsnoc (gsnoc g0 (absMove nf3)) (absMove nf6))) e5 0 := by
  have ⟨⟨_, _, _, _, ⟨_, hp⟩, hsep⟩, _⟩ := ex_run
  obtain ⟨hw, hb, _, _⟩ := genBoard_inv (z := exZ) rfl (genGame_genBoard ex_e4_stay)
  exact (syncAll_other hw hb (genBoard_sync (z := exZ) rfl ex_e4_stay).1).1 (x := 1) (by decide) hp hsep

/-- The clock hypothesis of `sync_pop` is necessary: after 1. e4 board 0 of `f1` is in `Sync` with the reference game
set up with clock 7 (the pawn move has reset both clocks), and out of it again after the take-back (clock 0 v 7). -/
theorem sync_pop_clock_needed :
    WFWorld f1 ∧ 0 < f1.boards.size ∧ Sync exZ (gsnoc g7 (absMove e2e4)) f1 0 ∧
    f1.popMove 0 = some (f2, e2e4) ∧ ¬ Sync exZ (gpop (gsnoc g7 (absMove e2e4))) f2 0 := by
  have ⟨_, _, ⟨hm, hp⟩, hclk, hpop, hne⟩ := ex_run
  have hgen : GenGame exZ f1 0 (gsnoc g0 (absMove e2e4)) := GenGame.push ex_e0 hm hp
  obtain ⟨hw, hb, _, _⟩ := genBoard_inv (z := exZ) rfl (genGame_genBoard hgen)
  refine ⟨hw, hb, sync_congr (genBoard_sync (z := exZ) rfl hgen).1.sync rfl rfl hclk, hpop, fun h => ?_⟩
  have hc := h.clock
  rw [gpop_gsnoc] at hc
  exact hne hc

end Example

end Morlock.Props.C05Sync

section Axioms
open Morlock.Props.C05Sync
#print axioms sync_pop
#print axioms Morlock.Props.C05Sync.syncAll_pop
#print axioms sync_fork
#print axioms Morlock.Props.C05Sync.syncAll_fork
#print axioms sync_other
#print axioms Morlock.Props.C05Sync.syncAll_other
#print axioms genGame_genBoard
#print axioms genBoard_sync
#print axioms genBoard_game
#print axioms draw_agrees
#print axioms position_agrees
#print axioms fen_agrees
#print axioms ex_e4_fork
#print axioms sync_pop_clock_needed
end Axioms
