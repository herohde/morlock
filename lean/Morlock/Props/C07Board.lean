import Morlock.Props.C05
/-!
# The draw verdict of C05 and the hash of C07 on boards that have also been taken back and forked

The draw verdict for generated play (`draw_iff_genBoard`) and the from-scratch hash (`hash_eq_scratch`) on every board
that descends from a well-formed set-up by generated moves, take-backs and forks (`GenBoard`), not only `newBoard` +
pushes. Invariant: every node of the line satisfies `WFplay` for the side to move there (`LineWF`).
-/
namespace Morlock.Props.C07Board
open Morlock Morlock.Model Morlock.Model.World Morlock.Proofs Morlock.Proofs.Arena Morlock.Proofs.Draw
  Morlock.Proofs.Chain Morlock.Proofs.Gen Morlock.Props.C05

def LineWF (w : World) (b : Nat) : Prop :=
  ∀ e ∈ sided (w.board b).turn (lineK w b), WFplay e.1.pos e.2

theorem LineWF.cur {w : World} {b : Nat} (h : LineWF w b) : WFplay (w.cur b).pos (w.board b).turn :=
  h _ (cur_mem_sided w b)

theorem invariants_of_view {z : ZTable} {w w' : World} {a a' : Nat} (hv : view w' a' = view w a)
    (hg : GoodHistory z w a) (hl : LineWF w a) : GoodHistory z w' a' ∧ LineWF w' a' := by
  refine ⟨goodHistory_of_view hv hg, fun e he => ?_⟩
  rw [lineK_of_view hv, turn_of_view hv] at he
  exact hl e he

theorem draw_iff_generated_line {w w' : World} {z : ZTable} {b : Nat} {m : Move} (hz : z.enpassant 0 = 0)
    (hw : WFWorld w) (hb : b < w.boards.size) (hg : GoodHistory z w b) (hl : LineWF w b)
    (hm : m ∈ (w.cur b).pos.pseudoLegalMoves (w.board b).turn) (h : w.pushMove z b m = some w') :
    DrawVerdict w' b m ∧ GoodHistory z w' b ∧ LineWF w' b := by
  obtain ⟨hv, hg', _⟩ := draw_iff_generated hz hw hb hg hl.cur hm h
  exact ⟨hv, hg', line_forall_push hw hb h hl (push_wfplay hw hb hl.cur hm h).2⟩

theorem invariants_newBoard {w : World} (z : ZTable) {pos : Position} {turn : Color} (hpos : WFplay pos turn)
    {np : Int} (hnp : 0 ≤ np) (fm : Int) :
    GoodHistory z (w.newBoard z pos turn np fm).1 (w.newBoard z pos turn np fm).2 ∧
    LineWF (w.newBoard z pos turn np fm).1 (w.newBoard z pos turn np fm).2 :=
  ⟨goodHistory_newBoard w z pos turn fm hnp, line_forall_newBoard w z _ _ np fm hpos⟩

theorem invariants_pop {w w' : World} {z : ZTable} {b : Nat} {m : Move} (hw : WFWorld w) (hb : b < w.boards.size)
    (hg : GoodHistory z w b) (hl : LineWF w b) (h : w.popMove b = some (w', m)) :
    GoodHistory z w' b ∧ LineWF w' b :=
  ⟨goodHistory_pop hw hb h hg, line_forall_pop hw hb h hl⟩

theorem invariants_fork {w : World} {z : ZTable} (hw : WFWorld w) (b : Nat)
    (hg : GoodHistory z w b) (hl : LineWF w b) :
    GoodHistory z (w.fork b).1 (w.fork b).2 ∧ LineWF (w.fork b).1 (w.fork b).2 :=
  invariants_of_view (view_fork_new hw b) hg hl

/-- Board `b` of `w` descends from a board set up on a `WFplay` position with clock `≥ 0` by generated moves,
take-backs and forks, in any order (`fork` follows the fork, `stay` the original). -/
inductive GenBoard (z : ZTable) : World → Nat → Prop
  | new {w : World} {pos : Position} {turn : Color} {np : Int} (fm : Int) :
      WFWorld w → WFplay pos turn → 0 ≤ np → GenBoard z (w.newBoard z pos turn np fm).1 (w.newBoard z pos turn np fm).2
  | push {w w' : World} {b : Nat} {m : Move} :
      GenBoard z w b → m ∈ (w.cur b).pos.pseudoLegalMoves (w.board b).turn → w.pushMove z b m = some w' → GenBoard z w' b
  | pop {w w' : World} {b : Nat} {m : Move} : GenBoard z w b → w.popMove b = some (w', m) → GenBoard z w' b
  | fork {w : World} {b : Nat} : GenBoard z w b → GenBoard z (w.fork b).1 (w.fork b).2
  | stay {w : World} {b : Nat} : GenBoard z w b → GenBoard z (w.fork b).1 b

theorem genBoard_inv {z : ZTable} (hz : z.enpassant 0 = 0) {w : World} {b : Nat} (h : GenBoard z w b) :
    WFWorld w ∧ b < w.boards.size ∧ GoodHistory z w b ∧ LineWF w b := by
  induction h with
  | @new w pos turn np fm hw hpos hnp =>
    obtain ⟨h1, h2, _⟩ := newBoard_facts hw z pos turn hnp fm
    exact ⟨h1, h2, invariants_newBoard z hpos hnp fm⟩
  | @push w w' b m _ hm hp ih =>
    obtain ⟨hw, hb, hg, hl⟩ := ih
    obtain ⟨_, hg', hl'⟩ := draw_iff_generated_line hz hw hb hg hl hm hp
    exact ⟨wf_push hw hb hp, by rw [boards_size_push hp]; exact hb, hg', hl'⟩
  | @pop w w' b m _ hp ih =>
    obtain ⟨hw, hb, hg, hl⟩ := ih
    exact ⟨wf_pop hw hp, by rw [boards_size_pop hp]; exact hb, invariants_pop hw hb hg hl hp⟩
  | @fork w b _ ih =>
    obtain ⟨hw, hb, hg, hl⟩ := ih
    exact ⟨wf_fork hw b, by rw [fork_boards_size, fork_id]; omega, invariants_fork hw b hg hl⟩
  | @stay w b _ ih =>
    obtain ⟨hw, hb, hg, hl⟩ := ih
    exact ⟨wf_fork hw b, by rw [fork_boards_size]; omega, invariants_of_view (view_fork_old hw b hb) hg hl⟩

theorem draw_iff_genBoard {z : ZTable} (hz : z.enpassant 0 = 0) {w w' : World} {b : Nat} {m : Move}
    (hgb : GenBoard z w b) (hm : m ∈ (w.cur b).pos.pseudoLegalMoves (w.board b).turn)
    (h : w.pushMove z b m = some w') : DrawVerdict w' b m := by
  obtain ⟨hw, hb, hg, hl⟩ := genBoard_inv hz hgb
  exact (draw_iff_generated_line hz hw hb hg hl hm h).1


/-- C07 at board level. -/
theorem hash_eq_scratch {z : ZTable} (hz : z.enpassant 0 = 0) {w : World} {b : Nat} (h : GenBoard z w b) :
    (w.cur b).hash = z.hash (w.cur b).pos (w.board b).turn :=
  (genBoard_inv hz h).2.2.1.hash.cur

/-- Two boards (any worlds, histories, clocks) that have reached the same position with the same side to move report
the same hash. -/
theorem hash_path_independent {z : ZTable} (hz : z.enpassant 0 = 0) {w1 w2 : World} {b1 b2 : Nat}
    (h1 : GenBoard z w1 b1) (h2 : GenBoard z w2 b2) (hp : (w1.cur b1).pos = (w2.cur b2).pos)
    (ht : (w1.board b1).turn = (w2.board b2).turn) : (w1.cur b1).hash = (w2.cur b2).hash := by
  rw [hash_eq_scratch hz h1, hash_eq_scratch hz h2, hp, ht]

/-- The premises are satisfiable: a board set up on the initial position is a `GenBoard` (for every table), and so is every
board obtained from it by generated moves, take-backs and forks. -/
example (z : ZTable) : GenBoard z (({} : World).newBoard z startPos .white 0 1).1 (({} : World).newBoard z startPos .white 0 1).2 :=
  GenBoard.new 1 wf_empty startPos_wfplay (by decide)

end Morlock.Props.C07Board
