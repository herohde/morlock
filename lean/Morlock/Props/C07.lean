import Morlock.Proofs.ZobristFold
import Morlock.Proofs.RepExample
/-!
# C07 — the incrementally updated Zobrist hash equals the hash computed from scratch

Subject: `Morlock.Model.ZTable.hash` / `ZTable.move`, the transcription of `pkg/board/zobrist.go`.
The table `z` is an arbitrary parameter; the only assumption is `z.enpassant 0 = 0`
(`NewZobristTable` fills only ranks 3 and 6, so square 0 keeps the zero value), needed because
`Move` xors `enpassant[target]` unconditionally while `Hash` skips a zero target.

Key facts (in `Morlock/Proofs/ZobristFold.lean`): `hash` is the xor of four independent parts
(`hash_eq`); the piece part is a fold of xors over the 64 squares and a one-square update changes
it by `old ^^^ new` (`boardHash_upd`); `Position.move` changes ≤ 4 squares (`boardHash_after`).
-/
namespace Morlock.Props.C07
open Morlock Morlock.Model Morlock.Proofs

/-- **C07 `move_eq_hash`.** The incrementally updated hash is the from-scratch hash of the resulting
    position with the other side to move. -/
theorem move_eq_hash (z : ZTable) (hz : z.enpassant 0 = 0) {p p' : Position} {b : Board} {m : Move}
    {turn : Color} {pc : Piece}
    (h : Rep p b) (hok : MetaOK p m = true) (hsq : p.square m.from = some (turn, pc))
    (hm : p.move m = some p') :
    z.move (z.hash p turn) p m = z.hash p' turn.opp := by
  obtain ⟨hrep', hc', he'⟩ := move_rep h hok hm
  rw [h.metaOK_iff] at hok
  have hsqb : b m.from = some (turn, pc) := by rw [← h.square_eq]; exact hsq
  obtain rfl : pc = m.piece := (metaOKb_shape hok hsqb).piece
  rw [zmove_eq z _ hsq, hash_eq z p, hash_eq z p', ← hrep'.board_eq, ← h.board_eq,
    boardHash_after z h hok hsqb, hc', he', epKey_of_zero z hz m.enPassantTarget]
  -- the old status keys occur twice at the head of the left side
  have cancel : ∀ B C E T : Nat, B ^^^ C ^^^ E ^^^ T ^^^ C ^^^ E ^^^ T = B := fun B C E T => by
    rw [show B ^^^ C ^^^ E ^^^ T ^^^ C ^^^ E ^^^ T = B ^^^ (C ^^^ C) ^^^ (E ^^^ E) ^^^ (T ^^^ T) by ac_rfl]
    simp only [Nat.xor_self, Nat.xor_zero]
  rw [cancel]

theorem hash_parts (z : ZTable) (p : Position) (turn : Color) :
    z.hash p turn =
      boardHash z p.square 64 ^^^ z.castling p.castling ^^^ epKey z p.enpassant ^^^ z.turn turn :=
  hash_eq z p turn

/-- **`differs`**: positions that differ in one part (a square, the castling rights, the en-passant target,
    the side to move) have hashes differing by the xor of the two keys of that part. -/
theorem differs_square (z : ZTable) {p q : Position} {b : Board} {sq : Nat} {v : Option (Color × Piece)}
    (hp : Rep p b) (hq : Rep q (upd b sq v)) (hsq : sq < 64)
    (hc : p.castling = q.castling) (he : p.enpassant = q.enpassant) (t : Color) :
    z.hash p t ^^^ z.hash q t = cellKey z (b sq) sq ^^^ cellKey z v sq ∧
    (cellKey z (b sq) sq ≠ cellKey z v sq → z.hash p t ≠ z.hash q t) :=
  xor_differs (by
    rw [hash_eq, hash_eq, ← hp.board_eq, ← hq.board_eq, boardHash_upd64 z b hsq, hc, he, xor_xor_cancel_right,
      xor_xor_cancel_right, xor_xor_cancel_right, Nat.xor_assoc, xor_cancel_left'])

theorem differs_castling (z : ZTable) {p q : Position} {b : Board}
    (hp : Rep p b) (hq : Rep q b) (he : p.enpassant = q.enpassant) (t : Color) :
    z.hash p t ^^^ z.hash q t = z.castling p.castling ^^^ z.castling q.castling ∧
    (z.castling p.castling ≠ z.castling q.castling → z.hash p t ≠ z.hash q t) :=
  xor_differs (by
    rw [hash_eq, hash_eq, ← hp.board_eq, ← hq.board_eq, he, xor_xor_cancel_right, xor_xor_cancel_right,
      xor_xor_cancel_left])

theorem differs_enpassant (z : ZTable) {p q : Position} {b : Board}
    (hp : Rep p b) (hq : Rep q b) (hc : p.castling = q.castling) (t : Color) :
    z.hash p t ^^^ z.hash q t = epKey z p.enpassant ^^^ epKey z q.enpassant ∧
    (epKey z p.enpassant ≠ epKey z q.enpassant → z.hash p t ≠ z.hash q t) :=
  xor_differs (by
    rw [hash_eq, hash_eq, ← hp.board_eq, ← hq.board_eq, hc, xor_xor_cancel_right, xor_xor_cancel_left])

theorem differs_turn (z : ZTable) (p : Position) (t t' : Color) :
    z.hash p t ^^^ z.hash p t' = z.turn t ^^^ z.turn t' ∧
    (z.turn t ≠ z.turn t' → z.hash p t ≠ z.hash p t') :=
  xor_differs (by rw [hash_eq, hash_eq, xor_xor_cancel_left])

/-- The hypotheses are satisfiable: en-passant capture, castling, capture-promotion on a rook home square. -/
example : ∀ m ∈ [exEP, exOO, exCP], ∃ p', exPos.move m = some p' ∧
    exZ.move (exZ.hash exPos .white) exPos m = exZ.hash p' .black := by
  intro m hm
  have hall : ([exEP, exOO, exCP].all fun m =>
      MetaOK exPos m && (exPos.move m).isSome &&
        (match exPos.square m.from with | some (c, _) => c == Color.white | none => false)) = true := by
    rw [exPos_val]; decide +kernel
  have := List.all_eq_true.mp hall m hm
  simp only [Bool.and_eq_true] at this
  obtain ⟨⟨hok, hs⟩, hc⟩ := this
  obtain ⟨p', hp'⟩ := Option.isSome_iff_exists.mp hs
  cases hsq : exPos.square m.from with
  | none => rw [hsq] at hc; cases hc
  | some x =>
    obtain ⟨c, pc⟩ := x
    rw [hsq] at hc
    have : c = .white := by simpa using hc
    subst this
    exact ⟨p', hp', move_eq_hash exZ rfl exPos_rep hok hsq hp'⟩

/-- Independent cross-check by evaluation, on all 36 pseudo-legal moves of White in `exPos`. -/
example : (exPos.pseudoLegalMoves .white).all (fun m =>
    match exPos.move m with
    | some p' => exZ.move (exZ.hash exPos .white) exPos m == exZ.hash p' .black
    | none => false) = true := by
  rw [exPos_val]; decide +kernel

/-- The same for Black in the mirrored position. -/
example : (exPosB.pseudoLegalMoves .black).all (fun m =>
    match exPosB.move m with
    | some p' => exZ.move (exZ.hash exPosB .black) exPosB m == exZ.hash p' .white
    | none => false) = true := by
  rw [exPosB_val]; decide +kernel

end Morlock.Props.C07
