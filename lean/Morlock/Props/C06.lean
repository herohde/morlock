import Morlock.Proofs.AttackGlue
import Morlock.Proofs.AttackLeapers
import Morlock.Proofs.AttackBounds
import Morlock.Proofs.AttackPawns
/-!
# C06 (part 1; part 2 is `Props/C06Queries.lean`) — the bitboard attack tables equal ray geometry

All theorems are about `Morlock.Model.*Attackboard` / `pawnCaptureboard` / `newRotated` / `Rotated.xor`,
the transcription of `pkg/board/bitboard.go`, against the reference semantics `Spec.officerTargets`
and `Spec.pawnTargets`. The sliding-piece theorems hold for EVERY occupancy `occ < 2^64` (they are
proved symbolically, not by enumerating boards) and every square `sq < 64`.

Form proved: the exact bitboard equality `lhs = toBB (targets)`, where
`toBB l = l.foldl (fun acc s => acc ||| (1 <<< s)) 0` (`toBB_def`). The equivalent `testBit`
characterisation (`t` set iff `t ∈ targets`, and `lhs < 2^64`) follows from `testBit_toBB_iff` and
`toBB_lt_of_targets`, and is stated for the officers as `attack_testBit` / `attack_lt`.

The generated tables `Gen.rot90, rot45L, rot45R, off45L, off45R, mask45L, mask45R` enter only through
kernel-evaluated facts in `Morlock/Proofs/AttackGeo*.lean` and `AttackTables.lean`, so everything is
re-checked when they are regenerated.
-/
namespace Morlock.Props.C06
open Morlock Morlock.Proofs.Attack

theorem toBB_def (l : List Nat) : toBB l = l.foldl (fun acc s => acc ||| (1 <<< s)) 0 := rfl

theorem testBit_toBB_iff (l : List Nat) (t : Nat) : (toBB l).testBit t = true ↔ t ∈ l :=
  testBit_toBB l t

theorem toBB_lt_of_targets (o : Nat → Bool) (k : Spec.Kind) (sq : Nat) :
    toBB (Spec.officerTargets o k sq) < 2 ^ 64 :=
  toBB_lt _ (officerTargets_lt o k sq)

theorem rot90_injective (a b : Nat) (ha : a < 64) (hb : b < 64) :
    Gen.rot90[a]! < 64 ∧ (Gen.rot90[a]! = Gen.rot90[b]! → a = b) :=
  ⟨perm_rot90.lt ha, perm_rot90.inj ha hb⟩

theorem rot45L_injective (a b : Nat) (ha : a < 64) (hb : b < 64) :
    Gen.rot45L[a]! < 64 ∧ (Gen.rot45L[a]! = Gen.rot45L[b]! → a = b) :=
  ⟨perm_rot45L.lt ha, perm_rot45L.inj ha hb⟩

theorem rot45R_injective (a b : Nat) (ha : a < 64) (hb : b < 64) :
    Gen.rot45R[a]! < 64 ∧ (Gen.rot45R[a]! = Gen.rot45R[b]! → a = b) :=
  ⟨perm_rot45R.lt ha, perm_rot45R.inj ha hb⟩

theorem rotInv_iff (occ : Nat) (r : Model.Rotated) :
    RotInv occ r ↔
      occ < 2 ^ 64 ∧ r.rot = occ ∧ r.rot90 < 2 ^ 64 ∧ r.rot45L < 2 ^ 64 ∧ r.rot45R < 2 ^ 64 ∧
      (∀ s, s < 64 → r.rot90.testBit (Gen.rot90[s]!) = occ.testBit s) ∧
      (∀ s, s < 64 → r.rot45L.testBit (Gen.rot45L[s]!) = occ.testBit s) ∧
      (∀ s, s < 64 → r.rot45R.testBit (Gen.rot45R[s]!) = occ.testBit s) :=
  ⟨fun h => ⟨h.occ_lt, h.rot, h.lt90, h.lt45L, h.lt45R, h.bit90, h.bit45L, h.bit45R⟩,
   fun ⟨a, b, c, d, e, f, g, h⟩ => ⟨a, b, c, d, e, f, g, h⟩⟩

theorem newRotated_rotInv (occ : Nat) (h : occ < 2 ^ 64) : RotInv occ (Model.newRotated occ) :=
  newRotated_inv occ h

theorem newRotated_rot (occ : Nat) (h : occ < 2 ^ 64) : (Model.newRotated occ).rot = occ :=
  (newRotated_inv occ h).rot

theorem xor_rotInv (occ : Nat) (r : Model.Rotated) (sq : Nat) (hs : sq < 64) (h : RotInv occ r) :
    RotInv (occ ^^^ Model.bitMask sq) (r.xor sq) :=
  xor_inv hs h

theorem rook_eq_of_rotInv (occ : Nat) (r : Model.Rotated) (sq : Nat) (h : RotInv occ r) (hs : sq < 64) :
    Model.rookAttackboard r sq = toBB (Spec.officerTargets (fun s => occ.testBit s) .rook sq) :=
  rook_of_inv h hs

theorem bishop_eq_of_rotInv (occ : Nat) (r : Model.Rotated) (sq : Nat) (h : RotInv occ r) (hs : sq < 64) :
    Model.bishopAttackboard r sq = toBB (Spec.officerTargets (fun s => occ.testBit s) .bishop sq) :=
  bishop_of_inv h hs

theorem queen_eq_of_rotInv (occ : Nat) (r : Model.Rotated) (sq : Nat) (h : RotInv occ r) (hs : sq < 64) :
    Model.queenAttackboard r sq = toBB (Spec.officerTargets (fun s => occ.testBit s) .queen sq) :=
  queen_of_inv h hs

theorem rook_eq (occ sq : Nat) (h : occ < 2 ^ 64) (hs : sq < 64) :
    Model.rookAttackboard (Model.newRotated occ) sq =
      toBB (Spec.officerTargets (fun s => occ.testBit s) .rook sq) :=
  rook_of_inv (newRotated_inv occ h) hs

theorem bishop_eq (occ sq : Nat) (h : occ < 2 ^ 64) (hs : sq < 64) :
    Model.bishopAttackboard (Model.newRotated occ) sq =
      toBB (Spec.officerTargets (fun s => occ.testBit s) .bishop sq) :=
  bishop_of_inv (newRotated_inv occ h) hs

theorem queen_eq (occ sq : Nat) (h : occ < 2 ^ 64) (hs : sq < 64) :
    Model.queenAttackboard (Model.newRotated occ) sq =
      toBB (Spec.officerTargets (fun s => occ.testBit s) .queen sq) :=
  queen_of_inv (newRotated_inv occ h) hs

theorem king_eq (occF : Nat → Bool) (sq : Nat) (hs : sq < 64) :
    Model.kingAttackboard sq = toBB (Spec.officerTargets occF .king sq) :=
  king_of_lt occF hs

theorem knight_eq (occF : Nat → Bool) (sq : Nat) (hs : sq < 64) :
    Model.knightAttackboard sq = toBB (Spec.officerTargets occF .knight sq) :=
  knight_of_lt occF hs

theorem pawn_eq (c : Model.Color) (sq : Nat) (hs : sq < 64) :
    Model.pawnCaptureboard c (Model.bitMask sq) = toBB (Spec.pawnTargets (Model.absColor c) sq) :=
  pawn_of_lt c hs

theorem pawnSet_testBit_iff (c : Model.Color) (pawns t : Nat) (hp : pawns < 2 ^ 64) :
    (Model.pawnCaptureboard c pawns).testBit t = true ↔
      ∃ s, s < 64 ∧ pawns.testBit s = true ∧ t ∈ Spec.pawnTargets (Model.absColor c) s :=
  pawnSet_testBit c pawns t hp

theorem pawnSet_lt_two_pow (c : Model.Color) (pawns : Nat) (hp : pawns < 2 ^ 64) :
    Model.pawnCaptureboard c pawns < 2 ^ 64 :=
  pawnSet_lt c pawns hp

/-- `none` models the panic of `Attackboard` on a pawn or no piece. -/
theorem attackboard_eq (occ sq : Nat) (p : Model.Piece) (h : occ < 2 ^ 64) (hs : sq < 64) :
    Model.attackboard (Model.newRotated occ) sq p =
      match Model.absKind p with
      | some .pawn => none
      | some k => some (toBB (Spec.officerTargets (fun s => occ.testBit s) k sq))
      | none => none := by
  cases p <;> simp only [Model.attackboard, Model.absKind]
  · rw [bishop_eq occ sq h hs]
  · rw [knight_eq _ sq hs]
  · rw [rook_eq occ sq h hs]
  · rw [queen_eq occ sq h hs]
  · rw [king_eq _ sq hs]

theorem attack_testBit (occ sq t : Nat) (p : Model.Piece) (k : Spec.Kind) (b : Nat) (h : occ < 2 ^ 64)
    (hs : sq < 64) (hb : Model.attackboard (Model.newRotated occ) sq p = some b) (hk : Model.absKind p = some k) :
    b.testBit t = true ↔ t ∈ Spec.officerTargets (fun s => occ.testBit s) k sq := by
  rw [attackboard_eq occ sq p h hs, hk] at hb
  cases k <;> simp only [reduceCtorEq, Option.some.injEq] at hb <;> subst hb <;> exact testBit_toBB _ _

theorem attack_lt (occ sq : Nat) (p : Model.Piece) (b : Nat) (h : occ < 2 ^ 64) (hs : sq < 64)
    (hb : Model.attackboard (Model.newRotated occ) sq p = some b) : b < 2 ^ 64 := by
  rw [attackboard_eq occ sq p h hs] at hb
  cases p <;> simp only [Model.absKind, reduceCtorEq, Option.some.injEq] at hb <;> subst hb <;>
    exact toBB_lt_of_targets _ _ _

/-- Rook on e4 (square 27) in the initial position: both sides agree, and the value is the expected one. -/
example : Model.rookAttackboard (Model.newRotated 0xFFFF00000000FFFF) 27 =
    toBB (Spec.officerTargets (fun s => (0xFFFF00000000FFFF : Nat).testBit s) .rook 27) :=
  rook_eq _ _ (by decide) (by decide)

example : toBB (Spec.officerTargets (fun s => (0xFFFF00000000FFFF : Nat).testBit s) .rook 27) =
    toBB [28, 29, 30, 31, 26, 25, 24, 35, 43, 51, 19, 11] := by decide +kernel

/-- Queen on e5 (square 35) on a scattered occupancy, after one incremental `Xor` update of square 36. -/
example : Model.queenAttackboard ((Model.newRotated 0x0042201008a41201).xor 36) 35 =
    toBB (Spec.officerTargets (fun s => ((0x0042201008a41201 : Nat) ^^^ Model.bitMask 36).testBit s) .queen 35) :=
  queen_eq_of_rotInv _ _ _ (xor_rotInv _ _ _ (by decide) (newRotated_rotInv _ (by decide))) (by decide)

end Morlock.Props.C06
