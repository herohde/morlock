import Morlock.Proofs.SargonXray
import Morlock.Proofs.BernsteinWide
import Morlock.Props.C20Sargon
import Morlock.Props.C20Bernstein
/-!
# C20 (x-ray) — SARGON's attacker stacks are exactly the reference's x-ray chains; BERNSTEIN is finite for every `int` factor

SARGON. The stack behind each front attacker of `FindAttackers` **equals** `Spec.specStack` (`Spec/Xray.lean`), the walk on the
mailbox board that the Go code documents: from the attacker's square away from the target along the line through both, over
empty squares; the first man met joins the stack iff it is of the same side, a queen or the slider of the line (never a pawn or
king) and not pinned away from the target; the first man that does not qualify ends the stack. So the chain is complete and in
order of distance. What this means on the board (evaluated on `xr`, `xp`): an enemy rook behind a queen is in neither side's
list; a pawn is never a stack member, though a pawn front attacker gets the bishop / queen behind it; a pinned man behind an
attacker is dropped together with everything behind it (`ret.Behind, _ =` discards the `false`).

BERNSTEIN. The bound on `factor` has nothing to do with float32: a score is a Go `int`, at most `2^63`, so `Pawns(score) · 100 <
2^70`, and the divisor is `≥ 1` because rounding is monotone. What a huge factor breaks is only the model's use of unbounded
`Int` for Go's wrapping `int`; for `|factor| ≤ 2^52` nothing leaves the 64-bit range, so model and code agree.
-/
namespace Morlock.Props.C20Xray
open Morlock Morlock.Model Morlock.Model.Sargon Morlock.Proofs Morlock.Proofs.Sargon Morlock.Proofs.Gen
open Morlock.Model.Flt (Q f32)

theorem lineDir_def (t f : Nat) :
    Spec.lineDir t f =
      (let df : Int := (Spec.fileOf f : Int) - (Spec.fileOf t : Int)
       let dr : Int := (Spec.rankOf f : Int) - (Spec.rankOf t : Int)
       if df = 0 ∧ dr = 0 then none
       else if df = 0 ∨ dr = 0 then some (.rook, df.sign, dr.sign)
       else if df = dr ∨ df = -dr then some (.bishop, df.sign, dr.sign)
       else none) := rfl

theorem xrayWalk_succ (q : Spec.Pos) (pinned : Nat → Bool) (side : Spec.Color) (slider : Spec.Kind) (df dr : Int) (n s : Nat) :
    Spec.xrayWalk q pinned side slider df dr (n + 1) s =
      match Spec.step s df dr with
      | none => []
      | some s' =>
        match q.at s' with
        | none => Spec.xrayWalk q pinned side slider df dr n s'
        | some (c, k) =>
          if c = side ∧ (k = .queen ∨ k = slider) ∧ pinned s' = false then
            (s', k) :: Spec.xrayWalk q pinned side slider df dr n s'
          else [] := rfl

theorem specStack_def (q : Spec.Pos) (pinned : Nat → Bool) (t : Nat) (side : Spec.Color) (f : Nat) :
    Spec.specStack q pinned t side f =
      match q.at f with
      | some (_, .king) => []
      | _ =>
        match Spec.lineDir t f with
        | none => []
        | some (slider, df, dr) => Spec.xrayWalk q pinned side slider df dr 8 f := rfl

theorem toPl_def (side : Color) (e : Nat × Spec.Kind) :
    toPl side e = { piece := kindPiece e.2, color := side, square := e.1 } := rfl

/-- On every represented position, for every target square, side and pin table: the stack
    `Behind, Behind.Behind, …` of every attacker returned by `FindAttackers(pos, pins, sq, side)` is the reference's x-ray
    chain behind that attacker — the same men, the same kinds, in the same order (nearest to the attacker first). -/
theorem findAttackers_stacks_eq_spec {p : Position} {b : Proofs.Board} (h : Rep p b) (turn : Color) (pins : Pins) {sq : Nat}
    (hsq : sq < 64) (side : Color) {l : List Attacker} (hl : findAttackers p pins sq side = .ok l) :
    ∀ a ∈ l, a.behind =
      (Spec.specStack (abs p turn) (fun s => isPinnedFor pins s sq) sq (absColor side) a.front.square).map (toPl side) :=
  Proofs.Sargon.findAttackers_stacks_eq_spec h turn pins hsq side hl

theorem map_toPl_back (side : Color) (L : List (Nat × Spec.Kind)) :
    (L.map (toPl side)).map (fun q => (q.square, kindOf q.piece)) = L := by
  rw [List.map_map]
  have : ((fun q : Sargon.Placement => (q.square, kindOf q.piece)) ∘ toPl side) = id := by
    funext e
    simp [toPl, kindOf_kindPiece]
  rw [this, List.map_id]

/-- Fronts and stacks together: `(s, st)` is (front square, stack as squares and kinds)
    of an attacker returned by `FindAttackers` iff it is an entry of the reference list `Spec.specAttackers` (the direct,
    non-pinned attackers of `sq`, each with its x-ray chain). -/
theorem findAttackers_eq_specAttackers {p : Position} {b : Proofs.Board} (h : Rep p b) (turn : Color) (pins : Pins) {sq : Nat}
    (hsq : sq < 64) (side : Color) {l : List Attacker} (hl : findAttackers p pins sq side = .ok l)
    (s : Nat) (st : List (Nat × Spec.Kind)) :
    (∃ a ∈ l, a.front.square = s ∧ a.behind.map (fun q => (q.square, kindOf q.piece)) = st) ↔
      (s, st) ∈ Spec.specAttackers (abs p turn) (fun x => isPinnedFor pins x sq) sq (absColor side) := by
  have hfront := Props.C20Sargon.findAttackers_fronts_eq_specDirect h turn pins hsq side hl
  have hstack := findAttackers_stacks_eq_spec h turn pins hsq side hl
  unfold Spec.specAttackers
  simp only [List.mem_map, Prod.mk.injEq]
  constructor
  · rintro ⟨a, ha, rfl, rfl⟩
    refine ⟨a.front.square, (hfront _).mp ⟨a, ha, rfl⟩, rfl, ?_⟩
    rw [hstack a ha, map_toPl_back]
  · rintro ⟨f, hf, rfl, rfl⟩
    obtain ⟨a, ha, hfa⟩ := (hfront f).mpr hf
    refine ⟨a, ha, hfa, ?_⟩
    rw [hstack a ha, map_toPl_back, hfa]

/-- the number of attackers `NumAttackers` counts (SARGON's mobility term) is the reference's count: one per direct
    attacker plus the length of its x-ray chain -/
theorem numAttackers_eq_spec {p : Position} {b : Proofs.Board} (h : Rep p b) (turn : Color) (pins : Pins) {sq : Nat}
    (hsq : sq < 64) (side : Color) {l : List Attacker} (hl : findAttackers p pins sq side = .ok l) :
    numAttackers l = (l.map fun a =>
      1 + (Spec.specStack (abs p turn) (fun s => isPinnedFor pins s sq) sq (absColor side) a.front.square).length).sum := by
  have hstack := findAttackers_stacks_eq_spec h turn pins hsq side hl
  unfold numAttackers
  congr 1
  apply List.map_congr_left
  intro a ha
  rw [hstack a ha, List.length_map]

/-- `6k1/8/8/r1R1p3/4P3/1B1R1B2/P2Q4/1K1R3Q` with the files mirrored as the engine numbers them (`h` = 0): target the black
    pawn d5 (36). White: rook d3 (20) with queen d2 (12) and rook d1 (4) behind it on the file; pawn e4 (27) with bishop f3
    (18) and queen h1 (0) behind it on the diagonal; bishop b3 (22) with the *pawn* a2 (15) behind it; rook g5 (33) with the
    *black* rook h5 (32) behind it. -/
def xrPl : List (Nat × Color × Piece) :=
  [(6, .white, .king), (57, .black, .king), (36, .black, .pawn), (32, .black, .rook),
   (20, .white, .rook), (12, .white, .queen), (4, .white, .rook),
   (27, .white, .pawn), (18, .white, .bishop), (0, .white, .queen),
   (22, .white, .bishop), (15, .white, .pawn), (33, .white, .rook)]
def xr : Position := (Position.newPosition xrPl 0 0).getD {}

theorem xr_rep : Rep xr xr.square :=
  (rep_getD_newPosition (v := xr) rfl (by decide +kernel) (by decide +kernel)).self

theorem ok_of_toOption {α : Type} {x : Except SErr α} {l : α} (h : x.toOption = some l) : x = .ok l := by
  cases x with
  | error e => cases h
  | ok v => simp only [Except.toOption, Option.some.injEq] at h; rw [h]

theorem xr_pins : findKingQueenPins xr = [(36, 22)] := by decide +kernel

theorem xr_attackers :
    findAttackers xr (findKingQueenPins xr) 36 .white = .ok
      [{ front := ⟨.rook, .white, 20⟩, behind := [⟨.queen, .white, 12⟩, ⟨.rook, .white, 4⟩] },
       { front := ⟨.rook, .white, 33⟩ },
       { front := ⟨.bishop, .white, 22⟩ },
       { front := ⟨.pawn, .white, 27⟩, behind := [⟨.bishop, .white, 18⟩, ⟨.queen, .white, 0⟩] }] :=
  ok_of_toOption (by rw [xr_pins]; decide +kernel)

/-- the theorem applies to it (a queen behind a rook with a rook behind the queen; a queen behind a bishop behind a pawn) -/
example : ∀ a ∈ [({ front := ⟨.rook, .white, 20⟩, behind := [⟨.queen, .white, 12⟩, ⟨.rook, .white, 4⟩] } : Attacker),
       { front := ⟨.rook, .white, 33⟩ }, { front := ⟨.bishop, .white, 22⟩ },
       { front := ⟨.pawn, .white, 27⟩, behind := [⟨.bishop, .white, 18⟩, ⟨.queen, .white, 0⟩] }],
    a.behind = (Spec.specStack (abs xr .white) (fun s => isPinnedFor (findKingQueenPins xr) s 36) 36 .white a.front.square).map
      (toPl .white) :=
  findAttackers_stacks_eq_spec xr_rep .white (findKingQueenPins xr) (by decide) .white xr_attackers

/-- … and what the reference says, evaluated on the mailbox board: complete chains in order of distance; the pawn a2 behind
    the bishop b3 and the black rook h5 behind the rook g5 are not stacked -/
theorem xr_spec :
    Spec.specAttackers (abs xr .white) (fun s => isPinnedFor (findKingQueenPins xr) s 36) 36 .white =
      [(20, [(12, .queen), (4, .rook)]), (22, []), (27, [(18, .bishop), (0, .queen)]), (33, [])] := by
  rw [xr_pins]; decide +kernel

/-- the black rook h5 is in nobody's list: it does not attack d5 directly (the white rook g5 is in the way), and no stack
    continues into a man of the other side -/
example : findAttackers xr (findKingQueenPins xr) 36 .black = .ok [] := ok_of_toOption (by rw [xr_pins]; decide +kernel)

/-- the same with the white king on a2 and a black rook on h2 (8): the queen d2 is pinned to the king along the second rank.
    The stack behind the rook d3 is now **empty** — the pinned queen is dropped, and the rook d1 behind it with it. -/
def xpPl : List (Nat × Color × Piece) :=
  [(15, .white, .king), (57, .black, .king), (36, .black, .pawn), (32, .black, .rook), (8, .black, .rook),
   (20, .white, .rook), (12, .white, .queen), (4, .white, .rook),
   (27, .white, .pawn), (18, .white, .bishop), (0, .white, .queen),
   (22, .white, .bishop), (33, .white, .rook)]
def xp : Position := (Position.newPosition xpPl 0 0).getD {}

theorem xp_rep : Rep xp xp.square :=
  (rep_getD_newPosition (v := xp) rfl (by decide +kernel) (by decide +kernel)).self

theorem xp_pins : findKingQueenPins xp = [(12, 8), (36, 22)] := by decide +kernel

theorem xp_attackers :
    findAttackers xp (findKingQueenPins xp) 36 .white = .ok
      [{ front := ⟨.rook, .white, 20⟩ }, { front := ⟨.rook, .white, 33⟩ }, { front := ⟨.bishop, .white, 22⟩ },
       { front := ⟨.pawn, .white, 27⟩, behind := [⟨.bishop, .white, 18⟩, ⟨.queen, .white, 0⟩] }] :=
  ok_of_toOption (by rw [xp_pins]; decide +kernel)

theorem xp_spec :
    Spec.specAttackers (abs xp .white) (fun s => isPinnedFor (findKingQueenPins xp) s 36) 36 .white =
      [(20, []), (22, []), (27, [(18, .bishop), (0, .queen)]), (33, [])] := by
  rw [xp_pins]; decide +kernel

example : (20, []) ∈ Spec.specAttackers (abs xp .white) (fun s => isPinnedFor (findKingQueenPins xp) s 36) 36 .white :=
  (findAttackers_eq_specAttackers xp_rep .white (findKingQueenPins xp) (by decide) .white xp_attackers 20 []).mp
    ⟨{ front := ⟨.rook, .white, 20⟩ }, by simp, rfl, rfl⟩

section Bernstein
open Morlock.Model.Bernstein Morlock.Proofs.Bernstein

/-- The float32 part of `Eval.Evaluate` — `Pawns(self) * 100 / Pawns(opp)` with either sign — is
    finite for **every** pair of scores in `[1, 2^63]`, i.e. for every value `max(1, score)` of a 64-bit `int` can take:
    no float32 overflow, no division by zero, no NaN, whatever the factor. -/
theorem ratio_total_int64 {s o : Int} (hs : 1 ≤ s) (hs' : s ≤ 2 ^ 63) (ho : 1 ≤ o) (ho' : o ≤ 2 ^ 63) (sign : Bool) :
    ((Flt.rnd f32 (Q.ofInt s)).bind fun a =>
      (Flt.mul f32 (if sign then a.neg else a) (Q.ofInt 100)).bind fun m =>
      (Flt.rnd f32 (Q.ofInt o)).bind fun b => Flt.div f32 m b).isSome = true :=
  ratio_isSome_wide hs hs' ho ho' sign

/-- For `|factor| ≤ 2^52` nothing in `Evaluate` leaves the range of Go's 64-bit `int` (so the model's
    unbounded `Int` is faithful): the product `factor * material` is within `±2^63`, and the score is in
    `[1, 82304 + 1344·2^52] ⊂ [1, 2^63)`. -/
theorem evaluate_no_wrap {p : Position} {factor : Int} {side : Color} {v : Int}
    (hf0 : -(2 ^ 52) ≤ factor) (hf1 : factor ≤ 2 ^ 52) (h : evaluate p factor side = some v) :
    1 ≤ v ∧ v ≤ 82304 + 1344 * 2 ^ 52 ∧ v < 2 ^ 63 ∧
      -(2 ^ 63) < factor * material p side ∧ factor * material p side < 2 ^ 63 := by
  obtain ⟨h1, h2, h3, h4⟩ := evaluate_bounds_wide (p := p) (side := side) hf0 hf1 h
  have := scoreMax_lt
  exact ⟨h1, h2, by unfold scoreMax at h2 this; omega, h3, h4⟩

/-- `Eval.Evaluate` returns a finite float32 (no panic, no division by zero, no infinity, no NaN) on
    every represented position in which both sides have a king, for every factor with `|factor| ≤ 2^52`. -/
theorem eval_total_wide {p : Position} {b : Proofs.Board} (h : Rep p b) {factor : Int} {turn : Color}
    (hf0 : -(2 ^ 52) ≤ factor) (hf1 : factor ≤ 2 ^ 52)
    (hk1 : p.pieces turn .king ≠ 0) (hk2 : p.pieces turn.opp .king ≠ 0) :
    (evalEvaluate p factor turn).isSome = true :=
  evalEvaluate_isSome_wide hf0 hf1 ((kingSquare_lt_iff (h.piecesLt _ _)).mpr hk1) ((kingSquare_lt_iff (h.piecesLt _ _)).mpr hk2)

/-- in particular for every 32-bit `int` factor -/
theorem factor_int32 {p : Position} {b : Proofs.Board} (h : Rep p b) {factor : Int} {turn : Color}
    (hf0 : -(2 ^ 31) ≤ factor) (hf1 : factor < 2 ^ 31)
    (hk1 : p.pieces turn .king ≠ 0) (hk2 : p.pieces turn.opp .king ≠ 0) :
    (evalEvaluate p factor turn).isSome = true :=
  eval_total_wide h (by have : (2:Int) ^ 31 ≤ 2 ^ 52 := by decide
                        omega) (by have : (2:Int) ^ 31 ≤ 2 ^ 52 := by decide
                                   omega) hk1 hk2

/-- Kiwipete with `factor = 2^31 − 1`: the hypotheses are met; the value is a float32 -/
example : (evalEvaluate kiwiPos (2 ^ 31 - 1) .white).isSome = true :=
  factor_int32 kiwiPos_rep (by decide) (by decide) (by decide +kernel) (by decide +kernel)

example : (evalEvaluate kiwiPos (2 ^ 52) .black).isSome = true :=
  eval_total_wide kiwiPos_rep (by decide) (by decide) (by decide +kernel) (by decide +kernel)

theorem kiwi_parts :
    mobility kiwiPos .white = 48 ∧ control kiwiPos .white = 17 ∧ kingDefense kiwiPos .white = some 4 ∧ material kiwiPos .white = 39 ∧
    mobility kiwiPos .black = 43 ∧ control kiwiPos .black = 17 ∧ kingDefense kiwiPos .black = some 3 ∧ material kiwiPos .black = 39 := by
  rw [kiwiPos_val]; decide +kernel

theorem kiwi_evaluate (f : Int) :
    evaluate kiwiPos f .white = some (max 1 (48 + 17 + 4 + f * 39)) ∧ evaluate kiwiPos f .black = some (max 1 (43 + 17 + 3 + f * 39)) := by
  obtain ⟨a1, a2, a3, a4, b1, b2, b3, b4⟩ := kiwi_parts
  simp only [Bernstein.evaluate, a1, a2, a3, a4, b1, b2, b3, b4, and_self]

/-- **Where the model (without wrap-around) overflows**: Kiwipete, 39 points of material each. With `factor = 2^116` the
    ratio is still a float32; with `factor = 2^117` the product `Pawns(self) * 100 ≈ 3900 · 2^117 > 2^128` is infinite. No Go
    `int` holds such a factor: the bound of `eval_total_wide` is set by `int`, not by float32. -/
theorem model_overflow_beyond_int64 :
    (evalEvaluate kiwiPos (2 ^ 116) .white).isSome = true ∧ evalEvaluate kiwiPos (2 ^ 117) .white = none := by
  simp only [evalEvaluate, Color.opp, kiwi_evaluate]
  constructor <;> decide +kernel

end Bernstein

end Morlock.Props.C20Xray
