import Morlock.Props.C01
namespace Morlock.Props.C01Describe
open Morlock Morlock.Model Morlock.Proofs Morlock.Proofs.Gen

def absClass : MoveType → Option Spec.MoveClass
  | .normal => some .normal | .push => some .push | .jump => some .jump | .enPassant => some .enPassant
  | .queenSideCastle => some .queenSideCastle | .kingSideCastle => some .kingSideCastle
  | .capture => some .capture | .promotion => some .promotion | .capturePromotion => some .capturePromotion
  | .invalid => none

theorem describe_eq {p : Position} {b : Board} (h : Rep p b) (turn : Color) {pc : Piece} {m : Move}
    (hfrom : b m.from = some (turn, pc)) (hcl : ClassOK (abs p turn) m = true) :
    Spec.describe (abs p turn) (absMove m) =
      some ((if m.isCastle then (if Spec.fileOf m.to = Spec.fG then .kingSideCastle else .queenSideCastle)
            else if m.ty = .enPassant then .enPassant
            else if m.promotion ≠ .none then (if (b m.to).isSome then .capturePromotion else .promotion)
            else if (b m.to).isSome then .capture
            else if pc = .pawn then (if m.ty = .jump then .jump else .push) else .normal),
            kindOf pc, (absCellB (b m.to)).map (·.2)) := by
  have hne : pc ≠ .none := h.ne_none_of_some hfrom
  have hat : (abs p turn).at (absMove m).from = some (absColor turn, kindOf pc) :=
    (h.abs_at_iff turn m.from turn (kindOf pc)).mpr (by rw [kindPiece_kindOf hne]; exact hfrom)
  obtain ⟨h1, h2, h3, _⟩ := classOK_iff.mp hcl
  unfold Spec.describe
  rw [hat]
  simp only [h1, h2, h3]
  have hto : (abs p turn).at (absMove m).to = absCellB (b m.to) := h.abs_at turn m.to
  rw [hto]
  have hpromo : (absKind m.promotion).isSome = (m.promotion != .none) := by
    cases m.promotion <;> rfl
  have hcapt : ((absCellB (b m.to)).map (·.2)).isSome = (b m.to).isSome := by
    cases hb : b m.to with
    | none => rfl
    | some x => obtain ⟨c, k⟩ := x; rw [absCellB_some _ (h.ne_none_of_some hb)]; rfl
  have hpw : (kindOf pc = Spec.Kind.pawn) ↔ pc = .pawn := by
    cases pc <;> simp [kindOf] at hne ⊢
  -- the same chain of tests on both sides
  simp only [absMove, hpromo, hcapt, hpw, beq_iff_eq, bne_iff_ne, ne_eq]
  rfl

theorem capt_none {b : Board} {sq : Nat} (hb : b sq = none) : (absCellB (b sq)).map (·.2) = absKind Piece.none := by
  rw [hb]; rfl

theorem capt_some {p : Position} {b : Board} (h : Rep p b) {sq : Nat} {c : Color} {k : Piece} (hb : b sq = some (c, k)) :
    (absCellB (b sq)).map (·.2) = absKind k := by
  have hk := h.ne_none_of_some hb
  rw [hb, absCellB_some _ hk, absKind_of_ne hk]; rfl

theorem step_describe {p : Position} {b : Board} (h : Rep p b) {turn : Color} {pc : Piece} {m : Move}
    (hpw : pc ≠ .pawn) (hm : StepMove b turn pc m) :
    ∃ c, absClass m.ty = some c ∧
      Spec.describe (abs p turn) (absMove m) = some (c, kindOf m.piece, absKind m.capture) := by
  have hcl := hm.classOK h hpw
  obtain ⟨hsq, hpc, hpr, _, hd⟩ := hm
  rw [describe_eq h turn hsq hcl, hpc]
  rcases hd with ⟨hb, hty, hcap⟩ | ⟨k, hb, hty, hcap⟩
  · refine ⟨.normal, by rw [hty]; rfl, ?_⟩
    rw [capt_none hb, hcap]
    simp [Move.isCastle, hty, hpr, hb, hpw]
  · refine ⟨.capture, by rw [hty]; rfl, ?_⟩
    rw [capt_some h hb, hcap]
    simp [Move.isCastle, hty, hpr, hb]


theorem pawn_describe {p : Position} {b : Board} (h : Rep p b) {turn : Color}
    (hw : WFb b p.castling p.enpassant turn) {m : Move} (hm : PawnMove b p.enpassant turn m) :
    ∃ c, absClass m.ty = some c ∧
      Spec.describe (abs p turn) (absMove m) = some (c, kindOf m.piece, absKind m.capture) := by
  have hcl := hm.classOK h hw
  obtain ⟨hsq, hpc, hk⟩ := hm
  rw [describe_eq h turn hsq hcl, hpc]
  rcases hk with ⟨_, hb, hcap, hr⟩ | ⟨t1, _, _, _, _, hb, hty, hpr, hcap⟩ |
    ⟨_, k, hb, hcap, hr⟩ | ⟨he, hto, _, hown, hty, hpr, hcap⟩
  · rcases hr with ⟨_, hty, hpr⟩ | ⟨_, hty, hpr⟩
    · refine ⟨.push, by rw [hty]; rfl, ?_⟩
      rw [capt_none hb, hcap]
      simp [Move.isCastle, hty, hpr, hb]
    · refine ⟨.promotion, by rw [hty]; rfl, ?_⟩
      rw [capt_none hb, hcap]
      simp [Move.isCastle, hty, ne_none_of_mem_promoPieces hpr, hb]
  · refine ⟨.jump, by rw [hty]; rfl, ?_⟩
    rw [capt_none hb, hcap]
    simp [Move.isCastle, hty, hpr, hb]
  · rcases hr with ⟨_, hty, hpr⟩ | ⟨_, hty, hpr⟩
    · refine ⟨.capture, by rw [hty]; rfl, ?_⟩
      rw [capt_some h hb, hcap]
      simp [Move.isCastle, hty, hpr, hb]
    · refine ⟨.capturePromotion, by rw [hty]; rfl, ?_⟩
      rw [capt_some h hb, hcap]
      simp [Move.isCastle, hty, ne_none_of_mem_promoPieces hpr, hb]
  · have hb : b m.to = none := by rw [hto]; exact (hw.ep_ok he).2.1
    refine ⟨.enPassant, by rw [hty]; rfl, ?_⟩
    rw [capt_none hb, hcap]
    simp [Move.isCastle, hty]

theorem castle_describe {p : Position} {b : Board} (h : Rep p b) {turn t : Color}
    (hw : WFb b p.castling p.enpassant t) {m : Move} (hm : CastleMove b p.castling turn m)
    (hfr : m.from = kingHomeSq turn) :
    ∃ c, absClass m.ty = some c ∧
      Spec.describe (abs p turn) (absMove m) = some (c, kindOf m.piece, absKind m.capture) := by
  have hcl := hm.classOK h hw hfr
  have hk : b m.from = some (turn, .king) := by rw [hfr]; exact hm.kingHome hw
  obtain ⟨cs, hcs, _, hempty, _, hty, hpc, hto, hpr, hcap⟩ := hm
  rw [describe_eq h turn hk hcl, hpc]
  obtain ⟨_, htoM, _, _, _, hkind, _⟩ := castleParams_spec turn cs hcs
  rw [capt_none (hto ▸ hempty _ htoM), hcap]
  rcases hkind with ⟨e, f⟩ | ⟨e, f⟩
  · exact ⟨.kingSideCastle, by rw [hty, e]; rfl, by simp [Move.isCastle, hty, e, hto, f, Spec.fileOf, Spec.fG]⟩
  · exact ⟨.queenSideCastle, by rw [hty, e]; rfl, by simp [Move.isCastle, hty, e, hto, f, Spec.fileOf, Spec.fG]⟩

/-- **The reported kind, moving piece and captured piece are what the reference `Spec.describe` says.** -/
theorem pseudo_describe {p : Position} {turn : Color} (hw : WF p turn) :
    ∀ m ∈ p.pseudoLegalMoves turn, ∃ c, absClass m.ty = some c ∧
      Spec.describe (abs p turn) (absMove m) = some (c, kindOf m.piece, absKind m.capture) := by
  intro m hm
  exact ((mem_pseudoLegalMoves hw.rep hw.wfb m).mp hm).elim (fun _ hpw hs => step_describe hw.rep hpw hs)
    (fun hp => pawn_describe hw.rep hw.wfb hp) (fun hf hc => castle_describe hw.rep hw.wfb hc hf)

end Morlock.Props.C01Describe
