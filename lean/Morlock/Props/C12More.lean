import Morlock.Props.C12
import Morlock.Proofs.ABHaltMore
/-!
# C12, the rest: halting `Minimax`; the principal variation of the search run after a halted one

`runMinimax.search` (`/repo/pkg/search/minimax.go`; `Model.minimax`, `Model.mmLoop`, `Model.minimaxSearch`) polls the
context ONCE per visited node, at node entry right after `nodes++` (there is no poll after the move loop, unlike
`runAlphaBeta.search`), and `Minimax.Search` polls once more at the very end. A node that sees "cancelled" answers
`ZeroScore, nil` - a *score*, not a marker - and its ancestors keep iterating; it is the final poll of `Minimax.Search`
that turns the run into `ErrHalted` (`none`).
`ex` is any exploration that picks every move (the reference values depend on `ex` only through `pick`; `Minimax` has no
exploration); `mmNodes g ex d p` is the number of nodes of the depth-`d` tree below `p` (a drawn position is a leaf);
`V'` is the plain negamax value *without* root exception for draws: `runMinimax.search` tests
`Result().Outcome == Draw` at the root too, `runAlphaBeta.search` does not (`V`); they agree on every region with no
drawn position at the root ply (`RootFreeOn`).

`C12.next_search_exact_on` shows the score of the search run after a halted one. Its PV is a best line, but not
necessarily the line found on the untouched table: a table hit returns no continuation, and a root entry stored by
the halted search reorders the moves.
-/
namespace Morlock.Props.C12More
open Morlock Morlock.Model Morlock.Model.Score Morlock.Spec Morlock.Proofs.AB
open Morlock.Props.C09
variable {P : Type}

/-- A node of `runMinimax.search` that sees the context cancelled counts itself, polls once and answers
    `ZeroScore, nil` (a score: the halted marker is only produced by `Minimax.Search`). -/
theorem minimax_cancelled_node (g : Game P) (d : Nat) (p : P) (st : SState) (k : Nat) (hk : st.cancelAt = some k)
    (hle : k ≤ st.polls + 1) :
    minimax g d p st = (zeroScore, [], { st with nodes := st.nodes + 1, polls := st.polls + 1 }) := by
  have hc : cancelled ({ st with nodes := st.nodes + 1 } : SState) = true := by
    simp only [cancelled, poll, hk, decide_eq_true_eq]; exact hle
  cases d with
  | zero => rw [minimax_zero, if_pos hc]; rfl
  | succ d => rw [minimax_succ, if_pos hc]; rfl

/-- **C12 for Minimax (a halted run reports halted, never a score).** For every game, depth and starting state:
    `Minimax.Search` returns `none` (`ErrHalted`) exactly if its last poll reported "cancelled". -/
theorem minimax_halt_invalid (g : Game P) (p : P) (d : Nat) (st : SState) :
    (minimaxSearch g p d st).1 = none ↔ ¬ Live (minimaxSearch g p d st).2 := by
  rw [minimaxSearch_eq]
  generalize minimax g d p _ = r
  by_cases hc : cancelled r.2.2 = true
  · rw [if_pos hc]
    exact ⟨fun _ => not_live_of_cancelled hc, fun _ => rfl⟩
  · have hc' : cancelled r.2.2 = false := by simpa using hc
    rw [if_neg hc]
    exact ⟨fun h => (by cases h), fun h => absurd ((cancelled_false_iff r.2.2).1 hc') h⟩

/-- **C12 for Minimax (every cancellation point).** With the context cancelled at the `k`-th poll, `Minimax.Search`
    returns `none` iff `k ≤ st.polls + mmNodes + 1`: the undisturbed run makes exactly `mmNodes + 1` polls (one per
    node visited, one at the end), and a cancellation at any of them - or before - halts it. -/
theorem minimax_halted_at (g : Game P) (ex : P → Explore) (hfull : ∀ p m, (ex p).pick m = true) (p : P) (d : Nat)
    (st : SState) (k : Nat) (hk : st.cancelAt = some k) :
    (minimaxSearch g p d st).1 = none ↔ k ≤ st.polls + mmNodes g ex d p + 1 := by
  obtain ⟨h1, _, _, _, _, h6, h7, h8⟩ := minimaxSearch_spec g ex hfull p d st
  rw [h7]
  constructor
  · intro hnl
    apply Classical.byContradiction
    intro hgt
    apply hnl
    intro k' hk'
    rw [h1, hk] at hk'
    cases hk'
    omega
  · intro hle hl
    have h := (h8 hl).1
    have := hl k (by rw [h1]; exact hk)
    omega

/-- **Minimax without cancellation is the reference negamax.** A run that is live at its end returns the number of
    nodes of the tree, the value `V'` with the static leaf, and a principal variation for `V'`, non-empty if the
    root is not drawn, has a legal move and is not mated at once. -/
theorem minimax_no_cancel_eq_V (g : Game P) (ex : P → Explore) (hfull : ∀ p m, (ex p).pick m = true) (p : P) (d : Nat)
    (st : SState) (hl : Live (minimaxSearch g p d st).2) :
    ∃ pv, (minimaxSearch g p d st).1 = some ⟨mmNodes g ex d p, V' g ex .static d p, pv⟩ ∧
      Principal' g ex .static d p pv ∧
      (∀ d', d = d' + 1 → g.isDraw p = false → legalAny g p (g.moves p) = true →
        V' g ex .static d p ≠ negInfScore → pv ≠ []) :=
  ((minimaxSearch_spec g ex hfull p d st).2.2.2.2.2.2.2 hl).2

theorem minimax_live (g : Game P) (ex : P → Explore) (hfull : ∀ p m, (ex p).pick m = true) (p : P) (d : Nat)
    (st : SState) (h : ∀ k, st.cancelAt = some k → st.polls + mmNodes g ex d p + 1 < k) :
    Live (minimaxSearch g p d st).2 := by
  obtain ⟨h1, _, _, _, _, h6, _⟩ := minimaxSearch_spec g ex hfull p d st
  intro k hk
  rw [h1] at hk
  have := h k hk
  omega

/-- The same on a region with no drawn position at ply `r` (e.g. `r = g.ply p` when the root is not drawn and plies
    grow along the tree): the value is `V` of `Proofs/ABRef.lean` (full exploration, static leaf, root ply `r`) and the
    PV is `Principal`. -/
theorem minimax_no_cancel_eq_V_on (g : Game P) (ex : P → Explore) (hfull : ∀ p m, (ex p).pick m = true)
    {R : Nat → P → Prop} (hcl : Closed g ex R) (r : Int) (hrf : RootFreeOn g R r) (p : P) (d : Nat) (hp : R d p)
    (st : SState) (hc : st.cancelAt = none) :
    ∃ pv, (minimaxSearch g p d st).1 = some ⟨mmNodes g ex d p, V g ex .static r d p, pv⟩ ∧
      Principal g ex .static r d p pv := by
  have hl := minimax_live g ex hfull p d st (fun k hk => by rw [hc] at hk; cases hk)
  obtain ⟨pv, e1, e2, _⟩ := minimax_no_cancel_eq_V g ex hfull p d st hl
  exact ⟨pv, by rw [e1, V_eq_V'_on ex .static hcl hrf d p hp], principal_of_principal' hcl hrf pv d p hp e2⟩

/-- **Minimax is a reference for AlphaBeta.** Under the hypotheses of C11 (`search_exact_on`: full exploration, static
    leaf, any sound table), both without cancellation, `AlphaBeta.Search` and `Minimax.Search` report the same score. -/
theorem minimax_eq_alphabeta (g : Game P) (ex : P → Explore) (hfull : ∀ p m, (ex p).pick m = true) (hev : EvalOk g)
    {R : Nat → P → Prop} (hcl : Closed g ex R) (hh : HashOKOn g ex .static R)
    (p : P) (hrf : RootFreeOn g R (g.ply p)) (d : Nat) (hd : d ≤ 127) (hp : R d p)
    (st : SState) (hs : SoundOn g ex .static R st.tt) (hc : st.cancelAt = none) (st' : SState) (hc' : st'.cancelAt = none) :
    (alphaBetaSearch g ex .static p d invalidScore invalidScore st).1.map (·.score) =
      (minimaxSearch g p d st').1.map (·.score) := by
  obtain ⟨_, _, n, pv, e, _⟩ := C11.search_exact_on g ex .static hev hcl hh p hrf d (by simpa [leafGrade] using hd) hp st hs hc
  obtain ⟨pv', e', _⟩ := minimax_no_cancel_eq_V_on g ex hfull hcl (g.ply p) hrf p d hp st' hc'
  rw [e, e']
  rfl

/-- **The exact poll count of `runMinimax.search`.** Whatever the cancellation instant, the number of polls made is
    the number of nodes counted (one poll per node, at its entry), at least 1 and at most the number of nodes of the
    tree; if no poll reported "cancelled" it is exactly the number of nodes of the tree. -/
theorem minimax_polls (g : Game P) (ex : P → Explore) (hfull : ∀ p m, (ex p).pick m = true) (d : Nat) (p : P)
    (st : SState) :
    (minimax g d p st).2.2.polls - st.polls = (minimax g d p st).2.2.nodes - st.nodes ∧
    st.polls + 1 ≤ (minimax g d p st).2.2.polls ∧
    (minimax g d p st).2.2.polls ≤ st.polls + mmNodes g ex d p ∧
    (Live (minimax g d p st).2.2 → (minimax g d p st).2.2.polls = st.polls + mmNodes g ex d p) := by
  obtain ⟨h1, h2, h3⟩ := minimax_spec g ex hfull d p st
  have := h1.count
  exact ⟨by omega, h2, h1.hi, fun hl => (h3 hl).1⟩

/-- `Minimax.Search` leaves nothing behind: the table, the cancellation instant and the fuel flag are untouched; it
    makes one more poll than it counts nodes, between 2 and `mmNodes + 1`, exactly `mmNodes + 1` if it is not halted. -/
theorem minimax_state (g : Game P) (ex : P → Explore) (hfull : ∀ p m, (ex p).pick m = true) (p : P) (d : Nat)
    (st : SState) :
    (minimaxSearch g p d st).2.tt = st.tt ∧ (minimaxSearch g p d st).2.cancelAt = st.cancelAt ∧
    (minimaxSearch g p d st).2.fuelOut = st.fuelOut ∧
    (minimaxSearch g p d st).2.polls = (minimaxSearch g p d st).2.nodes + st.polls + 1 ∧
    st.polls + 2 ≤ (minimaxSearch g p d st).2.polls ∧
    (minimaxSearch g p d st).2.polls ≤ st.polls + mmNodes g ex d p + 1 ∧
    ((minimaxSearch g p d st).1 ≠ none → (minimaxSearch g p d st).2.polls = st.polls + mmNodes g ex d p + 1) := by
  obtain ⟨h1, h2, h3, h4, h5, h6, h7, h8⟩ := minimaxSearch_spec g ex hfull p d st
  refine ⟨h2, h1, h3, h4, h5, h6, fun hne => (h8 ?_).1⟩
  apply Classical.byContradiction
  intro hnl
  exact hne (h7.2 hnl)

/-- **C12 (the search after a halted one returns a best line).** Halt a search at an arbitrary instant `k`, then run any
    search on the table it left, with a fresh context: it returns the value `V` of its root with a `Principal`
    variation - every move of it attains the negamax value of the position it is played in - which is non-empty if the
    root has a legal move and is not mated at once. The same holds for the search on the untouched state `st`: both
    lines are best lines of the same value (they need not be the same line: `followup_pv_may_differ`). -/
theorem followup_pv_principal_on (g : Game P) (ex : P → Explore) (le : LeafEval P) (hev : EvalOk g)
    {U : Nat → P → Prop} (hh : HashOKOn g ex le U)
    (p : P) (d : Nat) (hd : leafGrade le + d ≤ 127)
    (hpU : ∀ n x, Tree g ex p d n x → U n x) (hrf : RootFreeOn g (Tree g ex p d) (g.ply p))
    (q : P) (d2 : Nat) (hd2 : leafGrade le + d2 ≤ 127)
    (hqU : ∀ n x, Tree g ex q d2 n x → U n x) (hrfq : RootFreeOn g (Tree g ex q d2) (g.ply q))
    (st : SState) (hs : SoundOn g ex le U st.tt) (k : Nat) :
    let halted := alphaBetaSearch g ex le p d invalidScore invalidScore { st with cancelAt := some k }
    (∃ n pv, (alphaBetaSearch g ex le q d2 invalidScore invalidScore { halted.2 with cancelAt := none }).1 =
        some ⟨n, V g ex le (g.ply q) d2 q, pv⟩ ∧ Principal g ex le (g.ply q) d2 q pv ∧
      (∀ d', d2 = d' + 1 → legalAny g q (g.moves q) = true → V g ex le (g.ply q) d2 q ≠ negInfScore → pv ≠ [])) ∧
    (∃ n pv, (alphaBetaSearch g ex le q d2 invalidScore invalidScore { st with cancelAt := none }).1 =
        some ⟨n, V g ex le (g.ply q) d2 q, pv⟩ ∧ Principal g ex le (g.ply q) d2 q pv ∧
      (∀ d', d2 = d' + 1 → legalAny g q (g.moves q) = true → V g ex le (g.ply q) d2 q ≠ negInfScore → pv ≠ [])) := by
  intro halted
  have h2 : SoundOn g ex le U halted.2.tt :=
    (alphaBetaSearch_tt hev ex le (tree_closed g ex p d) hpU hh p hrf d hd (tree_root g ex p d)
      { st with cancelAt := some k } hs).2.1
  exact ⟨alphaBetaSearch_tt_none hev ex le hh q d2 hd2 hqU hrfq { halted.2 with cancelAt := none } h2 rfl,
    alphaBetaSearch_tt_none hev ex le hh q d2 hd2 hqU hrfq { st with cancelAt := none } hs rfl⟩

theorem followup_pv_principal (g : Game P) (ex : P → Explore) (le : LeafEval P) (hev : EvalOk g) (hh : HashOK g ex le)
    (p : P) (hrf : RootFree g (g.ply p)) (d : Nat) (hd : leafGrade le + d ≤ 127)
    (q : P) (hrfq : RootFree g (g.ply q)) (d2 : Nat) (hd2 : leafGrade le + d2 ≤ 127)
    (st : SState) (hs : Sound g ex le st.tt) (k : Nat) :
    let halted := alphaBetaSearch g ex le p d invalidScore invalidScore { st with cancelAt := some k }
    (∃ n pv, (alphaBetaSearch g ex le q d2 invalidScore invalidScore { halted.2 with cancelAt := none }).1 =
        some ⟨n, V g ex le (g.ply q) d2 q, pv⟩ ∧ Principal g ex le (g.ply q) d2 q pv ∧
      (∀ d', d2 = d' + 1 → legalAny g q (g.moves q) = true → V g ex le (g.ply q) d2 q ≠ negInfScore → pv ≠ [])) ∧
    (∃ n pv, (alphaBetaSearch g ex le q d2 invalidScore invalidScore { st with cancelAt := none }).1 =
        some ⟨n, V g ex le (g.ply q) d2 q, pv⟩ ∧ Principal g ex le (g.ply q) d2 q pv ∧
      (∀ d', d2 = d' + 1 → legalAny g q (g.moves q) = true → V g ex le (g.ply q) d2 q ≠ negInfScore → pv ≠ [])) :=
  followup_pv_principal_on g ex le hev (hh.on Everywhere) p d hd (fun _ _ _ => trivial) (hrf.on _)
    q d2 hd2 (fun _ _ _ => trivial) (hrfq.on _) st (sound_iff_on.1 hs) k

/-- **If the halted search left the table as it found it, nothing at all differs.** The follow-up search then returns
    the identical result - node count, score and principal variation - as the search on the untouched state: the
    counters of the incoming state are immaterial (C18, `Det.alphaBetaSearch_fresh`). No hypothesis on the game. -/
theorem followup_identical_of_table_unchanged (g : Game P) (ex : P → Explore) (le : LeafEval P)
    (p : P) (d : Nat) (q : P) (d2 : Nat) (a b : Score) (st : SState) (k : Nat)
    (htt : (alphaBetaSearch g ex le p d invalidScore invalidScore { st with cancelAt := some k }).2.tt = st.tt) :
    (alphaBetaSearch g ex le q d2 a b
      { (alphaBetaSearch g ex le p d invalidScore invalidScore { st with cancelAt := some k }).2 with
        cancelAt := none }).1 =
    (alphaBetaSearch g ex le q d2 a b { st with cancelAt := none }).1 :=
  alphaBetaSearch_of_tt_eq g ex le q d2 a b _ _ rfl rfl htt

/-- A search started on a context that is already cancelled (`k ≤ st.polls + 1`) polls twice, reports halted and
    leaves the table as it was; the search run next returns the identical result (nodes, score, PV). -/
theorem followup_identical_halted_at_once (g : Game P) (ex : P → Explore) (le : LeafEval P)
    (p : P) (d : Nat) (q : P) (d2 : Nat) (a b : Score) (st : SState) (k : Nat) (hle : k ≤ st.polls + 1) :
    (alphaBetaSearch g ex le p d invalidScore invalidScore { st with cancelAt := some k }).2.tt = st.tt ∧
    (alphaBetaSearch g ex le q d2 a b
      { (alphaBetaSearch g ex le p d invalidScore invalidScore { st with cancelAt := some k }).2 with
        cancelAt := none }).1 =
    (alphaBetaSearch g ex le q d2 a b { st with cancelAt := none }).1 := by
  have htt := alphaBetaSearch_cancelled_at_once_tt g ex le p d { st with cancelAt := some k } k rfl hle
  exact ⟨htt, followup_identical_of_table_unchanged g ex le p d q d2 a b st k htt⟩

/-! ## The PV of the follow-up search is not determined: two counterexamples -/

section Tiny
open C13 C11

/-- **The PV of the follow-up search may differ (shorter line).** Tiny game of C13, root 0 to depth 2, a table of two
    slots: halted at the 13th poll the search reports `none` and has stored two entries; the search run next returns the
    same score but the PV `[1]`, a proper prefix of the PV `[1, 0]` found on the untouched table: the reply was answered
    from the table (an exact hit carries no continuation). Both are `Principal`. -/
theorem followup_pv_may_differ :
    (alphaBetaSearch tiny allMoves .static 0 2 invalidScore invalidScore { st64 with cancelAt := some 13 }).1 = none ∧
    (alphaBetaSearch tiny allMoves .static 0 2 invalidScore invalidScore
      { (alphaBetaSearch tiny allMoves .static 0 2 invalidScore invalidScore { st64 with cancelAt := some 13 }).2 with
        cancelAt := none }).1.map (fun r => (r.nodes, r.score, r.pv)) = some (1, heuristicScore 15, [mv 1]) ∧
    (alphaBetaSearch tiny allMoves .static 0 2 invalidScore invalidScore
      { st64 with cancelAt := none }).1.map (fun r => (r.nodes, r.score, r.pv)) =
        some (6, heuristicScore 15, [mv 1, mv 0]) ∧
    Principal tiny allMoves .static 0 2 0 [mv 1] ∧ Principal tiny allMoves .static 0 2 0 [mv 1, mv 0] := by
  refine ⟨by decide, by decide, by decide, ?_, ?_⟩
  · exact ⟨2, by decide, rfl, by decide, trivial⟩
  · exact ⟨2, by decide, rfl, by decide, 5, by decide, rfl, by decide, trivial⟩

/-- The tree of `tiny` with all leaves worth 0 and the two replies worth `e1`, `e2` for the side to move there: at depth 2
    both root moves are equally good, at depth 1 they are not. -/
def tie (e1 e2 : Int) : Game Nat where
  isDraw := fun _ => false
  hash := id
  ply := fun p => if p = 0 then 0 else if p < 3 then 1 else 2
  moves := fun p => if p < 3 then [mv 0, mv 1, mv 2] else [mv 0]
  push := fun p m => if p < 3 ∧ m.to < 2 then some (2 * p + 1 + m.to) else none
  inCheck := fun _ => false
  eval := fun p => if p = 1 then e1 else if p = 2 then e2 else 0

/-- **The PV of the follow-up search may differ (another first move).** In `tie 10 (-10)` both root moves are worth 0 at
    depth 2. A depth-1 search halted at its 7th and last poll reports `none` but has stored its best move (move 1)
    for the root; the depth-2 search run next tries it first and returns the line `[1, 0]`, the same search on the
    untouched table returns `[0, 0]`. Same score, both lines principal. -/
theorem followup_first_move_may_differ :
    (alphaBetaSearch (tie 10 (-10)) allMoves .static 0 1 invalidScore invalidScore
      { st64 with cancelAt := some 7 }).1 = none ∧
    (alphaBetaSearch (tie 10 (-10)) allMoves .static 0 2 invalidScore invalidScore
      { (alphaBetaSearch (tie 10 (-10)) allMoves .static 0 1 invalidScore invalidScore
          { st64 with cancelAt := some 7 }).2 with cancelAt := none }).1.map (fun r => (r.score, r.pv)) =
        some (zeroScore, [mv 1, mv 0]) ∧
    (alphaBetaSearch (tie 10 (-10)) allMoves .static 0 2 invalidScore invalidScore
      { st64 with cancelAt := none }).1.map (fun r => (r.score, r.pv)) = some (zeroScore, [mv 0, mv 0]) ∧
    Principal (tie 10 (-10)) allMoves .static 0 2 0 [mv 1, mv 0] ∧
    Principal (tie 10 (-10)) allMoves .static 0 2 0 [mv 0, mv 0] := by
  refine ⟨by decide +kernel, by decide +kernel, by decide +kernel, ?_, ?_⟩
  · exact ⟨2, by decide, rfl, by decide, 5, by decide, rfl, by decide, trivial⟩
  · exact ⟨1, by decide, rfl, by decide, 3, by decide, rfl, by decide, trivial⟩

theorem allMoves_full : ∀ (p : Nat) (m : Move), (allMoves p).pick m = true := fun _ _ => rfl

/-- the tree of root 0 to depth 2 has 7 nodes: `Minimax.Search` makes 8 polls; halted at `k ≤ 8` it reports `none`,
    from 9 on it is never disturbed -/
example : mmNodes tiny allMoves 2 0 = 7 ∧
    (List.range 11).map (fun k => (minimaxSearch tiny 0 2 { st64 with cancelAt := some k }).1.isSome) =
      [false, false, false, false, false, false, false, false, false, true, true] := by decide +kernel

/-- what it returns: 7 nodes, the value of C13's example, the same line as `AlphaBeta` -/
example : (minimaxSearch tiny 0 2 st64).1.map (fun r => (r.nodes, r.score, r.pv)) =
    some (7, heuristicScore 15, [mv 1, mv 0]) := by decide +kernel

example : (minimaxSearch tiny 0 2 { st64 with cancelAt := some 8 }).1 = none :=
  (minimax_halted_at tiny allMoves allMoves_full 0 2 { st64 with cancelAt := some 8 } 8 rfl).2 (by decide)

example : (minimaxSearch tiny 0 2 { st64 with cancelAt := some 9 }).1 ≠ none :=
  fun h => absurd ((minimax_halted_at tiny allMoves allMoves_full 0 2 { st64 with cancelAt := some 9 } 9 rfl).1 h)
    (by decide)

-- `minimax_cancelled_node`: the inner search returns the score 0, not a marker
example : (minimax tiny 2 0 { st64 with cancelAt := some 1 }).1 = zeroScore := by
  rw [minimax_cancelled_node tiny 2 0 { st64 with cancelAt := some 1 } 1 rfl (by decide)]

-- `minimax_no_cancel_eq_V_on`, `minimax_eq_alphabeta` (root ply 0: `tiny`'s only drawn position is at ply 2)
example : ∃ pv, (minimaxSearch tiny 0 2 st64).1 = some ⟨7, V tiny allMoves .static 0 2 0, pv⟩ ∧
    Principal tiny allMoves .static 0 2 0 pv := by
  have := minimax_no_cancel_eq_V_on tiny allMoves allMoves_full (closed_everywhere _ _) 0
    ((tiny_rootFree 0 (by decide)).on _) 0 2 trivial st64 rfl
  rwa [show mmNodes tiny allMoves 2 0 = 7 by decide] at this

example : (alphaBetaSearch tiny allMoves .static 0 2 invalidScore invalidScore st64).1.map (·.score) =
    (minimaxSearch tiny 0 2 {}).1.map (·.score) :=
  minimax_eq_alphabeta tiny allMoves allMoves_full tiny_evalOk (closed_everywhere _ _) ((tiny_hashOK _).on _) 0
    ((tiny_rootFree _ (by decide)).on _) 2 (by decide) trivial st64 (sound_iff_on.1 (fresh_sound _ _ _ 64 0)) rfl {} rfl

example (k : Nat) : (minimax tiny 2 0 { st64 with cancelAt := some k }).2.2.polls ≤ 7 := by
  have := (minimax_polls tiny allMoves allMoves_full 2 0 { st64 with cancelAt := some k }).2.2.1
  rwa [show mmNodes tiny allMoves 2 0 = 7 by decide, show ({ st64 with cancelAt := some k } : SState).polls = 0 from rfl,
    Nat.zero_add] at this

-- `followup_pv_principal`: halted at any instant `k`
example (k : Nat) : ∃ n pv, (alphaBetaSearch tiny allMoves .static 0 2 invalidScore invalidScore
      { (alphaBetaSearch tiny allMoves .static 0 3 invalidScore invalidScore
          { st64 with cancelAt := some k }).2 with cancelAt := none }).1 =
        some ⟨n, V tiny allMoves .static 0 2 0, pv⟩ ∧ Principal tiny allMoves .static 0 2 0 pv ∧ pv ≠ [] := by
  obtain ⟨n, pv, e1, e2, e3⟩ := (followup_pv_principal tiny allMoves .static tiny_evalOk (tiny_hashOK _) 0
    (tiny_rootFree _ (by decide)) 3 (by decide) 0 (tiny_rootFree _ (by decide)) 2 (by decide) st64
    (fresh_sound _ _ _ 64 0) k).1
  exact ⟨n, pv, e1, e2, e3 1 rfl (by decide) (by decide)⟩

example : (alphaBetaSearch tiny allMoves .static 0 2 invalidScore invalidScore
      { (alphaBetaSearch tiny allMoves .static 0 3 invalidScore invalidScore
          { st64 with cancelAt := some 1 }).2 with cancelAt := none }).1 =
    (alphaBetaSearch tiny allMoves .static 0 2 invalidScore invalidScore { st64 with cancelAt := none }).1 :=
  (followup_identical_halted_at_once tiny allMoves .static 0 3 0 2 _ _ st64 1 (by decide)).2

-- `followup_identical_of_table_unchanged`: halted at the 5th poll, nothing stored yet
example : (alphaBetaSearch tiny allMoves .static 0 2 invalidScore invalidScore
      { (alphaBetaSearch tiny allMoves .static 0 2 invalidScore invalidScore
          { st64 with cancelAt := some 4 }).2 with cancelAt := none }).1 =
    (alphaBetaSearch tiny allMoves .static 0 2 invalidScore invalidScore { st64 with cancelAt := none }).1 :=
  followup_identical_of_table_unchanged tiny allMoves .static 0 2 0 2 _ _ st64 4 rfl

end Tiny

/-! ## Non-vacuity on the chess game (`gX`, `wS`, `w1`, `st4k` as in C11 / C12) -/

section Chess
open C11

theorem fullX_full : ∀ (p : World) (m : Move), (fullX p).pick m = true := fun _ _ => rfl

theorem wS_mmNodes : mmNodes gX fullX 2 wS = 73 := wS_tree.2.2.2

set_option maxRecDepth 100000 in
/-- `minimax_halted_at`: `Minimax.Search` of `wS` to depth 2 makes 74 polls; cancelled at the 74th it reports `none`,
    cancelled "at the 75th" it is not disturbed. -/
example :
    (minimaxSearch gX wS 2 { st4k with cancelAt := some 74 }).1 = none ∧
    (minimaxSearch gX wS 2 { st4k with cancelAt := some 75 }).1 ≠ none :=
  ⟨(minimax_halted_at gX fullX fullX_full wS 2 { st4k with cancelAt := some 74 } 74 rfl).2
      (by rw [wS_mmNodes]; decide),
   fun h => absurd ((minimax_halted_at gX fullX fullX_full wS 2 { st4k with cancelAt := some 75 } 75 rfl).1 h)
      (by rw [wS_mmNodes]; decide)⟩

/-- `minimax_no_cancel_eq_V_on` and `minimax_eq_alphabeta` on the search tree of `wS`. -/
example : (∃ pv, (minimaxSearch gX wS 2 st4k).1 = some ⟨73, V gX fullX .static (gX.ply wS) 2 wS, pv⟩ ∧
      Principal gX fullX .static (gX.ply wS) 2 wS pv) ∧
    (alphaBetaSearch gX fullX .static wS 2 invalidScore invalidScore st4k).1.map (·.score) =
      (minimaxSearch gX wS 2 st4k).1.map (·.score) := by
  constructor
  · have := minimax_no_cancel_eq_V_on gX fullX fullX_full (tree_closed _ _ wS 2) (gX.ply wS)
      (wS_noDraw.rootFreeOn _) wS 2 (tree_root _ _ _ _) st4k rfl
    rwa [wS_mmNodes] at this
  · exact minimax_eq_alphabeta gX fullX fullX_full gX_evalOk (tree_closed _ _ wS 2) (wS_hashOK _) wS
      (wS_noDraw.rootFreeOn _) 2 (by decide) (tree_root _ _ _ _) st4k (fresh_sound_on _ _ _ _ 4096 0) rfl st4k rfl

/-- `followup_pv_principal_on`: halt the depth-2 search of `wS` at any instant `k`, then search the successor position
    `w1` (depth 1) on the table left behind: the value and a non-empty best line. -/
example (k : Nat) : ∃ n pv,
    (alphaBetaSearch gX fullX .static w1 1 invalidScore invalidScore
      { (alphaBetaSearch gX fullX .static wS 2 invalidScore invalidScore
          { st4k with cancelAt := some k }).2 with cancelAt := none }).1 =
      some ⟨n, V gX fullX .static (gX.ply w1) 1 w1, pv⟩ ∧ Principal gX fullX .static (gX.ply w1) 1 w1 pv :=
  let ⟨n, pv, e1, e2, _⟩ := (followup_pv_principal_on gX fullX .static gX_evalOk (seqX_hashOK _)
    wS 2 (by decide) (fun n x h => ⟨(wS, 2), by simp [seqX], h⟩)
    ((seqX_noDraw.mono (fun n x h => ⟨(wS, 2), by simp [seqX], h⟩)).rootFreeOn _)
    w1 1 (by decide) (fun n x h => ⟨(w1, 1), by simp [seqX], h⟩)
    ((seqX_noDraw.mono (fun n x h => ⟨(w1, 1), by simp [seqX], h⟩)).rootFreeOn _)
    st4k (fresh_sound_on _ _ _ _ 4096 0) k).1
  ⟨n, pv, e1, e2⟩

end Chess

end Morlock.Props.C12More
