import Morlock.Proofs.ConcUciAns
/-!
# C04 — every `go` the GUI is still waiting on gets exactly one `bestmove` (UCI driver, finite-trace liveness)

Model: `Morlock/Model/UciConc.lean`; see `Props/C16.lean` for the vocabulary (`run`, `init`, schedules, the ghost
`log`); `bestCount`, `commitCount` count the `bestmove` lines and the commits for one go number
(`Proofs/ConcUci.lean`). Liveness is stated on finite traces: a state is **quiescent** when no thread
can take a step (`Quiescent s := ∀ a, step s a = s`) — every searcher has exited, every forwarder has finished,
every timer has fired and its token was consumed, and the loop is blocked in `select` with no input, no ponder
info and no timeout pending (or has returned). No fairness assumption is needed: the theorem speaks about
every state in which the system has come to rest, for every command list and every schedule.

Vocabulary (on the log, newest first; `cur`, `stopped` are defined in `Proofs/ConcUciLive.lean`, `goConsumed` in
`Proofs/ConcUciReady.lean`):
* `cur log : Option GoArgs` — the arguments of the latest well-formed `go` consumed, provided no later consumed
  command superseded it: `position`, `ucinewgame`, another `go` (well-formed or malformed), `quit`, EOF all
  supersede (the loop calls `ensureInactive` for them); `isready`, `stop`, and unknown commands do not.
* `stopped log` — a `stop` was consumed after that `go`.
* `goConsumed log` — the number of well-formed `go`s consumed = the number `d.searches` gave to the latest one.
-/
namespace Morlock.Props.C04
open Morlock.Model.UciConc Morlock.Proofs.ConcUci

/-- **answered.** In every quiescent state of every run: if the latest well-formed `go` was not superseded
(`cur log = some g`), its book lookup did not fail, and
* it had a book move, or
* it was finite (not `go infinite`: its search ended by itself — in a quiescent state every search has ended), or
* it had a `movetime`, or
* a `stop` was consumed after it,

then exactly one `bestmove` line carrying its number was put on `out`, exactly one `searchCompleted` CAS
succeeded for it, nobody still owes a line, and the loop is alive in `select`. (Together with
`C16.at_most_one`/`no_stale_partial` this is: one answer, for the right go, decided while it was the latest.) -/
theorem answered (cmds : List Cmd) (pcap : Nat) (sched : List Act)
    (hq : Quiescent (run (init cmds pcap) sched)) (g : GoArgs)
    (hg : cur (run (init cmds pcap) sched).log = some g) (hb : g.book ≠ .err)
    (hwhy : g.book = .hit ∨ g.infinite = false ∨ g.movetime = true ∨
      stopped (run (init cmds pcap) sched).log = true) :
    let s := run (init cmds pcap) sched
    let id := goConsumed s.log
    id = s.searches ∧ 1 ≤ id ∧ bestCount id s.log = 1 ∧ commitCount id s.log = 1 ∧ s.loop = .select := by
  intro s id
  have hall := allInv_run cmds pcap sched
  obtain ⟨h1, h1', h2⟩ := answered_of_quiescent hall hq g hg hb hwhy
  have hid : id = s.searches := by
    have := hall.gocount
    unfold GoCountInv at this
    rw [h2] at this
    simpa [LPc.goPending] using this
  have hk := (hall.live g hg (by rw [h2]; rfl)).kpos
  refine ⟨hid, by rw [hid]; exact hk, by rw [hid]; exact h1, by rw [hid]; exact h1', h2⟩

/-- what a quiescent state is (used to read `answered`): all searchers have exited, all forwarders have finished,
and the loop has returned or is blocked in `select` with nothing to receive; if it is in `select`, all timers
have fired. -/
theorem quiescent_shape (cmds : List Cmd) (pcap : Nat) (sched : List Act)
    (hq : Quiescent (run (init cmds pcap) sched)) :
    let s := run (init cmds pcap) sched
    (∀ x ∈ s.srch, x.done = true) ∧ (∀ f ∈ s.fwds, f.pc = .finished) ∧
    (s.loop = .finished ∨ (s.loop = .select ∧ s.cmds = [] ∧ s.ponder = [] ∧ s.timeouts = none)) ∧
    (s.loop = .select → ∀ t ∈ s.timers, t.fired = true) := by
  intro s
  have hall := allInv_run cmds pcap sched
  refine ⟨?_, fun f hf => quiet_fwds hq hall.eng f hf, quiet_loop hq hall.eng hall.cls hall.srch, ?_⟩
  · intro x hx
    obtain ⟨j, hj⟩ := List.mem_iff_getElem?.1 hx
    exact quiet_searches hq j x hj
  · intro hsel t ht
    rcases quiet_loop hq hall.eng hall.cls hall.srch with hf | hs
    · rw [hf] at hsel; cases hsel
    · exact quiet_timers hq hs.2.2.2 t ht

/-! ## the hypotheses are satisfiable -/

/-- one step of the command loop (at `select`: receive the next command) -/
def L : Act := .loop .cmd

/-- `isready; go` (finite), the search completes depth 1 and ends, the forwarder reports: a quiescent state with
the go answered. -/
def session : State :=
  run (init [.isready, .go {}])
    ([L, L] ++ List.replicate 8 L ++ [.searchIter 0, .searchExit 0, .fwd 0, .fwd 0, .fwd 0, .fwd 0, .fwd 0, .fwd 0,
      .fwd 0, .loop .ponder, L, L])

example : session.log = [.send (.bestmove 1 1), .send (.info 1), .commit 1 1,
    .consume (.go {}), .send .readyok, .consume .isready] ∧ cur session.log = some {} := by
  decide +kernel

theorem session_quiescent : Quiescent session :=
  quiescent_of_bounded (fun c => by cases c <;> decide) (by decide) (by decide) (by decide)

example : Quiescent session := session_quiescent

end Morlock.Props.C04
