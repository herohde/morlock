import Morlock.Proofs.BookSargon
import Morlock.Props.C01
import Morlock.Props.C19
/-!
# C20 — the opening books (`engine.NewBook`, `book.Find`, `fen.Strip`, SARGON's and BERNSTEIN's books)

Model: `Morlock/Model/Book.lean` (tied to the Go code by the `books` stream: the whole maps are read out of the real
books by reflection and compared entry by entry; `Find` on keys with every kind of clocks and damage; `NewBook` on
curated and random sets of lines, good and bad). Data of the two books: `Morlock/Gen/Books.lean`, regenerated from the
source on every run.

`NewBook` re-decodes its own `Encode` output at every step, ignoring the error of `Decode`; the key it holds always decodes to the
position just reached (`Proofs/BookLoop.lean`), so the nil dereference / slice panic cannot happen, for EVERY list of lines, and the
book holds exactly the entries the lines demand: each comes from a prefix of a line played from the initial position, is keyed on
`Strip (Encode ..)` of the position reached whatever the clocks, and is a legal move there, also of the reference (`C01`). `NewBook`
fails iff some line cannot be played, with one of its three errors: it never returns a book with an illegal move. Keys and replies
are distinct, so comparing the Go map with the model "as a set" loses nothing. `Find` depends only on the first four
blank-separated fields and panics exactly below four.

The SARGON literals carry `Type: Normal` and no `Piece`, so `e7e5`/`d7d5` are not *members* of the legal-move list
(`sargon_reply_not_generated`): for them "legal" means `Move.Equals` some legal move. That is the notion that matters: the UCI driver
only *prints* a book move (`bestmove` from From/To/Promotion: `uci.go` `searchCompleted`/`printMove`), it never pushes it on the
board; the move comes back as text through `position ... moves`, where `Engine.Move` matches it against the pseudo-legal moves with
`Equals`.
-/

namespace Morlock.Props.C20Books
open Morlock Morlock.Model Morlock.Model.Fen Morlock.Model.Book Morlock.Proofs Morlock.Proofs.Fen
open Morlock.Proofs.Gen Morlock.Proofs.Chain Morlock.Proofs.Book

theorem newBook_no_panic (lines : List (List (List Char))) : newBook lines ≠ .error .panic := by
  intro h
  obtain ⟨_, _, _, _, _, _, _, _, _, hn⟩ := bookEntries_error lines (newBook_err h)
  exact nextPos_ne_panic hn

theorem nextPos_ok_iff {p : Position} {t : Color} {s : List Char} {m : Move} {q : Position} :
    nextPos p t s = .ok (m, q) ↔
      ∃ nx, parseMove s = some nx ∧ (p.pseudoLegalMoves t).find? (fun c => c.equals nx) = some m ∧ p.move m = some q := by
  constructor
  · intro h
    obtain ⟨nx, h1, _, _, h4, h5⟩ := nextPos_ok h
    exact ⟨nx, h1, h5, h4⟩
  · rintro ⟨nx, h1, h2, h3⟩
    unfold nextPos
    rw [h1]; simp only; rw [h2]; simp only; rw [h3]

theorem newBook_sound {lines : List (List (List Char))} {book : Table} (h : newBook lines = .ok book) :
    ∀ key ms, (key, ms) ∈ book → ∀ m ∈ ms,
      ∃ line ∈ lines, ∃ (pre : List (List Char)) (s : List Char) (post : List (List Char)) (p q : Position) (t : Color)
        (nx : Move),
        line = pre ++ s :: post ∧
        playStrs startPos .white pre = some (p, t) ∧ GenReach startPos .white p t ∧ WF p t ∧
        (∀ np fm : Int, strip (encode p t np fm).toList = some key) ∧
        parseMove s = some nx ∧ m.equals nx = true ∧
        m ∈ p.legalMoves t ∧ p.move m = some q ∧
        absMove m ∈ Spec.legalMoves (abs p t) := by
  obtain ⟨es, hes, rfl⟩ := newBook_ok h
  intro key ms hk m hm
  rw [← mem_get_of_mem (addAll_nil_wf es).1 hk, mem_get_addAll] at hm
  rcases hm with hm | hm
  · cases hm
  obtain ⟨line, hl, pre, s, post, p, t, q, e1, e2, e3, e4⟩ := (mem_bookEntries lines hes key m).mp hm
  obtain ⟨nx, h1, h2, h3, h4, _⟩ := nextPos_ok e3
  have hr := playStrs_reach pre startPos .white (GenReach.refl _ _) e2
  refine ⟨line, hl, pre, s, post, p, q, t, nx, e1, e2, hr, (wfplay_of_reach hr).1, ?_, h1, h2, ?_, h4, ?_⟩
  · intro np fm; rw [e4]; exact strip_encode_reach hr np fm
  · exact (C01.legal_iff p t m).mpr ⟨h3, by rw [h4]; rfl⟩
  · exact C01.reachable_legal startPos_wfplay hr h3 h4

/-- Every step of every line is recorded under the key of the position where it is made. -/
theorem newBook_complete {lines : List (List (List Char))} {book : Table} (h : newBook lines = .ok book)
    {line : List (List Char)} (hl : line ∈ lines) {pre : List (List Char)} {s : List Char} {post : List (List Char)}
    (he : line = pre ++ s :: post) {p q : Position} {t : Color} {m : Move}
    (hp : playStrs startPos .white pre = some (p, t)) (hn : nextPos p t s = .ok (m, q)) :
    m ∈ book.get (keyOf p t) ∧
    ∀ np fm : Int, ∃ ms, find book (encode p t np fm).toList = some ms ∧ m ∈ ms := by
  obtain ⟨es, hes, rfl⟩ := newBook_ok h
  have hm : m ∈ (addAll [] es).get (keyOf p t) :=
    (mem_get_addAll es []).mpr (Or.inr ((mem_bookEntries lines hes _ m).mpr ⟨line, hl, pre, s, post, p, t, q, he, hp, hn, rfl⟩))
  refine ⟨hm, fun np fm => ⟨(addAll [] es).get (keyOf p t), ?_, hm⟩⟩
  have hr := playStrs_reach pre startPos .white (GenReach.refl _ _) hp
  unfold find
  rw [strip_encode_reach hr np fm]; rfl

theorem newBook_spec {lines : List (List (List Char))} {book : Table} (h : newBook lines = .ok book) (k : List Char)
    (m : Move) : m ∈ book.get k ↔ Entry lines k m := by
  obtain ⟨es, hes, rfl⟩ := newBook_ok h
  rw [mem_get_addAll, ← mem_bookEntries lines hes]
  exact ⟨fun h => h.elim (fun h => by cases h) id, Or.inr⟩

theorem newBook_wf {lines : List (List (List Char))} {book : Table} (h : newBook lines = .ok book) :
    (book.map (·.1)).Nodup ∧ (∀ k ms, (k, ms) ∈ book → ms.Nodup ∧ book.get k = ms) := by
  obtain ⟨es, _, rfl⟩ := newBook_ok h
  obtain ⟨h1, h2⟩ := addAll_nil_wf es
  exact ⟨h1, fun k ms hk => ⟨h2 k ms hk, mem_get_of_mem h1 hk⟩⟩

theorem newBook_ok_iff (lines : List (List (List Char))) :
    (∃ book, newBook lines = .ok book) ↔ ∀ line ∈ lines, (playStrs startPos .white line).isSome = true := by
  rw [newBook_eq, ← bookEntries_isOk_iff]
  exact ⟨fun ⟨_, h⟩ => let ⟨es, hes, _⟩ := map_eq_ok h; ⟨es, hes⟩, fun ⟨es, hes⟩ => ⟨addAll [] es, by rw [hes]; rfl⟩⟩

theorem newBook_error {lines : List (List (List Char))} {e : Err} (h : newBook lines = .error e) :
    e ≠ .panic ∧
    ∃ line ∈ lines, ∃ (pre : List (List Char)) (s : List Char) (post : List (List Char)) (p : Position) (t : Color),
      line = pre ++ s :: post ∧ playStrs startPos .white pre = some (p, t) ∧
      ((e = .parse ∧ parseMove s = none) ∨
       (e = .notFound ∧ ∃ nx, parseMove s = some nx ∧ ∀ c ∈ p.pseudoLegalMoves t, c.equals nx = false) ∨
       (e = .notLegal ∧ ∃ nx c, parseMove s = some nx ∧ c ∈ p.pseudoLegalMoves t ∧ c.equals nx = true ∧
          p.move c = none)) := by
  refine ⟨fun hp => newBook_no_panic lines (hp ▸ h), ?_⟩
  obtain ⟨line, hl, pre, s, post, p, t, h1, h2, h3⟩ := bookEntries_error lines (newBook_err h)
  exact ⟨line, hl, pre, s, post, p, t, h1, h2, nextPos_error h3⟩

/-- No book with an illegal move. -/
theorem newBook_rejects {lines : List (List (List Char))} {line : List (List Char)} (hl : line ∈ lines)
    {pre : List (List Char)} {s : List Char} {post : List (List Char)} (he : line = pre ++ s :: post)
    {p : Position} {t : Color} (hp : playStrs startPos .white pre = some (p, t))
    (hbad : parseMove s = none ∨ ∃ nx, parseMove s = some nx ∧ ∀ c ∈ p.legalMoves t, c.equals nx = false) :
    ∃ e, newBook lines = .error e ∧ e ≠ .panic := by
  cases hb : newBook lines with
  | error e => exact ⟨e, rfl, fun hp' => newBook_no_panic lines (hp' ▸ hb)⟩
  | ok book =>
    exfalso
    have hs := (newBook_ok_iff lines).mp ⟨book, hb⟩ line hl
    rw [he, playStrs_append, hp] at hs
    simp only [Option.bind_some, playStrs] at hs
    cases hn : nextPos p t s with
    | error e => rw [hn] at hs; cases hs
    | ok x =>
      obtain ⟨c, q⟩ := x
      obtain ⟨nx, h1, h2, h3, h4, _⟩ := nextPos_ok hn
      rcases hbad with hbad | ⟨nx', h1', hall⟩
      · rw [hbad] at h1; cases h1
      · rw [h1] at h1'
        cases h1'
        have := hall c ((C01.legal_iff p t c).mpr ⟨h3, by rw [h4]; rfl⟩)
        rw [h2] at this; cases this

/-- `Find` depends only on the first four fields of `strings.Split(pos, " ")` (and on whether there are four). -/
theorem find_strip (t : Table) {a b : List Char} (h : (splitSpaces a).take 4 = (splitSpaces b).take 4)
    (hl : (splitSpaces a).length < 4 ↔ (splitSpaces b).length < 4) : find t a = find t b := by
  unfold find; rw [strip_congr h hl]

/-- `Find` panics (slice bounds out of range in `Strip`) exactly on strings with fewer than four fields. -/
theorem find_panic_iff (t : Table) (a : List Char) : find t a = none ↔ (splitSpaces a).length < 4 := by
  unfold find strip
  by_cases h : (splitSpaces a).length < 4 <;> simp [h]

theorem find_fields (t : Table) {f0 f1 f2 f3 : List Char} (h0 : NS f0) (h1 : NS f1) (h2 : NS f2) (h3 : NS f3)
    (rest : List Char) :
    find t (f0 ++ ' ' :: (f1 ++ ' ' :: (f2 ++ ' ' :: (f3 ++ ' ' :: rest)))) = some (t.get (join4 f0 f1 f2 f3)) ∧
    find t (join4 f0 f1 f2 f3) = some (t.get (join4 f0 f1 f2 f3)) := by
  unfold find
  rw [strip_fields rest h0 h1 h2 h3, strip_join4 h0 h1 h2 h3]
  exact ⟨rfl, rfl⟩

/-- On the FEN the engine reports for a position (`Encode`; all views agreeing, rights among the four
    bits, en-passant target on the board — in particular every position `Decode` accepts, `C19.decoded_wellformed`, and
    every reachable position), `Find` does not depend on the two clocks: it returns the entry of the four-field key. -/
theorem find_encode (tb : Table) {p : Position} {b : Proofs.Board} (h : Rep p b) (hc : p.castling < 16)
    (he : p.enpassant < 64) (c : Color) (np fm : Int) :
    find tb (encode p c np fm).toList = some (tb.get (keyOf p c)) ∧
    find tb (keyOf p c) = some (tb.get (keyOf p c)) := by
  unfold find
  rw [strip_encode h hc he, strip_keyOf h hc he]
  exact ⟨rfl, rfl⟩

theorem find_clocks (tb : Table) {s : List Char} {d : Decoded} (hd : decode s = some d) (np fm np' fm' : Int) :
    find tb (encode d.pos d.turn np fm).toList = find tb (encode d.pos d.turn np' fm').toList := by
  obtain ⟨⟨b, hb⟩, hc, he, _⟩ := C19.decoded_wellformed hd
  rw [(find_encode tb hb hc he d.turn np fm).1, (find_encode tb hb hc he d.turn np' fm').1]

/-- A set of lines with a shared prefix, a castling line and a capture-promotion line: `NewBook` succeeds. -/
def exLines : List (List (List Char)) :=
  [["e2e4", "e7e5", "g1f3", "g8f6", "f1c4", "f8c5", "e1g1"], ["e2e4", "c7c5"],
   ["h2h4", "g7g5", "h4g5", "h7h6", "g5h6", "f8g7", "h6g7", "g8f6", "g7h8n"]].map fun l => l.map String.toList

/-- `r` is the error `e` (a decidable form: `Except` has no `DecidableEq`). -/
def isError (r : Except Err Table) (e : Err) : Bool :=
  match r with
  | .error e' => e' == e
  | .ok _ => false

theorem eq_error_of_isError {r : Except Err Table} {e : Err} (h : isError r e = true) : r = .error e := by
  cases r with
  | error e' => simp only [isError, beq_iff_eq] at h; rw [h]
  | ok _ => cases h

/-- The runs of `NewBook` used below, stated together because one kernel run shares their first moves: `exLines` and the extracted
    BERNSTEIN lines can be played; an unparsable text, a move that is not generated and a pinned pawn's push give the three errors. -/
theorem newBook_runs :
    (∀ line ∈ exLines, (playStrs startPos .white line).isSome = true) ∧
    (∀ line ∈ bernsteinLines, (playStrs startPos .white line).isSome = true) ∧
    (isError (newBook [["e2e9".toList]]) .parse &&
      isError (newBook [["e2e4".toList, "e7e5".toList, "e4e5".toList]]) .notFound &&
      isError (newBook [["e2e4", "e7e5", "f1b5", "d7d6"].map String.toList]) .notLegal) = true := by
  simp only [newBook_eq]
  decide +kernel

/-- `bernstein.NewBook` succeeds on the extracted lines; the rest is `newBook_sound` and `newBook_wf`. -/
theorem bernstein_book_legal :
    ∃ book, bernsteinNewBook = .ok book ∧
      (book.map (·.1)).Nodup ∧
      ∀ key ms, (key, ms) ∈ book → ms.Nodup ∧ ms ≠ [] ∧ ∀ m ∈ ms,
        ∃ (p q : Position) (t : Color), GenReach startPos .white p t ∧ WF p t ∧
          (∀ np fm : Int, strip (encode p t np fm).toList = some key ∧ find book (encode p t np fm).toList = some ms) ∧
          m ∈ p.legalMoves t ∧ p.move m = some q ∧ absMove m ∈ Spec.legalMoves (abs p t) := by
  obtain ⟨book, hb⟩ := (newBook_ok_iff bernsteinLines).mpr newBook_runs.2.1
  refine ⟨book, hb, (newBook_wf hb).1, fun key ms hk => ?_⟩
  obtain ⟨hnd, hget⟩ := (newBook_wf hb).2 key ms hk
  have hne : ms ≠ [] := by
    obtain ⟨es, _, rfl⟩ := newBook_ok hb
    refine List.foldlRecOn es _ (motive := fun t => ∀ k ms, (k, ms) ∈ t → ms ≠ []) (fun _ _ h => by cases h)
      (fun t hall e _ k' ms' hm => ?_) key ms hk
    rcases mem_add hm with hm | ⟨_, rfl⟩
    · exact hall k' ms' hm
    · exact insertNew_ne_nil _ _
  refine ⟨hnd, hne, fun m hm => ?_⟩
  obtain ⟨_, _, pre, _, _, p, q, t, _, _, _, hr, hw, hs, _, _, h5, h6, h7⟩ := newBook_sound hb key ms hk m hm
  refine ⟨p, q, t, hr, hw, fun np fm => ⟨hs np fm, ?_⟩, h5, h6, h7⟩
  unfold find
  rw [hs np fm, Option.map_some, hget]

/-- The three lists of literals `sargon.NewBook` uses, looked up in the generated data. -/
def sargonInit : List Move := (Gen.sargonInitialReplies.mapM sargonLiteral).getD []
def sargonD7D5 : Move := (sargonLiteral Gen.sargonDefaultResponse).getD default
def sargonE7E5 : Move := (sargonLiteral Gen.sargonFileResponse).getD default

theorem sargon_literals : Gen.sargonInitialReplies.mapM sargonLiteral = some sargonInit ∧
    sargonLiteral Gen.sargonDefaultResponse = some sargonD7D5 ∧
    sargonLiteral Gen.sargonFileResponse = some sargonE7E5 := by decide +kernel

/-- `sargon.NewBook` is its loop from the one-entry map over the legal moves of the initial position: the lookups of the literals,
    `Strip(Initial)` and `Decode(Initial)` succeed. -/
theorem sargonNewBook_eq : sargonNewBook =
    sargonLoop startDecoded sargonE7E5 sargonD7D5 [(keyOf startPos .white, sargonInit)] (startPos.legalMoves .white) :=
  sargonNewBook_of (d := startDecoded) sargon_literals.1 sargon_literals.2.1 sargon_literals.2.2
    (initial_eq ▸ strip_encode_reach (GenReach.refl _ _) 0 1) (initial_eq ▸ decode_encode_reach (GenReach.refl _ _))

/-- The pawn double step of Black with the coordinates of a reply `r`, as the generator emits it. -/
def blackJump (r : Move) : Move := { ty := .jump, «from» := r.from, to := r.to, piece := .pawn }

/-- The check made after one first move `m`, on the successor `q`: the response `r` (`e7e5` after an a-, b-, c- or e-pawn
    move, else `d7d5`) goes from e7 to e5 or from d7 to d5 and names no promotion; a black pawn stands on its origin, the
    two squares in front of it are empty; `Position.Move` accepts the double step. (The generator is not run on `q`:
    that the double step is generated follows from `C01.pseudoLegalMoves_iff`.) -/
def sargonReplyOK (m : Move) : Bool :=
  match startPos.move m with
  | none => true
  | some q =>
    let r := sargonResponse sargonE7E5 sargonD7D5 m
    (r.from == 51 && r.to == 35 || r.from == 52 && r.to == 36) && r.promotion == .none &&
    q.square r.from == some (Color.black, Piece.pawn) && q.square (r.from - 8) == none && q.square r.to == none &&
    (q.move (blackJump r)).isSome

theorem blackJump_generated {q : Position} (hw : WF q .black) {r : Move}
    (hr : (r.from = 51 ∧ r.to = 35) ∨ (r.from = 52 ∧ r.to = 36))
    (h1 : q.square r.from = some (Color.black, Piece.pawn)) (h2 : q.square (r.from - 8) = none)
    (h3 : q.square r.to = none) : blackJump r ∈ q.pseudoLegalMoves .black := by
  rw [C01.pseudoLegalMoves_iff hw, C01.pseudoMove_iff]
  refine Or.inr (Or.inl ?_)
  rw [C01.pawnMove_iff]
  refine ⟨h1, rfl, Or.inr (Or.inl ⟨r.from - 8, ?_, ?_, ?_, h2, h3, rfl, rfl, rfl⟩)⟩
  all_goals
    rcases hr with ⟨a, b⟩ | ⟨a, b⟩ <;> simp only [blackJump, a, b] <;> decide

/-- Evaluated together (the runs share the twenty first moves): every initial reply has the from/to/promotion of a legal move of the initial
    position; after every generated first move that `Position.Move` accepts, `sargonReplyOK`; there are twenty accepted first
    moves, leading to twenty different positions; none of them goes from e2 to e5. -/
theorem sargon_checked :
    ((sargonInit.all fun r => (startPos.pseudoLegalMoves .white).any fun c => c.equals r && (startPos.move c).isSome) = true ∧
      (startPos.pseudoLegalMoves .white).all sargonReplyOK = true) ∧
    ((firstSucc (startPos.legalMoves .white)).length = 20 ∧
      ((firstSucc (startPos.legalMoves .white)).map (·.2)).Nodup) ∧
    ((startPos.legalMoves .white).all fun c => !c.equals { «from» := 11, to := 35 }) = true := by decide +kernel

/-- `sargon.NewBook` does not panic; the keys of its book are distinct; every key is the
    four-field key of the initial position or of a position after one legal move (so `Find` returns the entry for the
    engine's FEN of that position, whatever the clocks); every entry is non-empty and every reply has the
    from/to/promotion (`Move.Equals`) of a legal move of that position, which is a legal move of the reference. The
    replies themselves are the hand-written literals (`Type: Normal`, no `Piece`): they are not members of the legal-move
    list (`sargon_reply_not_generated`). -/
theorem sargon_book_legal :
    ∃ book, sargonNewBook = some book ∧ (book.map (·.1)).Nodup ∧
      ∀ key ms, (key, ms) ∈ book → ms ≠ [] ∧
        ∃ (p : Position) (t : Color), GenReach startPos .white p t ∧ WF p t ∧
          (∀ np fm : Int, strip (encode p t np fm).toList = some key ∧ find book (encode p t np fm).toList = some ms) ∧
          ∀ r ∈ ms, ∃ m ∈ p.legalMoves t, m.equals r = true ∧ absMove m ∈ Spec.legalMoves (abs p t) := by
  obtain ⟨hb, hnd⟩ := sargonLoop_full sargonInit sargonE7E5 sargonD7D5 (ms := startPos.legalMoves .white) (fun _ h => h)
    sargon_checked.2.1.2
  generalize hbk : (keyOf startPos .white, sargonInit) ::
    (firstSucc (startPos.legalMoves .white)).map (sargonEntryOf sargonE7E5 sargonD7D5) = book at hb hnd
  refine ⟨book, by rw [sargonNewBook_eq]; exact hb, hnd, fun key ms hk => ?_⟩
  -- from a generated, accepted move with the reply's coordinates to the statement
  have legal_of : ∀ {p : Position} {t : Color} (_ : GenReach startPos .white p t) {r : Move},
      ((p.pseudoLegalMoves t).any fun c => c.equals r && (p.move c).isSome) = true →
      ∃ m ∈ p.legalMoves t, m.equals r = true ∧ absMove m ∈ Spec.legalMoves (abs p t) := by
    intro p t hr r h
    simp only [List.any_eq_true, Bool.and_eq_true] at h
    obtain ⟨c, hc, heq, hsome⟩ := h
    obtain ⟨q, hq⟩ := Option.isSome_iff_exists.mp hsome
    exact ⟨c, (C01.legal_iff p t c).mpr ⟨hc, hsome⟩, heq, C01.reachable_legal startPos_wfplay hr hc hq⟩
  have finish : ∀ {p : Position} {t : Color} (hr : GenReach startPos .white p t), key = keyOf p t →
      ∀ np fm : Int, strip (encode p t np fm).toList = some key ∧ find book (encode p t np fm).toList = some ms := by
    intro p t hr hkey np fm
    have hs : strip (encode p t np fm).toList = some key := by rw [hkey]; exact strip_encode_reach hr np fm
    refine ⟨hs, ?_⟩
    unfold find
    rw [hs, Option.map_some, mem_get_of_mem hnd hk]
  rw [← hbk] at hk
  rcases List.mem_cons.mp hk with e | hk'
  · obtain ⟨hkey, hms⟩ := Prod.mk.inj e
    have hr : GenReach startPos .white startPos .white := GenReach.refl _ _
    refine ⟨?_, startPos, .white, hr, (wfplay_of_reach hr).1, finish hr hkey, fun r hr' => ?_⟩
    · rw [hms]; decide +kernel
    · rw [hms] at hr'
      exact legal_of hr (List.all_eq_true.mp sargon_checked.1.1 r hr')
  obtain ⟨⟨m, q⟩, hx, e⟩ := List.mem_map.mp hk'
  obtain ⟨hm, hq⟩ := of_mem_firstSucc hx
  obtain ⟨hkey, hms⟩ := Prod.mk.inj e.symm
  · have hr := reach_first hm hq
    refine ⟨by rw [hms]; simp, q, .black, hr, (wfplay_of_reach hr).1, finish hr hkey, fun r hr' => ?_⟩
    rw [hms] at hr'
    simp only [List.mem_singleton] at hr'
    have h2 := List.all_eq_true.mp sargon_checked.1.2 m (mem_pseudo_of_legal hm)
    unfold sargonReplyOK at h2
    rw [hq] at h2
    simp only [Bool.and_eq_true, Bool.or_eq_true, beq_iff_eq] at h2
    obtain ⟨⟨⟨⟨⟨hco, hpr⟩, s1⟩, s2⟩, s3⟩, hmv⟩ := h2
    rw [hr']
    have hgen := blackJump_generated (wfplay_of_reach hr).1 hco s1 s2 s3
    obtain ⟨q', hq'⟩ := Option.isSome_iff_exists.mp hmv
    refine ⟨_, (C01.legal_iff _ _ _).mpr ⟨hgen, hmv⟩, ?_, C01.reachable_legal startPos_wfplay hr hgen hq'⟩
    simp only [Move.equals, blackJump, hpr, decide_true, Bool.and_self]

/-- The literals, spelled out: `e2e4`, `d2d4`; `e7e5`; `d7d5` — `Type: Normal`, no piece. -/
theorem sargon_literal_values :
    sargonInit = [{ ty := .normal, «from» := 11, to := 27 }, { ty := .normal, «from» := 12, to := 28 }] ∧
    sargonE7E5 = { ty := .normal, «from» := 51, to := 35 } ∧ sargonD7D5 = { ty := .normal, «from» := 52, to := 36 } := by
  decide +kernel

/-- `isQueenSideOrKingPawn` with the generated constants: a pawn move from the a-, b-, c- or e-file
    (files are numbered h = 0 … a = 7). -/
theorem isQueenSideOrKingPawn_iff (m : Move) :
    isQueenSideOrKingPawn m = true ↔
      m.piece = .pawn ∧ (sqFile m.from = 7 ∨ sqFile m.from = 6 ∨ sqFile m.from = 5 ∨ sqFile m.from = 3) := by
  unfold isQueenSideOrKingPawn
  have hp : (m.piece.code != Gen.sargonFilePiece) = !decide (m.piece = .pawn) := by
    cases m.piece <;> rfl
  rw [hp]
  by_cases h : m.piece = .pawn
  · simp [h, Gen.sargonFiles]
  · simp [h]

/-- The book is what its comment says. It has 21 entries. For the engine's FEN of the
    initial position (any clocks) `Find` returns `{e2e4, d2d4}`; for the engine's FEN of the position after ANY legal first
    move `m` (any clocks) it returns exactly one reply: `e7e5` if `m` is a pawn move from the a-, b-, c- or e-file
    (`isQueenSideOrKingPawn`), `d7d5` otherwise. (Twenty different successor positions have twenty different keys:
    `keyOf_inj`; so no entry overwrites another in the map.) -/
theorem sargon_book_complete :
    ∃ book, sargonNewBook = some book ∧ book.length = 21 ∧
      (∀ np fm : Int, find book (encode startPos .white np fm).toList = some sargonInit) ∧
      ∀ m ∈ startPos.legalMoves .white, ∀ q, startPos.move m = some q → ∀ np fm : Int,
        find book (encode q .black np fm).toList = some [if isQueenSideOrKingPawn m then sargonE7E5 else sargonD7D5] := by
  obtain ⟨hb, hnd⟩ := sargonLoop_full sargonInit sargonE7E5 sargonD7D5 (ms := startPos.legalMoves .white) (fun _ h => h)
    sargon_checked.2.1.2
  refine ⟨_, by rw [sargonNewBook_eq]; exact hb, ?_, fun np fm => ?_, fun m hm q hq np fm => ?_⟩
  · rw [List.length_cons, List.length_map, sargon_checked.2.1.1]
  · unfold find
    rw [strip_encode_reach (GenReach.refl _ _) np fm, Option.map_some, mem_get_of_mem hnd (List.mem_cons_self ..)]
  · unfold find
    rw [strip_encode_reach (reach_first hm hq) np fm, Option.map_some,
      mem_get_of_mem hnd (List.mem_cons_of_mem _ (List.mem_map_of_mem (mem_firstSucc hm hq)))]
    rfl

/-- The replies of the SARGON book are not themselves generated moves: `e7e5` carries `Type: Normal` and `Piece: NoPiece`,
    the generated move with the same coordinates is a `Jump` of a `Pawn`. Harmless — the UCI driver only prints the
    from/to/promotion of a book move — but a consumer pushing `Find`'s result with `Board.PushMove` would corrupt the
    position (wrong en-passant status: a `Normal` move sets no en-passant target). -/
theorem sargon_reply_not_generated :
    sargonE7E5 = { ty := .normal, «from» := 51, to := 35 } ∧
    ∀ (p : Position) (t : Color), WF p t → sargonE7E5 ∉ p.pseudoLegalMoves t := by
  refine ⟨by decide +kernel, fun p t hw h => ?_⟩
  -- every generated move records the piece it moves, and the board never holds `NoPiece`
  have hp : sargonE7E5.piece = .none := by decide +kernel
  have hsq := C01.pseudo_mover hw _ h
  rw [hp] at hsq
  exact hw.rep.wf _ _ hsq

/-! The hypotheses are satisfiable. -/

example : ∃ book, newBook exLines = .ok book :=
  (newBook_ok_iff exLines).mpr newBook_runs.1

/-- The three errors occur: an unparsable text, a move that is not generated, a pinned pawn's push. -/
example : newBook [["e2e9".toList]] = .error .parse ∧
    newBook [["e2e4".toList, "e7e5".toList, "e4e5".toList]] = .error .notFound ∧
    newBook [["e2e4", "e7e5", "f1b5", "d7d6"].map String.toList] = .error .notLegal := by
  have h := newBook_runs.2.2
  simp only [Bool.and_eq_true] at h
  exact ⟨eq_error_of_isError h.1.1, eq_error_of_isError h.1.2, eq_error_of_isError h.2⟩

/-- `find_fields` / `find_panic_iff` on concrete strings. -/
example (t : Table) : find t "a b c".toList = none ∧
    find t "8/8 w - - 3 9".toList = find t "8/8 w - - 0 1 and more".toList := by
  repeat rw [String.toList_ofList]
  refine ⟨(find_panic_iff t _).mpr (by decide), ?_⟩
  exact find_strip t (by decide) (by decide)

end Morlock.Props.C20Books
