import Morlock.Proofs.ConcUciAns
/-!
# C16 — the UCI driver (`pkg/engine/uci/uci.go`) under every interleaving: no stale, duplicate or
post-close output

Model: `Morlock/Model/UciConc.lean` (its header says what one step is and what is abstracted). A *schedule* is a
list of `Act`s — which thread (command loop, a forwarder, a timer, a searcher) takes its next step and, at the
loop's `select`, which ready case is taken. `run (init cmds pcap) sched` is the state after the driver, started
on the GUI input `cmds` (any list of commands: `isready`, `ucinewgame`, `position`, `go` finite/infinite/with
movetime/with a book hit, miss or error, malformed `go`, `stop`, `quit`, EOF, anything else), ran the schedule.
Every theorem quantifies over ALL command lists, ALL schedules (by induction over the schedule) and all ponder
capacities.

Ghost log `State.log` (newest first): `.consume c` (the loop received `c`), `.send l` (a line put on `out`),
`.sendClosed l` (a send on `out` after `close(out)`: a panic in Go), `.commit id latest` (the CAS of
`searchCompleted(id, _)` succeeded while `d.searches = latest`; it is the decision to emit `bestmove` for `id`,
the `info`/`bestmove` sends follow as separate steps of the same thread).

**Honest scope of `no_stale`.** The brief asks: "a bestmove event's id equals the id of the most recent `go`
consumed by the loop". For the code as it is, this holds at the *decision point* (the CAS), with "most recent go"
read as "most recent go that was given a number" — this is `no_stale_partial`. It does NOT hold literally:
(1) the channel send of `bestmove` is a later step than the CAS, and the loop can consume and number the next `go`
in between (`stale_send_possible`: a `decide`d schedule of the current code); (2) the loop receives a `go` one step
before `ensureInactive` stores 0, and a forwarder can win the CAS in that window (`stale_window_possible`). Both
are inherent to any design in which the forwarder sends by itself; the GUI cannot tell them from a bestmove that
was sent just before its `go` arrived. `searches_counts_gos` pins the relation between `d.searches` and the `go`s
consumed.
-/
namespace Morlock.Props.C16
open Morlock.Model.UciConc Morlock.Proofs.ConcUci

/-- **no_stale (partial: at the decision point).** Every commit event — a successful `CAS(active, id, 0)` in
`searchCompleted(id, _)`, by the loop or by any forwarder, the only way a `bestmove` gets emitted — carries
`latest = id`: at that moment `id` is the number of the most recent `go` the loop has numbered
(`d.searches`), i.e. no later `go` has been started; and `id ≠ 0`. What is missing for the literal statement is
described in the file header (`stale_send_possible`, `stale_window_possible`). -/
theorem no_stale_partial (cmds : List Cmd) (pcap : Nat) (sched : List Act) (id latest : Nat)
    (h : Ev.commit id latest ∈ (run (init cmds pcap) sched).log) :
    latest = id ∧ id ≠ 0 ∧ id ≤ (run (init cmds pcap) sched).searches := by
  have hinv := activeInv_run sched _ (activeInv_init cmds pcap)
  have := hinv.bound (id, latest) (mem_commits.2 h)
  exact ⟨this.2.1, this.2.2, this.1⟩

/-- `d.active` is always 0 or the number of the latest `go` (so only the latest search can ever win the CAS). -/
theorem active_zero_or_latest (cmds : List Cmd) (pcap : Nat) (sched : List Act) :
    (run (init cmds pcap) sched).active = 0 ∨
    (run (init cmds pcap) sched).active = (run (init cmds pcap) sched).searches :=
  (activeInv_run sched _ (activeInv_init cmds pcap)).act

/-- `d.searches` is the number of well-formed `go` commands consumed so far, except that it lags by one while
the loop is between receiving a `go` and its `d.searches++` (inside that `go`'s `ensureInactive`,
`LPc.goPending`). -/
theorem searches_counts_gos (cmds : List Cmd) (pcap : Nat) (sched : List Act) :
    goConsumed (run (init cmds pcap) sched).log =
      (run (init cmds pcap) sched).searches + (if (run (init cmds pcap) sched).loop.goPending then 1 else 0) :=
  goCountInv_run sched _ (goCountInv_init cmds pcap)

/-- **at_most_one.** For each go number `id`, at most one commit and at most one `bestmove` line; more
precisely the `bestmove` lines sent for `id`, plus the threads that have won the CAS for `id` and not yet sent
theirs, are exactly the commits for `id`, and there is at most one. -/
theorem at_most_one (cmds : List Cmd) (pcap : Nat) (sched : List Act) (id : Nat) :
    let s := run (init cmds pcap) sched
    commitCount id s.log ≤ 1 ∧ bestCount id s.log ≤ 1 ∧
    bestCount id s.log + (if s.loop.owes id then 1 else 0) + s.fwds.countP (Fwd.owes id) = commitCount id s.log := by
  intro s
  have h1 : commitCount id s.log ≤ 1 := commitCount_le_one (activeInv_run sched _ (activeInv_init cmds pcap)) id
  have h2 : bestCount id s.log + (if s.loop.owes id then 1 else 0) + s.fwds.countP (Fwd.owes id) =
      commitCount id s.log := oweInv_run sched _ (oweInv_init cmds pcap) id
  exact ⟨h1, by omega, h2⟩

/-- **no_send_after_close.** No step of any run sends on `out` after it was closed (no "send on closed channel"
panic), for any line. -/
theorem no_send_after_close (cmds : List Cmd) (pcap : Nat) (sched : List Act) (l : Line) :
    Ev.sendClosed l ∉ (run (init cmds pcap) sched).log := by
  intro h
  have := (closeInv_run sched _ (closeInv_init cmds pcap)).nosend _ h
  simp [Ev.isSendClosed] at this

/-- `out` is closed only by the loop on its way out, after every forwarder has called `Done`: when `out` is
closed no forwarder is live and the WaitGroup is zero. -/
theorem closed_after_forwarders (cmds : List Cmd) (pcap : Nat) (sched : List Act)
    (h : (run (init cmds pcap) sched).outClosed = true) :
    (run (init cmds pcap) sched).wg = 0 ∧ ∀ f ∈ (run (init cmds pcap) sched).fwds, f.pc = .finished := by
  have hinv := closeInv_run sched _ (closeInv_init cmds pcap)
  have h0 := hinv.exiting (afterClose_exiting (hinv.closed h))
  refine ⟨h0, ?_⟩
  have hc := hinv.wg; rw [h0] at hc
  intro f hf
  have := List.countP_eq_zero.1 hc.symm f hf
  cases hp : f.pc <;> simp [hp, FPc.live] at this ⊢

/-- **readyok.** In the log of every run: whenever the loop consumed a command, no earlier `isready` was still
waiting for its `readyok` (`ReadyAnswered`); and an `isready` is waiting now exactly when the loop is at the
statement `d.out <- "readyok"`, which is its next step. -/
theorem readyok (cmds : List Cmd) (pcap : Nat) (sched : List Act) :
    ReadyAnswered (run (init cmds pcap) sched).log ∧
    (openReady (run (init cmds pcap) sched).log = true ↔ (run (init cmds pcap) sched).loop = .ready) := by
  have h := (readyInv_run sched _ ⟨closeInv_init cmds pcap, readyInv_init cmds pcap⟩).2
  exact ⟨h.answered, h.pending⟩

/-- **readyok, spelled out.** If the log (newest first) reads `post ++ consume c :: mid ++ consume isready :: pre`
with no command consumed in `mid` — `c` is the next command consumed after that `isready` — then a `readyok` was
put on `out` in between (and by `no_send_after_close` it went out on the open channel). -/
theorem readyok_between (cmds : List Cmd) (pcap : Nat) (sched : List Act) (post mid pre : List Ev) (c : Cmd)
    (hlog : (run (init cmds pcap) sched).log = post ++ .consume c :: (mid ++ .consume .isready :: pre))
    (hmid : ∀ c', Ev.consume c' ∉ mid) : Ev.send .readyok ∈ mid :=
  readyAnswered_between (readyok cmds pcap sched).1 post mid pre c hlog hmid

/-- **clean_shutdown.** In every quiescent state (no thread can step: `Quiescent`, see `Props/C04.lean`) of a run
in which `quit` or EOF was consumed: the loop has returned, `out` and the driver are closed, the WaitGroup is
zero, every forwarder has finished and every searcher has exited (nothing is left running or blocked). -/
theorem clean_shutdown (cmds : List Cmd) (pcap : Nat) (sched : List Act)
    (hq : Quiescent (run (init cmds pcap) sched))
    (hquit : quitSeen (run (init cmds pcap) sched).log = true) :
    let s := run (init cmds pcap) sched
    s.loop = .finished ∧ s.outClosed = true ∧ s.closed = true ∧ s.wg = 0 ∧
    (∀ f ∈ s.fwds, f.pc = .finished) ∧ (∀ x ∈ s.srch, x.done = true) := by
  intro s
  have hall := allInv_run cmds pcap sched
  have hfin : s.loop = .finished := by
    rcases quiet_loop hq hall.eng hall.cls hall.srch with hf | hs
    · exact hf
    · have := hall.quit hquit
      rw [hs.1] at this; cases this
  have hout := hall.shut.outOk (by rw [hfin]; rfl)
  refine ⟨hfin, hout, hall.shut.doneClosed hfin, hall.cls.exiting (by rw [hfin]; rfl),
    fun f hf => quiet_fwds hq hall.eng f hf, ?_⟩
  intro x hx
  obtain ⟨j, hj⟩ := List.mem_iff_getElem?.1 hx
  exact quiet_searches hq j x hj

/-- after `quit`/EOF the loop never goes back to reading commands: it is on its exit path
(`ensureInactive; forwarders.Wait(); close(out); d.Close()`), in every state, quiescent or not. -/
theorem quit_is_final (cmds : List Cmd) (pcap : Nat) (sched : List Act)
    (hquit : quitSeen (run (init cmds pcap) sched).log = true) :
    (run (init cmds pcap) sched).loop.exitPath = true :=
  (allInv_run cmds pcap sched).quit hquit

/-! ## the pre-repair designs violate these properties (concrete schedules, `decide`d) -/

/-- one step of the command loop (at `select`: receive the next command) -/
def L : Act := .loop .cmd

/-- first `go` up to and including the spawn of its forwarder (receive, `Store(0)`, `Halt` = lock + unlock,
`searches++`, `Analyze`, `Store(id)`, spawn); the search completes depth 1 and exits; the forwarder receives the
PV, offers it to `ponder`, sees its channel closed and is about to call `searchCompleted(1, pv)` -/
def firstGo : List Act :=
  List.replicate 8 L ++ [.searchIter 0, .searchExit 0, .fwd 0, .fwd 0, .fwd 0]

/-- **boolean `active` gives a stale bestmove.** With the pre-repair boolean `active`, after `go; go`: the loop
runs the second `go` up to `active.Store(true)`; the first search's forwarder then wins `CAS(true, false)` —
a commit for go 1 while go 2 is the latest (`commit 1 2`) — and sends `bestmove` with search 1's PV; `active` is
now false, so go 2's own result will be dropped. -/
theorem bool_active_stale :
    let s := runWith { boolActive := true } (init [.go {}, .go {}])
      (firstGo ++ List.replicate 10 L ++ [.fwd 0, .fwd 0, .fwd 0])
    Ev.commit 1 2 ∈ s.log ∧ Ev.send (.bestmove 1 1) ∈ s.log ∧ s.active = 0 ∧ s.searches = 2 := by
  decide +kernel

/-- the same schedule under the current code: the forwarder's `CAS(1, 0)` fails, nothing is emitted for go 1 -/
theorem id_active_not_stale :
    let s := run (init [.go {}, .go {}]) (firstGo ++ List.replicate 10 L ++ [.fwd 0, .fwd 0, .fwd 0])
    commits s.log = [] ∧ s.active = 2 := by
  decide +kernel

/-- **closing `out` without waiting sends on a closed channel.** Pre-repair exit path (no `forwarders.Wait()`):
after `go; quit`, the forwarder wins the CAS, the loop runs `quit` through `close(out)`, then the forwarder
sends its `info` and `bestmove` on the closed channel. -/
theorem close_without_wait_sends_after_close :
    let s := runWith { waitFwd := false } (init [.go {}, .quit])
      (firstGo ++ [.fwd 0] ++ List.replicate 8 L ++ [.fwd 0, .fwd 0])
    Ev.sendClosed (.info 1) ∈ s.log ∧ Ev.sendClosed (.bestmove 1 1) ∈ s.log := by
  decide +kernel

/-- the same schedule under the current code: the loop is held at `forwarders.Wait()` and both lines go out on
the open channel -/
theorem wait_then_close :
    let s := run (init [.go {}, .quit]) (firstGo ++ [.fwd 0] ++ List.replicate 8 L ++ [.fwd 0, .fwd 0])
    s.loop = .waitFwd ∧ s.outClosed = false ∧ Ev.send (.bestmove 1 1) ∈ s.log := by
  decide +kernel

/-! ## what the current code still allows (why `no_stale` is stated at the decision point) -/

/-- **the send may lag.** Current code, `go; go`: the forwarder of go 1 wins the CAS (`commit 1 1`, not stale at
the decision point), then the loop consumes the second `go` and numbers it (`searches = 2`), and only then does
the forwarder put `bestmove 1` on `out`: in the log the `bestmove` for go 1 comes after the consumption of go 2. -/
theorem stale_send_possible :
    let s := run (init [.go {}, .go {}]) (firstGo ++ [.fwd 0] ++ List.replicate 8 L ++ [.fwd 0, .fwd 0])
    s.log = [.send (.bestmove 1 1), .send (.info 1), .consume (.go {}), .commit 1 1, .consume (.go {})] ∧
    s.searches = 2 := by
  decide +kernel

/-- **the one-step window.** Current code, `go; go`: the loop has received the second `go` but not yet executed
`d.active.Store(0)`; the forwarder of go 1 wins the CAS in between: the commit for go 1 is logged after the
consumption of go 2 (with `d.searches` still 1, so `no_stale_partial` is not contradicted). -/
theorem stale_window_possible :
    let s := run (init [.go {}, .go {}]) (firstGo ++ [L, .fwd 0])
    s.log = [.commit 1 1, .consume (.go {}), .consume (.go {})] ∧ s.loop = .ensureStore (.go {}) := by
  decide +kernel

/-! ## the hypotheses are satisfiable: a small complete session -/

/-- `isready; go; stop; quit` with an infinite search: `readyok`, then the search publishes depth 1, `stop` halts
it and the loop itself emits `info`, `bestmove 1`; `quit` shuts down cleanly (out closed, driver closed). -/
example :
    let s := run (init [.isready, .go { infinite := true }, .stop, .quit])
      ([L, L] ++ List.replicate 8 L ++ [.searchIter 0] ++ List.replicate 10 L ++
       [.searchExit 0, .fwd 0, .fwd 0, .fwd 0, .fwd 0] ++ List.replicate 8 L)
    s.log = [.consume .quit, .send (.bestmove 1 1), .send (.info 1), .commit 1 1, .consume .stop,
             .consume (.go { infinite := true }), .send .readyok, .consume .isready] ∧
    s.loop = .finished ∧ s.outClosed = true ∧ s.closed = true ∧ s.wg = 0 := by
  decide +kernel

end Morlock.Props.C16
