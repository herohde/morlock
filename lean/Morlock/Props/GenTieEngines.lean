import Morlock.Model.Bernstein
import Morlock.Model.Sargon
import Morlock.Gen.Engines
/-!
# Tie between the models of the historical engines and the constants regenerated from their Go source

`Morlock.Gen.Engines` is rewritten from `/repo` on every check (`harness/cmd/extract/engines.go`): every numeric literal,
switch table and ranged-over piece list of `cmd/bernstein/bernstein`, `cmd/sargon/sargon`, `pkg/eval/capture.go` and
`search.MVVLVA` that the models copy. The extractor fails when a statement holding one of them changes shape or when one of
the functions acquires a numeric literal it does not know; the theorems below fail when a *value* changes.

Form of the theorems: the model function, on its whole domain, equals the same function written with the generated
constants in the place of the literals (`rfl`: the two sides differ only by unfolding `Gen.*`).
Pieces, move types and colours are compared through their codes (`Piece.ofCode`, `MoveType.code`, `Color.code`), which
`Props/GenTie.lean` ties to the `iota` declarations.
-/
namespace Morlock.Props.GenTieEngines
open Morlock Morlock.Model
open Morlock.Model.Flt (Q f32 rnd)

def colorOfCode : Nat → Color
  | 0 => .white
  | _ => .black

theorem colorOfCode_code : ∀ c : Color, colorOfCode c.code = c := by intro c; cases c <;> rfl

abbrev pcs (l : List Nat) : List Piece := l.map Piece.ofCode

/-! ## pkg/board, pkg/eval, pkg/search -/

theorem promotionRank_tie : ∀ c : Color,
    Bernstein.promotionRank c = if c.code = Color.white.code then Gen.promotionRankWhite else Gen.promotionRankBlack := by
  intro c; cases c <;> rfl

/-- `eval.FindCapture` ranges over the list the model ranges over … -/
theorem findCapture_officers_tie : kqrnbPieces = pcs Gen.evalFindCaptureOfficers := by decide

/-- … and then takes the pawns. -/
theorem findCapture_tie (p : Position) (side : Color) (sq : Nat) :
    findCapture p side sq =
      ((pcs Gen.evalFindCaptureOfficers).flatMap fun piece =>
        let bb := ((attackboard p.rotated sq piece).getD 0) &&& p.pieces side piece
        (toSquares bb).map fun «from» => { piece := piece, color := side, square := «from» }) ++
      (let bb := pawnCaptureboard side.opp (bitMask sq) &&& p.pieces side (Piece.ofCode Gen.evalFindCapturePawnMask)
       (toSquares bb).map fun «from» => { piece := Piece.ofCode Gen.evalFindCapturePawnPlaced, color := side, square := «from» }) := rfl

theorem mvvlva_tie (m : Move) :
    mvvlva m = (let p := Gen.mvvlvaScale * nominalValueGain m
                if p > Gen.mvvlvaAbove then p - nominalValue m.piece else Gen.mvvlvaNone) := rfl

/-! ## cmd/bernstein/bernstein/eval.go -/

namespace Bernstein
open Morlock.Model.Bernstein

/-- `MaterialValue`: the whole switch. -/
theorem materialValue_tie : ∀ k : Piece,
    materialValue k = (Gen.bernsteinMaterialValue.lookup k.code).getD Gen.bernsteinMaterialValueDefault := by
  intro k; cases k <;> rfl

/-- no piece is listed in two `case`s (Go would reject it; a duplicate would be shadowed in the lookup above). -/
theorem materialValue_keys_nodup : (Gen.bernsteinMaterialValue.map (·.1)).Nodup := by decide

/-- `Material`: the pieces summed, in the order of the source. -/
theorem material_tie (p : Position) (side : Color) :
    material p side =
      (pcs Gen.bernsteinMaterialPieces).foldl (fun ret k => ret + materialValue k * (popCount (p.pieces side k) : Int)) 0 := by
  simp [material, pcs, Gen.bernsteinMaterialPieces, Piece.ofCode]

/-- `Evaluate`: the floor of `mathx.Max`. -/
theorem evaluate_tie (p : Position) (factor : Int) (side : Color) :
    evaluate p factor side =
      match kingDefense p side with
      | none => none
      | some defense =>
        some (max Gen.bernsteinEvaluateFloor (mobility p side + control p side + defense + factor * material p side)) := rfl

/-- `Eval.Evaluate`: the value for equal scores and the two scale factors. -/
theorem evalEvaluate_tie (p : Position) (factor : Int) (turn : Color) :
    evalEvaluate p factor turn =
      match evaluate p factor turn with
      | none => none
      | some self =>
        match evaluate p factor turn.opp with
        | none => none
        | some opp =>
          if self = opp then some ⟨Gen.bernsteinRatioEqual, 1⟩
          else if self > opp then
            (rnd f32 (Q.ofInt self)).bind fun a =>
            (Flt.mul f32 a (Q.ofInt Gen.bernsteinRatioScaleAhead)).bind fun m =>
            (rnd f32 (Q.ofInt opp)).bind fun b =>
            Flt.div f32 m b
          else
            (rnd f32 (Q.ofInt opp)).bind fun a =>
            (Flt.mul f32 a.neg (Q.ofInt Gen.bernsteinRatioScaleBehind)).bind fun m =>
            (rnd f32 (Q.ofInt self)).bind fun b =>
            Flt.div f32 m b := rfl

/-- `Control`: the squares looped over. -/
theorem controlSquares_tie (p : Position) (side : Color) :
    controlSquares p side =
      ((List.range Gen.bernsteinControlTo).drop Gen.bernsteinControlFrom).filter
        fun sq => p.isDefended side sq && !p.isAttacked side sq := rfl

/-- `KingDefense`: the list handed to `IsDefendedBy` for an empty square. -/
theorem kingDefense_defenders_tie : qrnbpPieces = pcs Gen.bernsteinKingDefenseDefenders := by decide

/-- the shipped `-material` default lies in the range `eval_total_closed` / `evaluate_exact_range` (`Props/C20Bernstein`) cover. -/
theorem default_factor_in_proved_range : 0 ≤ Gen.bernsteinDefaultMaterial ∧ Gen.bernsteinDefaultMaterial ≤ 10000 := by decide

/-! ## cmd/bernstein/bernstein/search.go -/

theorem truncate_tie {α : Type} (list : List α) (limit : Int) :
    truncate list limit =
      if limit > Gen.bernsteinTruncateAbove && (list.length : Int) > limit then list.take limit.toNat else list := rfl

/-- the priorities of the check-evasion sort. -/
theorem checkPrio_tie (m : Move) :
    checkPrio m =
      if m.isCaptureOrEnPassant then Gen.bernsteinCheckPrioCapture
      else if m.piece = Piece.ofCode Gen.bernsteinCheckPrioKingPiece then Gen.bernsteinCheckPrioKing
      else Gen.bernsteinCheckPrioOther := rfl

/-- the `gain` closure: its three groups of move types. -/
theorem gain_tie (p : Position) (side : Color) (m : Move) :
    gain p side m =
      if Gen.bernsteinGainAlways.contains m.ty.code then true
      else if m.ty.code = Gen.bernsteinGainCapture then
        decide (materialValue m.capture > materialValue m.piece) || isMoveSafe p side m
      else if m.ty.code = Gen.bernsteinGainEnPassant then !p.isAttacked side m.to
      else false := by
  obtain ⟨ty, fr, to, piece, promotion, capture⟩ := m
  cases ty <;> rfl

theorem exchange_tie (m : Move) :
    exchange m =
      (decide (m.ty.code = Gen.bernsteinExchangeType) && decide (materialValue m.capture = materialValue m.piece)) := by
  obtain ⟨ty, fr, to, piece, promotion, capture⟩ := m
  cases ty <;> rfl

/-- the first ranking loop: 23, 22, 21, 20. -/
theorem rank23_tie (p : Position) (side : Color) (moves : List Move) :
    rank23 p side moves =
      moves.foldl (fun (acc : RankMap × Bool) m =>
        if gain p side m then (acc.1.set m Gen.bernsteinRankGain, acc.2)
        else if loss p side m then (acc.1.set m Gen.bernsteinRankLoss, acc.2)
        else if exchange m then (acc.1.set m Gen.bernsteinRankExchange, acc.2)
        else if m.isCastle then (acc.1.set m Gen.bernsteinRankCastle, true)
        else acc) ([], false) := rfl

theorem develop_tie (side : Color) (m : Move) :
    develop side m =
      if (pcs Gen.bernsteinDevelopPieces).contains m.piece then sqRank m.from == promotionRank side.opp else false := by
  obtain ⟨ty, fr, to, piece, promotion, capture⟩ := m
  cases piece <;> rfl

theorem chains_tie (key : Bitboard) (m : Move) :
    chains key m = if m.piece ≠ Piece.ofCode Gen.bernsteinChainsExcluded then isSet key m.to else false := rfl

theorem files_tie (pawns : Bitboard) (m : Move) :
    files pawns m =
      if (pcs Gen.bernsteinFilesPieces).contains m.piece then
        let «from» := (bitFile (sqFile m.from) &&& pawns) == 0
        let to := (bitFile (sqFile m.to) &&& pawns) == 0
        !«from» && to
      else false := by
  obtain ⟨ty, fr, to, piece, promotion, capture⟩ := m
  cases piece <;> rfl

/-- the second ranking loop: 13, 12, 11, 10, 1. -/
theorem rank48_tie (p : Position) (side : Color) (pawns key : Bitboard) (moves : List Move) (r : RankMap) :
    rank48 p side pawns key moves r =
      moves.foldl (fun (r : RankMap) m =>
        if r.has m then r
        else if !isMoveSafe p side m then r
        else if develop side m then r.set m Gen.bernsteinRankDevelop
        else if chains key m then r.set m Gen.bernsteinRankChains
        else if files pawns m then r.set m Gen.bernsteinRankFiles
        else if m.piece = Piece.ofCode Gen.bernsteinRankPawnPiece then r.set m Gen.bernsteinRankPawn
        else r.set m Gen.bernsteinRankOther) r := rfl

/-- `FindPlausibleMoves`: the survival threshold of the castling branch and the piece behind `pawns`. -/
theorem findPlausibleMoves_tie (p : Position) (side : Color) :
    findPlausibleMoves p side =
      (let moves := baseMoves p side
       if p.isChecked side then sortByPriority moves checkPrio
       else
         let (rank, castle) := rank23 p side moves
         if castle then
           let moves := findMoves moves (fun m => decide (rank.get m > Gen.bernsteinRankKeepAbove))
           sortByPriority moves rank.get
         else
           let pawns := p.pieces side (Piece.ofCode Gen.bernsteinPawnsPiece)
           let key := keySquares side pawns
           let rank := rank48 p side pawns key moves rank
           sortByPriority moves rank.get) := by
  unfold findPlausibleMoves
  -- the two sides destructure the pair by different matchers: compare them on a variable, not on the fold
  generalize baseMoves p side = moves
  generalize rank23 p side moves = r
  rfl

theorem ta1_tie (side : Color) (m : Move) :
    ta1 side m =
      if side.code = Gen.bernsteinTA1Side then (sqRank m.to : Int) * Gen.bernsteinTA1Mul + (sqFile m.to : Int)
      else (Gen.bernsteinTA1OppRankFrom - (sqRank m.to : Int)) * Gen.bernsteinTA1OppMul +
           (Gen.bernsteinTA1OppFileFrom - (sqFile m.to : Int)) := by
  cases side <;> rfl

/-- `Table1` as a function of the piece and the file of the origin square. -/
theorem table1_tie (m : Move) :
    table1 m =
      if m.piece = Piece.ofCode Gen.bernsteinTable1Piece then
        (Gen.bernsteinTable1Files.lookup (sqFile m.from)).getD Gen.bernsteinTable1FileDefault
      else Gen.bernsteinTable1Default := by
  obtain ⟨ty, fr, to, piece, promotion, capture⟩ := m
  have hf : sqFile fr < 8 := by
    unfold sqFile
    exact Nat.lt_of_le_of_lt Nat.and_le_right (by decide)
  cases piece
  case pawn =>
    show table1 { ty := ty, «from» := fr, to := to, piece := .pawn, promotion := promotion, capture := capture } = _
    unfold table1
    simp only []
    generalize sqFile fr = f at hf
    match f, hf with
    | 0, _ | 1, _ | 2, _ | 3, _ | 4, _ | 5, _ | 6, _ | 7, _ => rfl
  all_goals rfl

/-- no file is listed in two `case`s. -/
theorem table1_keys_nodup : (Gen.bernsteinTable1Files.map (·.1)).Nodup := by decide

end Bernstein

/-! ## cmd/sargon/sargon -/

namespace Sargon
open Morlock.Model.Sargon

/-- `FindKingQueenPins`: the colours and the pieces looped over. -/
theorem findKingQueenPins_tie (pos : Position) :
    findKingQueenPins pos =
      (let pins : List Pin :=
        (((List.range Gen.sargonPinSidesTo).drop Gen.sargonPinSidesFrom).map colorOfCode).flatMap fun side =>
          (pcs Gen.sargonPinTargets).flatMap fun piece => findPins pos side piece
       pins.filterMap fun pin =>
        let att := pieceAt pos pin.attacker
        let dfn := pieceAt pos pin.target
        if att = dfn then none else some (pin.pinned, pin.attacker)) := rfl

/-- the "attacker is pinned" test. -/
theorem isPinnedFor_tie (pins : Pins) («from» target : Nat) :
    isPinnedFor pins «from» target =
      (let list := pinsGet pins «from»
       decide (list.length > Gen.sargonPinnedAbove) || (list.length == Gen.sargonPinnedExactly && list.head? != some target)) := rfl

/-- one level of `addAttackerStack`: the piece nobody stands behind, the pieces that can stand behind on a line / a diagonal. -/
theorem addAttackerStack_tie (pos : Position) (pins : Pins) (side : Color) (target fuel : Nat) (r : Rotated) (piece : Piece)
    («from» : Nat) :
    addAttackerStack pos pins side target (fuel + 1) r piece «from» =
      (if isPinnedFor pins «from» target then .ok none else
       let me : Model.Sargon.Placement := { piece := piece, color := side, square := «from» }
       if piece = Piece.ofCode Gen.sargonStackFront then .ok (some { front := me }) else
       let next := r.xor «from»
       let bb : Bitboard :=
         if isSameRankOrFile «from» target then
           andNot (rookAttackboard next target) (rookAttackboard r target) &&&
             (pos.pieces side (Piece.ofCode (Gen.sargonStackLine.getD 0 0)) ||| pos.pieces side (Piece.ofCode (Gen.sargonStackLine.getD 1 0)))
         else if isSameDiagonal «from» target then
           andNot (bishopAttackboard next target) (bishopAttackboard r target) &&&
             (pos.pieces side (Piece.ofCode (Gen.sargonStackDiagonal.getD 0 0)) |||
              pos.pieces side (Piece.ofCode (Gen.sargonStackDiagonal.getD 1 0)))
         else 0
       if bb != 0 then
         let from' := lastPopSquare bb
         let piece' := pieceAt pos from'
         match addAttackerStack pos pins side target fuel next piece' from' with
         | .error e => .error e
         | .ok none => .ok (some { front := me })
         | .ok (some b) => .ok (some { front := me, behind := b.front :: b.behind })
       else .ok (some { front := me })) := rfl

/-- `FindAttackers` ranges over the list the model ranges over … -/
theorem findAttackers_officers_tie : kqrnb = pcs Gen.sargonAttackerOfficers := by decide

/-- … and then takes the pawns. -/
theorem findAttackers_tie (pos : Position) (pins : Pins) (sq : Nat) (side : Color) :
    findAttackers pos pins sq side =
      (let officers := mapE (fun piece =>
          match attackboard pos.rotated sq piece with
          | none => .error .attackboard
          | some ab => stacksOn pos pins side piece sq (ab &&& pos.pieces side piece)) (pcs Gen.sargonAttackerOfficers)
       match officers with
       | .error e => .error e
       | .ok ls =>
         match stacksOn pos pins side (Piece.ofCode Gen.sargonAttackerPawnPlaced) sq
             (pawnCaptureboard side.opp (bitMask sq) &&& pos.pieces side (Piece.ofCode Gen.sargonAttackerPawnMask)) with
         | .error e => .error e
         | .ok ps => .ok (ls.flatten ++ ps)) := rfl

/-- `Exchange`: the piece without exchange value and the value returned for it. -/
theorem exchangeW_tie (srt : List Attacker → List Attacker) (pos : Position) (pins : Pins) (side : Color) (sq : Nat) :
    exchangeW srt pos pins side sq =
      match pos.square sq with
      | none => .ok Gen.sargonExchangeNone
      | some (cur, piece) =>
        if piece = Piece.ofCode Gen.sargonExchangeExempt then .ok Gen.sargonExchangeNone else
        match findAttackers pos pins sq cur with
        | .error e => .error e
        | .ok da =>
        match findSideW srt da cur with
        | .error e => .error e
        | .ok defenders =>
        match findAttackers pos pins sq cur.opp with
        | .error e => .error e
        | .ok aa =>
        match findSideW srt aa cur.opp with
        | .error e => .error e
        | .ok attackers =>
        match exchangeLoop (attackers.length + defenders.length) attackers defenders 0 (nominalValue piece) cur with
        | .error e => .error e
        | .ok (residue, cur') => .ok (if cur' = side then -residue else residue) := rfl

/-- `b.HasMoved(1000)`. -/
theorem bview_tie (w : World) (b : Nat) :
    BView.ofWorld w b =
      (let bd := w.board b
       { pos := (w.cur b).pos, turn := bd.turn, last := w.lastMove b, moved := w.hasMoved b Gen.sargonHasMovedDepth,
         fullMoves := bd.moves, castledW := bd.castledW, castledB := bd.castledB }) := rfl

/-- `Material`: the adjustments of loss and win. The model carries `2·mtrl` (`Q.halves`): that is the divisor of `win`. -/
theorem materialW_tie (srt : List Attacker → List Attacker) (v : BView) (pins : Pins) :
    Gen.sargonWinDiv = 2 ∧
    materialW srt v pins =
      (let mtrl := materialPawns v.pos v.turn
       match materialLoop srt v pins (toSquares v.pos.all) {} with
       | .error e => .error e
       | .ok s =>
         let ptsw2 := if s.ptschk then Gen.sargonPtsw2Reset else s.ptsw2
         let loss := if s.ptsl < Gen.sargonLossBelow then Gen.sargonLossMul * s.ptsl + Gen.sargonLossAdd else s.ptsl
         -- `d · ((a·ptsw2 - b) / d)` with `d = Gen.sargonWinDiv`
         let win2 := if ptsw2 > Gen.sargonWinAbove then Gen.sargonWinMul * ptsw2 - Gen.sargonWinSub else Gen.sargonWinDiv * ptsw2
         .ok (Gen.sargonWinDiv * mtrl - (Gen.sargonWinDiv * loss + win2), s.ptschk)) := ⟨rfl, rfl⟩

/-- `Mobility`: the squares looped over. -/
theorem mobility_tie (v : BView) (pins : Pins) :
    mobility v pins = mobilityLoop v pins ((List.range Gen.sargonMobilityTo).drop Gen.sargonMobilityFrom) 0 := rfl

theorem kingDev_tie (castled moved : Bool) :
    kingDev castled moved = if castled then Gen.sargonKingCastled else if moved then Gen.sargonKingMoved else Gen.sargonKingOther := rfl

/-- `Development`: the factors, the pieces they apply to, `MOVENO`. -/
theorem development_tie (v : BView) :
    development v =
      (let pos := v.pos
       let own := v.turn
       let opp := own.opp
       let mask := v.moved
       let pc (c : Color) (k : Piece) (unmoved : Bool) : Int :=
         (popCount (if unmoved then andNot (pos.pieces c k) mask else pos.pieces c k &&& mask) : Int)
       let um (i : Nat) : Piece × Int := ((Gen.sargonDevUnmoved.map fun e => (Piece.ofCode e.1, e.2)).getD i (.none, 0))
       let mv (i : Nat) : Piece × Int := ((Gen.sargonDevMoved.map fun e => (Piece.ofCode e.1, e.2)).getD i (.none, 0))
       let pawns : Int := -(um 0).2 * (pc own (um 0).1 true - pc opp (um 0).1 true)
       let pawns := pawns - (um 1).2 * (pc own (um 1).1 true - pc opp (um 1).1 true)
       let pawns :=
         if v.fullMoves < Gen.sargonDevMoveNo then
           let pawns := pawns - (mv 0).2 * (pc own (mv 0).1 false - pc opp (mv 0).1 false)
           pawns - (mv 1).2 * (pc own (mv 1).1 false - pc opp (mv 1).1 false)
         else pawns
       let pawns := pawns + kingDev (v.hasCastled own) ((pos.pieces own (Piece.ofCode (Gen.sargonDevKingPiece.getD 0 0)) &&& mask) != 0)
       pawns - kingDev (v.hasCastled opp) ((pos.pieces opp (Piece.ofCode (Gen.sargonDevKingPiece.getD 1 0)) &&& mask) != 0)) := rfl

/-- `Points.Evaluate`: `mtrl*4`, `Limit(.., 6)`, `brdc/100`. The model computes `mtrl*4` and `brdc/100` once for both
    `return`s: the literals of the two agree. -/
theorem evaluatePartsW_tie (srt : List Attacker → List Attacker) (p : Points) (v : BView) :
    Gen.sargonChkMtrlScale = Gen.sargonMtrlScale ∧ Gen.sargonChkBrdcDiv = Gen.sargonBrdcDiv ∧
    evaluatePartsW srt p v =
      (let pins := findKingQueenPins v.pos
       match boardControl v pins with
       | .error e => .error e
       | .ok brdc =>
       match materialW srt v pins with
       | .error e => .error e
       | .ok (mtrl2, ptschk) =>
       let mtrl : Q := Q.halves mtrl2
       match ofOpt (Flt.mul f32 mtrl (Q.ofInt Gen.sargonMtrlScale)) with
       | .error e => .error e
       | .ok m4 =>
       match ofOpt (Flt.div f32 (Q.ofInt brdc) (Q.ofInt Gen.sargonBrdcDiv)) with
       | .error e => .error e
       | .ok q =>
       if ptschk then
         match ofOpt (Flt.add f32 m4 q) with
         | .error e => .error e
         | .ok r => .ok { pins := pins, brdc := brdc, mtrl2 := mtrl2, ptschk := ptschk, points := r }
       else
         match ofOpt (Flt.add f32 m4 (Q.ofInt (limit (brdc - p.brdc0) Gen.sargonBrdcLimit))) with
         | .error e => .error e
         | .ok s =>
         match ofOpt (Flt.add f32 s q) with
         | .error e => .error e
         | .ok r => .ok { pins := pins, brdc := brdc, mtrl2 := mtrl2, ptschk := ptschk, points := r }) := ⟨rfl, rfl, rfl⟩

/-- `OnePlyIfChecked.QuietSearch`: one node for a quiet leaf, one ply when in check. -/
theorem onePlyIfChecked_tie {P : Type} (g : Game P) (p : P) (alpha beta : Score) (st : SState) :
    onePlyIfChecked g p alpha beta st =
      if !g.inCheck p then (Score.heuristicScore (g.eval p), { st with nodes := st.nodes + Gen.sargonQuietNodes })
      else
        let (res, st') := alphaBetaSearch g (constEx fullExploration) .static p Gen.sargonCheckDepth alpha beta st
        match res with
        | none => (Score.invalidScore, { st' with nodes := st.nodes })
        | some r => (r.score, { st' with nodes := st.nodes + r.nodes }) := rfl

end Sargon

end Morlock.Props.GenTieEngines
