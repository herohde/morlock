import Morlock.Props.C11
/-!
# C12 — halting at any instant is clean

Cancellation model (`Model/Search.lean`): the context is polled at fixed places (`poll`, which counts the
polls in `st.polls`); with `st.cancelAt = some k` the `k`-th poll and all later ones report "cancelled".
`Live st` says that no poll performed so far reported "cancelled" (`∀ k, st.cancelAt = some k → st.polls < k`).
`alphaBetaSearch` ends with one more poll and returns `none` (`ErrHalted`) iff that poll reports cancelled.

Hypotheses as in C11, on a region `R` containing the search tree (`Closed g ex R`, `R d p`; `EvalOk`, `HashOKOn`,
`RootFreeOn` for the root ply, `leafGrade le + d ≤ 127`, a starting table of any size that is `SoundOn` the region);
the cancellation instant `k` is arbitrary. The `…_on` theorems are the main statements; the global forms (the
names without `_on`) are corollaries (`R := Everywhere`) and say nothing about the chess game (see C11). Instances on the chess
game are at the end.
-/
namespace Morlock.Props.C12
open Morlock Morlock.Model Morlock.Model.Score Morlock.Spec Morlock.Proofs.AB
open Morlock.Props.C09
variable {P : Type}

/-- Cancellation is monotone: once a poll reported "cancelled", every later poll (of any state reached
    from there: same cancellation instant, poll counter not smaller) reports "cancelled". -/
theorem cancelled_stays (st st' : SState) (h1 : st'.cancelAt = st.cancelAt) (h2 : st.polls + 1 ≤ st'.polls)
    (hc : (poll st).1 = true) : (poll st').1 = true :=
  cancelled_mono (st := st) (st' := st') ⟨h1, h2⟩ hc

/-- **C12 (a halted search reports halted), in terms of the search's own final poll.** For every game,
    window and starting state whatsoever: `alphaBetaSearch` returns `none` exactly if the search was not
    live at its end, i.e. iff its last poll (the `polls`-th one of the final state) reported "cancelled". -/
theorem reports_halted (g : Game P) (ex : P → Explore) (le : LeafEval P) (p : P) (d : Nat) (a b : Score) (st : SState) :
    (alphaBetaSearch g ex le p d a b st).1 = none ↔ ¬ Live (alphaBetaSearch g ex le p d a b st).2 := by
  simp only [alphaBetaSearch, poll_eq]
  generalize alphabeta g ex le (g.ply p) d p _ _ _ = r
  by_cases hc : cancelled r.2.2 = true
  · simp only [hc, if_true]
    exact ⟨fun _ => not_live_of_cancelled hc, fun _ => trivial⟩
  · have hc' : cancelled r.2.2 = false := by simpa using hc
    simp only [hc', Bool.false_eq_true, if_false]
    have := (cancelled_false_iff r.2.2).1 hc'
    exact ⟨fun h => (by cases h), fun h => absurd this h⟩

/-- **C12 (halted at any poll of the search).** If the context is cancelled at the `k`-th poll and the
    search performs at least `k` polls (counting from `st.polls`, including the final one of
    `alphaBetaSearch`), the result is `none`: a score is never reported by a halted search. If it performs
    fewer than `k` polls it was never disturbed and reports exactly `V`. -/
theorem reports_halted_at_on (g : Game P) (ex : P → Explore) (le : LeafEval P) (hev : EvalOk g)
    {R : Nat → P → Prop} (hcl : Closed g ex R) (hh : HashOKOn g ex le R)
    (p : P) (hrf : RootFreeOn g R (g.ply p)) (d : Nat) (hd : leafGrade le + d ≤ 127) (hp : R d p)
    (st : SState) (hs : SoundOn g ex le R st.tt) (k : Nat) (hk : st.cancelAt = some k) :
    (k ≤ (alphaBetaSearch g ex le p d invalidScore invalidScore st).2.polls →
      (alphaBetaSearch g ex le p d invalidScore invalidScore st).1 = none) ∧
    ((alphaBetaSearch g ex le p d invalidScore invalidScore st).2.polls < k →
      ∃ n pv, (alphaBetaSearch g ex le p d invalidScore invalidScore st).1 =
        some ⟨n, V g ex le (g.ply p) d p, pv⟩ ∧ Principal g ex le (g.ply p) d p pv) := by
  obtain ⟨h1, _, h3, h4⟩ := alphaBetaSearch_tt hev ex le hcl (fun _ _ h => h) hh p hrf d hd hp st hs
  have hk' : (alphaBetaSearch g ex le p d invalidScore invalidScore st).2.cancelAt = some k := by
    rw [h1.1]; exact hk
  constructor
  · intro hle
    apply h3.2
    intro hl
    have := hl k hk'
    omega
  · intro hlt
    have hl : Live (alphaBetaSearch g ex le p d invalidScore invalidScore st).2 := by
      intro k' hk''
      rw [hk'] at hk''
      cases hk''
      exact hlt
    obtain ⟨n, pv, e1, e2, _⟩ := h4 hl
    exact ⟨n, pv, e1, e2⟩

/-- The search polls at least twice (on entry and at the end of `alphaBetaSearch`), so a context that is
    already cancelled (`k ≤ st.polls + 1`) always yields `none`. -/
theorem halted_before_start_on (g : Game P) (ex : P → Explore) (le : LeafEval P) (hev : EvalOk g)
    {R : Nat → P → Prop} (hcl : Closed g ex R) (hh : HashOKOn g ex le R)
    (p : P) (hrf : RootFreeOn g R (g.ply p)) (d : Nat) (hd : leafGrade le + d ≤ 127) (hp : R d p)
    (st : SState) (hs : SoundOn g ex le R st.tt) (k : Nat) (hk : st.cancelAt = some k) (hle : k ≤ st.polls + 1) :
    (alphaBetaSearch g ex le p d invalidScore invalidScore st).1 = none := by
  apply (reports_halted_at_on g ex le hev hcl hh p hrf d hd hp st hs k hk).1
  have hm := (alphabeta_tt_full hev ex le hcl (fun _ _ h => h) hrf hh d hd p hp { st with nodes := 0 } hs).1
  rw [alphaBetaSearch_state]
  have := hm.2
  simp only [tick] at this ⊢
  omega

/-- **C12 (a halted search leaves nothing behind: `alphabeta`).** Whatever the cancellation instant `k`
    and whatever the window of graded-valid scores, the table after the run is sound on the region: every entry
    stored before the halt is a true value (stores only follow a poll that reported "not cancelled", and
    cancellation is monotone). -/
theorem leaves_nothing_on (g : Game P) (ex : P → Explore) (le : LeafEval P) (rootPly : Int) (hev : EvalOk g)
    {R : Nat → P → Prop} (hcl : Closed g ex R)
    (hh : HashOKOn g ex le R) (hrf : RootFreeOn g R rootPly) (K d : Nat) (hK : leafGrade le ≤ K) (hKd : K + d ≤ 127)
    (p : P) (hp : R d p) (alpha beta : Score) (st : SState) (hs : SoundOn g ex le R st.tt)
    (ha : okN (K + d) alpha) (hb : okN (K + d) beta) (k : Nat) :
    SoundOn g ex le R (alphabeta g ex le rootPly d p alpha beta { st with cancelAt := some k }).2.2.tt :=
  ((alphabeta_recTT hev ex le hcl (fun _ _ h => h) hrf hh K hK d hKd).node p alpha beta
    { st with cancelAt := some k } hp hs (fun _ => ⟨ha, hb⟩)).2.1

/-- **C12 (a halted search leaves nothing behind: `AlphaBeta.Search`).** Halt a search at an arbitrary
    instant `k` (it may also run to completion), then run any search — any root `q` of the same game, any
    depth — on the table it left, with a fresh context: the second search returns exactly the value `V` of
    its root, which is what it returns had the first search never run (same starting state `st`), and what
    the table-free search returns. `U` is a region containing the trees of both searches (e.g. their union,
    `Trees g ex [(p, d), (q, d2)]`). -/
theorem next_search_exact_on (g : Game P) (ex : P → Explore) (le : LeafEval P) (hev : EvalOk g)
    {U : Nat → P → Prop} (hh : HashOKOn g ex le U)
    (p : P) (d : Nat) (hd : leafGrade le + d ≤ 127)
    (hpU : ∀ n x, Tree g ex p d n x → U n x) (hrf : RootFreeOn g (Tree g ex p d) (g.ply p))
    (q : P) (d2 : Nat) (hd2 : leafGrade le + d2 ≤ 127)
    (hqU : ∀ n x, Tree g ex q d2 n x → U n x) (hrfq : RootFreeOn g (Tree g ex q d2) (g.ply q))
    (st : SState) (hs : SoundOn g ex le U st.tt) (k : Nat) :
    let halted := alphaBetaSearch g ex le p d invalidScore invalidScore { st with cancelAt := some k }
    SoundOn g ex le U halted.2.tt ∧
    (alphaBetaSearch g ex le q d2 invalidScore invalidScore { halted.2 with cancelAt := none }).1.map (·.score)
      = some (V g ex le (g.ply q) d2 q) ∧
    (alphaBetaSearch g ex le q d2 invalidScore invalidScore { halted.2 with cancelAt := none }).1.map (·.score)
      = (alphaBetaSearch g ex le q d2 invalidScore invalidScore { st with cancelAt := none }).1.map (·.score) := by
  intro halted
  have h2 : SoundOn g ex le U halted.2.tt :=
    (alphaBetaSearch_tt hev ex le (tree_closed g ex p d) hpU hh p hrf d hd (tree_root g ex p d)
      { st with cancelAt := some k } hs).2.1
  obtain ⟨n1, pv1, e1, _⟩ := alphaBetaSearch_tt_none hev ex le hh q d2 hd2 hqU hrfq
    { halted.2 with cancelAt := none } h2 rfl
  obtain ⟨n2, pv2, e2, _⟩ := alphaBetaSearch_tt_none hev ex le hh q d2 hd2 hqU hrfq { st with cancelAt := none } hs rfl
  refine ⟨h2, ?_, ?_⟩
  · rw [e1]; rfl
  · rw [e1, e2]; rfl

theorem reports_halted_at (g : Game P) (ex : P → Explore) (le : LeafEval P) (hev : EvalOk g) (hh : HashOK g ex le)
    (p : P) (hrf : RootFree g (g.ply p)) (d : Nat) (hd : leafGrade le + d ≤ 127)
    (st : SState) (hs : Sound g ex le st.tt) (k : Nat) (hk : st.cancelAt = some k) :
    (k ≤ (alphaBetaSearch g ex le p d invalidScore invalidScore st).2.polls →
      (alphaBetaSearch g ex le p d invalidScore invalidScore st).1 = none) ∧
    ((alphaBetaSearch g ex le p d invalidScore invalidScore st).2.polls < k →
      ∃ n pv, (alphaBetaSearch g ex le p d invalidScore invalidScore st).1 =
        some ⟨n, V g ex le (g.ply p) d p, pv⟩ ∧ Principal g ex le (g.ply p) d p pv) :=
  reports_halted_at_on g ex le hev (closed_everywhere g ex) (hh.on _) p (hrf.on _) d hd trivial st
    (sound_iff_on.1 hs) k hk

theorem halted_before_start (g : Game P) (ex : P → Explore) (le : LeafEval P) (hev : EvalOk g) (hh : HashOK g ex le)
    (p : P) (hrf : RootFree g (g.ply p)) (d : Nat) (hd : leafGrade le + d ≤ 127)
    (st : SState) (hs : Sound g ex le st.tt) (k : Nat) (hk : st.cancelAt = some k) (hle : k ≤ st.polls + 1) :
    (alphaBetaSearch g ex le p d invalidScore invalidScore st).1 = none :=
  halted_before_start_on g ex le hev (closed_everywhere g ex) (hh.on _) p (hrf.on _) d hd trivial st
    (sound_iff_on.1 hs) k hk hle

theorem leaves_nothing (g : Game P) (ex : P → Explore) (le : LeafEval P) (rootPly : Int) (hev : EvalOk g)
    (hh : HashOK g ex le) (hrf : RootFree g rootPly) (K d : Nat) (hK : leafGrade le ≤ K) (hKd : K + d ≤ 127)
    (p : P) (alpha beta : Score) (st : SState) (hs : Sound g ex le st.tt)
    (ha : okN (K + d) alpha) (hb : okN (K + d) beta) (k : Nat) :
    Sound g ex le (alphabeta g ex le rootPly d p alpha beta { st with cancelAt := some k }).2.2.tt :=
  sound_iff_on.2 (leaves_nothing_on g ex le rootPly hev (closed_everywhere g ex) (hh.on _) (hrf.on _) K d hK hKd p
    trivial alpha beta st (sound_iff_on.1 hs) ha hb k)

theorem next_search_exact (g : Game P) (ex : P → Explore) (le : LeafEval P) (hev : EvalOk g) (hh : HashOK g ex le)
    (p : P) (hrf : RootFree g (g.ply p)) (d : Nat) (hd : leafGrade le + d ≤ 127)
    (q : P) (hrfq : RootFree g (g.ply q)) (d2 : Nat) (hd2 : leafGrade le + d2 ≤ 127)
    (st : SState) (hs : Sound g ex le st.tt) (k : Nat) :
    let halted := alphaBetaSearch g ex le p d invalidScore invalidScore { st with cancelAt := some k }
    Sound g ex le halted.2.tt ∧
    (alphaBetaSearch g ex le q d2 invalidScore invalidScore { halted.2 with cancelAt := none }).1.map (·.score)
      = some (V g ex le (g.ply q) d2 q) ∧
    (alphaBetaSearch g ex le q d2 invalidScore invalidScore { halted.2 with cancelAt := none }).1.map (·.score)
      = (alphaBetaSearch g ex le q d2 invalidScore invalidScore { st with cancelAt := none }).1.map (·.score) := by
  intro halted
  obtain ⟨h1, h2⟩ := next_search_exact_on g ex le hev (hh.on Everywhere) p d hd (fun _ _ _ => trivial) (hrf.on _)
    q d2 hd2 (fun _ _ _ => trivial) (hrfq.on _) st (sound_iff_on.1 hs) k
  exact ⟨sound_iff_on.2 h1, h2⟩

/-! ## Non-vacuity: the tiny game of C13 with a real table, halted at every possible instant -/

open C13 C11 in
/-- the search of root 0 to depth 2 performs 14 polls from a fresh state: halted at `k ≤ 14` it reports
    `none`, from 15 on it is never disturbed -/
example : (List.range 17).map (fun k =>
      (alphaBetaSearch tiny allMoves .static 0 2 invalidScore invalidScore { st64 with cancelAt := some k }).1.isSome) =
    [false, false, false, false, false, false, false, false, false, false, false, false, false, false, false,
     true, true] := by decide +kernel

open C13 C11 in
/-- halted at the 6th poll: `none`, one entry already stored; the next search on that table is exact -/
example :
    (alphaBetaSearch tiny allMoves .static 0 2 invalidScore invalidScore { st64 with cancelAt := some 6 }).1.isNone
      = true ∧
    (alphaBetaSearch tiny allMoves .static 0 2 invalidScore invalidScore { st64 with cancelAt := some 6 }).2.tt.used
      = 1 ∧
    (alphaBetaSearch tiny allMoves .static 0 2 invalidScore invalidScore
      { (alphaBetaSearch tiny allMoves .static 0 2 invalidScore invalidScore
          { st64 with cancelAt := some 6 }).2 with cancelAt := none }).1.map (·.score) = some (heuristicScore 15) := by
  decide +kernel

open C13 C11 in
example : (alphaBetaSearch tiny allMoves .static 0 2 invalidScore invalidScore
      { (alphaBetaSearch tiny allMoves .static 0 3 invalidScore invalidScore
          { st64 with cancelAt := some 9 }).2 with cancelAt := none }).1.map (·.score) =
    some (V tiny allMoves .static 0 2 0) :=
  (next_search_exact tiny allMoves .static tiny_evalOk (tiny_hashOK _) 0 (tiny_rootFree _ (by decide)) 3 (by decide)
    0 (tiny_rootFree _ (by decide)) 2 (by decide) st64 (fresh_sound _ _ _ 64 0) 9).2.1

-- instances of `reports_halted_at`, `halted_before_start`, `leaves_nothing` on the tiny game
open C13 C11 in
example : (alphaBetaSearch tiny allMoves .static 0 2 invalidScore invalidScore { st64 with cancelAt := some 9 }).1 = none :=
  (reports_halted_at tiny allMoves .static tiny_evalOk (tiny_hashOK _) 0 (tiny_rootFree _ (by decide)) 2 (by decide)
    { st64 with cancelAt := some 9 } (fresh_sound _ _ _ 64 0) 9 rfl).1 (by decide +kernel)

open C13 C11 in
example : (alphaBetaSearch tiny allMoves .static 0 2 invalidScore invalidScore
    { st64 with cancelAt := some 1, polls := 0 }).1 = none :=
  halted_before_start tiny allMoves .static tiny_evalOk (tiny_hashOK _) 0 (tiny_rootFree _ (by decide)) 2 (by decide)
    { st64 with cancelAt := some 1, polls := 0 } (fresh_sound _ _ _ 64 0) 1 rfl (by decide)

open C13 C11 in
example (k : Nat) : Sound tiny allMoves .static
    (alphabeta tiny allMoves .static 0 2 0 (heuristicScore 0) (heuristicScore 50) { st64 with cancelAt := some k }).2.2.tt :=
  leaves_nothing tiny allMoves .static 0 tiny_evalOk (tiny_hashOK _) (tiny_rootFree 0 (by decide)) 0 2 (by decide)
    (by decide) 0 _ _ st64 (fresh_sound _ _ _ 64 0) (by decide) (by decide) k

/-! ## Non-vacuity on the chess game (`materialGame exZ`, worlds built by `newBoard`, a table of 128 slots)

Notation as in C11 (`gX`, `wS`, `w1`, `st4k`, `seqX`; `Morlock/Proofs/ABChessTree.lean`). The search of `wS` to
depth 2 performs 49 polls. -/

section Chess
open C11

set_option maxRecDepth 100000 in
/-- `reports_halted_at_on`: halted at the 40th poll the search reports `none`; halted "at the 50th" it is never
    disturbed and reports the reference value. -/
example :
    (alphaBetaSearch gX fullX .static wS 2 invalidScore invalidScore { st4k with cancelAt := some 40 }).1 = none ∧
    ∃ n pv, (alphaBetaSearch gX fullX .static wS 2 invalidScore invalidScore
        { st4k with cancelAt := some 50 }).1 = some ⟨n, V gX fullX .static (gX.ply wS) 2 wS, pv⟩ ∧
      Principal gX fullX .static (gX.ply wS) 2 wS pv :=
  ⟨(reports_halted_at_on gX fullX .static gX_evalOk (tree_closed _ _ wS 2) (wS_hashOK _) wS
      (wS_noDraw.rootFreeOn _) 2 (by decide) (tree_root _ _ _ _) { st4k with cancelAt := some 40 }
      (fresh_sound_on _ _ _ _ 4096 0) 40 rfl).1 (by rw [wS_runs.2.1.1]; decide),
   (reports_halted_at_on gX fullX .static gX_evalOk (tree_closed _ _ wS 2) (wS_hashOK _) wS
      (wS_noDraw.rootFreeOn _) 2 (by decide) (tree_root _ _ _ _) { st4k with cancelAt := some 50 }
      (fresh_sound_on _ _ _ _ 4096 0) 50 rfl).2 (by rw [wS_runs.2.2]; decide)⟩

/-- `halted_before_start_on`: a context that is already cancelled. -/
example :
    (alphaBetaSearch gX fullX (.quiescence capX 64) wS 2 invalidScore invalidScore
      { st4k with cancelAt := some 1 }).1 = none :=
  halted_before_start_on gX fullX _ gX_evalOk (tree_closed _ _ wS 2) (wS_hashOK _) wS
    (wS_noDraw.rootFreeOn _) 2 (by decide) (tree_root _ _ _ _) { st4k with cancelAt := some 1 }
    (fresh_sound_on _ _ _ _ 4096 0) 1 rfl (by decide)

/-- `leaves_nothing_on`: halted at any instant, any window - here (mated in 2, +5) - the table stays sound. -/
example (k : Nat) : SoundOn gX fullX .static (Tree gX fullX wS 2)
    (alphabeta gX fullX .static 1 2 wS (mateInXScore (-2)) (heuristicScore 5)
      { st4k with cancelAt := some k }).2.2.tt :=
  leaves_nothing_on gX fullX .static 1 gX_evalOk (tree_closed _ _ wS 2) (wS_hashOK _)
    (wS_noDraw.rootFreeOn 1) 0 2 (by decide) (by decide) wS (tree_root _ _ _ _) _ _ st4k
    (fresh_sound_on _ _ _ _ 4096 0) (by decide) (by decide) k

/-- `next_search_exact_on`: halt the depth-2 search of `wS` at any instant `k`, then search the successor position
    `w1` (depth 1) on the table left behind: exact. The region is the union of the trees of `seqX`. -/
example (k : Nat) :
    (alphaBetaSearch gX fullX .static w1 1 invalidScore invalidScore
      { (alphaBetaSearch gX fullX .static wS 2 invalidScore invalidScore
          { st4k with cancelAt := some k }).2 with cancelAt := none }).1.map (·.score) =
    some (V gX fullX .static (gX.ply w1) 1 w1) :=
  (next_search_exact_on gX fullX .static gX_evalOk (seqX_hashOK _)
    wS 2 (by decide) (fun n x h => ⟨(wS, 2), by simp [seqX], h⟩)
    ((seqX_noDraw.mono (fun n x h => ⟨(wS, 2), by simp [seqX], h⟩)).rootFreeOn _)
    w1 1 (by decide) (fun n x h => ⟨(w1, 1), by simp [seqX], h⟩)
    ((seqX_noDraw.mono (fun n x h => ⟨(w1, 1), by simp [seqX], h⟩)).rootFreeOn _)
    st4k (fresh_sound_on _ _ _ _ 4096 0) k).2.1

set_option maxRecDepth 100000 in
/-- What actually happens: halted at the 40th poll the search has already stored two entries; the search of `wS`
    run next on that table reports the same score as on an empty table. -/
example :
    (alphaBetaSearch gX fullX .static wS 2 invalidScore invalidScore { st4k with cancelAt := some 40 }).2.tt.used = 2 ∧
    (alphaBetaSearch gX fullX .static wS 2 invalidScore invalidScore
      { (alphaBetaSearch gX fullX .static wS 2 invalidScore invalidScore
          { st4k with cancelAt := some 40 }).2 with cancelAt := none }).1.map (·.score) = some zeroScore := by
  have h := (next_search_exact_on gX fullX .static gX_evalOk (wS_hashOK _) wS 2 (by decide) (fun _ _ h => h)
    (wS_noDraw.rootFreeOn _) wS 2 (by decide) (fun _ _ h => h) (wS_noDraw.rootFreeOn _) st4k
    (fresh_sound_on _ _ _ _ 4096 0) 40).2.1
  rw [wS_ply, wS_V2] at h
  exact ⟨wS_runs.2.1.2, h⟩

end Chess

end Morlock.Props.C12
