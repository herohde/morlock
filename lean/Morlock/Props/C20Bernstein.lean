import Morlock.Proofs.BernsteinPlausible
import Morlock.Proofs.BernsteinWide
import Morlock.Proofs.BernsteinCapture
import Morlock.Proofs.BernsteinMirror
import Morlock.Proofs.BernsteinPhantom
import Morlock.Props.C20
/-!
# C20 (BERNSTEIN) — evaluation, exchange test and plausible-move table of `cmd/bernstein/bernstein`

Subjects (transcribed in `Model/Bernstein.lean`, `Model/EvalCapture.lean`, tied to the Go code by the `bernstein` stream):
`Evaluate`, `Eval.Evaluate`, `Material`, `Mobility`, `Control`, `KingDefense` (`eval.go`); `IsSafe`, `IsMoveSafe`
(`exchange.go`); `eval.FindCapture`, `eval.SortByNominalValue` (`pkg/eval/capture.go`); `FindPlausibleMoves`, `truncate`,
`PlausibleMoveTable.Explore`, `TA1`, `Table1` (`search.go`); `search.Selection`; `board.SortByPriority`, `board.FindMoves`.

Proved: the score is `≥ 1`, the only panic is a side without a king, for `0 ≤ factor ≤ 10^4` both scores are `< 2^24` (the
int→float32 conversions are exact) and the ratio is a finite float32; the plausible-move table holds legal moves only, is non-empty
whenever a legal move exists and is cut at the limit; `FindCapture` lists the attackers of the reference geometry, each once; what
`sort.SliceStable` guarantees determines the sort; the evaluation is colour-blind, also with an en-passant target.

No enumeration of positions anywhere; `WF`/`Rep` are the hypotheses of C01/C02.
-/
namespace Morlock.Props.C20Bernstein
open Morlock Morlock.Model Morlock.Model.Bernstein Morlock.Proofs Morlock.Proofs.Gen Morlock.Proofs.Bernstein
open Morlock.Model.Flt (Q f32 rnd)
open Morlock.Proofs.Mirror (mirrorBoard)

theorem evaluate_pos (p : Position) (factor : Int) (side : Color) (v : Int)
    (h : evaluate p factor side = some v) : 1 ≤ v :=
  evaluate_ge_one h

/-- `Evaluate` panics (`king[64]`, index out of range in `KingDefense`) exactly when the side has no
    king. (`Rep` is used only for "no bits above square 63".) -/
theorem evaluate_defined {p : Position} {b : Proofs.Board} (h : Rep p b) (factor : Int) (side : Color) :
    (evaluate p factor side).isSome = true ↔ p.pieces side .king ≠ 0 := by
  rw [evaluate_isSome_iff, kingSquare_lt_iff (h.piecesLt side .king)]

/-- At most 64 set bits per bitboard and 64 squares per `ToSquares` list. The mobility bound is crude (the true maximum is 218)
    but enough for exactness. -/
theorem term_bounds (p : Position) (side : Color) :
    (0 ≤ mobility p side ∧ mobility p side ≤ 82176) ∧ (0 ≤ Bernstein.control p side ∧ Bernstein.control p side ≤ 64) ∧
    (∀ d, kingDefense p side = some d → 0 ≤ d ∧ d ≤ 64) ∧ (0 ≤ material p side ∧ material p side ≤ 1344) :=
  ⟨mobility_bounds p side, control_bounds p side, fun _ h => kingDefense_bounds h, material_bounds p side⟩

/-- For `0 ≤ factor ≤ 10^4` the score is below `2^24 = 16777216`: `eval.Pawns(self)` and
    `eval.Pawns(opp)` are exact, and Go's 64-bit `int` does not overflow. With the crude mobility bound the guarantee
    reaches `factor ≤ 12421` (`82176 + 128 + 1344·factor < 2^24`); beyond that the conversion may round (to 25 bits at
    `factor ≈ 2.4·10^4`), which changes nothing about totality: a float32 holds every int64. -/
theorem evaluate_exact_range {p : Position} {factor : Int} {side : Color} {v : Int}
    (hf0 : 0 ≤ factor) (hf1 : factor ≤ 10000) (h : evaluate p factor side = some v) :
    1 ≤ v ∧ v < 2 ^ 24 := by
  have := evaluate_le (F := 10000) (by omega) hf1 h
  have : (82304 + 1344 * 10000 : Int) < 2 ^ 24 := by decide
  omega

/-- `Eval.Evaluate` returns a finite float32: no panic, no division by zero, no infinity, no NaN
    (`Proofs/BernsteinWide.lean` covers `|factor| ≤ 2^52`). -/
theorem eval_total_closed {p : Position} {b : Proofs.Board} (h : Rep p b) {factor : Int} {turn : Color}
    (hf0 : 0 ≤ factor) (hf1 : factor ≤ 10000)
    (hk1 : p.pieces turn .king ≠ 0) (hk2 : p.pieces turn.opp .king ≠ 0) :
    (evalEvaluate p factor turn).isSome = true := by
  have hF : (10000 : Int) ≤ factorMax := by decide
  exact evalEvaluate_isSome_wide (by omega) (by omega) ((kingSquare_lt_iff (h.piecesLt _ _)).mpr hk1)
    ((kingSquare_lt_iff (h.piecesLt _ _)).mpr hk2)

theorem eval_panics_without_king {p : Position} {b : Proofs.Board} (h : Rep p b) (factor : Int) (turn : Color)
    (hk : p.pieces turn .king = 0 ∨ p.pieces turn.opp .king = 0) : evalEvaluate p factor turn = none := by
  have key : ∀ c, p.pieces c .king = 0 → evaluate p factor c = none := by
    intro c hc
    have := (not_congr (evaluate_defined h factor c)).mpr (by simpa using hc)
    simpa using this
  unfold evalEvaluate
  rcases hk with hk | hk
  · rw [key _ hk]
  · rw [key _ hk]; cases evaluate p factor turn <;> rfl

/-- The initial position, White: the four terms (20 moves, 22 controlled squares, 5 squares round the king, material 39) and the
    plausible moves: all 20, knights first (question 4), then the pawns in `Table1` order e, d, c, f, g, b, h, a, the double step
    before the single step (`TA1`); no castling move. The position is its own colour-swapped mirror image, so Black's score is
    White's (`evaluate_mirror`). -/
theorem startPos_white :
    (mobility startPos .white = 20 ∧ Bernstein.control startPos .white = 22 ∧ kingDefense startPos .white = some 5 ∧
      material startPos .white = 39) ∧
    (findPlausibleMoves startPos .white).map (fun m => (m.from, m.to)) =
      [(6, 23), (6, 21), (1, 18), (1, 16), (11, 27), (11, 19), (12, 28), (12, 20), (13, 29), (13, 21), (10, 26), (10, 18),
       (9, 25), (9, 17), (14, 30), (14, 22), (8, 24), (8, 16), (15, 31), (15, 23)] ∧
    (startPos.legalMoves .white).all (fun m => !m.isCastle) = true ∧
    WFc startPos .black = true ∧ abs startPos .black = Spec.mirror (abs startPos .white) := by decide +kernel

/-- "Kiwipete", stated together because one kernel run shares the move lists and attack queries. White to move has 48 legal moves,
    two of them castling: the castling branch of `FindPlausibleMoves` keeps the 8 moves that gain material, avoid a loss, exchange, or
    castle. The terms: 48 + 17 + 4 for White, 43 + 17 + 3 for Black, material 39 each. -/
theorem kiwi_facts :
    ((kiwiPos.legalMoves .white).length = 48 ∧ (findPlausibleMoves kiwiPos .white).length = 8 ∧
      (truncate (findPlausibleMoves kiwiPos .white) 7).length = 7) ∧
    ((Bernstein.control kiwiPos .white = 17 ∧ kingDefense kiwiPos .white = some 4 ∧ material kiwiPos .white = 39) ∧
     (mobility kiwiPos .black = 43 ∧ Bernstein.control kiwiPos .black = 17 ∧ kingDefense kiwiPos .black = some 3 ∧
      material kiwiPos .black = 39)) ∧
    findCapture kiwiPos .black 59 = [⟨.queen, .black, 51⟩, ⟨.rook, .black, 56⟩, ⟨.rook, .black, 63⟩, ⟨.knight, .black, 42⟩] ∧
    (isSafe kiwiPos .white .knight 35 = true ∧ isSafe kiwiPos .white .pawn 36 = true ∧
      isSafe kiwiPos .white .queen 36 = false) := by
  rw [kiwiPos_val]
  decide +kernel

theorem kiwi_scores (factor : Int) : evaluate kiwiPos factor .white = some (max 1 (48 + 17 + 4 + factor * 39)) ∧
    evaluate kiwiPos factor .black = some (max 1 (43 + 17 + 3 + factor * 39)) :=
  have ⟨hm, ⟨hw, hb⟩, _⟩ := kiwi_facts
  ⟨evaluate_of_terms (congrArg Int.ofNat hm.1) hw.1 hw.2.1 hw.2.2 factor,
   evaluate_of_terms hb.1 hb.2.1 hb.2.2.1 hb.2.2.2 factor⟩

theorem kiwi_legal_ne_nil : kiwiPos.legalMoves .white ≠ [] := fun e => by
  have := kiwi_facts.1.1
  rw [e] at this
  cases this

/-- Instances. Initial position: 20 moves + 22 controlled squares + 5 squares round the king + 8·39 = 359 for both sides,
    ratio 0. "Kiwipete" with White to move: 381 against 375, `381·100/375 = 101.6` rounded to float32. -/
example : evaluate startPos 8 .white = some 359 ∧ evaluate startPos 8 .black = some 359 :=
  have ht := startPos_white.1
  have hw := evaluate_of_terms ht.1 ht.2.1 ht.2.2.1 ht.2.2.2 8
  ⟨hw, (Bernstein.evaluate_mirror (c := .white) startPos_wf ⟨startPos_rep, startPos_white.2.2.2.1⟩
    startPos_white.2.2.2.2 8).trans hw⟩

example : evaluate kiwiPos 8 .white = some 381 ∧ evaluate kiwiPos 8 .black = some 375 ∧
    Flt.bits32 ((evalEvaluate kiwiPos 8 .white).getD ⟨0, 1⟩) = some 0x42cb3333 :=
  ⟨(kiwi_scores 8).1, (kiwi_scores 8).2, by
    rw [evalEvaluate_of_scores (kiwi_scores 8).1 (kiwi_scores 8).2]
    decide +kernel⟩

example : (evaluate kiwiPos 8 .white).isSome = true :=
  (evaluate_defined kiwiPos_rep 8 .white).mpr (by decide +kernel)

/-! ### A defect: the opponent's `Mobility` counts phantom en-passant captures

`Eval.Evaluate` calls `Mobility(pos, turn.Opponent())` = `len(pos.LegalMoves(opponent))` on a position in which it is *not* the
opponent's move. After a double pawn step the en-passant target is still set, and the generator offers the side that just moved
"en passant captures" onto it by its own pawns standing next to the pawn's start square (they capture diagonally backwards onto the
skipped square); `Position.Move` accepts them. Witness (`4k3/4p3/8/3p4/8/8/8/4K3 w - d6`, i.e. after …d7-d5): Black's pawn e7 "takes"
d6 "en passant", so Black's mobility is 8 instead of 7 and the evaluation is −340 instead of −330 (factor 8). The position is `WF`
with White to move. (The real code agrees with the model on this input: stream `bernstein`, curated case.) -/

def phantomPos : Position :=
  (Position.newPosition [(3, .white, .king), (59, .black, .king), (51, .black, .pawn), (36, .black, .pawn)] 0 44).getD {}

theorem mobility_counts_phantom_en_passant :
    WFc phantomPos .white = true ∧
    mobility phantomPos .black = 8 ∧ mobility { phantomPos with enpassant := 0 } .black = 7 ∧
    ({ ty := .enPassant, «from» := 51, to := 44, piece := .pawn } : Move) ∈ phantomPos.legalMoves .black ∧
    Flt.bits32 ((evalEvaluate phantomPos 8 .white).getD ⟨0, 1⟩) = some 0xc3aa0000 ∧
    Flt.bits32 ((evalEvaluate { phantomPos with enpassant := 0 } 8 .white).getD ⟨0, 1⟩) = some 0xc3a50000 := by
  decide +kernel

theorem plausible_sound {p : Position} {turn : Color} (hw : WF p turn) :
    (∀ m ∈ findPlausibleMoves p turn, m ∈ p.legalMoves turn ∧ m.isUnderPromotion = false) ∧
    (findPlausibleMoves p turn).Nodup := by
  have hbase := baseMoves_perm p turn
  constructor
  · intro m hm
    have := List.mem_filter.mp (hbase.mem_iff.mp (mem_findPlausibleMoves_base hm))
    exact ⟨this.1, by simpa using this.2⟩
  · exact findPlausibleMoves_nodup (hbase.nodup_iff.mpr (C20.skip_underpromo_sound hw.1 turn).2)

/-- Also in the castling branch, which keeps only moves of rank 20–23: the castling move itself has one. -/
theorem plausible_nonempty {p : Position} {turn : Color} (hw : WF p turn) (hl : p.legalMoves turn ≠ []) :
    findPlausibleMoves p turn ≠ [] := by
  apply findPlausibleMoves_ne_nil
  intro e
  have hp := baseMoves_perm p turn
  rw [e] at hp
  exact (C20.skip_underpromo_legal_and_nonempty hw).1 hl hp.symm.eq_nil

/-- When no castling move is legal, nothing but the under-promotions is dropped ("moving into loss" only lowers the priority). -/
theorem plausible_complete_without_castling {p : Position} {turn : Color}
    (h : ∀ m ∈ p.legalMoves turn, m.isCastle = false) :
    (findPlausibleMoves p turn).Perm ((p.legalMoves turn).filter fun m => !m.isUnderPromotion) :=
  (findPlausibleMoves_perm_of_no_castle h).trans (baseMoves_perm p turn)

/-- The table handed to the search; `limit ≤ 0` means "no limit". -/
theorem table_within_limit {p : Position} {turn : Color} (limit : Int) :
    truncate (findPlausibleMoves p turn) limit <+: findPlausibleMoves p turn ∧
    (0 < limit → ((truncate (findPlausibleMoves p turn) limit).length : Int) ≤ limit) ∧
    (limit ≤ 0 → truncate (findPlausibleMoves p turn) limit = findPlausibleMoves p turn) ∧
    (WF p turn → p.legalMoves turn ≠ [] → truncate (findPlausibleMoves p turn) limit ≠ []) :=
  ⟨truncate_prefix _ _, fun h => truncate_length_le _ h, fun h => truncate_of_nonpos _ h,
    fun hw hl => truncate_ne_nil (plausible_nonempty hw hl) limit⟩

/-- The predicate `PlausibleMoveTable{limit}.Explore` hands to the search selects exactly the moves of the table. -/
theorem explore_pick_iff (limit : Int) (p : Position) (turn : Color) (m : Move) :
    (explore limit p turn).2 m = true ↔ m ∈ truncate (findPlausibleMoves p turn) limit :=
  selection_pick_iff _ m

theorem explore_picks_legal {p : Position} {turn : Color} (hw : WF p turn) (limit : Int) (m : Move)
    (h : (explore limit p turn).2 m = true) : m ∈ p.legalMoves turn ∧ m.isUnderPromotion = false :=
  (plausible_sound hw).1 m ((truncate_prefix _ _).subset ((explore_pick_iff limit p turn m).mp h))

example : (findPlausibleMoves startPos .white).length = 20 ∧
    ((findPlausibleMoves startPos .white).map (fun m => (m.from, m.to))).take 6 =
      [(6, 23), (6, 21), (1, 18), (1, 16), (11, 27), (11, 19)] := by
  constructor
  · have h := congrArg List.length startPos_white.2.1
    rw [List.length_map] at h
    exact h
  · rw [startPos_white.2.1]; rfl

example : (kiwiPos.legalMoves .white).length = 48 ∧ (findPlausibleMoves kiwiPos .white).length = 8 ∧
    (truncate (findPlausibleMoves kiwiPos .white) 7).length = 7 := kiwi_facts.1

example : findPlausibleMoves kiwiPos .white ≠ [] :=
  plausible_nonempty kiwiPos_wf.1 kiwi_legal_ne_nil

/-- `exPos` (`r3k2r/1P6/8/3pP3/8/8/8/R3K2R w KQkq d6`): 36 legal moves with 6 under-promotions; en passant and the two queen
    promotions come first (rank 23). -/
example : ((findPlausibleMoves exPos .white).map (fun m => (m.from, m.to, m.promotion))).take 3 =
    [(35, 44, .none), (54, 63, .queen), (54, 62, .queen)] := by
  rw [exPos_val]
  decide +kernel

/-- What `sort.SliceStable` guarantees, for the model's insertion sort. -/
theorem sort_spec :
    (∀ (fn : Move → Int) (l : List Move), (sortByPriority l fn).Perm l ∧
      (sortByPriority l fn).Pairwise (fun a b => fn a ≥ fn b) ∧
      ∀ v, (sortByPriority l fn).filter (fun m => decide (fn m = v)) = l.filter (fun m => decide (fn m = v))) ∧
    (∀ l : List Placement, (sortByNominalValue l).Perm l ∧
      (sortByNominalValue l).Pairwise (fun a b => nominalValue a.piece ≤ nominalValue b.piece) ∧
      ∀ v, (sortByNominalValue l).filter (fun pl => decide (nominalValue pl.piece = v)) =
        l.filter (fun pl => decide (nominalValue pl.piece = v))) :=
  ⟨fun fn l => ⟨sortByPriority_perm fn l, sortByPriority_sorted fn l, sortByPriority_stable fn l⟩,
   fun l => ⟨sortByNominalValue_perm l, sortByNominalValue_sorted l, sortByNominalValue_stable l⟩⟩

/-- … and these guarantees determine the result, whatever `sort.SliceStable` does internally. -/
theorem sort_unique (fn : Move → Int) (l l' : List Move) (hs : l'.Pairwise (fun a b => fn a ≥ fn b))
    (hst : ∀ v, l'.filter (fun m => decide (fn m = v)) = l.filter (fun m => decide (fn m = v))) :
    l' = sortByPriority l fn := by
  apply stableSort_unique _ (fun m => - fn m) (fun a b => by apply decide_eq_decide.mpr; omega)
  · exact hs.imp (fun {a b} h => by omega)
  · intro v
    have e : (fun m : Move => decide (-fn m = v)) = (fun m => decide (fn m = -v)) := by
      funext m; apply decide_eq_decide.mpr; omega
    rw [e, hst (-v)]

theorem sortByNominalValue_unique (l l' : List Placement)
    (hs : l'.Pairwise (fun a b => nominalValue a.piece ≤ nominalValue b.piece))
    (hst : ∀ v, l'.filter (fun pl => decide (nominalValue pl.piece = v)) = l.filter (fun pl => decide (nominalValue pl.piece = v))) :
    l' = sortByNominalValue l := by
  unfold sortByNominalValue
  generalize nominalValue = val at hs hst ⊢
  exact stableSort_unique _ (fun pl => val pl.piece) (fun _ _ => rfl) l l' hs hst

/-- `FindCapture(pos, side, sq)` lists exactly the `side` pieces that attack `sq` by the reference geometry. -/
theorem findCapture_spec {p : Position} {b : Proofs.Board} (h : Rep p b) (side : Color) {sq : Nat} (hsq : sq < 64)
    (pl : Placement) :
    pl ∈ findCapture p side sq ↔
      pl.color = side ∧ b pl.square = some (side, pl.piece) ∧
      ((pl.piece = .pawn ∧ sq ∈ Spec.pawnTargets (absColor side) pl.square) ∨
       (pl.piece ≠ .pawn ∧ sq ∈ Spec.officerTargets (fun x => (b x).isSome) (kindOf pl.piece) pl.square)) :=
  mem_findCapture h side hsq pl

theorem findCapture_nodup {p : Position} {b : Proofs.Board} (h : Rep p b) (side : Color) (sq : Nat) :
    (findCapture p side sq).Nodup :=
  Bernstein.findCapture_nodup h side sq

theorem findCapture_nil_iff {p : Position} {b : Proofs.Board} (h : Rep p b) (turn side : Color) {sq : Nat} (hsq : sq < 64) :
    findCapture p side sq = [] ↔ Spec.attackedBy (abs p turn) (absColor side) sq = false := by
  have := findCapture_eq_nil_iff h side.opp hsq
  rw [Color.opp_opp] at this
  rw [this, Gen.isAttacked_eq h turn side.opp hsq, Color.opp_opp]

/-- `IsSafe(pos, side, piece, sq)`: the square is not attacked by the opponent, or it is defended by `side`
    and no attacking piece has a smaller nominal value than `piece`. -/
theorem isSafe_spec {p : Position} {b : Proofs.Board} (h : Rep p b) (turn side : Color) (piece : Piece) {sq : Nat} (hsq : sq < 64) :
    isSafe p side piece sq = true ↔
      Spec.attackedBy (abs p turn) (absColor side.opp) sq = false ∨
      (Spec.attackedBy (abs p turn) (absColor side) sq = true ∧
        ∀ s k, b s = some (side.opp, k) →
          ((k = .pawn ∧ sq ∈ Spec.pawnTargets (absColor side.opp) s) ∨
           (k ≠ .pawn ∧ sq ∈ Spec.officerTargets (fun x => (b x).isSome) (kindOf k) s)) →
          nominalValue piece ≤ nominalValue k) := by
  have hdef : p.isDefended side sq = Spec.attackedBy (abs p turn) (absColor side) sq := by
    unfold Position.isDefended
    rw [Gen.isAttacked_eq h turn side.opp hsq]
    cases side <;> rfl
  rw [isSafe_iff, findCapture_nil_iff h turn side.opp hsq, hdef]
  apply or_congr Iff.rfl
  apply and_congr Iff.rfl
  constructor
  · intro hall s k hb hk
    exact hall ⟨k, side.opp, s⟩ ((mem_findCapture h side.opp hsq _).mpr ⟨rfl, hb, hk⟩)
  · intro hall pl hpl
    obtain ⟨_, hb, hk⟩ := (mem_findCapture h side.opp hsq pl).mp hpl
    exact hall pl.square pl.piece hb hk

/-- Instances in "Kiwipete": e8 (59) is covered by Black's queen e7, rooks h8 and a8, knight f6 — listed in `FindCapture`'s
    kind order and sorted by value with the two rooks in square order. The knight on e5 (35) is attacked by nothing, hence safe;
    the pawn on d5 (36) is attacked by e6, b6, f6 and defended: safe (a pawn for a pawn); a queen there would not be. -/
example : (findCapture kiwiPos .black 59).map (fun pl => (pl.piece, pl.square)) =
      [(.queen, 51), (.rook, 56), (.rook, 63), (.knight, 42)] ∧
    (sortByNominalValue (findCapture kiwiPos .black 59)).map (fun pl => (pl.piece, pl.square)) =
      [(.knight, 42), (.rook, 56), (.rook, 63), (.queen, 51)] := by
  rw [kiwi_facts.2.2.1]
  decide +kernel

example : isSafe kiwiPos .white .knight 35 = true ∧ isSafe kiwiPos .white .pawn 36 = true ∧
    isSafe kiwiPos .white .queen 36 = false := kiwi_facts.2.2.2

/-- Instantiating `findCapture_spec`: the reference geometry says the knight f6 (42) attacks e8 (59) in "Kiwipete". -/
example : (59 : Nat) ∈ Spec.officerTargets (fun x => (kiwiPos.square x).isSome) .knight 42 := by
  have h := (findCapture_spec kiwiPos_rep .black (sq := 59) (by decide) ⟨.knight, .black, 42⟩).mp
    (by rw [kiwi_facts.2.2.1]; decide)
  rcases h.2.2 with h | h
  · exact absurd h.1 (by decide)
  · exact h.2

/-! Colour-blindness. `mirrorBoard b` is the colour-swapped, rank-reversed mailbox board (`Props/C20`); `p` represents `b`, `q` represents `mirrorBoard b`. -/

theorem attack_queries_mirror {p q : Position} {b : Proofs.Board} (hp : Rep p b) (hq : Rep q (mirrorBoard b)) (c : Color)
    {sq : Nat} (hsq : sq < 64) :
    q.isAttacked c.opp (Spec.mirrorSq sq) = p.isAttacked c sq ∧
    q.isDefended c.opp (Spec.mirrorSq sq) = p.isDefended c sq ∧
    isDefendedBy q c.opp (Spec.mirrorSq sq) qrnbpPieces = isDefendedBy p c sq qrnbpPieces ∧
    q.isEmpty (Spec.mirrorSq sq) = p.isEmpty sq :=
  ⟨isAttacked_mirror hp hq c hsq, isDefended_mirror hp hq c hsq, isDefendedBy_mirror hp hq c hsq, isEmpty_mirror hp hq hsq⟩

/-- `KingDefense` needs at most one king of the colour: with two, `KingSquare` takes the lowest-numbered one, which the mirror
    changes. `Mobility` (below) needs `WF`: it goes through C01 and the mirror symmetry of the rules. -/
theorem terms_mirror {p q : Position} {b : Proofs.Board} (hp : Rep p b) (hq : Rep q (mirrorBoard b)) (c : Color) :
    Bernstein.control q c.opp = Bernstein.control p c ∧ material q c.opp = material p c ∧
    ((∀ s1 s2, b s1 = some (c, Piece.king) → b s2 = some (c, Piece.king) → s1 = s2) →
      kingDefense q c.opp = kingDefense p c) :=
  ⟨control_mirror hp hq c, material_mirror hp hq c, fun hu => kingDefense_mirror hp hq hu⟩

theorem mobility_mirror {p q : Position} {c : Color} (hp : WF p c) (hq : WF q c.opp)
    (habs : abs q c.opp = Spec.mirror (abs p c)) : mobility q c.opp = mobility p c :=
  Bernstein.mobility_mirror hp hq habs

/-- `Evaluate` is colour-blind, for every factor, including the panic case. -/
theorem evaluate_mirror {p q : Position} {c : Color} (hp : WF p c) (hq : WF q c.opp)
    (habs : abs q c.opp = Spec.mirror (abs p c)) (factor : Int) :
    evaluate q factor c.opp = evaluate p factor c :=
  Bernstein.evaluate_mirror hp hq habs factor

/-- What `Mobility(pos, opponent)` counts (every position, either colour `d`): the legal moves `d` has with
    the en-passant target cleared, plus the generated en-passant captures of `d`'s pawns that `Position.Move` accepts. On a `WF`
    position with a target (`opponent_mobility_phantoms`) the latter are exactly one phantom capture per pawn of the side that just
    moved attacking the skipped square, if `Position.Move` accepts it. -/
theorem opponent_mobility_split (p : Position) (d : Color) :
    (p.legalMoves d).length = ((clearEp p).legalMoves d).length +
      (((toSquares (p.pieces d .pawn)).flatMap (epPart p d)).filter fun m => (p.move m).isSome).length :=
  legalMoves_length_split p d

theorem opponent_mobility_phantoms {p : Position} {c : Color} (hw : WF p c) (h0 : p.enpassant ≠ 0) :
    mobility p c.opp = mobility (clearEp p) c.opp +
      ((toSquares (p.pieces c.opp .pawn)).countP fun fr =>
        decide (p.enpassant ∈ Spec.pawnTargets (absColor c.opp) fr) &&
          (p.move { ty := .enPassant, «from» := fr, to := p.enpassant, piece := .pawn }).isSome : Nat) := by
  obtain ⟨hlt, hempty, _, _⟩ := (wfb_of_wfc hw.1 hw.2).ep_ok h0
  unfold mobility
  rw [legalMoves_length_split, phantoms_length hw.1 c.opp h0 hlt hempty]
  rfl

/-- In `phantomPos` the split is 7 + 1. -/
example : mobility (clearEp phantomPos) .black = 7 ∧ phantomCount phantomPos .black = 1 := by decide +kernel

/-- The score of the side NOT to move is colour-blind too, en-passant target or not: the phantom captures of the mirror image are the
    mirror images of the phantom captures, and the legality test `Position.Move` applies to them — on a position that represents no
    board — gives the same answer (`Proofs/TuroMirrorPos.lean`: a bit-level mirror relation that `Position.Move` respects). -/
theorem mobility_mirror_opp {p q : Position} {c : Color} (hp : WF p c) (hq : WF q c.opp)
    (habs : abs q c.opp = Spec.mirror (abs p c)) : mobility q c = mobility p c.opp :=
  Bernstein.mobility_mirror_opp hp hq habs

theorem evaluate_mirror_opp {p q : Position} {c : Color} (hp : WF p c) (hq : WF q c.opp)
    (habs : abs q c.opp = Spec.mirror (abs p c)) (factor : Int) :
    evaluate q factor c = evaluate p factor c.opp :=
  Bernstein.evaluate_mirror_opp hp hq habs factor

/-- `Eval.Evaluate` is colour-blind: the engine returns the same float32 for the mirror image (or panics in both), with or without
    an en-passant target. -/
theorem eval_mirror {p q : Position} {c : Color} (hp : WF p c) (hq : WF q c.opp)
    (habs : abs q c.opp = Spec.mirror (abs p c)) (factor : Int) :
    evalEvaluate q factor c.opp = evalEvaluate p factor c :=
  evalEvaluate_mirror_full hp hq habs factor

/-- `exPos` / `exPosB` have an en-passant target (d6 / d3). -/
example (factor : Int) : evalEvaluate exPosB factor .black = evalEvaluate exPos factor .white :=
  eval_mirror (c := .white) exPos_wf.1 exPos_wf.2 C20.exPosB_is_mirror factor

/-- The case of `eval_mirror` without an en-passant target (both positions `WF` for both colours). -/
theorem eval_mirror_partial {p q : Position} {c : Color} (hp : WF p c) (hq : WF q c.opp) (hp' : WF p c.opp) (hq' : WF q c)
    (habs : abs q c.opp = Spec.mirror (abs p c)) (habs' : abs q c = Spec.mirror (abs p c.opp)) (factor : Int) :
    evalEvaluate q factor c.opp = evalEvaluate p factor c :=
  eval_mirror hp hq habs factor

/-- The side to move's own score is colour-blind also with an en-passant target: `exPos` (White to move, target d6) and `exPosB`. -/
example (factor : Int) : evaluate exPosB factor .black = evaluate exPos factor .white :=
  evaluate_mirror (c := .white) exPos_wf.1 exPos_wf.2 C20.exPosB_is_mirror factor

/-- "Kiwipete" and its colour-swapped mirror image (`R3K2R/PPPBBPPP/2N2Q1p/1p2P3/3PN3/bn2pnp1/p1ppqpb1/r3k2r b KQkq -` with the colours
    exchanged): all hypotheses of `eval_mirror_partial` hold, so the engine's evaluation of the two is the same float32. -/
def kiwiPlB : List (Nat × Color × Piece) := kiwiPl.map fun x => (Spec.mirrorSq x.1, x.2.1.opp, x.2.2)
def kiwiPosB : Position := (Position.newPosition kiwiPlB 15 0).getD {}

theorem kiwiPosB_eq : Position.newPosition kiwiPlB 15 0 = some kiwiPosB := by decide +kernel

theorem kiwiPosB_rep : Rep kiwiPosB kiwiPosB.square :=
  (newPosition_rep (validPlacements_of_all (by decide +kernel)) kiwiPosB_eq).1.self

theorem kiwiPosB_wf : WF kiwiPosB .white ∧ WF kiwiPosB .black :=
  ⟨⟨kiwiPosB_rep, by decide +kernel⟩, ⟨kiwiPosB_rep, by decide +kernel⟩⟩

theorem kiwiPosB_is_mirror : abs kiwiPosB .black = Spec.mirror (abs kiwiPos .white) ∧
    abs kiwiPosB .white = Spec.mirror (abs kiwiPos .black) := by decide +kernel

example (factor : Int) : evalEvaluate kiwiPosB factor .black = evalEvaluate kiwiPos factor .white :=
  eval_mirror_partial (c := .white) kiwiPos_wf.1 kiwiPosB_wf.2 kiwiPos_wf.2 kiwiPosB_wf.1 kiwiPosB_is_mirror.1 kiwiPosB_is_mirror.2 factor

example : evaluate kiwiPosB 8 .black = some 381 ∧ evaluate kiwiPosB 8 .white = some 375 :=
  ⟨(evaluate_mirror (c := .white) kiwiPos_wf.1 kiwiPosB_wf.2 kiwiPosB_is_mirror.1 8).trans (kiwi_scores 8).1,
   (evaluate_mirror (c := .black) kiwiPos_wf.2 kiwiPosB_wf.1 kiwiPosB_is_mirror.2 8).trans (kiwi_scores 8).2⟩

/-! Observations on record (kernel-checked; not violations of a stated property). -/

/-- `8/P7/1n6/7k/8/8/8/R3K3 w`: a7-a8=Q onto a square attacked by the knight b6 and defended by the rook a1. -/
def obsPromoPos : Position :=
  (Position.newPosition [(3, .white, .king), (7, .white, .rook), (55, .white, .pawn), (46, .black, .knight), (32, .black, .king)] 0 0).getD {}
def obsPromoMove : Move := { ty := .promotion, «from» := 55, to := 63, piece := .pawn, promotion := .queen }

/-- `IsMoveSafe` passes `move.Piece` (the pawn, value 1) to `IsSafe`, not the piece that
    stands on the square afterwards: the promotion a7-a8=Q, which loses the new queen for a knight, is "safe" (an attacker worth 3 ≥ 1 and
    the square is defended), although `IsSafe` of the queen on a8 in the resulting position is false. (`gain` ranks every promotion 23
    anyway, so the plausible list starts with it.) -/
theorem obs_isMoveSafe_promotion_judged_as_pawn :
    obsPromoMove ∈ obsPromoPos.legalMoves .white ∧
    isMoveSafe obsPromoPos .white obsPromoMove = true ∧
    (obsPromoPos.move obsPromoMove).map (fun next => isSafe next .white .queen 63) = some false ∧
    (obsPromoPos.move obsPromoMove).map (fun next => isSafe next .white .pawn 63) = some true ∧
    (findPlausibleMoves obsPromoPos .white).head? = some obsPromoMove := by
  decide +kernel

/-- For White `TA1` is the square number (`8·rank + file`, h-file = 0); for Black it is `72 − sq`
    (`(8−rank)·8 + (8−file)`): the *point reflection* `63 − sq` plus 9, not the colour mirror `8·(7−rank) + file`. -/
theorem obs_ta1_black_is_72_minus_sq (m : Move) (h : m.to < 64) :
    ta1 .white m = (m.to : Int) ∧ ta1 .black m = 72 - (m.to : Int) ∧
    ta1 .black m = ta1 .white { to := 63 - m.to } + 9 := by
  simp only [ta1, sqRank_eq, sqFile_eq]
  omega

/-- Consequence: the *order* of the plausible moves (hence the table cut at `limit`) is not
    colour-blind — Black scans the files the other way round. Initial position: White's first four plausible moves go to a3, c3, f3, h3
    (23, 21, 18, 16); Black's, were it to move, to h6, f6, c6, a6 (40, 42, 45, 47) — the mirror images of White's would be a6, c6, f6, h6. -/
theorem obs_plausible_order_not_colour_blind :
    ((findPlausibleMoves startPos .white).map (·.to)).take 4 = [23, 21, 18, 16] ∧
    ((findPlausibleMoves startPos .black).map (·.to)).take 4 = [40, 42, 45, 47] ∧
    [23, 21, 18, 16].map Spec.mirrorSq = [47, 45, 42, 40] := by
  refine ⟨?_, by decide +kernel, by decide⟩
  have h := congrArg (List.map Prod.snd) startPos_white.2.1
  rw [List.map_map] at h
  exact congrArg (List.take 4) h

end Morlock.Props.C20Bernstein
