import Morlock.Proofs.FltLemmas
/-!
# The floating-point model `Model/Flt.lean` is IEEE-754 round-to-nearest-even on finite values

Headline statements (proofs in `Proofs/Flt*.lean`, core Lean only).  All statements are free of a "real value"
function: rationals are compared by cross-multiplication (`Q.Le x y : x.num * y.den ≤ y.num * x.den`,
`Q.Eqv x y : x.num * y.den = y.num * x.den`; `Q.le_iff`, `Q.beq_iff` relate them to the model's `Q.le`, `Q.beq`), and
`2^e` for an integer `e` is the fraction `pn e / pd e`.  `f.WF` : `1 ≤ p ∧ emin + (p−1) ≤ emax`;
`f.IEEE` : additionally `emax = 2^(ebits−1) − 1`, `emin = 2 − p − emax`.  Both hold for `f32` and `f64`.
-/
namespace Morlock.Props.Flt
open Morlock.Model.Flt

/-- If `rndPos f a b = some (m, e)` then `(m, e)` is a normalised pair of the format (`m < 2^p`, `emin ≤ e`,
`e + p − 1 ≤ emax`, `2^(p−1) ≤ m ∨ e = emin`), `|a/b − m·2^e| ≤ 2^e/2`
(`HalfUlp a b m e : 2m·(b·2^e) ≤ 2a + b·2^e ∧ 2a ≤ 2m·(b·2^e) + b·2^e`, fractions cleared), and in case of equality `m` is even. -/
theorem rndPos_spec (f : Fmt) (wf : f.WF) {a b m : Nat} {e : Int} (ha : 0 < a) (hb : 0 < b)
    (h : rndPos f a b = some (m, e)) :
    m < 2 ^ f.p ∧ f.emin ≤ e ∧ e + ((f.p : Int) - 1) ≤ f.emax ∧ (2 ^ (f.p - 1) ≤ m ∨ e = f.emin) ∧
    HalfUlp a b m e ∧ (IsTie a b m e → m % 2 = 0) :=
  Morlock.Model.Flt.rndPos_spec f wf.p_pos ha hb h

/-- 1/10 in float32: significand `0xCCCCCD`, exponent `−27`; 2^24+1 is a tie and goes to the even significand -/
example : rndPos f32 1 10 = some (13421773, -27) := by decide +kernel
example : rndPos f32 (2 ^ 24 + 1) 1 = some (2 ^ 23, 1) := by decide +kernel
example : IsTie (2 ^ 24 + 1) 1 (2 ^ 23) 1 := by unfold IsTie; decide +kernel
example : rndPos f32 (2 ^ 24 + 3) 1 = some (2 ^ 23 + 2, 1) := by decide +kernel
/-- a subnormal: 3·2^-150 is a tie between 1·2^-149 and 2·2^-149 -/
example : rndPos f32 3 (2 ^ 150) = some (2, -149) := by decide +kernel

/-- **round to nearest**: the result is at least as close to `a/b` as every number `m'·2^e'` of the format
(`m' < 2^p`, `emin ≤ e'`; `e'` is not bounded above, so the comparison includes the numbers beyond the overflow threshold).
`adiff x y = |x − y|` on naturals; the inequality is `|a/b − m·2^e| ≤ |a/b − m'·2^e'|` multiplied by `b·pd e·pd e'`. -/
theorem rndPos_nearest (f : Fmt) (wf : f.WF) {a b m : Nat} {e : Int} (ha : 0 < a) (hb : 0 < b)
    (h : rndPos f a b = some (m, e)) (m' : Nat) (e' : Int) (hm' : m' < 2 ^ f.p) (he' : f.emin ≤ e') :
    adiff (a * pd e) (m * b * pn e) * pd e' ≤ adiff (a * pd e') (m' * b * pn e') * pd e :=
  Morlock.Model.Flt.rndPos_nearest f wf.p_pos ha hb h m' e' hm' he'

/-- 1/10: the result `0xCCCCCD·2^-27` is 2 units (of `2^-27/10`) away, its float32 neighbours 8 and 12 units -/
example : adiff (1 * pd (-27)) (13421773 * 10 * pn (-27)) = 2 ∧ adiff (1 * pd (-27)) (13421772 * 10 * pn (-27)) = 8 ∧
    adiff (1 * pd (-27)) (13421774 * 10 * pn (-27)) = 12 := by decide +kernel

/-- the result of `rndPos` is determined by the value `a/b` alone -/
theorem rndPos_congr (f : Fmt) (wf : f.WF) {a b a' b' : Nat} (ha : 0 < a) (hb : 0 < b) (ha' : 0 < a') (hb' : 0 < b')
    (hr : a * b' = a' * b) : rndPos f a b = rndPos f a' b' :=
  Morlock.Model.Flt.rndPos_congr f wf.p_pos ha hb ha' hb' hr

/-- `rnd` is the unsigned kernel `rndPos` applied to `|x|` with the sign put back; `ofME neg m e` is the
rational `± m·2^e` in lowest terms (`ofME_spec`) -/
theorem rnd_eq_some (f : Fmt) (x y : Q) :
    rnd f x = some y ↔
      (x.num = 0 ∧ y = ⟨0, 1⟩) ∨
      (x.num ≠ 0 ∧ ∃ m e, rndPos f x.num.natAbs x.den = some (m, e) ∧ y = ofME (decide (x.num < 0)) m e) :=
  rnd_eq_some_iff f x y

theorem ofME_value (neg : Bool) (m : Nat) (e : Int) :
    (ofME neg m e).Canon ∧ (ofME neg m e).num.natAbs * pd e = m * pn e * (ofME neg m e).den ∧
    ((ofME neg m e).num < 0 ↔ (neg = true ∧ 0 < m)) ∧ ((ofME neg m e).num = 0 ↔ m = 0) :=
  ofME_spec neg m e

/-- `rndPos_spec` and `rndPos_nearest` as a statement about `rnd`: for `x ≠ 0`, `rnd f x = some y` means that
`y = ± m·2^e` (sign of `x`) for a normalised pair of the format and `|x|` is at least as close to `m·2^e` as to every
number `m'·2^e'` of the format -/
theorem rnd_nearest (f : Fmt) (wf : f.WF) {x y : Q} (hd : 0 < x.den) (h0 : x.num ≠ 0) (h : rnd f x = some y) :
    ∃ m e, y = ofME (decide (x.num < 0)) m e ∧
      y.Canon ∧ y.num.natAbs * pd e = m * pn e * y.den ∧ (y.num < 0 ↔ (x.num < 0 ∧ 0 < m)) ∧
      m < 2 ^ f.p ∧ f.emin ≤ e ∧ e + ((f.p : Int) - 1) ≤ f.emax ∧ (2 ^ (f.p - 1) ≤ m ∨ e = f.emin) ∧
      ∀ (m' : Nat) (e' : Int), m' < 2 ^ f.p → f.emin ≤ e' →
        adiff (x.num.natAbs * pd e) (m * x.den * pn e) * pd e' ≤
          adiff (x.num.natAbs * pd e') (m' * x.den * pn e') * pd e :=
  Morlock.Model.Flt.rnd_nearest f wf.p_pos hd h0 h

example : rnd f32 ⟨-1, 10⟩ = some (ofME true 13421773 (-27)) := by rfl

/-- no overflow up to `2^emax`: `|x| ≤ 2^emax → (rnd f x).isSome`, fractions cleared -/
theorem rnd_isSome_of_le (f : Fmt) (wf : f.WF) (x : Q) (hd : 0 < x.den)
    (h : x.num.natAbs * pd f.emax ≤ x.den * pn f.emax) : (rnd f x).isSome :=
  Morlock.Model.Flt.rnd_isSome_of_le f wf x hd h

/-- the sharp form: up to the largest finite value `(2^p − 1)·2^(emax−p+1)` -/
theorem rnd_isSome_of_le_max (f : Fmt) (wf : f.WF) (x : Q) (hd : 0 < x.den)
    (h : x.num.natAbs * pd (f.emax - ((f.p : Int) - 1)) ≤ (2 ^ f.p - 1) * x.den * pn (f.emax - ((f.p : Int) - 1))) :
    (rnd f x).isSome :=
  Morlock.Model.Flt.rnd_isSome_of_le_max f wf x hd h

theorem rnd32_isSome_of_le (x : Q) (hd : 0 < x.den) (h : x.num.natAbs ≤ 2 ^ 127 * x.den) : (rnd f32 x).isSome :=
  Morlock.Model.Flt.rnd32_isSome_of_le x hd h

/-- the largest finite float32 is kept; the first value that overflows is the midpoint to `2^128` -/
example : rnd f32 ⟨(2 ^ 24 - 1) * 2 ^ 104, 1⟩ = some ⟨(2 ^ 24 - 1) * 2 ^ 104, 1⟩ := by rfl
example : rnd f32 ⟨(2 ^ 25 - 1) * 2 ^ 103 - 1, 1⟩ = some ⟨(2 ^ 24 - 1) * 2 ^ 104, 1⟩ := by rfl
example : rnd f32 ⟨(2 ^ 25 - 1) * 2 ^ 103, 1⟩ = none := by rfl

/-- **the overflow threshold, exactly**: `rnd f x = none ↔ |x| ≥ (2^p − 1/2)·2^(emax−p+1)`, the midpoint between the largest
finite value and `2^(emax+1)` (the midpoint is a tie and goes to the even significand `2^p`, i.e. it overflows).
With `E = emax − (p−1)`: `(2^(p+1) − 1)·2^E ≤ 2·|x|`, fractions cleared. -/
theorem rnd_eq_none_iff (f : Fmt) (wf : f.WF) (x : Q) (hd : 0 < x.den) :
    rnd f x = none ↔
      (2 ^ (f.p + 1) - 1) * x.den * pn (f.emax - ((f.p : Int) - 1)) ≤
        2 * x.num.natAbs * pd (f.emax - ((f.p : Int) - 1)) :=
  Morlock.Model.Flt.rnd_eq_none_iff f wf x hd

/-- float32: overflow iff `|x| ≥ (2^25 − 1)·2^103 = (2^24 − 1/2)·2^104` -/
theorem rnd32_eq_none_iff (x : Q) (hd : 0 < x.den) :
    rnd f32 x = none ↔ (2 ^ 25 - 1) * 2 ^ 103 * x.den ≤ x.num.natAbs :=
  Morlock.Model.Flt.rnd32_eq_none_iff x hd
set_option exponentiation.threshold 2048 in
/-- float64: overflow iff `|x| ≥ (2^54 − 1)·2^970` -/
theorem rnd64_eq_none_iff (x : Q) (hd : 0 < x.den) :
    rnd f64 x = none ↔ (2 ^ 54 - 1) * 2 ^ 970 * x.den ≤ x.num.natAbs :=
  Morlock.Model.Flt.rnd64_eq_none_iff x hd

example : rnd f32 ⟨(2 ^ 25 - 1) * 2 ^ 103, 1⟩ = none :=
  (rnd32_eq_none_iff _ (by decide)).mpr (by decide +kernel)
example : (rnd f32 ⟨2 * (2 ^ 25 - 1) * 2 ^ 103 - 1, 2⟩).isSome := by
  rw [Option.isSome_iff_ne_none]; intro h
  exact absurd ((rnd32_eq_none_iff _ (by decide)).mp h) (by decide +kernel)

/-- a number of the format (`Rep f x`: `|x| = m·2^e` with `m < 2^p`, `emin ≤ e`, `e + p − 1 ≤ emax`) rounds to itself -/
theorem rnd_exact (f : Fmt) (wf : f.WF) {x : Q} (hd : 0 < x.den) (hr : Rep f x) :
    ∃ y, rnd f x = some y ∧ Q.beq y x = true ∧ y.Canon := by
  obtain ⟨y, h1, h2, h3⟩ := Morlock.Model.Flt.rnd_exact f wf hd hr
  exact ⟨y, h1, (Q.beq_iff y x).mpr h2, h3⟩

/-- syntactically: the result of rounding a number of the format is `x` in lowest terms; `x` itself if it is in lowest terms already -/
theorem rnd_exact_norm (f : Fmt) (wf : f.WF) {x : Q} (hd : 0 < x.den) (hr : Rep f x) : rnd f x = some (Q.norm x) :=
  Morlock.Model.Flt.rnd_exact_norm f wf hd hr
theorem rnd_exact_canon (f : Fmt) (wf : f.WF) {x : Q} (hc : x.Canon) (hr : Rep f x) : rnd f x = some x :=
  Morlock.Model.Flt.rnd_exact_canon f wf hc hr

/-- conversely every result of `rnd` is a number of the format, in lowest terms -/
theorem rnd_rep (f : Fmt) (wf : f.WF) {x y : Q} (hd : 0 < x.den) (h : rnd f x = some y) : Rep f y ∧ y.Canon :=
  ⟨Morlock.Model.Flt.rnd_rep f wf hd h, Morlock.Model.Flt.rnd_canon f h⟩

theorem rnd_int (n : Int) (h : n.natAbs ≤ 2 ^ 24) : rnd f32 (Q.ofInt n) = some (Q.ofInt n) := rnd32_int n h
theorem rnd_half (n : Int) (h : n.natAbs ≤ 2 ^ 24) : rnd f32 (Q.halves n) = some (Q.norm (Q.halves n)) := rnd32_half n h

example : rnd f32 (Q.halves 7) = some ⟨7, 2⟩ := rnd_half 7 (by decide)        -- 3.5
example : rnd f32 (Q.ofInt (-16777216)) = some ⟨-16777216, 1⟩ := rnd_int _ (by decide)
example : Rep f32 ⟨1, 2 ^ 149⟩ := ⟨1, -149, by decide, by decide, by decide, by decide +kernel⟩  -- smallest subnormal
example : rnd f32 ⟨1, 2 ^ 149⟩ = some ⟨1, 2 ^ 149⟩ := by rfl
/-- 2^24 + 1 is not a float32 -/
example : rnd f32 ⟨16777217, 1⟩ = some ⟨16777216, 1⟩ := by rfl

/-- rounding depends on the value only, not on the fraction that represents it -/
theorem rnd_congr (f : Fmt) (wf : f.WF) {x y : Q} (hx : 0 < x.den) (hy : 0 < y.den) (h : Q.beq x y = true) :
    rnd f x = rnd f y :=
  Morlock.Model.Flt.rnd_congr f wf hx hy ((Q.beq_iff x y).mp h)

theorem rnd_neg (f : Fmt) (x : Q) : rnd f (Q.neg x) = (rnd f x).map Q.neg := Morlock.Model.Flt.rnd_neg f x
theorem rnd_zero (f : Fmt) (d : Nat) : rnd f ⟨0, d⟩ = some ⟨0, 1⟩ := Morlock.Model.Flt.rnd_zero f d

example : rnd f32 ⟨-1, 3⟩ = some ⟨-11184811, 33554432⟩ := by rfl
example : rnd f32 ⟨1, 3⟩ = some ⟨11184811, 33554432⟩ := by rfl

theorem rnd_mono (f : Fmt) (wf : f.WF) {x y x' y' : Q} (hx : 0 < x.den) (hy : 0 < y.den)
    (hle : Q.le x y = true) (h : rnd f x = some x') (h' : rnd f y = some y') : Q.le x' y' = true :=
  (Q.le_iff x' y').mpr (Morlock.Model.Flt.rnd_mono f wf hx hy ((Q.le_iff x y).mp hle) h h')

theorem rnd_sign (f : Fmt) {x y : Q} (h : rnd f x = some y) : (0 ≤ x.num → 0 ≤ y.num) ∧ (x.num ≤ 0 → y.num ≤ 0) :=
  Morlock.Model.Flt.rnd_sign f h

/-- `−B ≤ x ≤ B` with `B` a number of the format ⟹ `rnd f x` is finite and `−B ≤ rnd f x ≤ B` -/
theorem rnd_abs_le (f : Fmt) (wf : f.WF) {x B : Q} (hx : 0 < x.den) (hB : 0 < B.den) (hrep : Rep f B)
    (hlo : Q.le B.neg x = true) (hhi : Q.le x B = true) :
    ∃ x', rnd f x = some x' ∧ Q.le B.neg x' = true ∧ Q.le x' B = true := by
  obtain ⟨x', h1, h2, h3⟩ := Morlock.Model.Flt.rnd_abs_le f wf hx hB hrep ((Q.le_iff _ _).mp hlo) ((Q.le_iff _ _).mp hhi)
  exact ⟨x', h1, (Q.le_iff _ _).mpr h2, (Q.le_iff _ _).mpr h3⟩

/-- the form used for totality of the evaluators: a natural bound `|x| ≤ B ≤ 2^24` survives a float32 rounding -/
theorem rnd32_absLe {x x' : Q} {B : Nat} (hd : 0 < x.den) (hb : x.AbsLe B) (hB : B ≤ 2 ^ 24) (h : rnd f32 x = some x') :
    x'.AbsLe B :=
  rnd_absLe f32 f32_wf (by decide) (by decide) hd hb hB h

/-- if `B` does not overflow then no `x` with `|x| ≤ |B|` does -/
theorem rnd_isSome_of_abs_le (f : Fmt) (wf : f.WF) {x B : Q} (hx : 0 < x.den) (hB : 0 < B.den)
    (hle : x.num.natAbs * B.den ≤ B.num.natAbs * x.den) (h : (rnd f B).isSome) : (rnd f x).isSome :=
  Morlock.Model.Flt.rnd_isSome_of_abs_le f wf hx hB hle h

example : ∃ x', rnd f32 ⟨1, 3⟩ = some x' ∧ Q.le (Q.neg (Q.halves 1)) x' = true ∧ Q.le x' (Q.halves 1) = true :=
  rnd_abs_le f32 f32_wf (by decide) (by decide) ⟨1, -1, by decide, by decide, by decide, by decide⟩ (by decide) (by decide)

/-- decoding the bit pattern computed for `x` gives `rnd f x` (overflow ↦ `none` on both sides) -/
theorem bits_ofBits (f : Fmt) (ieee : f.IEEE) (x : Q) (hd : 0 < x.den) : (bits f x).bind (ofBits f) = rnd f x :=
  ofBits_bits f ieee x hd

/-- comparing bit patterns compares values: on numbers of the format, `bits` is injective up to `Q.beq` … -/
theorem bits_inj (f : Fmt) (ieee : f.IEEE) {x y : Q} (hx : 0 < x.den) (hy : 0 < y.den) (rx : Rep f x) (ry : Rep f y)
    (h : bits f x = bits f y) : Q.beq x y = true :=
  (Q.beq_iff x y).mpr (Morlock.Model.Flt.bits_inj f ieee hx hy rx ry h)

/-- … and equal values have equal patterns -/
theorem bits_congr (f : Fmt) (wf : f.WF) {x y : Q} (hx : 0 < x.den) (hy : 0 < y.den) (h : Q.beq x y = true) :
    bits f x = bits f y :=
  Morlock.Model.Flt.bits_congr f wf hx hy ((Q.beq_iff x y).mp h)

/-- the pattern of the rounded value is the pattern computed from `x` (what the driver prints is `bits32` of a value
that has been rounded already); no side condition: a value that rounds to zero has pattern `0` whatever its sign -/
theorem bits_rnd (f : Fmt) (wf : f.WF) {x y : Q} (hd : 0 < x.den) (h : rnd f x = some y) : bits f y = bits f x :=
  Morlock.Model.Flt.bits_rnd f wf hd h

example : bits32 ⟨1, 10⟩ = some 0x3DCCCCCD := by decide +kernel
example : bits32 ⟨1, 3⟩ = some 0x3EAAAAAB := by decide +kernel
example : bits32 ⟨7, 2⟩ = some 0x40600000 := by decide +kernel
example : bits32 ⟨(2 ^ 24 - 1) * 2 ^ 104, 1⟩ = some 0x7F7FFFFF := by decide +kernel
example : bits32 ⟨1, 2 ^ 149⟩ = some 1 := by decide +kernel
example : ofBits f32 0x3DCCCCCD = rnd f32 ⟨1, 10⟩ := by rfl
/-- a negative value that underflows to zero: pattern `0` (not the sign bit), as for its rounding -/
example : bits32 ⟨-1, 2 ^ 151⟩ = some 0 ∧ (rnd f32 ⟨-1, 2 ^ 151⟩).bind bits32 = some 0 := by decide +kernel
example : bits32 ⟨-1, 2 ^ 149⟩ = some 0x80000001 := by decide +kernel

/-- no overflow up to `2^emax`: `y ≠ 0 → |x / y| ≤ 2^emax → (div f x y).isSome`, fractions cleared -/
theorem div_isSome (f : Fmt) (wf : f.WF) {x y : Q} (hx : 0 < x.den) (hy0 : y.num ≠ 0)
    (h : x.num.natAbs * y.den * pd f.emax ≤ x.den * y.num.natAbs * pn f.emax) : (div f x y).isSome :=
  Morlock.Model.Flt.div_isSome f wf hx hy0 h

example : (div f32 ⟨1, 1⟩ ⟨3, 1⟩).isSome := div_isSome f32 f32_wf (by decide) (by decide) (by decide +kernel)
example : div f32 ⟨1, 1⟩ ⟨3, 1⟩ = some ⟨11184811, 33554432⟩ := by rfl

/-- the operations are total on bounded operands (natural bounds, `Q.AbsLe x A : |x| ≤ A`) -/
theorem add32_isSome {x y : Q} {A B : Nat} (hx : 0 < x.den) (hy : 0 < y.den) (ha : x.AbsLe A) (hb : y.AbsLe B)
    (hAB : A + B ≤ 2 ^ 127) : (add f32 x y).isSome :=
  add_isSome f32 f32_wf (by decide) hx hy ha hb hAB
theorem sub32_isSome {x y : Q} {A B : Nat} (hx : 0 < x.den) (hy : 0 < y.den) (ha : x.AbsLe A) (hb : y.AbsLe B)
    (hAB : A + B ≤ 2 ^ 127) : (sub f32 x y).isSome :=
  sub_isSome f32 f32_wf (by decide) hx hy ha hb hAB
theorem mul32_isSome {x y : Q} {A B : Nat} (hx : 0 < x.den) (hy : 0 < y.den) (ha : x.AbsLe A) (hb : y.AbsLe B)
    (hAB : A * B ≤ 2 ^ 127) : (mul f32 x y).isSome :=
  mul_isSome f32 f32_wf (by decide) hx hy ha hb hAB

/-- `sqrtPos` returns the correctly rounded root: a normalised pair of the format with `|√(a/b) − m·2^e| ≤ 2^e/2`,
stated with squares (`SqrtHalfUlp a b m e : (m = 0 ∨ (2m−1)²·b·4^e ≤ 4a) ∧ 4a ≤ (2m+1)²·b·4^e`, fractions cleared),
ties to even -/
theorem sqrt_spec (f : Fmt) (wf : f.WF) {a b m : Nat} {e : Int} (ha : 0 < a) (hb : 0 < b)
    (h : sqrtPos f a b = some (m, e)) :
    m < 2 ^ f.p ∧ f.emin ≤ e ∧ e + ((f.p : Int) - 1) ≤ f.emax ∧ (2 ^ (f.p - 1) ≤ m ∨ e = f.emin) ∧
    SqrtHalfUlp a b m e ∧ (1 ≤ m → SqrtTie a b m e → m % 2 = 0) :=
  sqrtPos_spec f wf.p_pos ha hb h

/-- **`sqrtPos` rounds to nearest** (stronger than `sqrt_spec` at the lower edge of a binade, where the grid is finer
below the result than above; see the examples after it): the returned `m·2^e` is at least as close to `√(a/b)` as every number `m'·2^e'` of the format.
`SqrtCloser a b Vn Vd Wn Wd` says `|√(a/b) − v| ≤ |√(a/b) − w|` for `v = Vn/Vd`, `w = Wn/Wd` without roots:
`(w < v → (v+w)² ≤ 4a/b) ∧ (v < w → 4a/b ≤ (v+w)²)`, denominators cleared:
`(Wn*Vd < Vn*Wd → (Vn*Wd + Wn*Vd)^2 * b ≤ 4*a*(Vd*Wd)^2) ∧ (Vn*Wd < Wn*Vd → 4*a*(Vd*Wd)^2 ≤ (Vn*Wd + Wn*Vd)^2 * b)`. -/
theorem sqrtPos_nearest (f : Fmt) (wf : f.WF) {a b m : Nat} {e : Int} (ha : 0 < a) (hb : 0 < b)
    (h : sqrtPos f a b = some (m, e)) (m' : Nat) (e' : Int) (hm' : m' < 2 ^ f.p) (he' : f.emin ≤ e') :
    SqrtCloser a b (m * pn e) (pd e) (m' * pn e') (pd e') :=
  Morlock.Model.Flt.sqrtPos_nearest f wf.p_pos ha hb h m' e' hm' he'

/-- `sqrt_spec` alone does not determine the result.  Take `a/b = ((5·2^24 − 3)/(5·2^23))²`, `√(a/b) = 2 − 0.6·2^-23`.  The model returns
`(2^24 − 1)·2^-23` (0.4 ulp away).  The pair `(2^23, −22)` (= 2, 0.6 of the small ulp away) satisfies every conjunct of
`sqrt_spec` but is rejected by `sqrtPos_nearest`: it is not closer than the format number `(2^24 − 1)·2^-23`. -/
example : sqrtPos f32 ((5 * 2 ^ 24 - 3) ^ 2) (25 * 2 ^ 46) = some (16777215, -23) := by decide +kernel
example : SqrtHalfUlp ((5 * 2 ^ 24 - 3) ^ 2) (25 * 2 ^ 46) (2 ^ 23) (-22) := by unfold SqrtHalfUlp; decide +kernel
example : ¬ SqrtCloser ((5 * 2 ^ 24 - 3) ^ 2) (25 * 2 ^ 46) (2 ^ 23 * pn (-22)) (pd (-22)) (16777215 * pn (-23)) (pd (-23)) := by
  unfold SqrtCloser; decide +kernel
example : SqrtCloser ((5 * 2 ^ 24 - 3) ^ 2) (25 * 2 ^ 46) (16777215 * pn (-23)) (pd (-23)) (2 ^ 23 * pn (-22)) (pd (-22)) := by
  unfold SqrtCloser; decide +kernel

/-- `sqrt` is defined exactly for `0 ≤ x` (here: up to `4^emax`, which covers every finite number of the format when `1 ≤ emax`, as for `f32` and `f64`) -/
theorem sqrt_isSome (f : Fmt) (wf : f.WF) {x : Q} (hd : 0 < x.den) (h0 : 0 ≤ x.num)
    (h : x.num.toNat * pd (2 * f.emax) ≤ x.den * pn (2 * f.emax)) : (sqrt f x).isSome :=
  Morlock.Model.Flt.sqrt_isSome f wf hd h0 h
theorem sqrt_neg (f : Fmt) {x : Q} (h : x.num < 0) : sqrt f x = none := Morlock.Model.Flt.sqrt_neg f h

theorem sqrt_mono (f : Fmt) (wf : f.WF) {x y x' y' : Q} (hx : 0 < x.den) (hy : 0 < y.den)
    (hle : Q.le x y = true) (h : sqrt f x = some x') (h' : sqrt f y = some y') : Q.le x' y' = true :=
  (Q.le_iff x' y').mpr (Morlock.Model.Flt.sqrt_mono f wf hx hy ((Q.le_iff x y).mp hle) h h')

/-- perfect squares have exact float64 roots (`sqrt_sq_nat`: for any format and `k < 2^p`; `sqrtPos_exact`: for the square of
any number of the format) -/
theorem sqrt_int_exact (k : Nat) (hk : k < 2 ^ 26) : sqrt f64 (Q.ofNat (k * k)) = some (Q.ofNat k) :=
  Morlock.Model.Flt.sqrt_int_exact k hk

example : sqrt f64 (Q.ofNat 49) = some (Q.ofNat 7) := sqrt_int_exact 7 (by decide)

example : sqrtPos f64 2 1 = some (6369051672525773, -52) := by decide +kernel   -- √2 = 0x3FF6A09E667F3BCD
example : (sqrt f64 ⟨9, 4⟩).bind (bits f64) = some 0x3FF8000000000000 := by decide +kernel   -- √2.25 = 1.5
example : sqrt f64 ⟨-1, 1⟩ = none := by rfl

/-! `Q.roundAway`, `Q.floor`, `Q.trunc` model Go's `math.Round`, `math.Floor`, `int(f)`. -/

/-- `|x − round x| ≤ 1/2` -/
theorem roundAway_spec (x : Q) (hd : 0 < x.den) :
    2 * x.roundAway * x.den ≤ 2 * x.num + x.den ∧ 2 * x.num ≤ 2 * x.roundAway * x.den + x.den :=
  Q.roundAway_spec x hd
theorem roundAway_neg (x : Q) : x.neg.roundAway = -x.roundAway := Q.roundAway_neg x
theorem roundAway_ofInt (n : Int) : (Q.ofInt n).roundAway = n := Q.roundAway_ofInt n
/-- `⌊x⌋ ≤ x < ⌊x⌋ + 1` -/
theorem floor_spec (x : Q) (hd : 0 < x.den) : x.floor * x.den ≤ x.num ∧ x.num < (x.floor + 1) * x.den :=
  Q.floor_spec x hd

example : (Q.halves 5).roundAway = 3 ∧ (Q.halves (-5)).roundAway = -3 ∧ (Q.halves (-5)).floor = -3 ∧
    (Q.halves (-5)).trunc = -2 := by decide

end Morlock.Props.Flt
