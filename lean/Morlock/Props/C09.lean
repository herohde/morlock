import Morlock.Spec.Score
/-!
# C09 — search scores form a total order that negation reverses

All theorems are about `Morlock.Model.Score`, the transcription of `pkg/eval/score.go`.
`Valid` describes exactly what the exported constructors can build (`HeuristicScore` over
non-NaN floats, `MateInXScore k` with `k ≠ 0`, `InfScore`, `NegInfScore`).
-/
namespace Morlock.Props.C09
open Morlock Morlock.Model Morlock.Model.Score Morlock.Spec

/-- The order the code implements is exactly the order of `rank`. -/
theorem lt_iff_rank (a b : Score) (ha : Valid a) (hb : Valid b) :
    a.less b = true ↔ rank a < rank b := by
  obtain ⟨ta, ma, pa⟩ := a
  obtain ⟨tb, mb, pb⟩ := b
  cases ta <;> simp [Valid] at ha <;> cases tb <;> simp [Valid] at hb
  case mateInX.mateInX =>
    by_cases h1 : ma < 0 <;> by_cases h2 : mb < 0 <;> simp [less, rank, h1, h2] <;> omega
  all_goals simp [less, rank] <;> omega

/-- The score of a rank: a left inverse of `rank` on valid scores. -/
def unrank (r : Int) : Score :=
  if r = -1099511627776 then negInfScore
  else if r = 1099511627776 then infScore
  else if r < -2147483648 then mateInXScore (-34359738368 - r)
  else if r > 2147483648 then mateInXScore (34359738368 - r)
  else heuristicScore r

theorem unrank_rank (a : Score) (ha : Valid a) : unrank (rank a) = a := by
  obtain ⟨ta, ma, pa⟩ := a
  cases ta <;> simp [Valid] at ha
  · obtain ⟨rfl, h1, h2⟩ := ha
    show unrank pa = _
    unfold unrank
    rw [if_neg (by omega), if_neg (by omega), if_neg (by omega), if_neg (by omega)]; rfl
  · obtain ⟨rfl, h0, h1, h2⟩ := ha
    by_cases h : ma < 0
    · have e : rank ⟨.mateInX, ma, 0⟩ = -34359738368 - ma := if_pos h
      rw [e]; unfold unrank
      rw [if_neg (by omega), if_neg (by omega), if_pos (by omega)]
      unfold mateInXScore; congr 1; omega
    · have e : rank ⟨.mateInX, ma, 0⟩ = 34359738368 - ma := if_neg h
      rw [e]; unfold unrank
      rw [if_neg (by omega), if_neg (by omega), if_neg (by omega), if_pos (by omega)]
      unfold mateInXScore; congr 1; omega
  · obtain ⟨rfl, rfl⟩ := ha; decide
  · obtain ⟨rfl, rfl⟩ := ha; decide

theorem rank_injective (a b : Score) (ha : Valid a) (hb : Valid b) (h : rank a = rank b) : a = b := by
  rw [← unrank_rank a ha, h, unrank_rank b hb]

theorem irreflexive (a : Score) (ha : Valid a) : a.less a = false := by
  have := lt_iff_rank a a ha ha
  cases h : a.less a <;> simp_all

theorem transitive (a b c : Score) (ha : Valid a) (hb : Valid b) (hc : Valid c)
    (h1 : a.less b = true) (h2 : b.less c = true) : a.less c = true := by
  rw [lt_iff_rank _ _ ha hb] at h1; rw [lt_iff_rank _ _ hb hc] at h2
  rw [lt_iff_rank _ _ ha hc]; omega

theorem trichotomy (a b : Score) (ha : Valid a) (hb : Valid b) :
    (a.less b = true ∧ a ≠ b ∧ b.less a = false) ∨
    (a.less b = false ∧ a = b ∧ b.less a = false) ∨
    (a.less b = false ∧ a ≠ b ∧ b.less a = true) := by
  have h1 := lt_iff_rank a b ha hb
  have h2 := lt_iff_rank b a hb ha
  have no {x : Bool} {p : Prop} (h : x = true ↔ p) (n : ¬ p) : x = false := Bool.eq_false_iff.2 (mt h.1 n)
  rcases Int.lt_trichotomy (rank a) (rank b) with h | h | h
  · exact .inl ⟨h1.2 h, fun e => by subst e; omega, no h2 (by omega)⟩
  · exact .inr (.inl ⟨no h1 (by omega), rank_injective a b ha hb h, no h2 (by omega)⟩)
  · exact .inr (.inr ⟨no h1 (by omega), fun e => by subst e; omega, h2.2 h⟩)

/-- The documented chain, for all mate distances `1 ≤ j < k ≤ 127` and all heuristic keys. -/
theorem chain (j k : Int) (v w : Int) (hj : 1 ≤ j) (hjk : j < k) (hk : k ≤ 127)
    (hv : -2147483648 < v) (hvw : v < w) (hw : w < 2147483648) :
    negInfScore.less (mateInXScore (-j)) = true ∧
    (mateInXScore (-j)).less (mateInXScore (-k)) = true ∧
    (mateInXScore (-k)).less (heuristicScore v) = true ∧
    (heuristicScore v).less (heuristicScore w) = true ∧
    (heuristicScore w).less (mateInXScore k) = true ∧
    (mateInXScore k).less (mateInXScore j) = true ∧
    (mateInXScore j).less infScore = true := by
  refine ⟨?_, ?_, ?_, ?_, ?_, ?_, ?_⟩ <;>
    (rw [lt_iff_rank] <;> simp [Valid, rank, negInfScore, infScore, mateInXScore, heuristicScore] <;>
      omega)

theorem neg_neg (a : Score) (ha : Valid a) : a.negate.negate = a := by
  obtain ⟨ta, ma, pa⟩ := a
  cases ta <;> simp [Valid] at ha <;>
    simp [negate, heuristicScore, mateInXScore, infScore, negInfScore, wrap8] <;> omega

theorem valid_neg (a : Score) (ha : Valid a) : Valid a.negate := by
  obtain ⟨ta, ma, pa⟩ := a
  cases ta <;> simp [Valid] at ha <;>
    simp [Valid, negate, heuristicScore, mateInXScore, infScore, negInfScore, wrap8] <;> omega

theorem rank_neg (a : Score) (ha : Valid a) (hm : NoMin a) : rank a.negate = - rank a := by
  obtain ⟨ta, ma, pa⟩ := a
  cases ta <;> simp [Valid, NoMin] at ha hm
  case mateInX =>
    have e : wrap8 (-ma) = -ma := wrap8_id (by omega) (by omega)
    simp [negate, rank, mateInXScore, e]; omega
  all_goals simp [negate, rank, heuristicScore, infScore, negInfScore]

theorem neg_antitone (a b : Score) (ha : Valid a) (hb : Valid b) (hma : NoMin a) (hmb : NoMin b) :
    a.less b = true ↔ b.negate.less a.negate = true := by
  rw [lt_iff_rank _ _ ha hb, lt_iff_rank _ _ (valid_neg b hb) (valid_neg a ha),
    rank_neg a ha hma, rank_neg b hb hmb]
  omega

theorem valid_inc (a : Score) (ha : Valid a) (hi : Incable a) : Valid a.incMate := by
  obtain ⟨ta, ma, pa⟩ := a
  cases ta <;> simp [Valid, Incable] at ha hi
  · simp [Valid, incMate, ha]
  · by_cases h : ma < 0 <;> simp [Valid, incMate, mateInXScore, wrap8, h] <;> omega
  · simp [Valid, incMate, mateInXScore]
  · simp [Valid, incMate, mateInXScore]

/-- `rank` of an incremented score, as a piecewise-linear function of the rank. -/
def incR (r : Int) : Int :=
  if r = -1099511627776 then -34359738368 + 1
  else if r = 1099511627776 then 34359738368 - 1
  else if r < -2147483648 then r + 1
  else if r > 2147483648 then r - 1
  else r

theorem incR_mated {r : Int} (h1 : -1099511627776 < r) (h2 : r < -2147483648) : incR r = r + 1 := by
  unfold incR; omega

theorem incR_heur {r : Int} (h1 : -2147483648 ≤ r) (h2 : r ≤ 2147483648) : incR r = r := by
  unfold incR; omega

theorem incR_mating {r : Int} (h1 : 2147483648 < r) (h2 : r < 1099511627776) : incR r = r - 1 := by
  unfold incR; omega

theorem rank_inc (a : Score) (ha : Valid a) (hi : Incable a) : rank a.incMate = incR (rank a) := by
  obtain ⟨ta, ma, pa⟩ := a
  cases ta <;> simp [Valid, Incable] at ha hi
  · exact (incR_heur (r := pa) (by omega) (by omega)).symm
  · by_cases h : ma < 0 <;> simp [incMate, rank, mateInXScore, h]
    · rw [incR_mated (by omega) (by omega), wrap8_id (by omega) (by omega)]; omega
    · rw [incR_mating (by omega) (by omega), wrap8_id (by omega) (by omega)]; omega
  · obtain ⟨rfl, rfl⟩ := ha; decide
  · obtain ⟨rfl, rfl⟩ := ha; decide

/-- The values `rank` takes on valid scores: the two infinities, the heuristic band, and the bands of the
    mated (`Mate = -1 … -128`) and mating (`Mate = 127 … 1`) scores. -/
def IsRank (r : Int) : Prop :=
  r = -1099511627776 ∨ (-34359738368 < r ∧ r ≤ -34359738368 + 128) ∨
  (-2147483648 < r ∧ r < 2147483648) ∨
  (34359738368 - 127 ≤ r ∧ r < 34359738368) ∨ r = 1099511627776

theorem rank_isRank (a : Score) (ha : Valid a) : IsRank (rank a) := by
  obtain ⟨ta, ma, pa⟩ := a
  cases ta <;> simp [Valid] at ha
  · exact .inr (.inr (.inl ha.2))
  · by_cases h : ma < 0
    · exact .inr (.inl (by simp only [rank, h, if_true]; omega))
    · exact .inr (.inr (.inr (.inl (by simp only [rank, h, if_false]; omega))))
  · exact .inr (.inr (.inr (.inr rfl)))
  · exact .inl rfl

theorem incR_on {r : Int} (h : IsRank r) :
    (r = -1099511627776 ∧ incR r = -34359738368 + 1) ∨
    (-34359738368 < r ∧ r ≤ -34359738368 + 128 ∧ incR r = r + 1) ∨
    (-2147483648 < r ∧ r < 2147483648 ∧ incR r = r) ∨
    (34359738368 - 127 ≤ r ∧ r < 34359738368 ∧ incR r = r - 1) ∨
    (r = 1099511627776 ∧ incR r = 34359738368 - 1) := by
  rcases h with rfl | h | h | h | rfl
  · exact .inl ⟨rfl, by decide⟩
  · exact .inr (.inl ⟨h.1, h.2, incR_mated (by omega) (by omega)⟩)
  · exact .inr (.inr (.inl ⟨h.1, h.2, incR_heur (by omega) (by omega)⟩))
  · exact .inr (.inr (.inr (.inl ⟨h.1, h.2, incR_mating (by omega) (by omega)⟩)))
  · exact .inr (.inr (.inr (.inr ⟨rfl, by decide⟩)))

/-- `incR` is strictly monotone on ranks: the bands are further apart than the one step it moves them. -/
theorem incR_lt_iff {r s : Int} (hr : IsRank r) (hs : IsRank s) : r < s ↔ incR r < incR s := by
  have := incR_on hr
  have := incR_on hs
  omega

/-- Adding a ply of mate distance never changes the relative order of two scores. -/
theorem inc_mono (a b : Score) (ha : Valid a) (hb : Valid b) (hia : Incable a) (hib : Incable b) :
    a.less b = true ↔ a.incMate.less b.incMate = true := by
  rw [lt_iff_rank _ _ ha hb, lt_iff_rank _ _ (valid_inc a ha hia) (valid_inc b hb hib),
    rank_inc a ha hia, rank_inc b hb hib]
  exact incR_lt_iff (rank_isRank a ha) (rank_isRank b hb)

/-- The larger-of / smaller-of helpers agree with the order. -/
theorem max_min (a b : Score) (ha : Valid a) (hb : Valid b) :
    rank (Score.max a b) = Max.max (rank a) (rank b) ∧ rank (Score.min a b) = Min.min (rank a) (rank b) := by
  have h := lt_iff_rank a b ha hb
  unfold Score.max Score.min
  cases hl : a.less b
  · have : ¬ rank a < rank b := fun x => by simp [h.2 x] at hl
    simp; omega
  · have := h.1 hl
    simp; omega

/-- The `int8` edge, made explicit: it is why C03/C13 bound the search depth. -/
theorem int8_edge : (mateInXScore 127).incMate = mateInXScore (-128) ∧
    (mateInXScore (-128)).negate = mateInXScore (-128) := by decide

theorem mateDistance_abs (k : Int) (hk : k ≠ 0) (h1 : -127 ≤ k) (h2 : k ≤ 127) :
    (mateInXScore k).mateDistance = some k.natAbs := by
  by_cases h : k < 0 <;> simp [mateDistance, mateInXScore, wrap8, h] <;> omega

-- Non-vacuity: concrete valid, incrementable, non-minimal scores exist in every class.
example : Valid (mateInXScore (-3)) ∧ Incable (mateInXScore (-3)) ∧ NoMin (mateInXScore (-3)) := by
  simp [Valid, Incable, NoMin, mateInXScore]
example : Valid (heuristicScore 1065353216) ∧ Valid infScore ∧ Valid negInfScore := by
  simp [Valid, heuristicScore, infScore, negInfScore]
example : (mateInXScore (-1)).less (mateInXScore (-2)) = true ∧
    (mateInXScore 2).less (mateInXScore 1) = true := by decide

end Morlock.Props.C09
