import Morlock.Props.C19
import Morlock.Props.C07Board
/-!
# C19 on every board an engine can hold: after any moves, take-backs and forks

`C19.move_accepted_iff` judges a move text on a *well-formed* current position. After `TakeBack` the position is the
one an older history node holds; `C07Board.LineWF` says that every node of the line of a `GenBoard` holds a `WFplay`
position, so the hypothesis is available there as well.
-/
namespace Morlock.Props.C19Board
open Morlock Morlock.Model Morlock.Model.Fen Morlock.Proofs Morlock.Proofs.Fen Morlock.Props.C07Board
open Morlock.Proofs.Gen Morlock.Proofs.Chain Morlock.Proofs.Arena Morlock.Model.World

/-- `Engine.Move` accepts a text iff `ParseMove` accepts it and the candidate is a legal move of the reference rules in
the current position - also right after `TakeBack` (`Engine.Open`: the game is not adjudicated). -/
theorem move_accepted_iff_genBoard (z : ZTable) (hz : z.enpassant 0 = 0) (e : EngineM) (txt : List Char)
    (hg : GenBoard z e.w 0) (ho : Engine.Open e) :
    (e.move z txt).2 = true ↔
      ∃ cand, parseMove txt = some cand ∧ absMove cand ∈ Spec.legalMoves (abs e.pos e.turn) :=
  C19.move_accepted_iff z e txt (LineWF.cur (genBoard_inv hz hg).2.2.2).wf ho

end Morlock.Props.C19Board
