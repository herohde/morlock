import Morlock.Driver.Uci
import Morlock.Props.C10
import Morlock.Proofs.RepExample
/-!
# C10 on the concrete engine model: it is `Strict`

`Engine.Move` refuses the word `startpos` and the move number of any position text `Engine.Reset`
accepts (`board.ParseMove` wants a file letter first, `strconv.Atoi` a sign or digit). Hence
`robust_state_eq_last` applies to `Driver.uciPosition`'s engine `Driver.engOf`.
-/
namespace Morlock.Props.C10
open Morlock Morlock.Model Morlock.Model.UciPos Morlock.Proofs.UciPosText

theorem decode_lastField (t : List Char) (d : Fen.Decoded) (h : Fen.decode t = some d) :
    ∃ pre p5, Fen.splitSpaces (Fen.trimSpace t) = pre ++ [p5] ∧ (Fen.atoi p5).isSome := by
  unfold Fen.decode at h
  split at h
  · rename_i p0 p1 p2 p3 p4 p5 heq
    refine ⟨[p0, p1, p2, p3, p4], p5, by simpa using heq, ?_⟩
    cases hat : Fen.atoi p5 with
    | some v => rfl
    | none =>
      exfalso
      simp only [hat] at h
      simp at h
  · simp at h

theorem parsePieceLetter_not_space (a : Char) (h : (Fen.parsePieceLetter a).isSome) : Fen.isSpace a = false := by
  unfold Fen.parsePieceLetter at h
  split at h <;> first | decide | simp at h

theorem parseRank_not_space (b : Char) (h : (Fen.parseRank b).isSome) : Fen.isSpace b = false := by
  unfold Fen.parseRank at h
  split at h
  · rename_i hb
    simp only [Bool.and_eq_true, decide_eq_true_eq, Char.le_def, UInt32.le_iff_toNat_le] at hb
    unfold Fen.isSpace
    simp at hb ⊢
    omega
  · simp at h

theorem parseFile_char (a : Char) (h : (Fen.parseFile a).isSome) :
    Fen.isSpace a = false ∧ Fen.isAsciiDigit a = false ∧ a ≠ '+' ∧ a ≠ '-' := by
  unfold Fen.parseFile at h
  split at h <;> first | decide | simp at h

theorem parseSquare_chars (f r : Char) (s : Nat) (h : Fen.parseSquare f r = some s) :
    (Fen.parseFile f).isSome ∧ Fen.isSpace f = false ∧ Fen.isSpace r = false := by
  unfold Fen.parseSquare at h
  simp only [bind, Option.bind_eq_some_iff] at h
  obtain ⟨x, hx, y, hy, -⟩ := h
  exact ⟨by simp [hx], (parseFile_char f (by simp [hx])).1, parseRank_not_space r (by simp [hy])⟩

/-- What `board.ParseMove` accepts is a word that starts with a file letter. -/
theorem parseMove_shape (f : List Char) (m : Move) (h : Fen.parseMove f = some m) :
    Word f ∧ ∃ a t, f = a :: t ∧ (Fen.parseFile a).isSome := by
  unfold Fen.parseMove at h
  split at h
  · rename_i a b c d
    simp only [bind, Option.bind_eq_some_iff] at h
    obtain ⟨s1, h1, s2, h2, -⟩ := h
    obtain ⟨hfa, sa, sb⟩ := parseSquare_chars a b s1 h1
    obtain ⟨-, sc, sd⟩ := parseSquare_chars c d s2 h2
    exact ⟨⟨by simp, by simp [sa, sb, sc, sd]⟩, a, _, rfl, hfa⟩
  · rename_i a b c d e
    simp only [bind, Option.bind_eq_some_iff] at h
    obtain ⟨s1, h1, s2, h2, p, h3, -⟩ := h
    obtain ⟨hfa, sa, sb⟩ := parseSquare_chars a b s1 h1
    obtain ⟨-, sc, sd⟩ := parseSquare_chars c d s2 h2
    have se := parsePieceLetter_not_space e (by simp [h3])
    exact ⟨⟨by simp, by simp [sa, sb, sc, sd, se]⟩, a, _, rfl, hfa⟩
  · simp at h

theorem atoi_none_of_file (a : Char) (t : List Char) (h : (Fen.parseFile a).isSome) : Fen.atoi (a :: t) = none := by
  obtain ⟨-, hd, hplus, hminus⟩ := parseFile_char a h
  unfold Fen.atoi
  split
  rename_i neg ds heq
  split at heq
  · rename_i r h1; exact absurd (List.cons.inj h1).1 hplus
  · rename_i r h1; exact absurd (List.cons.inj h1).1 hminus
  · cases heq
    simp [hd]

theorem engOf_move_none (z : ZTable) (hashMB : Nat) (e : Model.EngineM × TTState) (f : List Char)
    (h : Fen.parseMove f = none) : (Driver.engOf z hashMB).move e f = none := by
  simp [Driver.engOf, Model.EngineM.move, h]

theorem engOf_strict (z : ZTable) (hashMB : Nat) : (Driver.engOf z hashMB).Strict := by
  refine ⟨fun e => engOf_move_none z hashMB e _ rfl, fun fs f hl hr e => ?_⟩
  · have hne : fs ≠ [] := by intro h; subst h; simp at hl
    cases hp : Fen.parseMove f with
    | none => exact engOf_move_none z hashMB e f hp
    | some m =>
      exfalso
      obtain ⟨hw, a, t, hf, hfile⟩ := parseMove_shape f m hp
      obtain ⟨d, hd⟩ : ∃ d, Fen.decode (joinSp (fs ++ [f])) = some d := by
        simp only [Driver.engOf, Model.EngineM.reset] at hr
        cases hd : Fen.decode (joinSp (fs ++ [f])) with
        | none => simp [hd] at hr
        | some d => exact ⟨d, rfl⟩
      -- `fen.Decode` parses the last field, which is `f`, as a number
      obtain ⟨pre, p5, hsplit, hat⟩ := decode_lastField _ d hd
      obtain ⟨pre', hpre⟩ := splitSpaces_trimSpace_concat_word (joinSp fs) f hw
      rw [joinSp_concat fs f hne, hpre] at hsplit
      obtain rfl : f = p5 := by simpa using List.append_inj_right' hsplit rfl
      rw [hf, atoi_none_of_file a t hfile] at hat
      simp at hat

/-- `Driver.uciPosition` (the function the `ucidet` stream compares with the real driver) is the
    proved-about handler on the concrete engine — by definition. -/
theorem uciPosition_is_model (z : ZTable) (u : Driver.UciM) (line : String) :
    (Driver.uciPosition z u line).eng
      = (position (Driver.engOf z u.hashMB) ((u.eng, u.tt), u.lastPosition.toList) line.toList).1.1 ∧
    (Driver.uciPosition z u line).tt
      = (position (Driver.engOf z u.hashMB) ((u.eng, u.tt), u.lastPosition.toList) line.toList).1.2 ∧
    (Driver.uciPosition z u line).lastPosition
      = String.ofList (position (Driver.engOf z u.hashMB) ((u.eng, u.tt), u.lastPosition.toList) line.toList).2 :=
  ⟨rfl, rfl, rfl⟩

/-- C10 with arbitrary earlier lines, on the concrete engine model. -/
theorem engine_robust_state_eq_last (z : ZTable) (hashMB : Nat) (e0 : Model.EngineM × TTState)
    (pre : List Command) (line : List Char) (hw : WellFormed line) (hp : Playable (Driver.engOf z hashMB) line) :
    denote (Driver.engOf z hashMB) line = some (run (Driver.engOf z hashMB) (e0, []) (pre ++ [.position line])).1 ∧
    (run (Driver.engOf z hashMB) (e0, []) (pre ++ [.position line])).2 = line :=
  robust_state_eq_last _ (engOf_strict z hashMB) e0 pre line hw hp


section Instances
open Morlock.Proofs (exZ)
open Morlock.Proofs.UciPos (denoteC denote_of_cmd denoteC_isSome_of_append)

/-- The engine model with the sample Zobrist table `Proofs.exZ`, hash table off. -/
abbrev eng0 := Driver.engOf exZ 0
def p0 := "position startpos".toList
def p1 := "position startpos moves e2e4".toList
def p2 := "position startpos moves e2e4 e7e5 g1f3".toList
def pF := "position fen r3k2r/1P6/8/3pP3/8/8/8/R3K2R w KQkq d6 0 1 moves e5d6 a8a1 e1e2".toList

def cp2 : Cmd := ⟨none, ["e2e4".toList, "e7e5".toList, "g1f3".toList]⟩
def cpF : Cmd := ⟨some ["r3k2r/1P6/8/3pP3/8/8/8/R3K2R".toList, ['w'], "KQkq".toList, "d6".toList, ['0'], ['1']],
    ["e5d6".toList, "a8a1".toList, "e1e2".toList]⟩

theorem p1_cmd : c1.Ok ∧ p1 = c1.render := l1_cmd
theorem p2_cmd : cp2.Ok ∧ p2 = cp2.render := by
  unfold p2 cp2
  repeat rw [String.toList_ofList]
  decide +kernel
theorem pF_cmd : cpF.Ok ∧ pF = cpF.render := by
  unfold pF cpF
  repeat rw [String.toList_ofList]
  decide +kernel

theorem wf_p0 : WellFormed p0 := wf_l0
theorem wf_p1 : WellFormed p1 := wf_l1
theorem wf_p2 : WellFormed p2 := wellFormed_of_cmd p2_cmd
theorem wf_pF : WellFormed pF := wellFormed_of_cmd pF_cmd

/-- The concrete engine from the start position: `1. e4 e5 2. Nf3` is played, `e2e5` is refused, and after `1. e4` the
    words `moves e2e4` cannot be played. Stated together, so that the kernel sets up the position and plays `e2e4` once. -/
theorem eng0_start :
    (denoteC eng0 cp2).isSome ∧ (denoteC eng0 ⟨none, ["e2e5".toList]⟩).isSome = false ∧
    (denoteC eng0 c1).all (fun e => !(extend eng0 e ["moves".toList, "e2e4".toList]).2) = true := by decide +kernel

/-- The sample lines are playable on the concrete engine (en passant, a rook capture on a rook home square
    and a king move in `pF`), an illegal move is not, nor is a position text `fen.Decode` refuses. -/
theorem playable_p1 : Playable eng0 p1 :=
  playable_of_cmd eng0 p1_cmd (denoteC_isSome_of_append eng0 none ["e2e4".toList] ["e7e5".toList, "g1f3".toList] eng0_start.1)
theorem playable_p2 : Playable eng0 p2 := playable_of_cmd eng0 p2_cmd eng0_start.1
theorem playable_pF : Playable eng0 pF :=
  playable_of_cmd eng0 pF_cmd (by
    unfold cpF
    repeat rw [String.toList_ofList]
    decide +kernel)
example : ¬ Playable eng0 "position startpos moves e2e5".toList :=
  not_playable_of_cmd eng0 (c := ⟨none, ["e2e5".toList]⟩) (by
    repeat rw [String.toList_ofList]
    decide +kernel)
    eng0_start.2.1
example : ¬ Playable eng0 "position fen 8/8 w - - 0 1".toList := by rw [String.toList_ofList]; decide +kernel

/-- `fresh_eq_denote` on the concrete engine: another game was remembered (`p2` does not extend `pF`); whatever the
    engine state `e`, the handler ends in the game `pF` describes. -/
example (e : Model.EngineM × TTState) :
    denote eng0 pF = some (position eng0 (e, p2) pF).1 ∧ (position eng0 (e, p2) pF).2 = pF :=
  fresh_eq_denote eng0 e p2 pF wf_pF playable_pF (by
    unfold p2 pF
    repeat rw [String.toList_ofList]
    decide +kernel)

/-- `extend_eq_scratch` on the concrete engine: the engine holds the game of `p1`, the line `p2` extends it by
    `e7e5 g1f3`: same as setting `p2` up from scratch. -/
example (e : Model.EngineM × TTState) (he : denote eng0 p1 = some e) :
    denote eng0 p2 = some (position eng0 (e, p1) p2).1 ∧ (position eng0 (e, p1) p2).2 = p2 :=
  extend_eq_scratch eng0 e p1 p2 ["e7e5".toList, "g1f3".toList] wf_p1 he wf_p2 playable_p2
    (by
    unfold p1 p2
    repeat rw [String.toList_ofList]
    decide +kernel)

/-- … and such an `e` exists. -/
example : ∃ e, denote eng0 p1 = some e := Option.isSome_iff_exists.1 playable_p1

/-- `position_wf` on the concrete engine, both cases of its hypothesis. -/
example (e : Model.EngineM × TTState) :
    denote eng0 p2 = some (position eng0 (e, []) p2).1 ∧ (position eng0 (e, []) p2).2 = p2 :=
  position_wf eng0 (e, []) p2 (Or.inl rfl) wf_p2 playable_p2
example (e : Model.EngineM × TTState) (he : denote eng0 p0 = some e) :
    denote eng0 p2 = some (position eng0 (e, p0) p2).1 ∧ (position eng0 (e, p0) p2).2 = p2 :=
  position_wf eng0 (e, p0) p2 (Or.inr ⟨wf_p0, he⟩) wf_p2 playable_p2

/-- `fallback_eq_denote` on the concrete engine: `p0` is remembered but the engine stands after `1. e4`
    (it does not hold the game of the remembered line); `p1` is recognised as an extension by `moves e2e4`,
    `e2e4` cannot be played there, and the handler sets `p1` up from scratch. -/
example (e : Model.EngineM × TTState) (he : denote eng0 p1 = some e) :
    denote eng0 p1 = some (position eng0 (e, p0) p1).1 ∧ (position eng0 (e, p0) p1).2 = p1 := by
  have hx := eng0_start.2.2
  rw [← denote_of_cmd eng0 p1_cmd, he, Option.all_some, Bool.not_eq_true'] at hx
  exact fallback_eq_denote eng0 e p0 p1 ["moves".toList, "e2e4".toList] wf_p1 playable_p1
    (by
    unfold p0 p1
    repeat rw [String.toList_ofList]
    decide +kernel) hx

/-- `engine_robust_state_eq_last` on the concrete engine: garbage, an accepted malformed line (five fields:
    the start position), a half-played line and a tab-separated line first, then `pF`. -/
example (e0 : Model.EngineM × TTState) :
    denote eng0 pF = some (run eng0 (e0, [])
      [.position "hello world".toList, .position "position fen a b c d e".toList, .position "position startpos moves e2e4 e2e4".toList,
       .newgame, .position "position startpos moves e2e4\te7e5".toList, .position pF]).1 :=
  (engine_robust_state_eq_last exZ 0 e0
    [.position "hello world".toList, .position "position fen a b c d e".toList, .position "position startpos moves e2e4 e2e4".toList,
     .newgame, .position "position startpos moves e2e4\te7e5".toList] pF wf_pF playable_pF).1

end Instances

end Morlock.Props.C10
